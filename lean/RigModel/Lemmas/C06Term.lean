/-
C06 - termination of the burst under explicit progress hypotheses about the operating system.
-/
import RigModel.Lemmas.C06

namespace Rig.C06

section phases
variable (cfg : Cfg) (extra : Nat → Option Int) (clock : Nat → Int)

theorem fill_unqueued (fuel : Nat) (st : St) (hq : st.queued = false) :
    fill cfg extra clock fuel st = (st, []) := by
  cases fuel with
  | zero => rfl
  | succ f => simp [fill, hq]

theorem fill_mono (fuel : Nat) (st : St) :
    (∀ p, p ∈ st.outs → p ∈ (fill cfg extra clock fuel st).1.outs) ∧
      st.k ≤ (fill cfg extra clock fuel st).1.k := by
  fun_induction fill cfg extra clock fuel st with
  | case1 st => exact ⟨fun _ h => h, Nat.le_refl _⟩
  | case2 fuel st hc hn ih => exact ih
  | case3 fuel st hc ex hex seq ctr hd t to o st' st'' evs hf ih =>
    rw [hf] at ih
    exact ⟨fun p hp => ih.1 p (List.mem_append_left _ hp), Nat.le_of_succ_le ih.2⟩
  | case4 fuel st hc => exact ⟨fun _ h => h, Nat.le_refl _⟩

/-- the fuel `window + 1` of `iter` suffices: afterwards the condition of the transmit loop is false -/
theorem fill_full (fuel : Nat) (st : St) : cfg.window < st.outs.length + fuel →
    cfg.window ≤ (fill cfg extra clock fuel st).1.outs.length ∨
      (fill cfg extra clock fuel st).1.queued = false := by
  fun_induction fill cfg extra clock fuel st with
  | case1 st => exact fun h => .inl (Nat.le_of_lt h)
  | case2 fuel st hc hn ih => intro _; right; rw [fill_unqueued _ _ _ _ _ rfl]
  | case3 fuel st hc ex hex seq ctr hd t to o st' st'' evs hf ih =>
    intro h
    rw [hf] at ih
    exact ih (by rw [List.length_append, List.length_singleton, Nat.add_assoc, Nat.add_comm 1 fuel]; exact h)
  | case4 fuel st hc =>
    intro h
    by_cases hq : st.queued = true
    · exact .inl (Nat.le_of_not_lt fun hl => hc ⟨hl, hq⟩)
    · exact .inr (by simpa using hq)

theorem retrans_progress (nTries : Nat) (now : Int) (outs : List (Nat × Out)) :
    (∃ p ∈ outs, p.2.deadline < now) →
      (retrans nTries now outs).2.2.isSome = true ∨ 1 ≤ (sendKeys (retrans nTries now outs).2.1).length := by
  fun_induction retrans nTries now outs with
  | case1 => rintro ⟨p, hp, _⟩; cases hp
  | case2 s o rest hdl htr => exact fun _ => .inl rfl
  | case3 s o rest hdl htr o' rest' evs r hr ih => exact fun _ => .inr (Nat.le_add_left 1 _)
  | case4 s o rest hnd rest' evs r hr ih =>
    rintro ⟨p, hp, hlt⟩
    rw [hr] at ih
    rcases List.mem_cons.mp hp with rfl | hp
    · exact absurd hlt hnd
    · exact ih ⟨p, hp, hlt⟩

theorem retrans_idle (nTries : Nat) (now : Int) (outs : List (Nat × Out)) :
    (retrans nTries now outs).2.2 = none → sendKeys (retrans nTries now outs).2.1 = [] →
      (retrans nTries now outs).1 = outs := by
  fun_induction retrans nTries now outs with
  | case1 => exact fun _ _ => rfl
  | case2 s o rest hdl htr => exact fun _ _ => rfl
  | case3 s o rest hdl htr o' rest' evs r hr ih => intro _ h; cases h
  | case4 s o rest hnd rest' evs r hr ih =>
    intro h1 h2
    rw [hr] at ih
    exact congrArg ((s, o) :: ·) (ih h1 h2)

end phases

section run
variable (cfg : Cfg) (extra : Nat → Option Int) (clock : Nat → Int)

theorem run_inactive (st : St) (h : st.active = false) (bs : List (List Dgram)) :
    run cfg extra clock st bs = (st, [], .done) ∧ iterations cfg extra clock st bs = 0 := by
  cases bs <;> simp [run, iterations, h]

theorem ended_append (Q : St → Bool) (p : List (List Dgram)) (st : St) (q : List (List Dgram)) :
    (run cfg extra clock st p).2.2 ≠ .exhausted →
      run cfg extra clock st (p ++ q) = run cfg extra clock st p ∧
      alongRun cfg extra clock Q st (p ++ q) = alongRun cfg extra clock Q st p := by
  fun_induction run cfg extra clock st p with
  | case1 st =>
    intro h
    have ha : st.active = false := by simpa using h
    cases q <;> simp [run, alongRun, ha]
  | case2 st b bs hact st' evs r hi =>
    intro _
    simp only [List.cons_append, run, alongRun, hact, ↓reduceIte, hi, and_self]
  | case3 st b bs hact st' evs hi st'' evs' r hr ih =>
    intro h
    rw [hr] at ih
    obtain ⟨h1, h2⟩ := ih h
    simp only [List.cons_append, run, alongRun, hact, ↓reduceIte, hi, h1, h2, and_self]
  | case4 st b bs hna => intro _; simp [run, alongRun, hna]

theorem alongRun_prefix (Q : St → Bool) (p : List (List Dgram)) (st : St) (q : List (List Dgram)) :
    alongRun cfg extra clock Q st (p ++ q) = true → alongRun cfg extra clock Q st p = true := by
  -- `iterations` recurses as `alongRun` does, and only its cases split on the result of `iter`
  fun_induction iterations cfg extra clock st p with
  | case1 st => exact fun _ => rfl
  | case2 st b bs hact st' evs r hi =>
    intro h
    simp only [List.cons_append, alongRun, hact, ↓reduceIte, hi] at h ⊢
    exact h
  | case3 st b bs hact st' evs hi ih =>
    intro h
    simp only [List.cons_append, alongRun, hact, ↓reduceIte, hi, Bool.and_eq_true] at h ⊢
    exact ⟨h.1, ih h.2⟩
  | case4 st b bs hna => intro _; simp [alongRun, hna]

variable {cfg extra clock}

theorem alongRun_cons {Q : St → Bool} {st : St} {b : List Dgram} {bs : List (List Dgram)}
    (ha : st.active = true) (hn : (iter cfg extra clock st b).2.2 = none) :
    alongRun cfg extra clock Q st (b :: bs) = true ↔
      (b = [] → Q st = true) ∧ alongRun cfg extra clock Q (iter cfg extra clock st b).1 bs = true := by
  rw [alongRun, if_pos ha]
  rcases hi : iter cfg extra clock st b with ⟨st', evs, r⟩
  rw [hi] at hn
  cases hn
  cases b <;> simp

end run

theorem flatten_take_le (bs : List (List Dgram)) (n : Nat) :
    (bs.take n).flatten.length ≤ bs.flatten.length := by
  conv => rhs; rw [← List.take_append_drop n bs]
  rw [List.flatten_append, List.length_append]
  exact Nat.le_add_right _ _

set_option linter.unusedVariables false in
theorem flatten_map_nil (k : Nat) (f : Nat → Nat) :
    ((List.range k).map (fun i => ([] : List Dgram))).flatten = [] := by
  induction k with
  | zero => rfl
  | succ n ih => simp [List.range_succ, List.map_append, ih]

section termination
variable {cfg : Cfg} {l : List Int} {s0 : Nat} {clock : Nat → Int}

/-- some outstanding packet's deadline is not later than any future clock reading -/
def Due (clock : Nat → Int) (st : St) : Prop :=
  ∃ p ∈ st.outs, ∀ j, st.k ≤ j → p.2.deadline ≤ clock j

theorem mono_le {clock : Nat → Int} (hm : ∀ k, clock k ≤ clock (k + 1)) :
    ∀ i j, i ≤ j → clock i ≤ clock j := by
  intro i j hij
  induction j with
  | zero => cases Nat.le_zero.mp hij; exact Int.le_refl _
  | succ n ih =>
    rcases Nat.le_succ_iff.mp hij with h | h
    · exact Int.le_trans (ih h) (hm n)
    · rw [h]; exact Int.le_refl _

section nil
variable (wf : WF cfg) {extra : Nat → Option Int} {st : St}
  (hn : (iter cfg extra clock st []).2.2 = none) (ha' : (iter cfg extra clock st []).1.active = true)
include wf hn ha'

/-- an iteration without datagram after which the loop goes on: something was outstanding at `select` -/
theorem iter_nil_goes_on :
    (afterFill cfg extra clock st).outs.isEmpty = false ∧
    (atRecv cfg extra clock st).k = (afterFill cfg extra clock st).k + 1 ∧
    (retrans cfg.nTries (clock ((afterFill cfg extra clock st).k + 1)) (afterFill cfg extra clock st).outs).2.2
      = none := by
  have hne : (afterFill cfg extra clock st).outs.isEmpty = false := by
    -- with nothing outstanding after the transmit loop the queue is drained: the loop would end
    apply Bool.eq_false_iff.mpr
    intro he
    have he := List.isEmpty_iff.mp he
    have hq : (afterFill cfg extra clock st).queued = false :=
      (fill_full cfg extra clock (cfg.window + 1) st
        (Nat.lt_of_lt_of_le (Nat.lt_succ_self _) (Nat.le_add_left _ _))).resolve_left
        fun h => Nat.not_le_of_lt wf.1 (by rw [afterFill] at he; rwa [he] at h)
    have : (iter cfg extra clock st []).1.active = false := by
      simp only [iter_eq, recvAll, not_active_iff, and_true]
      refine ⟨hq, ?_⟩
      show (retrans cfg.nTries _ (afterFill cfg extra clock st).outs).1 = []
      rw [he]; rfl
    rw [this] at ha'
    cases ha'
  have hk : (atRecv cfg extra clock st).k = (afterFill cfg extra clock st).k + 1 := by
    show (if _ then _ else _) = _
    rw [hne]; rfl
  simp only [iter_eq, recvAll, hk] at hn
  exact ⟨hne, hk, Option.map_eq_none_iff.mp hn⟩

theorem timedOut_sends (hto : timedOut cfg extra clock st = true) :
    1 ≤ (sendKeys (iter cfg extra clock st []).2.1).length := by
  obtain ⟨hne, hk, hnone⟩ := iter_nil_goes_on wf hn ha'
  simp only [timedOut, hne, Bool.false_or, List.any_eq_true, decide_eq_true_eq] at hto
  have hp := retrans_progress cfg.nTries _ _ hto
  rw [hnone] at hp
  simp only [iter_eq, recvAll, hk, sendKeys_append, List.length_append]
  exact Nat.le_trans (hp.resolve_left nofun) (Nat.le_add_left ..)

/-- it retransmits, or (`select` woke up exactly at the deadline) leaves a state
that is due, which the state before was not -/
theorem timedOutWeak_sends (hm : ∀ k, clock k ≤ clock (k + 1))
    (hto : timedOutWeak cfg extra clock st = true) :
    1 ≤ (sendKeys (iter cfg extra clock st []).2.1).length ∨
      (Due clock (iter cfg extra clock st []).1 ∧ ¬ Due clock st) := by
  obtain ⟨hne, hk, hnone⟩ := iter_nil_goes_on wf hn ha'
  simp only [timedOutWeak, hne, Bool.false_or, Bool.and_eq_true, List.any_eq_true, decide_eq_true_eq] at hto
  obtain ⟨⟨p, hp, hdl⟩, hstrict⟩ := hto
  simp only [iter_eq, recvAll, hk, sendKeys_append, List.length_append]
  by_cases hprog : 1 ≤ (sendKeys (retrans cfg.nTries (clock ((afterFill cfg extra clock st).k + 1))
      (afterFill cfg extra clock st).outs).2.1).length
  · exact .inl (Nat.le_trans hprog (Nat.le_add_left ..))
  · right
    have hidle := retrans_idle cfg.nTries _ _ hnone (List.eq_nil_of_length_eq_zero (Nat.eq_zero_of_not_pos hprog))
    refine ⟨⟨p, ?_, fun j hj => Int.le_trans hdl (mono_le hm _ _ (Nat.le_of_succ_le hj))⟩, ?_⟩
    · show p ∈ (retrans cfg.nTries _ (afterFill cfg extra clock st).outs).1
      rw [hidle]; exact hp
    · -- a packet that was due before the transmit loop is strictly overdue after it: the scan would have acted
      rintro ⟨q, hq, hqd⟩
      obtain ⟨hsub, hkle⟩ := fill_mono cfg extra clock (cfg.window + 1) st
      have := retrans_progress cfg.nTries (clock ((afterFill cfg extra clock st).k + 1))
        (afterFill cfg extra clock st).outs ⟨q, hsub q hq, Int.lt_of_le_of_lt (hqd _ hkle) hstrict⟩
      rw [hnone] at this
      exact hprog (this.resolve_left nofun)

end nil

/-- the iterations are bounded by a measure: `Ψ` never exceeds `B`, and an iteration after which the loop goes on raises
it, except that each datagram received may stand in for `c` of the rise; the last iteration need not raise it
(the `+ 1`) -/
theorem run_ends (wf : WF cfg) {Q : St → Bool} (Ψ : St → List Ev → Nat) (B c : Nat)
    (bound : ∀ st H, SInv cfg l (fun _ => True) s0 st H → Ψ st H ≤ B)
    (step : ∀ st H b, (b = [] → Q st = true) →
      (iter cfg (ext l) clock st b).2.2 = none → (iter cfg (ext l) clock st b).1.active = true →
      Ψ st H + 1 ≤ Ψ (iter cfg (ext l) clock st b).1 (H ++ (iter cfg (ext l) clock st b).2.1) + c * b.length)
    (st : St) (bs : List (List Dgram)) :
    ∀ H, SInv cfg l (fun _ => True) s0 st H → alongRun cfg (ext l) clock Q st bs = true →
      iterations cfg (ext l) clock st bs + Ψ st H ≤ B + c * bs.flatten.length + 1 ∧
      ((run cfg (ext l) clock st bs).2.2 = .exhausted → bs.length + Ψ st H ≤ B + c * bs.flatten.length) := by
  have last : ∀ {st H} (f : Nat) {it : Nat}, SInv cfg l (fun _ => True) s0 st H → it ≤ 1 → it + Ψ st H ≤ B + f + 1 :=
    fun f _ hI h => Nat.add_comm .. ▸ Nat.add_le_add (Nat.le_trans (bound _ _ hI) (Nat.le_add_right ..)) h
  fun_induction run cfg (ext l) clock st bs with
  | case1 st => exact fun H hI _ => ⟨last _ hI (Nat.zero_le 1), fun _ => by simpa using bound st H hI⟩
  | case2 st b bs hact st' evs r hi =>
    intro H hI _
    refine ⟨by simp only [iterations, hact, ↓reduceIte, hi]; exact last _ hI (Nat.le_refl 1), fun h => ?_⟩
    exact absurd h (iter_outcome cfg (ext l) clock st b (by rw [hi])).2
  | case3 st b bs hact st' evs hi st'' evs' r hr ih =>
    intro H hI hsel
    rw [hr] at ih
    have hn : (iter cfg (ext l) clock st b).2.2 = none := by rw [hi]
    obtain ⟨hQ, hsel'⟩ := (alongRun_cons hact hn).mp hsel
    have hI' := iter_inv (clock := clock) (b := b) wf (fun _ _ => trivial) hI
    simp only [iterations, hact, ↓reduceIte, hi]
    by_cases ha' : st'.active = true
    · have := step st H b hQ hn (by rw [hi]; exact ha')
      rw [hi] at this hI' hsel'
      dsimp only at this hI'
      obtain ⟨h1, h2⟩ := ih _ hI' hsel'
      rw [List.flatten_cons, List.length_append, Nat.mul_add, List.length_cons]
      exact ⟨by omega, fun h => by have := h2 h; omega⟩
    · obtain ⟨e1, e2⟩ := run_inactive cfg (ext l) clock st' (by simpa using ha') bs
      rw [hr] at e1
      cases e1
      exact ⟨by rw [e2]; exact last _ hI (Nat.le_refl 1), nofun⟩
  | case4 st b bs hna =>
    intro H hI _
    exact ⟨by simp only [iterations, hna, Bool.false_eq_true, ↓reduceIte]; exact last _ hI (Nat.zero_le 1), nofun⟩

theorem run_terminates (wf : WF cfg) (st : St) (bs : List (List Dgram)) (H : List Ev) :
    SInv cfg l (fun _ => True) s0 st H →
    alongRun cfg (ext l) clock (timedOut cfg (ext l) clock) st bs = true →
    iterations cfg (ext l) clock st bs + (sendKeys H).length ≤ l.length * cfg.nTries + bs.flatten.length + 1 ∧
    ((run cfg (ext l) clock st bs).2.2 = .exhausted →
      bs.length + (sendKeys H).length ≤ l.length * cfg.nTries + bs.flatten.length) := by
  rw [← Nat.one_mul bs.flatten.length]
  refine run_ends wf (fun _ H => (sendKeys H).length) _ 1 (fun _ _ hI => hI.send_bound) ?_ st bs H
  intro st H b hQ hn ha'
  rw [sendKeys_append, List.length_append]
  cases b with
  | cons d ds => rw [List.length_cons]; omega
  | nil => have := timedOut_sends wf hn ha' (hQ rfl); omega

open Classical in
/-- an iteration that neither transmits nor receives makes the state due, and the next one then retransmits: twice the
transmissions, and one more in a state that is due -/
theorem run_terminates_weak (wf : WF cfg) (hm : ∀ k, clock k ≤ clock (k + 1)) (st : St) (bs : List (List Dgram))
    (H : List Ev) : SInv cfg l (fun _ => True) s0 st H →
    alongRun cfg (ext l) clock (timedOutWeak cfg (ext l) clock) st bs = true →
    iterations cfg (ext l) clock st bs + (2 * (sendKeys H).length + if Due clock st then 1 else 0) ≤
      2 * (l.length * cfg.nTries) + 1 + 2 * bs.flatten.length + 1 ∧
    ((run cfg (ext l) clock st bs).2.2 = .exhausted →
      bs.length + (2 * (sendKeys H).length + if Due clock st then 1 else 0) ≤
        2 * (l.length * cfg.nTries) + 1 + 2 * bs.flatten.length) := by
  have le1 : ∀ p [Decidable p], (if p then 1 else 0) ≤ 1 := fun p _ => by split <;> decide
  refine run_ends wf (fun st H => 2 * (sendKeys H).length + if Due clock st then 1 else 0) _ 2
    (fun st _ hI => Nat.add_le_add (Nat.mul_le_mul_left 2 hI.send_bound) (le1 _)) ?_ st bs H
  intro st H b hQ hn ha'
  rw [sendKeys_append, List.length_append]
  have := le1 (Due clock st)
  cases b with
  | cons d ds => rw [List.length_cons]; omega
  | nil =>
    rcases timedOutWeak_sends wf hn ha' hm (hQ rfl) with hs | ⟨hdue', hndue⟩
    · omega
    · rw [if_pos hdue', if_neg hndue]; omega

end termination

def firstBatches (env : Nat → List Dgram) (n : Nat) : List (List Dgram) := (List.range n).map env

theorem firstBatches_length (env : Nat → List Dgram) (n : Nat) : (firstBatches env n).length = n := by
  simp [firstBatches]

theorem firstBatches_add (env : Nat → List Dgram) (n k : Nat) :
    firstBatches env (n + k) = firstBatches env n ++ (List.range k).map (fun i => env (n + i)) := by
  simp [firstBatches, List.range_add, List.map_append, List.map_map, Function.comp_def]

theorem firstBatches_succ (env : Nat → List Dgram) (n : Nat) :
    firstBatches env (n + 1) = firstBatches env n ++ [env n] := by
  simp [firstBatches, List.range_succ]

/-- a finite script, continued by empty batches for ever -/
def scriptEnv (batches : List (List Dgram)) : Nat → List Dgram := fun i => batches.getD i []

theorem firstBatches_script (batches : List (List Dgram)) (n : Nat) :
    firstBatches (scriptEnv batches) n = batches.take n ++ List.replicate (n - batches.length) [] := by
  induction n with
  | zero => simp [firstBatches]
  | succ n ih =>
    rw [firstBatches_succ, ih]
    by_cases h : n < batches.length
    · have e1 : n - batches.length = 0 := Nat.sub_eq_zero_of_le (Nat.le_of_lt h)
      have e2 : n + 1 - batches.length = 0 := Nat.sub_eq_zero_of_le h
      rw [e1, e2, List.take_add_one]
      simp [scriptEnv, List.getD_eq_getElem?_getD, List.getElem?_eq_getElem h]
    · have h : batches.length ≤ n := Nat.le_of_not_lt h
      have e1 : n + 1 - batches.length = (n - batches.length) + 1 := Nat.succ_sub h
      have e3 : scriptEnv batches n = [] := by
        simp [scriptEnv, List.getD_eq_getElem?_getD, List.getElem?_eq_none h]
      rw [e1, e3, List.take_of_length_le h, List.take_of_length_le (Nat.le_succ_of_le h), List.replicate_succ',
        List.append_assoc]

/-- a finite script on which the run ends, continued by empty batches, satisfies the `select` and `finite` clauses of
`Progress` / `ProgressWeak` -/
theorem script_progress (cfg : Cfg) (extra : Nat → Option Int) (clock : Nat → Int) (Q : St → Bool) (st : St)
    (batches : List (List Dgram))
    (hsel : alongRun cfg extra clock Q st batches = true)
    (hend : (run cfg extra clock st batches).2.2 ≠ .exhausted) (n : Nat) :
    alongRun cfg extra clock Q st (firstBatches (scriptEnv batches) n) = true ∧
    (firstBatches (scriptEnv batches) n).flatten.length ≤ batches.flatten.length := by
  rw [firstBatches_script]
  by_cases h : n ≤ batches.length
  · have e : n - batches.length = 0 := Nat.sub_eq_zero_of_le h
    rw [e]
    simp only [List.replicate_zero, List.append_nil]
    refine ⟨?_, flatten_take_le _ _⟩
    apply alongRun_prefix _ _ _ _ _ _ (batches.drop n)
    rw [List.take_append_drop]; exact hsel
  · rw [List.take_of_length_le (Nat.le_of_lt (Nat.lt_of_not_le h)), (ended_append _ _ _ Q _ _ _ hend).2,
      List.flatten_append, List.flatten_replicate_nil]
    exact ⟨hsel, by simp⟩

theorem terminates_of {cfg : Cfg} {extra : Nat → Option Int} {clock : Nat → Int} {st : St}
    {env : Nat → List Dgram} {N : Nat}
    (hne : (run cfg extra clock st (firstBatches env N)).2.2 ≠ .exhausted) :
    (let r := (run cfg extra clock st (firstBatches env N)).2.2
     r = .done ∨ (∃ c, r = .timeout c) ∨ (∃ rc c, r = .fatal rc c)) ∧
    (∀ n, N ≤ n →
      run cfg extra clock st (firstBatches env n) = run cfg extra clock st (firstBatches env N)) := by
  refine ⟨?_, fun n hn => ?_⟩
  · revert hne
    cases (run cfg extra clock st (firstBatches env N)).2.2 <;> simp
  · obtain ⟨k, rfl⟩ := Nat.exists_eq_add_of_le hn
    rw [firstBatches_add, (ended_append _ _ _ (fun _ => true) _ _ _ hne).1]

end Rig.C06
