/-
C04 - the exhaustive oracles: enumerating the keys over the varying positions of a set of
entries decides any property of a key that depends only on which of the entries match it.
-/
import RigModel.Lemmas.C04Merged

namespace Rig.C04

theorem defaultRoutedB_iff (e : Entry) : defaultRoutedB e = true ↔ DefaultRouted e := by
  simp only [defaultRoutedB, DefaultRouted, List.any_eq_true, List.mem_range, Bool.and_eq_true, beq_iff_eq]

theorem keyOkB_iff (T T' : List Entry) (k : W) : keyOkB T T' k = true ↔ KeyOk T T' k := by
  rw [keyOkB, KeyOk]
  cases lookup T k with
  | none => simp only [reduceCtorEq, false_imp_iff, implies_true]
  | some e =>
    cases lookup T' k <;>
      simp only [defaultRoutedB_iff, Bool.and_eq_true, beq_iff_eq, Option.some.injEq, forall_eq', reduceCtorEq,
        false_and, exists_false, false_or, true_and, or_false, exists_eq_left']

theorem getLsbD_bit (b : Nat) {i : Nat} (hi : i < 32) : (1#32 <<< b).getLsbD i = decide (i = b) := by
  rw [show 1#32 <<< b = BitVec.twoPow 32 b from rfl, BitVec.getLsbD_twoPow]
  by_cases h : b = i
  · rw [← h] at hi ⊢; simp only [hi, decide_true, Bool.and_self]
  · rw [decide_eq_false h, Bool.and_false, decide_eq_false (Ne.symm h)]

theorem getLsbD_putBit (k : W) (b : Nat) (v : Bool) {i : Nat} (hi : i < 32) :
    (if v then k ||| 1#32 <<< b else k &&& ~~~(1#32 <<< b)).getLsbD i = if i = b then v else k.getLsbD i := by
  have hb := getLsbD_bit b hi
  cases v
  · rw [if_neg Bool.false_ne_true, BitVec.getLsbD_and, BitVec.getLsbD_not, hb]
    by_cases h : i = b <;> simp only [h, hi, decide_true, decide_false, Bool.not_true, Bool.not_false,
      Bool.and_false, Bool.and_true, if_true, if_false]
  · rw [if_pos rfl, BitVec.getLsbD_or, hb]
    by_cases h : i = b <;> simp only [h, decide_true, decide_false, Bool.or_true, Bool.or_false, if_true, if_false]

theorem matches_iff_bits {e : Entry} {k : W} :
    e.matches k = true ↔ ∀ i, i < 32 → (k.getLsbD i && e.mask.getLsbD i) = e.key.getLsbD i := by
  rw [matches_iff]
  exact ⟨fun h i _ => by rw [← h, BitVec.getLsbD_and],
    fun h => BitVec.eq_of_getLsbD_eq fun i hi => by rw [BitVec.getLsbD_and, h i hi]⟩

theorem matches_congr {e : Entry} {k k' : W}
    (h : ∀ i, e.mask.getLsbD i = true → k.getLsbD i = k'.getLsbD i) : e.matches k = e.matches k' := by
  have : k &&& e.mask = k' &&& e.mask := BitVec.eq_of_getLsbD_eq fun i _ => by
    rw [BitVec.getLsbD_and, BitVec.getLsbD_and]
    cases hm : e.mask.getLsbD i with
    | false => rw [Bool.and_false, Bool.and_false]
    | true => rw [h i hm]
  rw [Entry.matches, Entry.matches, this]

theorem lookup_congr {T : List Entry} {k k' : W} (h : ∀ e ∈ T, e.matches k = e.matches k') :
    lookup T k = lookup T k' := by
  induction T with
  | nil => rfl
  | cons x r ih =>
    rw [lookup_cons, lookup_cons, h x List.mem_cons_self, ih fun e he => h e (List.mem_cons_of_mem _ he)]

theorem exists_mem_keysOver (base k : W) (bits : List Nat) :
    ∃ k' ∈ keysOver base bits,
      ∀ i, i < 32 → k'.getLsbD i = if i ∈ bits then k.getLsbD i else base.getLsbD i := by
  induction bits with
  | nil => exact ⟨base, List.mem_singleton.mpr rfl, fun i _ => by simp⟩
  | cons b bs ih =>
    obtain ⟨k', hk', hb⟩ := ih
    refine ⟨if k.getLsbD b then k' ||| 1#32 <<< b else k' &&& ~~~(1#32 <<< b), ?_, fun i hi => ?_⟩
    · rw [keysOver, List.mem_flatMap]
      exact ⟨k', hk', by cases k.getLsbD b <;> simp⟩
    · rw [getLsbD_putBit _ _ _ hi, hb i hi]
      by_cases h : i = b
      · subst h; rw [if_pos rfl, if_pos List.mem_cons_self]
      · simp only [List.mem_cons, h, false_or, if_false]

theorem mem_varyingBits {Ts : List Entry} {i : Nat} :
    i ∈ varyingBits Ts ↔
      i < 32 ∧ ((Ts.any fun e => e.mask.getLsbD i) && !(mergedMask Ts).getLsbD i) = true := by
  rw [varyingBits, List.mem_filter, List.mem_range]
  refine and_congr_right fun hi => ?_
  rw [mergedMask_bit Ts hi, ← allSelected_bit Ts hi, ← allOnes_bit Ts hi, ← anyOnes_bit Ts i, foldl_or_bit,
    show (0 : W) = 0#32 from rfl, BitVec.getLsbD_zero, Bool.false_or, Bool.beq_comm]
  rfl

theorem baseKey_bit {Ts : List Entry} {i : Nat} (hi : i < 32) (h : (mergedMask Ts).getLsbD i = true) :
    (baseKey Ts).getLsbD i = (mergedKey Ts).getLsbD i := by
  have hs := h
  rw [mergedMask_bit Ts hi, Bool.and_eq_true, ← allSelected_bit Ts hi] at hs
  cases Ts with
  | nil => cases hs.2
  | cons x r =>
    rw [mergedKey, BitVec.getLsbD_and, h, Bool.and_true]
    show (allSelected (x :: r) &&& allOnes (x :: r)).getLsbD i = _
    rw [BitVec.getLsbD_and, hs.1, Bool.true_and]

/-- A key that some entry matches has the demanded bit at every fixed position (`merged_covers`),
so the enumerated key that copies it at the varying positions agrees with it wherever an entry
looks. -/
theorem brute_none_iff (Ts : List Entry) (p : W → Bool)
    (hno : ∀ k, (∀ e ∈ Ts, e.matches k = false) → p k = true)
    (hcongr : ∀ k k', (∀ e ∈ Ts, e.matches k = e.matches k') → p k = p k') :
    (keysOver (baseKey Ts) (varyingBits Ts)).find? (fun k => !p k) = none ↔ ∀ k, p k = true := by
  simp only [List.find?_eq_none, Bool.not_eq_true, Bool.not_eq_false']
  refine ⟨fun hb k => ?_, fun h k _ => h k⟩
  by_cases h0 : ∃ e0 ∈ Ts, e0.matches k = true
  · obtain ⟨e0, he0, hm0⟩ := h0
    obtain ⟨k', hk', hbit⟩ := exists_mem_keysOver (baseKey Ts) k (varyingBits Ts)
    rw [hcongr k k' fun e he => matches_congr fun i hmi => ?_]
    · exact hb k' hk'
    · have hi := BitVec.lt_of_getLsbD hmi
      rw [hbit i hi]
      by_cases hv : i ∈ varyingBits Ts
      · rw [if_pos hv]
      · have hM : (mergedMask Ts).getLsbD i = true := by
          cases hM : (mergedMask Ts).getLsbD i with
          | true => rfl
          | false =>
            exact absurd (mem_varyingBits.mpr ⟨hi, by rw [hM, List.any_eq_true.mpr ⟨e, he, hmi⟩]; rfl⟩) hv
        rw [if_neg hv, baseKey_bit hi hM, ← merged_covers he0 hm0, BitVec.getLsbD_and, hM, Bool.and_true]
  · exact hno k fun e he => Bool.eq_false_iff.mpr fun hm => h0 ⟨e, he, hm⟩

end Rig.C04
