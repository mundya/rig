/-
C03 - the unfolding of a forest by `toTree`: its induction principle, and existence: a well-formed forest unfolds
below every chip to a tree with pairwise distinct chips, with the fuel `length + 1` when it is closed.  Every edge /
leaf of the unfolding is one of the forest / of `leaves` (`toTree_edges`, `toTree_leaves`); `dfs`, the repair's
subtree enumeration, lists exactly the chips `Below` its start (`dfs_spec`).
-/
import RigModel.Lemmas.C03Tree
import RigModel.Lemmas.C03Forest
namespace Rig.C03.L

/-- Induction over the calls of `toTree`: `P` for the nodes, `PL` for their children lists. -/
theorem toTree_induct {f : Forest} {leaves : List Leaf} {P : Nat → Chip → Tree → Prop}
    {PL : Nat → List (Nat × Chip) → List (Nat × Tree) → Prop} (nil : ∀ n, PL n [] [])
    (cons : ∀ n k ks t bs, toTree f leaves n k.2 = some t → P n k.2 t → PL n ks bs →
      PL n (k :: ks) ((k.1, t) :: bs))
    (node : ∀ n c subs, PL n (f.kids c) subs →
      P (n + 1) c (.node c subs ((leaves.filter fun lf => lf.1 == c).map fun lf => lf.2))) :
    ∀ n c t, toTree f leaves n c = some t → P n c t := by
  intro n
  induction n with
  | zero => intro c t h; simp [toTree] at h
  | succ n ih =>
    intro c t h
    simp only [toTree, bind, Option.bind] at h
    split at h
    · simp at h
    · rename_i subs hsubs
      cases h
      refine node n c subs ?_
      generalize f.kids c = ks at hsubs
      induction ks generalizing subs with
      | nil => cases hsubs; exact nil n
      | cons k ks ihk =>
        simp only [List.mapM_cons, bind, Option.bind] at hsubs
        split at hsubs
        · simp at hsubs
        · rename_i b hb
          simp only at hsubs
          split at hsubs
          · simp at hsubs
          · rename_i bs hbs
            cases hsubs
            obtain ⟨t', ht', rfl⟩ := Option.map_eq_some_iff.1 hb
            exact cons n k ks t' bs ht' (ih _ _ ht') (ihk bs hbs)

theorem toTree_chip {f : Forest} {leaves : List Leaf} : ∀ (fuel : Nat) (c : Chip) (t : Tree),
    toTree f leaves fuel c = some t → t.chip = c :=
  toTree_induct (PL := fun _ _ _ => True) (fun _ => trivial) (fun _ _ _ _ _ _ _ _ => trivial)
    (fun _ _ _ _ => rfl)

theorem toTree_edges {f : Forest} {leaves : List Leaf} : ∀ (fuel : Nat) (c : Chip) (t : Tree),
    toTree f leaves fuel c = some t → ∀ e, e ∈ t.edges → Edge f e.1 e.2 := by
  refine toTree_induct
    (PL := fun _ ks subs => ∀ c, (∀ k, k ∈ ks → k ∈ f.kids c) → ∀ e, e ∈ edgesL c subs → Edge f e.1 e.2) ?_ ?_ ?_
  · intro _ c _ e he; simp [edgesL] at he
  · intro n k ks t bs ht ih ihk c hk e he
    simp only [edgesL, List.mem_cons, List.mem_append] at he
    rcases he with rfl | he | he
    · rw [toTree_chip _ _ _ ht]; exact kids_edge (hk k List.mem_cons_self)
    · exact ih e he
    · exact ihk c (fun k' h' => hk k' (List.mem_cons_of_mem _ h')) e he
  · intro n c subs ih; exact ih c fun _ hk => hk

theorem toTree_leaves {f : Forest} {leaves : List Leaf} : ∀ (fuel : Nat) (c : Chip) (t : Tree),
    toTree f leaves fuel c = some t → ∀ lf, lf ∈ t.leafList → lf ∈ leaves := by
  refine toTree_induct (PL := fun _ _ subs => ∀ lf, lf ∈ leafL subs → lf ∈ leaves) ?_ ?_ ?_
  · intro _ lf he; simp [leafL] at he
  · intro n k ks t bs _ ih ihk lf he
    simp only [leafL, List.mem_append] at he
    exact he.elim (ih lf) (ihk lf)
  · intro n c subs ih lf hlf
    simp only [Tree.leafList, List.mem_append, List.mem_map, List.mem_filter] at hlf
    rcases hlf with ⟨p, ⟨l0, ⟨hl0, hc0⟩, rfl⟩, rfl⟩ | hlf
    · rw [← (beq_iff_eq.1 hc0 : l0.1 = c)]; exact hl0
    · exact ih lf hlf

mutual
def depthT : Tree → Nat
  | .node _ subs _ => 1 + depthL subs
def depthL : List (Nat × Tree) → Nat
  | [] => 0
  | (_, t) :: r => max (depthT t) (depthL r)
end

mutual
theorem depth_le_chips : (t : Tree) → depthT t ≤ t.chips.length
  | .node c subs lv => by
    have := depthL_le_chips subs
    simp only [depthT, Tree.chips, List.length_cons]; omega
theorem depthL_le_chips : (s : List (Nat × Tree)) → depthL s ≤ (chipsL s).length
  | [] => by simp [depthL, chipsL]
  | (_, t) :: r => by
    have := depth_le_chips t
    have := depthL_le_chips r
    simp only [depthL, chipsL, List.length_append]; omega
end

theorem toTree_fuel {f : Forest} {leaves : List Leaf} : ∀ (n : Nat) (c : Chip) (t : Tree),
    toTree f leaves n c = some t → ∀ n', depthT t ≤ n' → toTree f leaves n' c = some t := by
  refine toTree_induct (PL := fun _ ks subs => ∀ n', depthL subs ≤ n' →
    ks.mapM (fun e => (toTree f leaves n' e.2).map fun t => (e.1, t)) = some subs) ?_ ?_ ?_
  · intro _ _ _; rfl
  · intro n k ks t bs _ ih ihk n' hd
    simp only [depthL] at hd
    simp only [List.mapM_cons, ih n' (by omega), ihk n' (by omega), Option.map_some, bind, Option.bind, pure]
  · intro n c subs ih n' hd
    simp only [depthT] at hd
    obtain ⟨k', rfl⟩ : ∃ k', n' = k' + 1 := ⟨n' - 1, by omega⟩
    simp only [toTree, ih k' (by omega), bind, Option.bind, pure]

theorem toTree_dfs {f : Forest} {leaves : List Leaf} : ∀ (n : Nat) (c : Chip) (t : Tree),
    toTree f leaves n c = some t → dfs f n c = .ok t.chips := by
  refine toTree_induct
    (PL := fun n ks subs => ks.mapM (fun e => dfs f n e.2) = .ok (subs.map fun s => s.2.chips)) ?_ ?_ ?_
  · intro _; rfl
  · intro n k ks t bs _ ih ihk
    simp only [List.mapM_cons, ih, ihk, bind, Except.bind, pure, Except.pure, List.map_cons]
  · intro n c subs ih
    simp only [dfs, ih, bind, Except.bind, pure, Except.pure, Tree.chips, chipsL_eq, List.flatMap_def]

/-- `t` is the unfolding of `f` below `c`: its chips are exactly the descendants of `c`, once each, and it carries every
leaf whose chip it contains -/
structure Unfolds (f : Forest) (leaves : List Leaf) (c : Chip) (t : Tree) : Prop where
  chip : t.chip = c
  nodup : t.chips.Nodup
  below : ∀ x, x ∈ t.chips → Below f c x
  cover : ∀ x, Below f c x → x ∈ t.chips
  leavesAll : ∀ lf, lf ∈ leaves → lf.1 ∈ t.chips → lf ∈ t.leafList

theorem unfold_kids {f : Forest} {rank : Chip → Nat} (hw : WF f rank) (leaves : List Leaf) (n : Nat)
    (ih : ∀ c, rank c < n → ∃ t, toTree f leaves n c = some t ∧ Unfolds f leaves c t) (c : Chip) :
    ∀ (ks : List (Nat × Chip)), (∀ k, k ∈ ks → Edge f c k) → (ks.map (·.2)).Nodup →
      (∀ k, k ∈ ks → rank k.2 < n) →
      ∃ subs, ks.mapM (fun e => (toTree f leaves n e.2).map fun t => (e.1, t)) = some subs ∧
        (chipsL subs).Nodup ∧ (∀ x, x ∈ chipsL subs ↔ ∃ k, k ∈ ks ∧ Below f k.2 x) ∧
        (∀ lf, lf ∈ leaves → lf.1 ∈ chipsL subs → lf ∈ leafL subs) := by
  intro ks
  induction ks with
  | nil =>
    intro _ _ _
    exact ⟨[], rfl, by simp [chipsL], by simp [chipsL], by simp [chipsL]⟩
  | cons k ks ihk =>
    intro hedge hnd hrank
    simp only [List.map_cons, List.nodup_cons] at hnd
    obtain ⟨t, ht, hu⟩ := ih k.2 (hrank k (by simp))
    obtain ⟨subs, hs, s1, s2, s3⟩ := ihk (fun k' h' => hedge k' (by simp [h'])) hnd.2
      (fun k' h' => hrank k' (by simp [h']))
    refine ⟨(k.1, t) :: subs, ?_, ?_, ?_, ?_⟩
    · simp only [List.mapM_cons, ht, hs, Option.map_some, bind, Option.bind, pure]
    · simp only [chipsL]
      rw [List.nodup_append]
      refine ⟨hu.nodup, s1, ?_⟩
      rintro a ha _ hb rfl
      obtain ⟨k', hk', hbk'⟩ := (s2 a).1 hb
      have hne : k'.2 ≠ k.2 := fun h => hnd.1 (h ▸ List.mem_map_of_mem hk')
      exact siblings_disjoint hw (hedge k' (by simp [hk'])) (hedge k (by simp)) hne (hu.below a ha) hbk'
    · intro x
      simp only [chipsL, List.mem_append, s2, List.mem_cons]
      constructor
      · rintro (h | ⟨k', hk', hb⟩)
        · exact ⟨k, Or.inl rfl, hu.below x h⟩
        · exact ⟨k', Or.inr hk', hb⟩
      · rintro ⟨k', rfl | hk', hb⟩
        · exact Or.inl (hu.cover x hb)
        · exact Or.inr ⟨k', hk', hb⟩
    · intro lf hlf hx
      simp only [leafL, List.mem_append]
      exact (List.mem_append.1 hx).imp (hu.leavesAll lf hlf) (s3 lf hlf)

theorem toTree_unfolds {f : Forest} {rank : Chip → Nat} (hw : WF f rank) (leaves : List Leaf) :
    ∀ (fuel : Nat) (c : Chip), rank c < fuel → ∃ t, toTree f leaves fuel c = some t ∧ Unfolds f leaves c t := by
  intro fuel
  induction fuel with
  | zero => intro c h; omega
  | succ n ih =>
    intro c hc
    have hks : ∀ k, k ∈ f.kids c → Edge f c k := fun k hk => kids_edge hk
    have hnd : ((f.kids c).map (·.2)).Nodup := by
      rcases kids_eq f c with h | ⟨e, he, _, h⟩
      · rw [h]; exact List.nodup_nil
      · rw [h]; exact hw.kidsNodup e he
    obtain ⟨subs, hs, s1, s2, s3⟩ := unfold_kids hw leaves n ih c (f.kids c) hks hnd
      fun k hk => by have := rank_edge hw (hks k hk); omega
    refine ⟨.node c subs ((leaves.filter fun lf => lf.1 == c).map fun lf => lf.2),
      by simp only [toTree, hs, bind, Option.bind, pure], rfl, ?_, ?_, ?_, ?_⟩
    · refine List.nodup_cons.2 ⟨fun hmem => ?_, s1⟩
      obtain ⟨k, hk, hb⟩ := (s2 c).1 hmem
      have r1 := rank_below hw hb
      have r2 := rank_edge hw (hks k hk)
      omega
    · intro x hx
      rcases List.mem_cons.1 hx with rfl | hx
      · exact Below.refl
      · obtain ⟨k, hk, hb⟩ := (s2 x).1 hx
        exact below_trans (Below.step Below.refl (hks k hk)) hb
    · intro x hx
      rcases below_head hx with rfl | ⟨k, hk, hb⟩
      · exact List.mem_cons_self
      · exact List.mem_cons_of_mem _ ((s2 x).2 ⟨k, edge_kids hw.keys hk, hb⟩)
    · intro lf hlf hx
      simp only [Tree.leafList, List.mem_append, List.mem_map, List.mem_filter]
      rcases List.mem_cons.1 hx with hx | hx
      · exact Or.inl ⟨lf.2, ⟨lf, ⟨hlf, by simp [hx]⟩, rfl⟩, by rw [← hx]⟩
      · exact Or.inr (s3 lf hlf hx)

/-- the fuel `length + 1` that the driver, the oracle and `avoid_dead_links` use suffices -/
theorem wf_unfolds_len {f : Forest} {rank : Chip → Nat} (hw : WF f rank) (hc : ClosedF f) (leaves : List Leaf)
    {c : Chip} (hk : c ∈ f.keys) :
    ∃ t, toTree f leaves (f.length + 1) c = some t ∧ Unfolds f leaves c t := by
  obtain ⟨t, ht, hu⟩ := toTree_unfolds hw leaves (rank c + 1) c (by omega)
  have hsub : ∀ x, x ∈ t.chips → x ∈ f.keys := fun x hx => below_key hc hk (hu.below x hx)
  have hlen : t.chips.length ≤ f.length := by
    have := hu.nodup.length_le_of_subset hsub
    simpa [Forest.keys] using this
  have hd := depth_le_chips t
  exact ⟨t, toTree_fuel _ _ _ ht _ (by omega), hu⟩

theorem dfs_spec {f : Forest} {rank : Chip → Nat} (hw : WF f rank) (hc : ClosedF f) {c : Chip}
    (hk : c ∈ f.keys) : ∃ l, dfs f (f.length + 1) c = .ok l ∧ ∀ x, x ∈ l ↔ Below f c x := by
  obtain ⟨t, ht, hu⟩ := wf_unfolds_len hw hc [] hk
  exact ⟨_, toTree_dfs _ _ _ ht, fun x => ⟨hu.below x, hu.cover x⟩⟩

end Rig.C03.L
