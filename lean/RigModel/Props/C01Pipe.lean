/-
C01 - the composed model pipeline delivers.

`pipeline_delivery` (Props/C01.lean) takes the stage conclusions as hypotheses.  Here they are discharged by the
stage theorems for `modelPipeline` (Model/C01Pipe.lean), which chains the stage models as rig's hand-chained
pipeline / `place_and_route_wrapper` does, with explicit bridge functions between the stage models' data types:

  C02 `seqPlace_sound` / `randPlace_sound` / `saPlace_sound`   : the placement is `Feasible`
  C05 `alloc_sound`                                             : the allocation is `Valid`
  C03 `routeNet_valid`                                          : every routed net unfolds to a `ValidTree`
  C10 `tables_exact`                                            : the tables are exactly what the trees demand
  C04 `minimiseTables_equiv` / `minimiseTable_equiv`            : the minimised tables are per chip `RouteEquiv`
-/
import RigModel.Lemmas.C01Stage
import RigModel.Lemmas.ExceptSat
import RigModel.Props.C01
import RigModel.Props.C02
import RigModel.Props.C03
import RigModel.Props.C04
import RigModel.Props.C10

namespace Rig.C01Pipe
open Rig.C01
open Rig.C03 (Chip Machine chipOk Sink)

theorem afterPlace_placement {pb : Problem} {p : Rig.C02.Placement} {radius : Nat} {orc : List NetOracle}
    {mini : Option (List Rig.C04.Method × (Chip → Option Nat))} {out : Out}
    (h : afterPlace pb p radius orc mini = .ok out) : out.placement = p := by
  revert h
  fun_cases afterPlace pb p radius orc mini with
  | case1 | case2 | case3 | case5 => nofun
  | case4 | case6 => rintro ⟨⟩; rfl

/-- the failures the stages after placement can end in -/
def DocumentedFailure (pb : Problem) : PErr → Prop
  | .alloc _ => True                       -- the failure clause of C05 (`alloc_only_failure`)
  | .keyError => True                      -- a net names a vertex that was not placed (not excluded by `Domain`)
  | .badOracle => True                     -- impossible oracle input (not a recording of a run)
  | .route e => (e = .tape ∨ e = .badDraw ∨ e = .badOracle ∨ e = .disconnected) ∧
      (e = .disconnected → Rig.C03.stronglyConnected (machine3 pb) = false)
  | .minimise _ e => ∃ t best, e = .minFailed t best
  | _ => False                             -- never: place (not a stage here), unfold, tables

section routing
variable {pb : Problem} (dom : Domain pb) {p : Rig.C02.Placement} {a : List (Rig.C05.Vertex × List Rig.C05.Entry)}
  (hf : Rig.C02.Feasible (vr02 pb) (cs02 pb) pb.m2 p) (ha : Rig.C05.allocate (input05 pb p) = .ok a)
include dom hf ha

/-- C03 in the pipeline (`routeNet_valid`, `route_only_failure`); the routed forest always unfolds -/
theorem routeOne_result (radius : Nat) (n : ANet) (o : NetOracle) :
    Except.Sat (DocumentedFailure pb) (fun q => NetOf pb p (Rig.C05.strip a) n q ∧
        chipOk (machine3 pb) q.src = true ∧ Rig.C03.ValidTree (machine3 pb) q.src q.sinks q.tree)
      (routeOne pb p (Rig.C05.strip a) radius n o) := by
  unfold routeOne
  split
  · rename_i src sinks hsrc hsinks
    split
    · trivial
    · rename_i hss
      have hss' : sameSet o.dests (sinks.map (·.chip)) = true := by simpa using hss
      have hsrcok := L.chipOf_ok hf hsrc
      have hsk : ∀ s ∈ sinks, chipOk (machine3 pb) s.chip = true := fun s hs =>
        have ⟨_, _, hv⟩ := L.sinksOf_mem hsinks s hs
        (L.sink_facts dom hf ha hv).1
      have hd : ∀ d ∈ o.dests, chipOk (machine3 pb) d = true := fun d hd => by
        obtain ⟨s, hs, rfl⟩ := List.mem_map.1 ((L.sameSet_iff.1 hss').1 d hd)
        exact hsk s hs
      split
      · rename_i e3 he3
        exact Rig.C03.route_only_failure _ _ _ _ _ _ _ hsrcok
          (fun d hd' => Rig.C03.L.chipOk_inRange (hd d hd'))
          (fun s hs => ⟨Or.inr ((L.sameSet_iff.1 hss').2 _ (List.mem_map_of_mem hs)), hsk s hs⟩) e3 he3
      · rename_i r hr
        obtain ⟨_, tr, htr, hvalid⟩ := Rig.C03.routeNet_valid _ _ _ _ _ _ _ _ hsrcok hd hr
        rw [htr]
        exact ⟨⟨rfl, rfl, hsrc, hsinks⟩, hsrcok, hvalid⟩
  · trivial

theorem routeAll_result (radius : Nat) (nets : List ANet) (orc : List NetOracle) :
    Except.Sat (DocumentedFailure pb) (List.Forall₂ (fun n q => NetOf pb p (Rig.C05.strip a) n q ∧
        chipOk (machine3 pb) q.src = true ∧ Rig.C03.ValidTree (machine3 pb) q.src q.sinks q.tree) nets)
      (routeAll pb p (Rig.C05.strip a) radius nets orc) := by
  fun_induction routeAll pb p (Rig.C05.strip a) radius nets orc with
  | case1 => exact .nil
  | case2 => trivial
  | case3 n ns o os e he => exact (routeOne_result dom hf ha radius n o).error he
  | case4 n ns o os q hq e he ih => exact ih.error he
  | case5 n ns o os q hq qs hqs ih => exact .cons ((routeOne_result dom hf ha radius n o).ok hq) (ih.ok hqs)

end routing

/-- `routing_tree_to_tables` cannot fail inside the pipeline: for valid routing trees rooted at working chips
and pairwise non-intersecting key/masks (what the earlier stages deliver in the domain) the conversion raises neither
`MultisourceRouteError` nor an assertion: two tree nodes on one chip under one key and mask are the same node. -/
theorem tables_total_of_valid (m : Machine) (nets : List PNet)
    (hplace : ∀ n ∈ nets, chipOk m n.src = true)
    (htree : ∀ n ∈ nets, Rig.C03.ValidTree m n.src n.sinks n.tree)
    (hkeys : nets.Pairwise (fun a b => Rig.C04.intersect a.key a.mask b.key b.mask = false)) :
    ∃ T10, Rig.C10.treeTables (nets.map PNet.net10) = .ok T10 :=
  Rig.C01.L.treeTables_ok (Rig.C01.L.nets_wf htree) (Rig.C01.L.separated_allOccs hkeys
    (fun n hn => (htree n hn).distinct) fun n hn => Rig.C01.L.valid_chips_nonneg (htree n hn) (hplace n hn))

/-- both outcomes of the stages after placement: the allocation is the allocator's and every net is routed and
`Delivered` on the final tables, or the failure is a documented one (`routing_tree_to_tables` cannot fail) -/
theorem afterPlace_result (pb : Problem) (p : Rig.C02.Placement) (radius : Nat) (orc : List NetOracle)
    (mini : Option (List Rig.C04.Method × (Chip → Option Nat)))
    (dom : Domain pb) (hf : Rig.C02.Feasible (vr02 pb) (cs02 pb) pb.m2 p) :
    Except.Sat (DocumentedFailure pb) (fun out =>
      (∃ a, Rig.C05.allocate (input05 pb p) = .ok a ∧ out.alloc = Rig.C05.strip a) ∧
      List.Forall₂ (fun (n : ANet) (q : PNet) =>
        NetOf pb p out.alloc n q ∧
        ∀ k : W, k &&& n.mask = n.key →
          Delivered (deliver (machine3 pb) (devLinks pb p) (tableAt out.final) k q.src)
            (sinkCores q.sinks) (sinkExits q.sinks))
      pb.nets out.nets) (afterPlace pb p radius orc mini) := by
  unfold afterPlace
  split
  · trivial
  · rename_i a ha
    have hall := routeAll_result dom hf ha radius pb.nets orc
    split
    · rename_i e he
      rwa [he] at hall
    · rename_i pn hpn
      rw [hpn] at hall
      have hkeys := L.keys_disjoint (fun n q hr => ⟨hr.1.1, hr.1.2.1⟩) hall dom.keysDisjoint
      have hmem : ∀ q ∈ pn, chipOk (machine3 pb) q.src = true ∧
          Rig.C03.ValidTree (machine3 pb) q.src q.sinks q.tree ∧
          ∀ s ∈ q.sinks, (s.kind = 1 → s.b ≤ 18) ∧ (s.kind = 2 → s.a < 6 ∧ (s.chip, s.a) ∈ devLinks pb p) := by
        intro q hq
        obtain ⟨n, _, h'⟩ := L.forall₂_right hall q hq
        refine ⟨h'.2.1, h'.2.2, fun s hs => ?_⟩
        obtain ⟨v, _, hv⟩ := L.sinksOf_mem h'.1.2.2.2 s hs
        exact (L.sink_facts dom hf ha hv).2
      have hwf := Rig.C01.L.nets_wf fun q hq => (hmem q hq).2.1
      have hsep := Rig.C01.L.separated_allOccs hkeys (fun q hq => (hmem q hq).2.1.distinct)
        fun q hq => Rig.C01.L.valid_chips_nonneg (hmem q hq).2.1 (hmem q hq).1
      obtain ⟨T10, hT10⟩ := Rig.C01.L.treeTables_ok hwf hsep
      simp only [hT10]
      -- delivery on any final tables that are per chip RouteEquiv to the unminimised ones
      have core := fun (final : Tables)
          (hmin : ∀ c, Rig.C04.RouteEquiv (tableAt (tables04 T10) c) (tableAt final c)) =>
        L.forall₂_imp_mem hall fun n q hq h' => And.intro h'.1 fun k (hk : k &&& n.mask = n.key) =>
          pipeline_delivery (machine3 pb) (devLinks pb p) pn T10 (tableAt final) (fun q hq => (hmem q hq).1)
            (fun q hq => (hmem q hq).2.2) (L.devLinks_dead dom hf) (fun q hq => (hmem q hq).2.1) hkeys hT10 hmin
            q hq k (by rw [h'.1.1, h'.1.2.1]; exact hk)
      split
      · exact ⟨⟨a, ha, rfl⟩, core _ fun c => Rig.C04.routeEquiv_refl _⟩
      · split
        · rename_i e he
          obtain ⟨x, _, _, _, t, best, _, hb⟩ := Rig.C04.minimiseTables_failure _ _ e.1 e.2 he
          exact ⟨t, best, hb⟩
        · rename_i mo hmo
          obtain ⟨hn, hg⟩ := Rig.C01.L.tables04_good (Rig.C10.tables_exact _ hwf _ hT10).1 hsep
          exact ⟨⟨a, ha, rfl⟩, core _ (L.final_equiv hn hg hmo)⟩

/-- The stages after placement deliver, for any placement that is `Feasible` (so every placer theorem of C02
plugs in), every oracle input, radius, method list and target.  If allocation, routing of every net,
table generation and (optional) minimisation all return, then for every net of the problem (in order: `Forall₂`)
the pipeline routed it from the chip of its source to its sinks as placed / allocated / endpoint-constrained
(`NetOf`), and every packet whose key matches the net's key/mask is `Delivered` on the final tables. -/
theorem afterPlace_delivers (pb : Problem) (p : Rig.C02.Placement) (radius : Nat) (orc : List NetOracle)
    (mini : Option (List Rig.C04.Method × (Chip → Option Nat))) (out : Out)
    (dom : Domain pb) (hf : Rig.C02.Feasible (vr02 pb) (cs02 pb) pb.m2 p)
    (h : afterPlace pb p radius orc mini = .ok out) :
    List.Forall₂ (fun (n : ANet) (q : PNet) =>
        NetOf pb p out.alloc n q ∧
        ∀ k : W, k &&& n.mask = n.key →
          Delivered (deliver (machine3 pb) (devLinks pb p) (tableAt out.final) k q.src)
            (sinkCores q.sinks) (sinkExits q.sinks))
      pb.nets out.nets :=
  ((afterPlace_result pb p radius orc mini dom hf).ok h).2

/-- The stages after placement fail only as documented.  In the domain and for a feasible placement, an error of
`afterPlace` is: an error of the allocator (any; C05 `alloc_only_failure` says which in C05's own domain, which is not
derived here), a net naming an unplaced vertex, an impossible oracle input, the router's
`MachineHasDisconnectedSubregion` - and that only on a machine that is not strongly connected (C03
`route_only_failure`) -, or `MinimisationFailedError` (C04).  In particular
`routing_tree_to_tables` never raises `MultisourceRouteError` and no routed forest fails to unfold. -/
theorem afterPlace_only_failure (pb : Problem) (p : Rig.C02.Placement) (radius : Nat) (orc : List NetOracle)
    (mini : Option (List Rig.C04.Method × (Chip → Option Nat))) (e : PErr)
    (dom : Domain pb) (hf : Rig.C02.Feasible (vr02 pb) (cs02 pb) pb.m2 p)
    (h : afterPlace pb p radius orc mini = .error e) : DocumentedFailure pb e :=
  (afterPlace_result pb p radius orc mini dom hf).error h

/-- the documented domain of the chosen placer: the hypotheses of C02's soundness theorems that do not already
follow from `Domain` (C02's `WF` does, given non-negative chip resources: `L.wf02`) -/
structure PlacerDomain (pb : Problem) (pl : Placer) : Prop where
  /-- chip resources are non-negative -/
  nonnegCap : Rig.C02.NonNegCap pb.m2
  /-- a same-chip group is never located on two different chips -/
  consistent : Rig.C02.Consistent (vr02 pb) (cs02 pb)
  /-- with no vertex at all the placers return `{}` without looking at the constraints: then the reservations must
  fit and nothing may carry a location constraint -/
  emptyOK : Rig.C02.EmptyOK (vr02 pb) (cs02 pb) pb.m2
  /-- the oracle inputs are possible: a custom vertex order lists every vertex; the annealer's shuffled vertex list
  lists every movable vertex -/
  oracle : match pl with
    | .seq vo _ => ∀ o, vo = some o → ∀ v ∈ Rig.C02.keys (vr02 pb), v ∈ o
    | .rand _ => True
    | .sa _ vs _ => ∀ vr' cs' subs m' fixed, Rig.C02.applySame (vr02 pb) (cs02 pb) = .ok (vr', cs', subs) →
        Rig.C02.prepareLoop vr' cs' pb.m2 [] = .ok (m', fixed) → ∀ v ∈ Rig.C02.keys vr', v ∈ vs ∨ v ∈ Rig.C02.keys fixed

theorem runPlacer_feasible (pb : Problem) (pl : Placer) (p : Rig.C02.Placement) (dom : Domain pb)
    (hd : PlacerDomain pb pl)
    (h : runPlacer pb pl = .ok p) : Rig.C02.Feasible (vr02 pb) (cs02 pb) pb.m2 p := by
  have hwf := L.wf02 dom hd.nonnegCap
  revert h
  fun_cases runPlacer pb pl with
  | case1 vo co => exact Rig.C02.seqPlace_sound _ _ _ vo co p hwf hd.consistent hd.emptyOK hd.oracle
  | case2 picks => exact Rig.C02.randPlace_sound _ _ _ picks p hwf hd.consistent
  | case3 locs vs steps r hr =>
    rintro ⟨⟩
    exact Rig.C02.saPlace_sound _ _ _ locs vs steps r.1 r.2 hwf hd.consistent hd.emptyOK hd.oracle hr
  | case4 => nofun

/-- both outcomes of `modelPipeline`; which errors the placer itself raises: C02's `*_documented` theorems -/
theorem modelPipeline_result (pb : Problem) (placer : Placer) (radius : Nat) (orc : List NetOracle)
    (mini : Option (List Rig.C04.Method × (Chip → Option Nat))) (dom : Domain pb) (hpl : PlacerDomain pb placer) :
    Except.Sat (fun e => (∃ e', runPlacer pb placer = .error e' ∧ e = .place e') ∨ DocumentedFailure pb e)
      (fun out =>
        runPlacer pb placer = .ok out.placement ∧
        Rig.C02.Feasible (vr02 pb) (cs02 pb) pb.m2 out.placement ∧
        (∃ a, Rig.C05.allocate (input05 pb out.placement) = .ok a ∧ out.alloc = Rig.C05.strip a) ∧
        List.Forall₂ (fun (n : ANet) (q : PNet) =>
            NetOf pb out.placement out.alloc n q ∧
            ∀ k : W, k &&& n.mask = n.key →
              Delivered (deliver (machine3 pb) (devLinks pb out.placement) (tableAt out.final) k q.src)
                (sinkCores q.sinks) (sinkExits q.sinks))
          pb.nets out.nets)
      (modelPipeline pb placer radius orc mini) := by
  unfold modelPipeline
  cases hp : runPlacer pb placer with
  | error e' => exact Or.inl ⟨e', rfl, rfl⟩
  | ok p =>
    have hf := runPlacer_feasible pb placer p dom hpl hp
    have hr := afterPlace_result pb p radius orc mini dom hf
    refine Except.Sat.of_forall (fun e h => Or.inr (hr.error h)) fun out h => ?_
    cases afterPlace_placement h
    exact ⟨rfl, hf, hr.ok h⟩

/-- C01 for the composed model pipeline.

For every problem in the documented domain, every placer of C02 with every oracle input (vertex / chip orders, random
picks, shuffles and annealing proposals), every radius, every per-net oracle (destination order, tape, broken-link
order), every minimisation method list and target (or no minimisation): IF every stage of `modelPipeline` returns
`ok` THEN for every net of the problem (in order) the net was routed from the chip its source was placed on to its
sinks as placed, allocated and endpoint-constrained, and for every key that matches the net's key/mask

    Delivered (deliver machine devLinks finalTables key sourceChip) (sinkCores sinks) (sinkExits sinks)

holds: the packet is delivered exactly once to every allocated core of every sink (or leaves exactly once on the
link named by a sink's route-endpoint constraint), reaches nothing else, is never dropped, crosses only working links
between working chips and never circulates (`delivered_no_flag`).  Every stage conclusion is discharged by the stage's
theorem; the hypotheses are the domain restrictions `Domain pb` and `PlacerDomain pb placer` only. -/
theorem model_pipeline_delivers (pb : Problem) (placer : Placer) (radius : Nat) (orc : List NetOracle)
    (mini : Option (List Rig.C04.Method × (Chip → Option Nat))) (out : Out)
    (dom : Domain pb) (hpl : PlacerDomain pb placer)
    (h : modelPipeline pb placer radius orc mini = .ok out) :
    runPlacer pb placer = .ok out.placement ∧
    Rig.C02.Feasible (vr02 pb) (cs02 pb) pb.m2 out.placement ∧
    List.Forall₂ (fun (n : ANet) (q : PNet) =>
        NetOf pb out.placement out.alloc n q ∧
        ∀ k : W, k &&& n.mask = n.key →
          Delivered (deliver (machine3 pb) (devLinks pb out.placement) (tableAt out.final) k q.src)
            (sinkCores q.sinks) (sinkExits q.sinks))
      pb.nets out.nets := by
  have hr := (modelPipeline_result pb placer radius orc mini dom hpl).ok h
  exact ⟨hr.1, hr.2.1, hr.2.2.2⟩

theorem model_pipeline_no_flag (pb : Problem) (placer : Placer) (radius : Nat) (orc : List NetOracle)
    (mini : Option (List Rig.C04.Method × (Chip → Option Nat))) (out : Out)
    (dom : Domain pb) (hpl : PlacerDomain pb placer)
    (h : modelPipeline pb placer radius orc mini = .ok out) :
    ∀ q ∈ out.nets, ∀ k : W, k &&& q.mask = q.key →
      flags (deliver (machine3 pb) (devLinks pb out.placement) (tableAt out.final) k q.src) = [] := by
  intro q hq k hk
  obtain ⟨n, _, hn, hd⟩ := L.forall₂_right (model_pipeline_delivers pb placer radius orc mini out dom hpl h).2.2 q hq
  exact delivered_no_flag (hd k (by rw [← hn.1, ← hn.2.1]; exact hk))

/-! ## what is expected, in the vocabulary of the problem

`model_pipeline_delivers` states the deliveries through `sinkCores` / `sinkExits` of the sinks the router was given
(`NetOf`: `sinksOf pb placement alloc net.sinks`).  Spelled out over placement, allocation and constraints: -/

/-- `(c, i)` is expected for a net with sink
vertices `vs` iff some sink vertex without RouteEndpointConstraint is placed on chip `c` and was allocated a range of
the core resource that contains `i`. -/
theorem expected_cores {pb : Problem} {p : Rig.C02.Placement} {A : Rig.C05.Alloc} {vs : List Nat} {ss : List Sink}
    (h : sinksOf pb p A vs = some ss) (c : Chip) (i : Nat) :
    (c, i) ∈ sinkCores ss ↔ ∃ v ∈ vs, chipOf p v = some c ∧ endpointOf pb.cs v = none ∧
      ∃ sl, coresOf A pb.coreRes v = some sl ∧ sl.start.toNat ≤ i ∧ i < sl.stop.toNat := by
  rw [Rig.C01.L.mem_sinkCores]
  constructor
  · rintro ⟨s, hs, hk, j, hj, hx⟩
    cases hx
    obtain ⟨v, hv, hsv⟩ := L.sinksOf_mem h s hs
    obtain ⟨hc, _, h1⟩ := L.sinkOf_spec hsv
    obtain ⟨he, sl, hsl, ha, hb⟩ := h1 hk
    exact ⟨v, hv, hc, he, sl, hsl, ha ▸ Nat.le_add_right _ _, hb ▸ Nat.add_lt_of_lt_sub' hj⟩
  · rintro ⟨v, hv, hc, he, sl, hsl, h1, h2⟩
    obtain ⟨s, hs, hsv⟩ := L.sinksOf_complete h v hv
    unfold sinkOf at hsv
    simp only [hc, he, hsl] at hsv
    cases hsv
    exact ⟨_, hs, rfl, i - sl.start.toNat, Nat.sub_lt_sub_right h1 h2, by simp only; rw [Nat.add_sub_cancel' h1]⟩

/-- `(c, l)` is expected iff some sink vertex with an (effective) RouteEndpointConstraint to
route `l` is placed on chip `c`. -/
theorem expected_exits {pb : Problem} {p : Rig.C02.Placement} {A : Rig.C05.Alloc} {vs : List Nat} {ss : List Sink}
    (h : sinksOf pb p A vs = some ss) (c : Chip) (l : Nat) :
    (c, l) ∈ sinkExits ss ↔ ∃ v ∈ vs, chipOf p v = some c ∧ endpointOf pb.cs v = some l := by
  rw [Rig.C01.L.mem_sinkExits]
  constructor
  · rintro ⟨s, hs, hk, hx⟩
    obtain ⟨v, hv, hsv⟩ := L.sinksOf_mem h s hs
    obtain ⟨hc, h2, _⟩ := L.sinkOf_spec hsv
    cases hx
    exact ⟨v, hv, hc, h2 hk⟩
  · rintro ⟨v, hv, hc, he⟩
    obtain ⟨s, hs, hsv⟩ := L.sinksOf_complete h v hv
    unfold sinkOf at hsv
    simp only [hc, he] at hsv
    cases hsv
    exact ⟨_, hs, rfl, rfl⟩

/-! ## non-vacuity: a concrete problem in the domain, run through `modelPipeline`

5x1 machine, 3 cores per chip of which core 0 is reserved (monitor), a device on the east link of chip (4,0)
(a dead link of the machine model).  Vertices 0, 1 (2 cores each), 3 (1 core) and the device vertex 2 (no resources,
located on (4,0), RouteEndpointConstraint east).  Net A (key 4, mask 6: bit 0 don't-care) from vertex 0 to vertex 3
twice; net B (key 2, mask 6) from vertex 1 to vertices 0, 1 (self loop) and the device.  Sequential placer, default
orders; radius 1; default minimisation methods without target.  Net A passes straight through chip (1,0): its
entry there is removed by the minimiser (default routing) - the final tables differ from the unminimised ones. -/

def exPb : Problem :=
  { vr := [(0, [(0, 2), (1, 10)]), (1, [(0, 2)]), (2, []), (3, [(0, 1)])],
    nres := 2,
    m2 := { w := 5, h := 1, res := [3, 100], exc := [], dead := [] },
    deadLinks := [((4, 0), 0)],
    cs := [.reserve 0 ⟨0, 1⟩ none, .loc 2 (4, 0), .endpoint 2 0],
    nets := [{ src := 0, sinks := [3, 3], key := 4#32, mask := 6#32 },
             { src := 1, sinks := [0, 1, 2], key := 2#32, mask := 6#32 }],
    coreRes := 0 }

def exOrc : List NetOracle :=
  [{ dests := [(2, 0)], tape := List.replicate 30 0, order := [] },
   { dests := [(4, 0), (1, 0), (0, 0)], tape := List.replicate 30 0, order := [] }]

def exRun : Except PErr Out := modelPipeline exPb (.seq none none) 1 exOrc (some ([.rd, .oc], fun _ => none))

def exFinal : Tables :=
  [((0, 0), [{ route := 1, key := 4#32, mask := 6#32, sources := 2 ^ 24 },
             { route := 392, key := 2#32, mask := 6#32, sources := 1 }]),
   ((1, 0), [{ route := 392, key := 2#32, mask := 6#32, sources := 2 ^ 24 }]),
   ((2, 0), [{ route := 128, key := 4#32, mask := 6#32, sources := 8 }]),
   ((4, 0), [{ route := 1, key := 2#32, mask := 6#32, sources := 1 }])]

def exCheck (out : Out) : Bool :=
  decide (out.placement = [(.o 2, (4, 0)), (.o 0, (0, 0)), (.o 1, (1, 0)), (.o 3, (2, 0))]) &&
  decide (out.alloc = [(2, []), (0, [(0, ⟨1, 3⟩), (1, ⟨0, 10⟩)]), (1, [(0, ⟨1, 3⟩)]), (3, [(0, ⟨1, 2⟩)])]) &&
  decide (out.final = exFinal) && decide (out.final ≠ tables04 out.T10) &&
  decide (out.nets.map (fun q => (q.src, sinkCores q.sinks, sinkExits q.sinks)) =
      [((0, 0), [((2, 0), 1), ((2, 0), 1)], []),
       ((1, 0), [((0, 0), 1), ((0, 0), 2), ((1, 0), 1), ((1, 0), 2)], [((4, 0), 0)])])

/-- the model pipeline returns on the example: placement, allocation, final tables (which differ from the
unminimised ones), source chips and expected deliveries - by evaluation in the kernel -/
theorem ex_runs : ∃ out, exRun = .ok out ∧ exCheck out = true :=
  L.ok_of_check (by decide +kernel)

theorem ex_domain : Domain exPb where
  vrNodup := by decide
  resNodup := by decide
  demandNonneg := by decide
  alignPos := by intro r a h; simp [exPb] at h
  cores18 := by
    intro xy c h
    unfold Rig.C05.capacity Rig.C05.Machine.get at h
    split at h
    · cases (h : some (3 : Int) = some c); decide
    · cases h
  endpointIsLink := by
    intro v r h
    simp [exPb] at h
    omega
  endpointDead := by
    intro v r h
    simp [exPb] at h
    obtain ⟨rfl, rfl⟩ := h
    exact ⟨(4, 0), by simp [exPb], by decide⟩
  keysDisjoint := by decide

theorem ex_placerDomain : PlacerDomain exPb (.seq none none) where
  nonnegCap := by
    intro c _ i
    have : Rig.C02.cap exPb.m2 c = [3, 100] := rfl
    rw [this]
    match i with
    | 0 => decide
    | 1 => decide
    | i + 2 => simp [Rig.C02.dem]
  consistent := L.consistent_of_applySame rfl fun v c c' hc hc' => by
    simp [cs02, exPb, PC.to02] at hc hc'
    rw [hc.2, hc'.2]
  emptyOK := by intro h; simp [vr02, exPb] at h
  oracle := by intro o h; cases h

/-- the conclusion of `model_pipeline_delivers` for the example, through the theorem -/
example : ∃ out, exRun = .ok out ∧
    List.Forall₂ (fun (n : ANet) (q : PNet) =>
        NetOf exPb out.placement out.alloc n q ∧
        ∀ k : W, k &&& n.mask = n.key →
          Delivered (deliver (machine3 exPb) (devLinks exPb out.placement) (tableAt out.final) k q.src)
            (sinkCores q.sinks) (sinkExits q.sinks))
      exPb.nets out.nets := by
  obtain ⟨out, h, _⟩ := ex_runs
  exact ⟨out, h, (model_pipeline_delivers exPb _ _ _ _ out ex_domain ex_placerDomain h).2.2⟩

/-- and directly, by evaluation: key 5 (net A, don't-care bit set) injected at (0,0) crosses the default-routed chip
(1,0) and reaches core 1 of chip (2,0) once; key 2 (net B) injected at (1,0) reaches its four cores and the device -/
example : deliver (machine3 exPb) [((4, 0), 0)] (tableAt exFinal) 5#32 (0, 0) = [.core (2, 0) 1] ∧
    deliver (machine3 exPb) [((4, 0), 0)] (tableAt exFinal) 2#32 (1, 0) =
      [.core (1, 0) 1, .core (1, 0) 2, .core (0, 0) 1, .core (0, 0) 2, .exit (4, 0) 0] := by decide +kernel

end Rig.C01Pipe
