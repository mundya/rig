/-
C20 - helper lemmas: the model meets the executable specification `specOK`; a cheap way for the kernel to
evaluate a pairwise condition.
-/
import RigModel.Lemmas.C20
import RigModel.Lemmas.C20Pack

namespace Rig.C20

def setExpected (c : Call) (opts : Dict) (f : Field) : Field :=
  { f with default := expectedDefault c opts f }

def KeysNamed (fs : List Field) (d : Dict) : Prop := ∀ p ∈ d, ∃ f ∈ fs, f.name = p.1

theorem finalFields_spec (c : Call) (opts : Dict) (nd : DistinctNames c.svFields)
    (h1 : KeysNamed c.svFields opts) (h2 : KeysNamed c.svFields (timeOpts c.t1 c.t2)) :
    finalFields c opts = .ok (c.svFields.map (setExpected c opts)) := by
  have e1 := updateDefaults_map opts c.svFields h1 nd
  have h2' : ∀ p ∈ timeOpts c.t1 c.t2, ∃ f ∈ c.svFields.map (applyDict opts), f.name = p.1 := by
    intro p hp
    obtain ⟨f, hf, hn⟩ := h2 p hp
    exact ⟨applyDict opts f, List.mem_map_of_mem hf, by rw [applyDict_name]; exact hn⟩
  have e2 := updateDefaults_map (timeOpts c.t1 c.t2) _ h2'
    (distinct_map _ _ (applyDict_name opts) nd)
  simp only [finalFields, e1, e2, List.map_map]
  congr 1
  apply List.map_congr_left
  intro f _
  rcases ho : dictGet opts f.name with _ | x <;>
    rcases ht : dictGet (timeOpts c.t1 c.t2) f.name with _ | y <;>
    simp [Function.comp, setExpected, expectedDefault, applyDict, ho, ht]

theorem structPack_spec (size : Nat) (fs : List Field)
    (hin : ∀ f ∈ fs, f.offset + packWidth f.pack ≤ size) (hd : Disjoint fs)
    (hv : ∀ f ∈ fs, valueFits f.pack f.default = true) :
    ∃ packed, structPack size fs = .ok packed ∧ packed.length = size ∧
      (∀ f ∈ fs, ∀ j, j < packWidth f.pack → packed[f.offset + j]? = some (leByte f.default j)) ∧
      (∀ i, i < size → (∀ f ∈ fs, ¬ covers f i) → packed[i]? = some 0) := by
  obtain ⟨out, ho, hl, hfld, hrest⟩ := packLoop_spec fs (List.replicate size 0)
    (fun f hf => ⟨hv f hf, by rw [List.length_replicate]; exact hin f hf⟩) hd
  rw [List.length_replicate] at hl
  refine ⟨out, ho, hl, hfld, fun i hi hnc => ?_⟩
  rw [hrest i hnc, List.getElem?_replicate, if_pos hi]

theorem tableOK_parts (size : Nat) (fs : List Field) (h : tableOK size fs = true) :
    (∀ f ∈ fs, 0 < packWidth f.pack ∧ f.offset + packWidth f.pack ≤ size) ∧ Disjoint fs ∧
    DistinctNames fs := by
  simp only [tableOK, Bool.and_eq_true, List.all_eq_true, decide_eq_true_eq] at h
  exact ⟨h.1.1, h.1.2, h.2⟩

theorem optsValid_parts (c : Call) (opts : Dict) (h : optsValid c opts = true) :
    KeysNamed c.svFields opts ∧ KeysNamed c.svFields (timeOpts c.t1 c.t2) ∧
    ∀ f ∈ c.svFields, valueFits f.pack (expectedDefault c opts f) = true := by
  simp only [optsValid, Bool.and_eq_true, List.all_eq_true, List.any_eq_true, decide_eq_true_eq,
    List.mem_append] at h
  exact ⟨fun p hp => h.1 p (Or.inl hp), fun p hp => h.1 p (Or.inr hp), h.2⟩

theorem configOK_packed (c : Call) (opts : Dict) (packed : List Nat) (hl : packed.length = c.svSize)
    (h128 : 128 ≤ c.svSize)
    (hfield : ∀ f ∈ c.svFields, ∀ j, j < packWidth f.pack →
      packed[f.offset + j]? = some (leByte (expectedDefault c opts f) j))
    (hzero : ∀ i, i < c.svSize → (∀ f ∈ c.svFields, ¬ covers f i) → packed[i]? = some 0) :
    configOK c opts (packed.take 128) = true := by
  simp only [configOK, Bool.and_eq_true, List.all_eq_true, List.mem_range, Bool.or_eq_true,
    decide_eq_true_eq, beq_iff_eq, List.any_eq_true, List.length_take]
  refine ⟨⟨by omega, ?_⟩, ?_⟩
  · intro f hf j hj
    refine (Nat.lt_or_ge (f.offset + j) 128).symm.imp id fun h => ?_
    rw [List.getElem?_take, if_pos h]
    exact hfield f hf j hj
  · intro i hi
    refine Classical.or_iff_not_imp_left.mpr fun h => ?_
    rw [List.getElem?_take, if_pos hi]
    exact hzero i (by omega) (fun f hf hc => h ⟨f, hf, hc⟩)

theorem boot_meets_spec_aux (c : Call) (opts : Dict) (hd : c.InDomain) (hv : optsValid c opts = true) :
    (bootCore c opts).result = .ok (c.svFields.map (setExpected c opts)) ∧
    specOK c opts (sends (bootCore c opts).events) (c.svFields.map (setExpected c opts)) = true := by
  obtain ⟨hdi, htab, h128⟩ := hd
  obtain ⟨hin, hdisj, hnames⟩ := tableOK_parts _ _ htab
  obtain ⟨hk1, hk2, hfit⟩ := optsValid_parts c opts hv
  have hf := finalFields_spec c opts hnames hk1 hk2
  obtain ⟨packed, hp, hl, hfield, hzero⟩ := structPack_spec c.svSize (c.svFields.map (setExpected c opts))
    (List.forall_mem_map.mpr fun f hf => (hin f hf).2) (List.pairwise_map.mpr hdisj)
    (List.forall_mem_map.mpr hfit)
  simp only [List.forall_mem_map] at hfield hzero
  have hpl : 128 ≤ packed.length := hl ▸ h128
  obtain ⟨hr, hs⟩ := bootCore_ok c opts hdi _ packed hf hp hpl
  refine ⟨hr, ?_⟩
  obtain ⟨h4, h512, hlt⟩ := hdi
  have a := bootImage_length c.image packed h512 hpl
  have hshape := shapeOK_bootDatagrams (bootImage c.image packed) (a ▸ h4)
    (a ▸ Nat.lt_of_lt_of_le (by decide) h512)
  have hret : returnedOK c opts (c.svFields.map (setExpected c opts)) = true := beq_self_eq_true _
  simp only [specOK, hs, reassemble_bootDatagrams, hshape, bootImage_config c.image packed h512 hpl,
    configOK_packed c opts packed hl h128 hfield hzero, imageOK, a, bootImage_take c.image packed h512,
    bootImage_drop c.image packed h512 hpl, beq_self_eq_true, Bool.and_self, hret]

/-- `List.Pairwise` as a Boolean sweep: the kernel evaluates this several times faster than the
`Decidable` instance of `List.Pairwise` -/
def pairsB {α : Type} (r : α → α → Bool) : List α → Bool
  | [] => true
  | a :: l => l.all (r a) && pairsB r l

theorem pairsB_sound {α : Type} {r : α → α → Bool} : ∀ {l : List α}, pairsB r l = true →
    l.Pairwise (fun a b => r a b = true)
  | [], _ => .nil
  | a :: l, h => by
    simp only [pairsB, Bool.and_eq_true, List.all_eq_true] at h
    exact .cons h.1 (pairsB_sound h.2)

end Rig.C20
