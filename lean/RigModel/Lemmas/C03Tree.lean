/-
C03 - trees: induction with the hypothesis for every subtree, the chips / leaves / edges of a list of subtrees as
`flatMap`s, reachability inside a tree of working hops; the decision procedure `validTree` is the property `ValidTree`.
-/
import RigModel.Model.C03
import RigModel.Lemmas.Lists
namespace Rig.C03.L

theorem nodupB_iff (l : List Chip) : nodupB l = true ↔ l.Nodup := Lists.nodupB_iff rfl (fun _ _ => rfl) l

theorem edgeOk_iff (m : Machine) (e : Chip × Nat × Chip) : edgeOk m e = true ↔ HopOk m e := by
  simp [edgeOk, HopOk, and_assoc]

theorem reach_trans {m : Machine} {a b c : Chip} (h1 : Reach m a b) (h2 : Reach m b c) : Reach m a c := by
  induction h2 with
  | refl => exact h1
  | hop l _ hl hk hc ih => exact Reach.hop l ih hl hk hc

theorem tree_ind {P : Tree → Prop} (h : ∀ c subs lv, (∀ sub ∈ subs, P sub.2) → P (.node c subs lv)) (t : Tree) : P t :=
  Tree.rec (motive_1 := P) (motive_2 := fun l => ∀ sub ∈ l, P sub.2) (motive_3 := fun p => P p.2)
    h (fun _ hs => nomatch hs)
    (fun _ _ ih1 ih2 _ hs => (List.mem_cons.1 hs).elim (fun e => e ▸ ih1) (ih2 _))
    (fun _ _ ih => ih) t

theorem chipsL_eq (s : List (Nat × Tree)) : chipsL s = s.flatMap (·.2.chips) := by
  induction s with
  | nil => rfl
  | cons p r ih => rw [chipsL, ih, List.flatMap_cons]

theorem mem_chipsL {subs : List (Nat × Tree)} {x : Chip} :
    x ∈ chipsL subs ↔ ∃ s, s ∈ subs ∧ x ∈ s.2.chips := by
  rw [chipsL_eq, List.mem_flatMap]

theorem leafL_eq (s : List (Nat × Tree)) : leafL s = s.flatMap (·.2.leafList) := by
  induction s with
  | nil => rfl
  | cons p r ih => rw [leafL, ih, List.flatMap_cons]

theorem edgesL_eq (c : Chip) (s : List (Nat × Tree)) :
    edgesL c s = s.flatMap fun p => (c, p.1, p.2.chip) :: p.2.edges := by
  induction s with
  | nil => rfl
  | cons p r ih => rw [edgesL, ih, List.flatMap_cons, List.cons_append]

theorem leaf_chip_mem : (t : Tree) → ∀ lf, lf ∈ t.leafList → lf.1 ∈ t.chips :=
  tree_ind fun c subs lv ih lf h => by
    simp only [Tree.leafList, leafL_eq, List.mem_append, List.mem_map, List.mem_flatMap] at h
    simp only [Tree.chips, chipsL_eq, List.mem_cons, List.mem_flatMap]
    rcases h with ⟨p, _, rfl⟩ | ⟨s, hs, h⟩
    · exact Or.inl rfl
    · exact Or.inr ⟨s, hs, ih s hs lf h⟩

theorem leaf_chip_memL : (s : List (Nat × Tree)) → ∀ lf, lf ∈ leafL s → lf.1 ∈ chipsL s := fun s lf h => by
  rw [leafL_eq, List.mem_flatMap] at h
  rw [chipsL_eq, List.mem_flatMap]
  exact h.imp fun t ht => ⟨ht.1, leaf_chip_mem t.2 lf ht.2⟩

theorem reach_of_mem (m : Machine) : (t : Tree) → (∀ e, e ∈ t.edges → HopOk m e) →
    ∀ c, c ∈ t.chips → Reach m t.chip c :=
  tree_ind fun c0 subs lv ih h c hc => by
    simp only [Tree.chips, chipsL_eq, List.mem_cons, List.mem_flatMap] at hc
    simp only [Tree.edges, edgesL_eq, List.mem_flatMap, List.mem_cons] at h
    rcases hc with rfl | ⟨s, hs, hc⟩
    · exact Reach.refl _
    · obtain ⟨hl, hk, hck, heq⟩ := h (c0, s.1, s.2.chip) ⟨s, hs, Or.inl rfl⟩
      simp only at hck heq
      rw [heq] at hck
      exact reach_trans (heq ▸ Reach.hop s.1 (Reach.refl c0) hl hk hck)
        (ih s hs (fun e he => h e ⟨s, hs, Or.inr he⟩) c hc)

theorem reach_of_memL (m : Machine) (c0 : Chip) : (s : List (Nat × Tree)) →
    (∀ e, e ∈ edgesL c0 s → HopOk m e) → ∀ c, c ∈ chipsL s → Reach m c0 c :=
  fun s h c hc => reach_of_mem m (.node c0 s []) h c (List.mem_cons_of_mem _ hc)

theorem validTree_iff (m : Machine) (src : Chip) (sinks : List Sink) (t : Tree) :
    validTree m src sinks t = true ↔ ValidTree m src sinks t := by
  simp only [validTree, Bool.and_eq_true, beq_iff_eq, nodupB_iff, List.all_eq_true, List.contains_iff_mem,
    edgeOk_iff]
  exact ⟨fun ⟨⟨⟨⟨h1, h2⟩, h3⟩, h4⟩, h5⟩ => ⟨h1, h2, fun c l c' he => h3 _ he, h4, h5⟩,
    fun h => ⟨⟨⟨⟨h.rooted, h.distinct⟩, fun e he => h.hops e.1 e.2.1 e.2.2 he⟩, h.leaves_sound⟩,
      h.leaves_complete⟩⟩

end Rig.C03.L
