/-
C05 - fuel independence of the uniform-fuel model `allocateF` (one `fuel` for every `while` loop, what the
generated `allocate` does): a run in which no loop is cut off gives the model's answer, and every fuel from
some bound on cuts off no loop.
-/
import RigModel.Props.C05GenDefs

namespace Rig.C05

variable {inp : Input} {one1 : One} {oneF : Nat → One} (xy : Chip) (v : Vertex)

theorem proposeLoop_mono (a cap d : Int) (g l : List Slice) :
    ∀ (f f' : Nat) (p : Int), f ≤ f' → proposeLoop a cap d g l f p ≠ .error .fuel →
      proposeLoop a cap d g l f' p = proposeLoop a cap d g l f p := by
  intro f
  induction f with
  | zero => intro f' p _ h1; exact absurd rfl h1
  | succ f ih =>
    intro f' p hle h1
    obtain ⟨f'', rfl⟩ := Nat.exists_eq_add_one.2 (Nat.lt_of_lt_of_le (Nat.succ_pos f) hle)
    rcases proposeLoop_cases a cap d g l p with ⟨_, e⟩ | ⟨_, _, e⟩ | ⟨_, r, _, _, e⟩
    · rw [e, e]
    · rw [e, e]
    · rw [e] at h1 ⊢
      rw [e]
      exact ih _ _ (Nat.le_of_succ_le_succ hle) h1

/-- a proposal loop that is not cut off gives the same answer with any other fuel that does not cut it off -/
theorem proposeLoop_det (a cap d : Int) (g l : List Slice) :
    ∀ (f1 f2 : Nat) (p : Int), proposeLoop a cap d g l f1 p ≠ .error .fuel → proposeLoop a cap d g l f2 p ≠ .error .fuel →
      proposeLoop a cap d g l f1 p = proposeLoop a cap d g l f2 p := by
  intro f1 f2 p h1 h2
  rcases Nat.le_total f1 f2 with h | h
  · exact (proposeLoop_mono a cap d g l f1 f2 p h h1).symm
  · exact proposeLoop_mono a cap d g l f2 f1 p h h2

theorem allocOneF_det (inp : Input) (hA : ∀ res, 1 ≤ alignment inp.constraints res) (fuel : Nat)
    (xy : Chip) (v : Vertex) (res : Res) (d : Int) (ptrs : Ptrs) :
    allocOneF fuel inp xy v res d ptrs = .error .fuel ∨
      allocOneF fuel inp xy v res d ptrs = allocOne inp xy v res d ptrs := by
  rw [allocOneF_eq, allocOne_eq, allocOneBy, allocOneBy]
  cases capOf inp xy res with
  | error e => exact .inr rfl
  | ok cap =>
    show finish xy v res d ptrs _ = _ ∨ finish xy v res d ptrs _ = finish xy v res d ptrs _
    by_cases hf : proposeLoop (alignment inp.constraints res) cap d (globalRes inp.constraints res)
        (localRes inp.constraints xy res) fuel (ptrs res) = .error .fuel
    · rw [hf]; exact .inl rfl
    · exact .inr (congrArg _ (proposeLoop_det _ _ _ _ _ _ _ _ hf
        (propose_no_fuel (hA res) _ _ (Nat.le_refl (fuelFor cap (ptrs res))))))

theorem allocOneF_stable (inp : Input) (hA : ∀ res, 1 ≤ alignment inp.constraints res)
    (xy : Chip) (v : Vertex) (res : Res) (d : Int) (ptrs : Ptrs) :
    ∃ F, ∀ fuel, F ≤ fuel → allocOneF fuel inp xy v res d ptrs = allocOne inp xy v res d ptrs := by
  simp only [allocOneF_eq, allocOne_eq, allocOneBy]
  cases capOf inp xy res with
  | error e => exact ⟨0, fun _ _ => rfl⟩
  | ok cap =>
    exact ⟨fuelFor cap (ptrs res), fun fuel hle => congrArg (finish xy v res d ptrs)
      (proposeLoop_mono _ _ _ _ _ _ _ _ hle (propose_no_fuel (hA res) _ _ (Nat.le_refl _)))⟩

/-- `one1` is cut off or agrees with `one2` on every request -/
def FuelOr (one1 one2 : One) : Prop :=
  ∀ xy v res d ptrs, one1 xy v res d ptrs = .error .fuel ∨ one1 xy v res d ptrs = one2 xy v res d ptrs

theorem allocResourcesG_det (h : FuelOr one1 (allocOne inp)) :
    ∀ (rs : List (Res × Int)) (ptrs : Ptrs),
      allocResourcesG one1 xy v rs ptrs = .error .fuel ∨
        allocResourcesG one1 xy v rs ptrs = allocResources inp xy v rs ptrs := by
  intro rs
  induction rs with
  | nil => exact fun _ => .inr rfl
  | cons rd rs ih =>
    intro ptrs
    obtain ⟨res, d⟩ := rd
    unfold allocResourcesG allocResources
    rcases h xy v res d ptrs with e | e <;> rw [e]
    · exact .inl rfl
    · rcases allocOne inp xy v res d ptrs with err | ⟨ptrs', en⟩
      · exact .inr rfl
      · rcases ih ptrs' with e2 | e2 <;> dsimp only <;> rw [e2]
        · exact .inl rfl
        · exact .inr rfl

theorem allocVerticesG_det (h : FuelOr one1 (allocOne inp)) :
    ∀ (vs : List Vertex) (ptrs : Ptrs),
      allocVerticesG one1 inp.vr xy vs ptrs = .error .fuel ∨
        allocVerticesG one1 inp.vr xy vs ptrs = allocVertices inp xy vs ptrs := by
  intro vs
  induction vs with
  | nil => exact fun _ => .inr rfl
  | cons v vs ih =>
    intro ptrs
    unfold allocVerticesG allocVertices
    rcases inp.vr.lookup v with _ | rs
    · exact .inr rfl
    · rcases allocResourcesG_det xy v h rs ptrs with e | e <;> dsimp only <;> rw [e]
      · exact .inl rfl
      · rcases allocResources inp xy v rs ptrs with err | ⟨ptrs', es⟩
        · exact .inr rfl
        · rcases ih ptrs' with e2 | e2 <;> dsimp only <;> rw [e2]
          · exact .inl rfl
          · exact .inr rfl

/-- `chipContents inp` is this list of pairs at `chips := chipOrder inp` -/
theorem allocChipsL_det (h : FuelOr one1 (allocOne inp)) :
    ∀ (chips : List Chip),
      allocChipsL one1 inp.vr (chips.map fun xy => (xy, chipVertices inp xy)) = .error .fuel ∨
        allocChipsL one1 inp.vr (chips.map fun xy => (xy, chipVertices inp xy)) = allocChips inp chips := by
  intro chips
  induction chips with
  | nil => exact .inr rfl
  | cons xy chips ih =>
    rw [List.map_cons]
    unfold allocChipsL allocChips
    rcases allocVerticesG_det xy h (chipVertices inp xy) (fun _ => 0) with e | e <;> rw [e]
    · exact .inl rfl
    · rcases allocVertices inp xy (chipVertices inp xy) (fun _ => 0) with err | a
      · exact .inr rfl
      · rcases ih with e2 | e2 <;> dsimp only <;> rw [e2]
        · exact .inl rfl
        · exact .inr rfl

/-- from some fuel on `oneF fuel` agrees with `one` on every request -/
def Stable (oneF : Nat → One) (one : One) : Prop :=
  ∀ xy v res d ptrs, ∃ F, ∀ fuel, F ≤ fuel → oneF fuel xy v res d ptrs = one xy v res d ptrs

theorem allocResourcesG_stable (h : Stable oneF (allocOne inp)) :
    ∀ (rs : List (Res × Int)) (ptrs : Ptrs),
      ∃ F, ∀ fuel, F ≤ fuel → allocResourcesG (oneF fuel) xy v rs ptrs = allocResources inp xy v rs ptrs := by
  intro rs
  induction rs with
  | nil => exact fun _ => ⟨0, fun _ _ => rfl⟩
  | cons rd rs ih =>
    intro ptrs
    obtain ⟨res, d⟩ := rd
    obtain ⟨F1, h1⟩ := h xy v res d ptrs
    cases ho : allocOne inp xy v res d ptrs with
    | error err => exact ⟨F1, fun fuel hf => by unfold allocResourcesG allocResources; rw [h1 fuel hf, ho]⟩
    | ok pe =>
      obtain ⟨F2, h2⟩ := ih pe.1
      exact ⟨max F1 F2, fun fuel hf => by
        unfold allocResourcesG allocResources
        rw [h1 fuel (Nat.le_trans (Nat.le_max_left ..) hf), ho]
        dsimp only
        rw [h2 fuel (Nat.le_trans (Nat.le_max_right ..) hf)]
        rfl⟩

theorem allocVerticesG_stable (h : Stable oneF (allocOne inp)) :
    ∀ (vs : List Vertex) (ptrs : Ptrs),
      ∃ F, ∀ fuel, F ≤ fuel → allocVerticesG (oneF fuel) inp.vr xy vs ptrs = allocVertices inp xy vs ptrs := by
  intro vs
  induction vs with
  | nil => exact fun _ => ⟨0, fun _ _ => rfl⟩
  | cons v vs ih =>
    intro ptrs
    unfold allocVerticesG allocVertices
    rcases inp.vr.lookup v with _ | rs
    · exact ⟨0, fun _ _ => rfl⟩
    · obtain ⟨F1, h1⟩ := allocResourcesG_stable xy v h rs ptrs
      dsimp only
      cases ho : allocResources inp xy v rs ptrs with
      | error err => exact ⟨F1, fun fuel hf => by rw [h1 fuel hf, ho]⟩
      | ok pe =>
        obtain ⟨F2, h2⟩ := ih pe.1
        exact ⟨max F1 F2, fun fuel hf => by
          rw [h1 fuel (Nat.le_trans (Nat.le_max_left ..) hf), ho]
          dsimp only
          rw [h2 fuel (Nat.le_trans (Nat.le_max_right ..) hf)]
          rfl⟩

theorem allocChipsL_stable (h : Stable oneF (allocOne inp)) :
    ∀ (chips : List Chip),
      ∃ F, ∀ fuel, F ≤ fuel →
        allocChipsL (oneF fuel) inp.vr (chips.map fun xy => (xy, chipVertices inp xy)) = allocChips inp chips := by
  intro chips
  induction chips with
  | nil => exact ⟨0, fun _ _ => rfl⟩
  | cons xy chips ih =>
    obtain ⟨F1, h1⟩ := allocVerticesG_stable xy h (chipVertices inp xy) (fun _ => 0)
    obtain ⟨F2, h2⟩ := ih
    exact ⟨max F1 F2, fun fuel hf => by
      rw [List.map_cons]
      unfold allocChipsL allocChips
      rw [h1 fuel (Nat.le_trans (Nat.le_max_left ..) hf), h2 fuel (Nat.le_trans (Nat.le_max_right ..) hf)]
      rfl⟩

-- neither proof below uses its `hD`
set_option linter.unusedVariables false

/-- with one fuel for every `while` loop: either some loop is cut off, or the result is the model's -/
theorem allocateF_det (inp : Input) (hA : ∀ res, 1 ≤ alignment inp.constraints res)
    (hD : ∀ q ∈ inp.vr, ∀ rd ∈ q.2, 0 ≤ rd.2) (fuel : Nat) :
    allocateF fuel inp = .error .fuel ∨ allocateF fuel inp = allocate inp :=
  allocChipsL_det (allocOneF_det inp hA fuel) (chipOrder inp)

/-- and there is a fuel from which on no loop is cut off (every `while` loop of the run terminates) -/
theorem allocateF_stable (inp : Input) (hA : ∀ res, 1 ≤ alignment inp.constraints res)
    (hD : ∀ q ∈ inp.vr, ∀ rd ∈ q.2, 0 ≤ rd.2) :
    ∃ F, ∀ fuel, F ≤ fuel → allocateF fuel inp = allocate inp :=
  allocChipsL_stable (oneF := fun fuel => allocOneF fuel inp) (allocOneF_stable inp hA) (chipOrder inp)

end Rig.C05
