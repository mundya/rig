/-
C12 - a tree constructed directly as `RegionCoreTree(base_x, base_y, level)`: the insertion loop
with every `add_core` return value (`buildTraceAt`).  Core Lean only.
-/
import RigModel.Lemmas.C12

namespace Rig.C12

/-- the cores for which some `add_core` of the run returned `True` -/
def fullCores (ts : List (Int × Int × Int)) (bs : List Bool) : List Nat :=
  ((ts.zip bs).filter fun cb => cb.2).map fun cb => cb.1.2.2.toNat

theorem mem_fullCores_cons (c : Int × Int × Int) (ts : List (Int × Int × Int)) (b : Bool) (bs : List Bool)
    (p : Nat) : p ∈ fullCores (c :: ts) (b :: bs) ↔ ((b = true ∧ p = c.2.2.toNat) ∨ p ∈ fullCores ts bs) := by
  cases b
  · exact ⟨Or.inr, fun h => h.elim (fun h => nomatch h.1) id⟩
  · exact List.mem_cons.trans (or_congr_left ⟨fun h => ⟨rfl, h⟩, fun h => h.2⟩)

/-- the step function of `buildTraceAt` -/
def traceStep (d : Nat) (st : RTree × List Bool) (c : Int × Int × Int) : Except Err (RTree × List Bool) :=
  if c.1 < 0 ∨ c.2.1 < 0 ∨ c.2.2 < 0 then .error .valueError
  else match addCore d st.1 c.1.toNat c.2.1.toNat c.2.2.toNat with
    | .error e => .error e
    | .ok (t', b) => .ok (t', st.2 ++ [b])

theorem trace_spec (d x0 y0 lv : Nat) : ∀ (ts : List (Int × Int × Int)) (t0 : RTree) (bs0 : List Bool),
    Inv d t0 → t0.x0 = x0 → t0.y0 = y0 → t0.lv = lv →
    (∀ c, c ∈ ts → InRange c ∧ inSq x0 y0 lv c.1.toNat c.2.1.toNat) →
    ∃ t bs, ts.foldlM (traceStep d) (t0, bs0) = .ok (t, bs0 ++ bs) ∧ bs.length = ts.length ∧
      Inv d t ∧ (lv = 0 → ∀ b, b ∈ bs → b = false) ∧
      ∀ x y p, (holds d t x y p ∨ (p ∈ fullCores ts bs ∧ inSq x0 y0 lv x y)) ↔
        (holds d t0 x y p ∨ (x, y, p) ∈ ts.map toNat3)
  | [], t0, bs0, hI, h1, h2, h3, _ =>
    ⟨t0, [], by rw [List.foldlM_nil, List.append_nil]; rfl, rfl, hI, by simp, by simp [fullCores]⟩
  | c :: ts, t0, bs0, hI, h1, h2, h3, hr => by
    obtain ⟨hc, hin⟩ := hr c List.mem_cons_self
    obtain ⟨a1, a2, b1, b2, c1, c2⟩ := hc
    obtain ⟨t1, full, heq, hI1, hx1, hy1, hl1, hfull, hhold, hnone⟩ :=
      addCore_spec d t0 c.1.toNat c.2.1.toNat c.2.2.toNat hI (by rw [h1, h2, h3]; exact hin) (by omega)
    obtain ⟨t, bs, e, hlen, hIt, g0, hh⟩ := trace_spec d x0 y0 lv ts t1 (bs0 ++ [full]) hI1
      (by rw [hx1, h1]) (by rw [hy1, h2]) (by rw [hl1, h3]) (fun c' hc' => hr c' (List.mem_cons_of_mem _ hc'))
    refine ⟨t, full :: bs, ?_, by simp [hlen], hIt, ?_, ?_⟩
    · rw [List.foldlM_cons]
      have hneg : ¬ (c.1 < 0 ∨ c.2.1 < 0 ∨ c.2.2 < 0) := by omega
      have : traceStep d (t0, bs0) c = .ok (t1, bs0 ++ [full]) := by
        simp only [traceStep, if_neg hneg, heq]
      rw [this]
      simp only [List.append_assoc, List.singleton_append] at e
      exact e
    · intro hl0 b hb
      rcases List.mem_cons.1 hb with rfl | hb
      · exact hfull (by rw [h3]; exact hl0)
      · exact g0 hl0 b hb
    · intro x y p
      have h' := hhold x y p
      rw [h1, h2, h3] at h'
      -- first the later calls (`hh`), then this one (`h'`)
      rw [mem_fullCores_cons, or_and_right, or_left_comm, hh x y p, ← or_assoc, or_comm (b := holds d t1 x y p),
        and_assoc, h', or_assoc, List.map_cons, List.mem_cons, toNat3, Prod.mk.injEq, Prod.mk.injEq]

end Rig.C12
