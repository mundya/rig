/-
C11 - the oracle's executable graph search: `ballLe .. n` is the set of chips reached in at most `n` hops
(`mem_ballLe`); the level that `levelOf` finds in `ballsFrom` is the first ball containing the chip
(`ballsFrom_levelOf`).
-/
import RigModel.Model.C11

namespace Rig.C11

theorem mem_insertAll (acc l : List P2) (p : P2) : p ∈ insertAll acc l ↔ p ∈ acc ∨ p ∈ l := by
  fun_induction insertAll acc l with
  | case1 acc => simp
  | case2 acc q t hq ih =>
    have hq : q ∈ acc := by simpa using hq
    rw [ih, List.mem_cons]
    exact ⟨fun h => h.elim .inl (.inr ∘ .inr), fun h => h.elim .inl fun h => h.elim (fun e => .inl (e ▸ hq)) .inr⟩
  | case3 acc q t hq ih => rw [ih, List.mem_append, List.mem_singleton, List.mem_cons, or_assoc]

theorem mem_expand (w h : Option Int) (l : List P2) (q : P2) :
    q ∈ expand w h l ↔ ∃ p, p ∈ l ∧ ∃ d, d ∈ hexSteps ∧ q = stepTo w h p d := by
  simp only [expand, List.mem_flatMap, List.mem_map, eq_comm]

theorem mem_ballLe (w h : Option Int) (a b : P2) (n : Nat) :
    b ∈ ballLe w h a n ↔ ∃ m, m ≤ n ∧ Reach w h m a b := by
  induction n generalizing b with
  | zero =>
    simp only [ballLe, List.mem_singleton]
    constructor
    · rintro rfl; exact ⟨0, Nat.le_refl 0, Reach.refl _⟩
    · rintro ⟨m, hm, r⟩
      have : m = 0 := by omega
      subst this
      cases r; rfl
  | succ n ih =>
    simp only [ballLe, grow, mem_insertAll, mem_expand]
    constructor
    · rintro (hb | ⟨p, hp, d, hd, rfl⟩)
      · obtain ⟨m, hm, r⟩ := (ih b).1 hb
        exact ⟨m, by omega, r⟩
      · obtain ⟨m, hm, r⟩ := (ih p).1 hp
        exact ⟨m + 1, by omega, Reach.step d r hd⟩
    · rintro ⟨m, hm, r⟩
      by_cases hmn : m ≤ n
      · exact .inl ((ih b).2 ⟨m, hmn, r⟩)
      · have : m = n + 1 := by omega
        subst this
        cases r with
        | step d r' hd => exact .inr ⟨_, (ih _).2 ⟨n, Nat.le_refl n, r'⟩, d, hd, rfl⟩

theorem levelOf_cons {p : P2} {b : List P2} {bs : List (List P2)} {i r : Nat}
    (h : levelOf p (b :: bs) i = some r) : p ∈ b ∧ r = i ∨ ¬ p ∈ b ∧ levelOf p bs (i + 1) = some r := by
  simp only [levelOf] at h
  split at h
  · rename_i hc; exact .inl ⟨by simpa using hc, (Option.some.inj h).symm⟩
  · rename_i hc; exact .inr ⟨by simpa using hc, h⟩

theorem ballsFrom_levelOf (w h : Option Int) (a p : P2) (n : Nat) : ∀ (k i r : Nat),
    levelOf p (ballsFrom w h n (ballLe w h a k)) i = some r →
    ∃ j, r = i + j ∧ p ∈ ballLe w h a (k + j) ∧ ∀ j', j' < j → ¬ p ∈ ballLe w h a (k + j') := by
  induction n with
  | zero =>
    intro k i r hr
    rcases levelOf_cons hr with ⟨hm, rfl⟩ | ⟨_, hr⟩
    · exact ⟨0, rfl, hm, fun j' hj => by omega⟩
    · cases hr
  | succ n ih =>
    intro k i r hr
    rcases levelOf_cons hr with ⟨hm, rfl⟩ | ⟨hc, hr⟩
    · exact ⟨0, rfl, hm, fun j' hj => by omega⟩
    · obtain ⟨j, hj1, hj2, hj3⟩ := ih (k + 1) (i + 1) r hr
      refine ⟨j + 1, by omega, by rw [show k + (j + 1) = k + 1 + j by omega]; exact hj2, fun j' hj' => ?_⟩
      cases j' with
      | zero => exact hc
      | succ j' =>
        rw [show k + (j' + 1) = k + 1 + j' by omega]
        exact hj3 j' (by omega)

end Rig.C11
