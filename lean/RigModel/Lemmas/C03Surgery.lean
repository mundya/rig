/-
C03 - forest surgery of the dead-link repair (`avoid_dead_links`): `detachIn` removes the parent edge of a node
and leaves the forest well-formed, with that node parentless; in any search order it keeps the keys and adds no edge.
-/
import RigModel.Lemmas.C03Forest
namespace Rig.C03.L

/-- `detachIn` when it finds the parent `n` of `c` -/
def cut (f : Forest) (n c : Chip) : Forest :=
  f.map fun e => if e.1 == n then (e.1, removeChild c e.2) else e

theorem detachIn_cases (f : Forest) (c : Chip) (order : List Chip) :
    (detachIn f c order = f ∧ ∀ n, n ∈ order → (f.kids n).any (fun e => e.2 == c) = false) ∨
    ∃ n, (f.kids n).any (fun e => e.2 == c) = true ∧ detachIn f c order = cut f n c := by
  fun_induction detachIn f c order with
  | case1 => exact Or.inl ⟨rfl, fun _ h => nomatch h⟩
  | case2 x r hx => exact Or.inr ⟨x, hx, rfl⟩
  | case3 x r hx ih =>
    refine ih.imp_left fun ⟨h1, h2⟩ => ⟨h1, fun n hn => ?_⟩
    rcases List.mem_cons.1 hn with rfl | hn
    · exact Bool.eq_false_iff.2 hx
    · exact h2 n hn

/-- `removeChild` is the library's `eraseP`; sublist, "the others stay", "with distinct children the child is gone"
are its lemmas -/
theorem removeChild_eq (c : Chip) : ∀ (l : List (Nat × Chip)), removeChild c l = l.eraseP (·.2 == c)
  | [] => rfl
  | e :: r => by rw [removeChild, List.eraseP_cons, removeChild_eq c r]; cases e.2 == c <;> rfl

theorem removeChild_sublist (c : Chip) (l : List (Nat × Chip)) : (removeChild c l).Sublist l :=
  removeChild_eq c l ▸ List.eraseP_sublist

theorem removeChild_keep (c : Chip) (l : List (Nat × Chip)) (k : Nat × Chip) (hk : k ∈ l) (hne : k.2 ≠ c) :
    k ∈ removeChild c l :=
  removeChild_eq c l ▸ (List.mem_eraseP_of_neg (by simpa using hne)).2 hk

theorem removeChild_gone (c : Chip) (l : List (Nat × Chip)) (hnd : (l.map (·.2)).Nodup) (k : Nat × Chip)
    (hk : k ∈ removeChild c l) : k.2 ≠ c := by
  have := List.mem_map_of_mem (f := (·.2)) (removeChild_eq c l ▸ hk)
  rw [← Function.comp_def (· == c), ← List.eraseP_map, ← List.erase_eq_eraseP'] at this
  exact (hnd.mem_erase_iff.1 this).1

theorem keys_cut (f : Forest) (n c : Chip) : (cut f n c).keys = f.keys := by
  simp only [cut, Forest.keys, List.map_map]
  apply List.map_congr_left
  intro e _
  simp only [Function.comp]
  split <;> rfl

theorem mem_cut {f : Forest} {n c : Chip} {e' : Chip × List (Nat × Chip)} :
    e' ∈ cut f n c ↔ ∃ e, e ∈ f ∧ e' = if e.1 == n then (e.1, removeChild c e.2) else e := by
  simp only [cut, List.mem_map, eq_comm]

theorem edge_cut_sub {f : Forest} {n c : Chip} {q : Chip} {k : Nat × Chip} (h : Edge (cut f n c) q k) :
    Edge f q k := by
  obtain ⟨e', he', rfl, hk⟩ := h
  obtain ⟨e, he, rfl⟩ := mem_cut.1 he'
  split at hk
  · exact ⟨e, he, by rw [if_pos ‹_›], (removeChild_sublist c _).subset hk⟩
  · exact ⟨e, he, by rw [if_neg ‹_›], hk⟩

theorem edge_cut_keep {f : Forest} {n c : Chip} {q : Chip} {k : Nat × Chip} (h : Edge f q k) (hne : k.2 ≠ c) :
    Edge (cut f n c) q k := by
  obtain ⟨e, he, rfl, hk⟩ := h
  refine ⟨_, mem_cut.2 ⟨e, he, rfl⟩, ?_, ?_⟩ <;> split
  · rfl
  · rfl
  · exact removeChild_keep c _ k hk hne
  · exact hk

theorem wf_cut {f : Forest} {rank : Chip → Nat} (hw : WF f rank) (n c : Chip) : WF (cut f n c) rank := by
  refine WF.ofEdges (keys_cut f n c ▸ hw.keys) ?_
    (fun p p' k k' h h' he => parent_unique hw (edge_cut_sub h) (edge_cut_sub h') he)
    (fun p k h => rank_edge hw (edge_cut_sub h))
  intro e' he'
  obtain ⟨e, he, rfl⟩ := mem_cut.1 he'
  split
  · exact (hw.kidsNodup e he).sublist ((removeChild_sublist c _).map _)
  · exact hw.kidsNodup e he

theorem noParent_cut {f : Forest} {rank : Chip → Nat} (hw : WF f rank) {n c : Chip}
    (hn : (f.kids n).any (fun e => e.2 == c) = true) : NoParent (cut f n c) c := by
  intro q k h hkc
  obtain ⟨k0, hk0, hk0c⟩ := List.any_eq_true.1 hn
  cases parent_unique hw (edge_cut_sub h) (kids_edge hk0) (hkc.trans (beq_iff_eq.1 hk0c).symm)
  obtain ⟨e', he', he1, hk⟩ := h
  obtain ⟨e, he, rfl⟩ := mem_cut.1 he'
  split at hk
  · exact removeChild_gone c _ (hw.kidsNodup e he) k hk hkc
  · rw [if_neg ‹_›] at he1
    exact ‹¬_› (beq_iff_eq.2 he1)

/-- the repair calls `detachIn` with `lookup.keys` as the order -/
theorem detach_spec {f : Forest} {rank : Chip → Nat} (hw : WF f rank) (c : Chip) :
    WF (detachIn f c f.keys) rank ∧ NoParent (detachIn f c f.keys) c ∧
    (detachIn f c f.keys).keys = f.keys ∧
    (∀ q k, Edge (detachIn f c f.keys) q k → Edge f q k) ∧
    (∀ q k, Edge f q k → k.2 ≠ c → Edge (detachIn f c f.keys) q k) := by
  rcases detachIn_cases f c f.keys with ⟨h1, h2⟩ | ⟨n, hn, h1⟩
  · rw [h1]
    refine ⟨hw, ?_, rfl, fun _ _ h => h, fun _ _ h _ => h⟩
    intro q k h hkc
    have := h2 q (edge_key h)
    simp only [List.any_eq_false, beq_iff_eq] at this
    exact this k (edge_kids hw.keys h) hkc
  · rw [h1]
    exact ⟨wf_cut hw n c, noParent_cut hw hn, keys_cut f n c, fun _ _ h => edge_cut_sub h,
      fun _ _ h hne => edge_cut_keep h hne⟩

theorem edge_detachIn_sub {f : Forest} {c : Chip} (order : List Chip) {q : Chip} {k : Nat × Chip}
    (h : Edge (detachIn f c order) q k) : Edge f q k := by
  rcases detachIn_cases f c order with ⟨h1, _⟩ | ⟨n, _, h1⟩ <;> rw [h1] at h
  · exact h
  · exact edge_cut_sub h

theorem keys_detachIn (f : Forest) (c : Chip) (order : List Chip) : (detachIn f c order).keys = f.keys := by
  rcases detachIn_cases f c order with ⟨h, _⟩ | ⟨n, _, h⟩
  · rw [h]
  · rw [h, keys_cut]

end Rig.C03.L
