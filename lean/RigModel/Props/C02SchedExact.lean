/-
C02 (companion) - the cooling hypothesis of `saPlace_terminates_under_cooling` holds in EXACT
arithmetic: a non-negative temperature that is multiplied by a factor <= 0.95 per pass (the code's
alpha is one of 0.5, 0.9, 0.95, 0.8) falls to or below any positive threshold after finitely many
passes; so if, from the second pass on (at the first pass it is 0, `current_cost = 0.0`), the
threshold `0.005 * current_cost / len(nets)` stays above some positive number while the loop runs
(the cost is 0 - the loop leaves through its `break` - or at least the smallest positive cost),
the loop test fails eventually and `sa.place` terminates.  What separates
this from the code is only the rounding of IEEE doubles (trusted base).
-/
import RigModel.Props.C02Sched
import Mathlib.Algebra.Order.Archimedean.Basic
import Mathlib.Tactic.Linarith


namespace Rig.C02Sched
open Rig.C02

theorem geometric_cools (T : Nat → ℚ) (θ : ℚ) (hθ : 0 < θ) (hnn : ∀ k, 0 ≤ T k)
    (hstep : ∀ k, T (k + 1) ≤ 19 / 20 * T k) : ∃ N, ¬ (T N > θ) := by
  have hb : ∀ k, T k ≤ (19 / 20 : ℚ) ^ k * T 0 := by
    intro k
    induction k with
    | zero => rw [pow_zero, one_mul]
    | succ n ih =>
      rw [pow_succ', mul_assoc]
      exact (hstep n).trans (mul_le_mul_of_nonneg_left ih (by norm_num))
  rcases (hnn 0).eq_or_lt with h0 | hpos
  · exact ⟨0, by rw [← h0]; exact not_lt.2 hθ.le⟩
  · obtain ⟨n, hn⟩ := exists_pow_lt_of_lt_one (div_pos hθ hpos) (by norm_num : (19 / 20 : ℚ) < 1)
    exact ⟨n, not_lt.2 ((hb n).trans ((lt_div_iff₀ hpos).1 hn).le)⟩

/-- **`sa.place` terminates for an exact-arithmetic schedule**: let `T k` be the temperature at
pass `k` and `θs k` any number (the code's threshold serves from pass 1 on; at pass 0 it is 0); if
the loop test is true only when `T k > θs k`, the temperature shrinks by at least the factor 0.95
per pass and every `θs k` is at or above a positive `θ`, then some number of passes `N` is enough fuel for every run. -/
theorem saPlace_terminates_exact_schedule (vr : VR) (cs : List Constraint) (m : Machine) (locs : List Chip)
    (vs : List Vtx) (warm : List Step) (numSteps : Nat) (o : Nat → Tick) (T θs : Nat → ℚ) (θ : ℚ)
    (hθ : 0 < θ) (hnn : ∀ k, 0 ≤ T k) (hstep : ∀ k, T (k + 1) ≤ 19 / 20 * T k) (hthr : ∀ k, θ ≤ θs k)
    (hhot : ∀ k, (o k).hot = true → T k > θs k) :
    ∃ N, ∀ fuel, N ≤ fuel → saPlaceSched vr cs m locs vs warm numSteps o fuel ≠ .error .fuel := by
  obtain ⟨N, hN⟩ := geometric_cools T θ hθ hnn hstep
  refine ⟨N, fun fuel hf => ?_⟩
  have hc : (o N).hot = false := by
    cases h : (o N).hot with
    | false => rfl
    | true => exact absurd (lt_of_le_of_lt (hthr N) (hhot N h)) hN
  exact (saPlace_terminates_under_cooling vr cs m locs vs warm numSteps o fuel N hc hf).1

/-- non-vacuity: the geometric schedule `T k = 100 * 0.8^k` with the constant threshold 1/2 satisfies
the hypotheses (and is hot at pass 0) -/
example : ∃ (T : Nat → ℚ), (∀ k, 0 ≤ T k) ∧ (∀ k, T (k + 1) ≤ 19 / 20 * T k) ∧ T 0 > 1 / 2 := by
  have h45 : ∀ k : Nat, (0 : ℚ) ≤ (4 / 5 : ℚ) ^ k := fun k => pow_nonneg (by norm_num) k
  refine ⟨fun k => 100 * (4 / 5 : ℚ) ^ k, fun k => mul_nonneg (by norm_num) (h45 k), fun k => ?_, by norm_num⟩
  simp only [pow_succ]
  linarith [h45 k]

end Rig.C02Sched
