/-
C02 - apply_same_chip_constraints / finalise_same_chip_constraints, one group: a feasible placement of the merged
problem expands to a feasible placement of the problem before the merge.
-/
import RigModel.Lemmas.C02Flat

namespace Rig.C02

theorem mem_dedup (l : List Vtx) (v : Vtx) : v ∈ dedup l ↔ v ∈ l := by
  induction l with
  | nil => rfl
  | cons a t ih =>
    rw [dedup, List.mem_cons]
    split
    · exact ⟨fun h => .inr (ih.1 h), fun h => h.elim (· ▸ ‹_›) ih.2⟩
    · rw [List.mem_cons, ih]

theorem nodup_dedup (l : List Vtx) : (dedup l).Nodup := by
  induction l with
  | nil => exact .nil
  | cons a t ih =>
    rw [dedup]
    split
    · exact ih
    · exact List.nodup_cons.2 ⟨‹_›, ih⟩

/-- `load`: with all of `l` on one chip, `vr` loads that chip by what `vr1` does plus the popped sum -/
structure PopOut (vr : VR) (l : List Vtx) (tot : Res) (vr1 : VR) (tot1 : Res) : Prop where
  present : ∀ v ∈ l, v ∈ keys vr
  nodup : (keys vr1).Nodup
  keys : ∀ v, v ∈ keys vr1 ↔ v ∈ keys vr ∧ v ∉ l
  sub : ∀ e, e ∈ vr1 → e ∈ vr
  load : ∀ (p : Placement) (c0 c : Chip) (i : Nat), (∀ v ∈ l, aget p v = some c0) →
    load vr p c i = load vr1 p c i + (if c = c0 then dem tot1 i - dem tot i else 0)
  nonneg : NonNegVR vr → (∀ i, 0 ≤ dem tot i) → ∀ i, 0 ≤ dem tot1 i

theorem popAll_spec {l : List Vtx} {vr : VR} {tot : Res} {vr1 : VR} {tot1 : Res}
    (h : popAll vr l tot = .ok (vr1, tot1)) (hn : (keys vr).Nodup) (hl : l.Nodup) : PopOut vr l tot vr1 tot1 := by
  fun_induction popAll vr l tot
  case case1 =>
    cases h
    exact ⟨nofun, hn, fun v => ⟨fun h => ⟨h, List.not_mem_nil⟩, And.left⟩, fun e h => h,
      fun p c0 c i _ => by rw [Int.sub_self, ite_self, Int.add_zero], fun _ h => h⟩
  case case2 => cases h
  case case3 vr v vs tot r hv ih =>
    have ⟨hvs, hl⟩ := List.nodup_cons.1 hl
    obtain ⟨i1, i2, i3, i4, i5, i6⟩ := ih h (nodup_keys_adel vr v hn) hl
    refine ⟨?_, i2, fun u => ?_, fun e he => (adel_sublist vr v).subset (i4 e he), fun p c0 c i hp => ?_,
      fun hnn ht => i6 (fun u d hud => hnn u d ((adel_sublist vr v).subset hud)) fun i => ?_⟩
    · refine List.forall_mem_cons.2 ⟨(aget_isSome_iff vr v).1 (hv ▸ rfl), fun u hu => ?_⟩
      exact ((mem_keys_adel vr v u hn).1 (i1 u hu)).2
    · rw [i3 u, mem_keys_adel vr v u hn, List.mem_cons, not_or]
      exact ⟨fun ⟨⟨a, b⟩, c⟩ => ⟨b, a, c⟩, fun ⟨b, a, c⟩ => ⟨⟨a, b⟩, c⟩⟩
    · rw [load_adel vr p v r c i hn hv, hp v List.mem_cons_self,
        i5 p c0 c i (List.forall_mem_cons.1 hp).2, dem_accum]
      by_cases e : c = c0
      · rw [if_pos e, if_pos e, if_pos (e ▸ rfl), Int.add_assoc, ← Int.sub_sub, Int.sub_add_cancel]
      · rw [if_neg e, if_neg e, if_neg fun h => e (Option.some.inj h).symm, Int.add_zero]
    · rw [dem_accum]
      exact Int.add_nonneg (ht i) (hnn v r (aget_some_mem hv) i)

theorem popAll_dom (l : List Vtx) (vr : VR) (tot : Res) (hnd : l.Nodup) (hin : ∀ v ∈ l, v ∈ keys vr) :
    ∃ vr1 tot1, popAll vr l tot = .ok (vr1, tot1) ∧ ∀ u ∈ keys vr, u ∉ l → u ∈ keys vr1 := by
  fun_induction popAll vr l tot
  case case1 => exact ⟨_, _, rfl, fun u hu _ => hu⟩
  case case2 hv => exact absurd (hin _ List.mem_cons_self) (aget_none_iff.1 hv)
  case case3 vr v vs _ _ _ ih =>
    have ⟨hv, hnd⟩ := List.nodup_cons.1 hnd
    obtain ⟨vr1, tot1, h, hk⟩ := ih hnd fun u hu =>
      mem_keys_adel_ne vr v u (hin u (List.mem_cons_of_mem _ hu)) fun e => hv (e ▸ hu)
    exact ⟨vr1, tot1, h, fun u hu hn => hk u (mem_keys_adel_ne vr v u hu fun e => hn (e ▸ List.mem_cons_self))
      fun h => hn (List.mem_cons_of_mem _ h)⟩

theorem popAll_no_fuel (l : List Vtx) (vr : VR) (tot : Res) : popAll vr l tot ≠ .error .fuel := by
  fun_induction popAll vr l tot
  case case3 ih => exact ih
  all_goals nofun

def VFresh (k : Nat) : Vtx → Prop
  | .o _ => True
  | .m j => j < k

def CFresh (k : Nat) : Constraint → Prop
  | .loc v _ => VFresh k v
  | .same vs => ∀ v ∈ vs, VFresh k v
  | _ => True

theorem VFresh.mono {k k' : Nat} (h : k ≤ k') {v : Vtx} (hv : VFresh k v) : VFresh k' v := by
  cases v with
  | o n => trivial
  | m j => exact Nat.lt_of_lt_of_le hv h

theorem VFresh.ne {k : Nat} {v : Vtx} (hv : VFresh k v) : v ≠ .m k := by
  rintro rfl; exact Nat.lt_irrefl _ hv

theorem substV_fresh {k : Nat} {vs : List Vtx} {w : Vtx} (hw : VFresh k w) :
    VFresh (k + 1) (substV (.m k) vs w) := by
  rw [substV]
  by_cases h : w ∈ vs
  · rw [if_pos h]; exact Nat.lt_succ_self k
  · rw [if_neg h]; exact hw.mono (Nat.le_succ k)

theorem rewrite_fresh {k : Nat} {vs : List Vtx} {c : Constraint} (hc : CFresh k c) :
    CFresh (k + 1) (rewrite (.m k) vs c) := by
  cases c with
  | loc v ch => exact substV_fresh hc
  | same ws =>
    intro v hv
    obtain ⟨w, hw, rfl⟩ := List.mem_map.1 hv
    exact substV_fresh (hc w hw)
  | _ => trivial

theorem reserved_rewrite (mv : Vtx) (vs : List Vtx) (cs : List Constraint) (c : Chip) (i : Nat) :
    reserved (cs.map (rewrite mv vs)) c i = reserved cs c i := by
  induction cs with
  | nil => rfl
  | cons k t ih => cases k <;> simp only [List.map_cons, rewrite, reserved, ih]

theorem substV_mem {vr vr1 : VR} {vs : List Vtx} {mv : Vtx} (tot : Res)
    (hkeep : ∀ u ∈ keys vr, u ∉ vs → u ∈ keys vr1) {w : Vtx} (hw : w ∈ keys vr) :
    substV mv vs w ∈ keys (vr1 ++ [(mv, tot)]) := by
  rw [keys, List.map_append, List.mem_append, substV]
  by_cases h : w ∈ vs
  · rw [if_pos h]; exact .inr List.mem_cons_self
  · rw [if_neg h]; exact .inl (hkeep w hw h)

/-- placements after `for v in merged_vertex.vertices: placements[v] = placement` -/
theorem aget_foldl_aset (vs : List Vtx) (c0 : Chip) : ∀ (q : Placement) (w : Vtx),
    aget (vs.foldl (fun q v => aset q v c0) q) w = if w ∈ vs then some c0 else aget q w := by
  induction vs with
  | nil => exact fun q w => (if_neg List.not_mem_nil).symm
  | cons v t ih =>
    intro q w
    rw [List.foldl_cons, ih, aget_aset]
    by_cases h1 : w ∈ t
    · rw [if_pos h1, if_pos (List.mem_cons_of_mem _ h1)]
    · rw [if_neg h1]
      by_cases h2 : v = w
      · rw [if_pos h2, if_pos (h2 ▸ List.mem_cons_self)]
      · rw [if_neg h2, if_neg fun h => (List.mem_cons.1 h).elim (fun e => h2 e.symm) h1]

theorem expandOne_spec {q : Placement} {k : Nat} {c0 : Chip} (vs : List Vtx) (hn : (keys q).Nodup)
    (hq : aget q (.m k) = some c0) :
    ∃ p, expandOne q k vs = .ok p ∧ (keys p).Nodup ∧
      ∀ w, aget p w = if w ∈ vs then some c0 else if .m k = w then none else aget q w :=
  ⟨_, by rw [expandOne, hq], foldl_inv (fun q => (keys q).Nodup) _ _ _ (nodup_keys_adel _ _ hn) fun _ hq _ _ => nodup_keys_aset _ _ _ hq, fun w => by
    rw [aget_foldl_aset, aget_adel _ _ _ hn]⟩

theorem pop_keys {vr vr1 : VR} {vs : List Vtx} {tot tot1 : Res} (P : PopOut vr (dedup vs) tot vr1 tot1)
    (v : Vtx) : v ∈ keys vr1 ↔ v ∈ keys vr ∧ v ∉ vs := by
  rw [P.keys, mem_dedup]

theorem pop_merged {vr vr1 : VR} {vs : List Vtx} {tot tot1 : Res} (P : PopOut vr (dedup vs) tot vr1 tot1)
    (mv v : Vtx) : v ∈ keys (vr1 ++ [(mv, tot1)]) ↔ v = mv ∨ (v ∈ keys vr ∧ v ∉ vs) := by
  rw [keys, List.map_append, List.mem_append, ← keys, pop_keys P, List.map_singleton, List.mem_singleton, or_comm]

/-- the expanded placement looks up a vertex where the placement of the merged problem looks up its representative -/
theorem expand_feasible {vr vr1 : VR} {cs : List Constraint} {m : Machine} {vs : List Vtx} {k : Nat}
    {tot : Res} {q : Placement}
    (hfv : ∀ v ∈ keys vr, VFresh k v) (hfc : ∀ c ∈ cs, CFresh k c)
    (P : PopOut vr (dedup vs) [] vr1 tot)
    (F : Feasible (vr1 ++ [(Vtx.m k, tot)]) (cs.map (rewrite (.m k) vs)) m q) :
    ∃ p, expandOne q k vs = .ok p ∧ Feasible vr cs m p := by
  obtain ⟨c0, hq0, hok0⟩ := F.placed (.m k) ((pop_merged P ..).2 (.inl rfl))
  obtain ⟨p, hp0, hpn, hp⟩ := expandOne_spec vs F.keysNodup hq0
  have hsub : ∀ w, VFresh k w → aget p w = aget q (substV (.m k) vs w) := by
    intro w hw
    rw [hp w, substV]
    by_cases h : w ∈ vs
    · rw [if_pos h, if_pos h, hq0]
    · rw [if_neg h, if_neg h, if_neg hw.ne.symm]
  refine ⟨p, hp0, hpn, fun v hv => ?_, fun v hv => ?_, fun c hc i hi => ?_, fun v c hvc => ?_,
    fun ws hws a ha b hb => ?_⟩
  · rw [hsub v (hfv v hv)]
    exact F.placed _ (substV_mem tot (fun u hu hn => (pop_keys P u).2 ⟨hu, hn⟩) hv)
  · have hs := (aget_isSome_iff _ _).2 hv
    rw [hp] at hs
    by_cases h1 : v ∈ vs
    · exact P.present v ((mem_dedup vs v).2 h1)
    · by_cases h2 : Vtx.m k = v
      · rw [if_neg h1, if_pos h2] at hs; cases hs
      · rw [if_neg h1, if_neg h2] at hs
        exact ((pop_merged P ..).1 (F.onlyVertices v ((aget_isSome_iff _ _).1 hs))).elim
          (fun e => absurd e.symm h2) And.left
  · have hF := F.capacity c hc i hi
    rw [reserved_rewrite, load_append, load_cons, hq0] at hF
    rw [P.load _ c0 c i fun v hv => by rw [hp, if_pos ((mem_dedup vs v).1 hv)],
      load_congr vr1 _ q c i fun v hv => by
        have ⟨h1, h2⟩ := (pop_keys P v).1 hv
        rw [hp, if_neg h2, if_neg (hfv v h1).ne.symm]]
    rw [show load [] q c i = 0 from rfl, Int.add_zero] at hF
    rw [dem_nil, Int.sub_zero]
    by_cases e : c = c0
    · rw [if_pos (e ▸ rfl)] at hF; rwa [if_pos e]
    · rw [if_neg fun h => e (Option.some.inj h).symm] at hF; rwa [if_neg e]
  · rw [hsub v (hfc _ hvc)]
    exact F.location _ c (List.mem_map.2 ⟨_, hvc, rfl⟩)
  · rw [hsub a (hfc _ hws a ha), hsub b (hfc _ hws b hb)]
    exact F.sameChip _ (List.mem_map.2 ⟨_, hws, rfl⟩) _ (List.mem_map_of_mem ha) _ (List.mem_map_of_mem hb)

end Rig.C02
