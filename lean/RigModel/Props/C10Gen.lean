/-
C10 - translator tie: `Routes.opposite` (rig/routing_table/entries.py) = the model's `inDir` (`direction.opposite` of
an optional route); `unpack_routing_table_entry` (rig/machine_control/machine_controller.py) = `unpackEntry`;
`routing_tree_to_tables` (rig/routing_table/utils.py; generated into `Gen/PyFunTables.lean`, the `do`-subset of
harness/gen/pydo.py) = `treeTables`.
-/
import RigModel.Model.C10
import RigModel.Gen.PyFun
import RigModel.Lemmas.C10Dict
import RigModel.Lemmas.PyFunB
import RigModel.Props.C10
import RigModel.Props.C04Gen
import RigModel.Lemmas.PyCast

-- see Lemmas/PyCast.lean
set_option linter.unusedSimpArgs false
set_option linter.unusedTactic false

namespace Rig.C10
open Rig.Gen Rig.Gen.Router Rig.Gen.PyFun Rig.PyDict Rig.PyFunB Rig.Lists

def ofPy : Except String Int → Except Err (Option Nat)
  | .ok v => .ok (some v.toNat)
  | .error _ => .error .valueError

/-- through C04's tie to `routeOpposite` -/
theorem routes_opposite (r : Nat) :
    PyFun.Routes_opposite r = if r < 6 then .ok (((r + 3) % 6 : Nat) : Int) else .error "ValueError" := by
  have links : ∀ r : Nat, r < 6 → C04.routesOfValue ((r + 3) % 6) = .ok ((r + 3) % 6) := by decide
  rw [C04.gen_routes_opposite, C04.routeOpposite, C04.isLink]
  by_cases h : r < 6
  · simp only [h, decide_true, Bool.not_true, Bool.false_eq_true, if_false, if_true, links r h]; rfl
  · simp only [h, decide_false, Bool.not_false, if_true, if_false]; rfl

theorem gen_inDir (r : Nat) : inDir (some r) = ofPy (PyFun.Routes_opposite r) := by
  rw [routes_opposite, inDir]
  split <;> rfl

/-- `None` has no direction to reverse -/
example : inDir none = .ok none := rfl

def bytesInt (d : List Nat) : List Int := d.map (fun (n : Nat) => (n : Int))

/-- `struct.error` / `None` / `(RoutingTableEntry(routes, key, mask), app_id, core)`: the entry as the triple of its
constructor arguments, the route set as the list of its members in the order of the enumeration -/
def unpackPy : Option (Option Dec) → Except String (Option ((List Int × Int × Int) × Int × Int))
  | none => .error "struct.error"
  | some none => .ok none
  | some (some d) => .ok (some ((d.routes.map (fun (r : Nat) => (r : Int)), (d.key : Int), (d.mask : Int)),
                                 (d.app : Int), (d.core : Int)))

theorem routes_filter (route : Nat) (l : List Nat) :
    (l.map (fun (r : Nat) => (r : Int))).filter (fun (r : Int) => decide (Int.land ((route : Int) >>> r.toNat) 1 ≠ 0))
      = (l.filter (fun r => (route >>> r) &&& 1 = 1)).map (fun (r : Nat) => (r : Int)) := by
  rw [List.filter_map]
  refine congrArg _ (List.filter_congr fun a _ => ?_)
  -- on casts of naturals `Int.land` and `>>>` are the casts of `&&&` and `>>>`, by `rfl`
  show decide (((route >>> a &&& 1 : Nat) : Int) ≠ 0) = decide (route >>> a &&& 1 = 1)
  rw [Nat.and_one_is_mod]
  exact decide_eq_decide.2 (by omega)

theorem gen_unpack_routing_table_entry (bs : List Nat) :
    PyFun.unpack_routing_table_entry (bytesInt bs) = unpackPy (unpackEntry bs) := by
  have hsz : PyFun.pyStructSize [PyFun.PyFmt.H, PyFun.PyFmt.H, PyFun.PyFmt.I, PyFun.PyFmt.I, PyFun.PyFmt.I] = 16 := rfl
  -- the model's pattern match hands over the sixteen bytes by name; it is split while the generated definition is
  -- still folded, since `split` takes the first `match` of the goal
  unfold unpackEntry
  split
  · unfold PyFun.unpack_routing_table_entry PyFun.pyStructUnpack
    rw [hsz, bytesInt, List.length_map, if_pos (by rfl)]
    simp only [List.map_cons, List.map_nil, values_H, values_I, values_nil, List.getD_cons_zero,
      List.getD_cons_succ, ← word32.eq_1]
    have hlit : ([0, 1, 2, 3, 4, 5, 6, 7, 8, 9, 10, 11, 12, 13, 14, 15, 16, 17, 18, 19, 20, 21, 22, 23] : List Int)
        = routesValues.map (fun (r : Nat) => (r : Int)) := by decide
    rw [hlit, routes_filter]
    -- `route & 0xFF000000`: the test for an unused entry
    simp (disch := decide) only [py_cast, py_ac, @eq_comm _ (4278190080 : Nat)]
    split <;> rfl
  · rename_i hne
    unfold PyFun.unpack_routing_table_entry PyFun.pyStructUnpack
    rw [hsz, bytesInt, List.length_map, if_neg fun h => hne _ _ _ _ _ _ _ _ _ _ _ _ _ _ _ _ (eq_ofFn_of_length h)]
    rfl

/-! `routing_tree_to_tables`: `tree.traverse()` (a generator over an object graph) stays the hand model `traverse`
(`traverse_exact`) and its result is the input.  Python's `route_sets` is `nestOf` of the model's flat slot list
(Lemmas/C10Dict.lean).  The proofs are semantic: the generated loop body is normalised by the dict lemmas and then
split on the outcome of the lookup, so rewrites that keep the meaning keep the proof. -/

/-- (class name, integer arguments) -/
def errPy : Err → PyExc
  | .multisource k m c => ("MultisourceRouteError", [k, m, c.1, c.2])
  | .assertion => ("AssertionError", [])
  | .valueError => ("ValueError", [])

def resPy {α β : Type} (f : α → β) : Except Err α → Except PyExc β
  | .ok a => .ok (f a)
  | .error e => .error (errPy e)

def Visit.py (v : Visit) : Option Nat × (Nat × Nat) × List Nat := (v.dir, v.chip, v.outs)

theorem pySetEq_eq (a b : List Nat) : pySetEq a b = sameSet a b := rfl
theorem pySetAdd_eq (s : List (Option Nat)) (d : Option Nat) : pySetAdd s d = addIn d s := rfl

theorem natProp_opposite (r : Nat) :
    pyNatProp Routes_opposite r = if r < 6 then .ok ((r + 3) % 6) else .error ("ValueError", []) := by
  rw [pyNatProp, routes_opposite]
  by_cases h : r < 6
  · rw [if_pos h, if_pos h]; rfl
  · rw [if_neg h, if_neg h]

/-- everything after `in_direction` is known: the lookup, the multi-source test, the merge / the inserted route set -/
theorem gen_step_core (key mask : Nat) (st : List Slot) (c : ChipXY) (outs : List Nat) (d : Option Nat)
    (R : Except PyExc (List (ChipXY × List ((Nat × Nat) × (List (Option Nat) × List Nat)))))
    (hsome : ∀ s, st.find? (fun s => s.at c key mask) = some s →
      R = if sameSet s.outs outs then
            .ok (pyDictMod (nestOf st) c [] (fun d' => pyDictAdj d' (key, mask) (fun v => (addIn d v.1, v.2))))
          else .error ("MultisourceRouteError", [key, mask, c.1, c.2]))
    (hnone : st.find? (fun s => s.at c key mask) = none →
      R = .ok (pyDictMod (nestOf st) c [] (fun d' => pyDictSet d' (key, mask) ([d], outs)))) :
    R = resPy nestOf (match st.find? (fun s => s.at c key mask) with
      | some s =>
        if sameSet s.outs outs then
          .ok (st.map (fun s' => if s'.at c key mask then { s' with ins := addIn d s'.ins } else s'))
        else .error (.multisource key mask c)
      | none => .ok (st ++ [{ chip := c, key := key, mask := mask, ins := [d], outs := outs }])) := by
  cases hf : st.find? (fun s => s.at c key mask) with
  | none =>
    rw [hnone hf, insert_nestOf st c key mask [d] outs hf]
    rfl
  | some s =>
    rw [hsome s hf]
    have hc : c ∈ chipsOf st := by
      have h1 := List.mem_of_find?_eq_some hf
      have h2 := List.find?_some hf
      exact (mem_chipsOf st c).2 ⟨s, h1, (Slot.at_iff.1 h2).1⟩
    rw [merge_nestOf st c key mask (addIn d) hc]
    simp only []
    split <;> rfl

theorem gen_step (key mask : Nat) (st : List Slot) (v : Visit) :
    routing_tree_to_tables_loop2 key mask (nestOf st) v.py = resPy nestOf (step key mask st v) := by
  obtain ⟨dir, ⟨x, y⟩, outs⟩ := v
  unfold routing_tree_to_tables_loop2 Visit.py step
  simp only [bind, Except.bind, pure, Except.pure, throw, throwThe, MonadExceptOf.throw,
    touch_touch, getD_touch, pyDictMod_touch, getD_nestOf, pyDictHas, pyDictGet, lookup_itemsOf,
    pySetEq_eq, pySetAdd_eq, pyLift]
  -- first `in_direction`: `None` stays, a link is reversed, a core route raises (the simp sets cover the ways of
  -- writing the test on `None`)
  rcases dir with _ | r
  case' none =>
    simp only [inDir, pyOptAttr, beq_iff_eq, bne_iff_ne, ne_eq, reduceCtorEq, not_true_eq_false, not_false_eq_true,
      if_true, if_false, Bool.false_eq_true, bne_self_eq_false, beq_self_eq_true]
  case' some =>
    simp only [inDir, pyOptAttr, natProp_opposite, beq_iff_eq, bne_iff_ne, ne_eq, reduceCtorEq, not_true_eq_false,
      not_false_eq_true, if_true, if_false, Bool.false_eq_true]
    by_cases hr : r < 6
    case neg => simp only [hr, if_false]; rfl
    simp only [hr, if_true]
  -- then, in both remaining cases, the lookup; the set comparison may have its operands in either order
  all_goals
    apply gen_step_core
    · intro s hs
      have hcomm := sameSet_comm s.outs outs
      cases hss : sameSet s.outs outs <;> rw [hss] at hcomm <;> simp [hs, hss, ← hcomm]
    · intro hn
      simp [hn]
      try rfl

theorem gen_stepAll (key mask : Nat) : ∀ (vs : List Visit) (st : List Slot),
    List.foldlM (routing_tree_to_tables_loop2 key mask) (nestOf st) (vs.map Visit.py)
      = resPy nestOf (stepAll key mask st vs)
  | [], st => rfl
  | v :: vs, st => by
    rw [List.map_cons, List.foldlM_cons, gen_step, stepAll]
    cases h : step key mask st v with
    | error e => rfl
    | ok st' => exact gen_stepAll key mask vs st'

/-- what `tree.traverse()` hands to the loop: the items yielded by the hand-modelled traversal -/
def travPy (n : Net) : List (Option Nat × (Nat × Nat) × List Nat) := (traverse n.tree).1.map Visit.py

theorem gen_processNet (net_keys : List (Nat × (Nat × Nat))) (st : List Slot) (i : Nat) (n : Net)
    (hk : net_keys.lookup i = some (n.key, n.mask)) (ht : (traverse n.tree).2 = false) :
    routing_tree_to_tables_loop1 net_keys (nestOf st) (i, travPy n) = resPy nestOf (processNet st n) := by
  unfold routing_tree_to_tables_loop1 processNet travPy
  simp only [bind, Except.bind, pyLift, pyDictGet, hk, gen_stepAll, ht]
  cases stepAll n.key n.mask st (traverse n.tree).1 <;> rfl

theorem gen_processNets (net_keys : List (Nat × (Nat × Nat))) : ∀ (L : List (Nat × Net)) (st : List Slot),
    (∀ p ∈ L, net_keys.lookup p.1 = some (p.2.key, p.2.mask)) → (∀ p ∈ L, (traverse p.2.tree).2 = false) →
    List.foldlM (routing_tree_to_tables_loop1 net_keys) (nestOf st) (L.map (fun p => (p.1, travPy p.2)))
      = resPy nestOf (processNets st (L.map (·.2)))
  | [], st, _, _ => rfl
  | p :: L, st, hk, ht => by
    rw [List.map_cons, List.foldlM_cons, gen_processNet net_keys st p.1 p.2 (hk p (by simp)) (ht p (by simp)),
      List.map_cons, processNets]
    cases h : processNet st p.2 with
    | error e => rfl
    | ok st' =>
      exact gen_processNets net_keys L st' (fun q hq => hk q (by simp [hq])) (fun q hq => ht q (by simp [hq]))

/-- `RoutingTableEntry(route, key, mask, sources)` as the tuple of its fields -/
def Entry.py (e : Entry) : List Nat × Nat × Nat × List (Option Nat) := (e.route, e.key, e.mask, e.sources)
def tablesPy (T : Tables) : List (ChipXY × List (List Nat × Nat × Nat × List (Option Nat))) :=
  T.map (fun ct => (ct.1, ct.2.map Entry.py))

abbrev PyItem := (Nat × Nat) × (List (Option Nat) × List Nat)
def convItem (i : PyItem) : List Nat × Nat × Nat × List (Option Nat) := (i.2.2, i.1.1, i.1.2, i.2.1)

theorem gen_loop4 (x y : Nat) (acc) (i : PyItem) :
    routing_tree_to_tables_loop4 x y acc i = .ok (pyDictMod acc (x, y) [] (fun l => l ++ [convItem i])) := by
  obtain ⟨⟨k, m⟩, r⟩ := i
  rfl

theorem mod_append_last {β : Type} (acc : List (ChipXY × List β)) (c : ChipXY) (l : List β) (e : β)
    (h : acc.lookup c = none) :
    pyDictMod (acc ++ [(c, l)]) c [] (fun l => l ++ [e]) = acc ++ [(c, l ++ [e])] := by
  unfold pyDictMod pyDictGetD
  rw [pyDictSet_append_of_none _ _ _ _ h, List.lookup_append, h]
  simp [pyDictSet, List.lookup]

theorem gen_loop4_all (x y : Nat) (acc) (h : acc.lookup (x, y) = none) : ∀ (d : List PyItem) (l),
    List.foldlM (routing_tree_to_tables_loop4 x y) (acc ++ [((x, y), l)]) d
      = .ok (acc ++ [((x, y), l ++ d.map convItem)])
  | [], l => by simp [pure, Except.pure]
  | i :: d, l => by
    rw [List.foldlM_cons, gen_loop4, mod_append_last _ _ _ _ h]
    simp only [bind, Except.bind]
    rw [gen_loop4_all x y acc h d]
    simp

theorem gen_loop3 (acc) (c : ChipXY) (d : List PyItem) (h : acc.lookup c = none) (hd : d ≠ []) :
    routing_tree_to_tables_loop3 acc (c, d) = .ok (acc ++ [(c, d.map convItem)]) := by
  obtain ⟨x, y⟩ := c
  unfold routing_tree_to_tables_loop3
  dsimp only
  obtain ⟨i, d, rfl⟩ := List.exists_cons_of_ne_nil hd
  rw [List.foldlM_cons, gen_loop4]
  simp only [bind, Except.bind]
  have : pyDictMod acc (x, y) [] (fun l => l ++ [convItem i]) = acc ++ [((x, y), [convItem i])] := by
    unfold pyDictMod pyDictGetD
    rw [h, pyDictSet_of_lookup_none h]
    rfl
  rw [this, gen_loop4_all x y acc h d]
  simp

theorem gen_loop3_all : ∀ (N : List (ChipXY × List PyItem)) (acc),
    (N.map (·.1)).Nodup → (∀ p ∈ N, acc.lookup p.1 = none) → (∀ p ∈ N, p.2 ≠ []) →
    List.foldlM routing_tree_to_tables_loop3 acc N = .ok (acc ++ N.map (fun p => (p.1, p.2.map convItem)))
  | [], acc, _, _, _ => by simp [pure, Except.pure]
  | p :: N, acc, hn, ha, hd => by
    obtain ⟨c, d⟩ := p
    rw [List.foldlM_cons, gen_loop3 acc c d (ha (c, d) (by simp)) (hd (c, d) (by simp))]
    simp only [bind, Except.bind]
    simp only [List.map_cons, List.nodup_cons] at hn
    rw [gen_loop3_all N _ hn.2 _ (fun q hq => hd q (by simp [hq]))]
    · simp
    · intro q hq
      rw [List.lookup_append, ha q (by simp [hq])]
      have : q.1 ≠ c := fun e => hn.1 (e ▸ List.mem_map_of_mem hq)
      have : (q.1 == c) = false := by simpa using this
      simp [List.lookup, this]

theorem itemsOf_ne_nil (st : List Slot) (c : ChipXY) (h : c ∈ chipsOf st) : itemsOf st c ≠ [] := by
  obtain ⟨s, hs, hc⟩ := (mem_chipsOf st c).1 h
  unfold itemsOf
  intro e
  rw [List.map_eq_nil_iff, List.filter_eq_nil_iff] at e
  exact e s hs (by simp [hc])

theorem gen_tables_of (st : List Slot) :
    List.foldlM routing_tree_to_tables_loop3 [] (nestOf st) = .ok (tablesPy (tablesOf st)) := by
  rw [gen_loop3_all (nestOf st) [] (nodup_keys_nestOf st) (fun _ _ => rfl)]
  · simp only [List.nil_append, nestOf, tablesPy, tablesOf, List.map_map]
    congr 1
    apply List.map_congr_left
    intro c _
    simp only [Function.comp, itemsOf, List.map_map]
    rfl
  · intro p hp
    simp only [nestOf, List.mem_map] at hp
    obtain ⟨c, hc, rfl⟩ := hp
    exact itemsOf_ne_nil st c hc

/-- `L`: the items of `routes` in iteration order, each net id with its tree; the traversal results are those the
hand-modelled `traverse` yields (no assertion: `traverse_exact`). -/
theorem gen_tree_tables (L : List (Nat × Net)) (net_keys : List (Nat × (Nat × Nat)))
    (hk : ∀ p ∈ L, net_keys.lookup p.1 = some (p.2.key, p.2.mask)) (hwf : ∀ p ∈ L, p.2.tree.WF) :
    routing_tree_to_tables (L.map (fun p => (p.1, travPy p.2))) net_keys
      = resPy tablesPy (treeTables (L.map (·.2))) := by
  unfold routing_tree_to_tables treeTables
  simp only [bind, Except.bind]
  have h0 : ([] : List (ChipXY × List PyItem)) = nestOf [] := rfl
  rw [h0, gen_processNets net_keys L [] hk (fun p hp => (traverse_spec p.2.tree (hwf p hp)).1)]
  cases processNets [] (L.map (·.2)) with
  | error e => rfl
  | ok st => simp only [resPy, gen_tables_of]

/-- nothing is lost in the comparison: the model's outcome can be read back from the Python outcome -/
theorem errPy_injective : Function.Injective errPy := by
  intro a b h
  cases a <;> cases b <;> simp [errPy] at h ⊢
  obtain ⟨h1, h2, h3, h4⟩ := h
  exact ⟨h1, h2, Prod.ext h3 h4⟩

theorem map_injective {α β : Type} (f : α → β) (hf : Function.Injective f) : Function.Injective (List.map f) :=
  fun _ _ h => (List.map_inj_right (fun _ _ e => hf e)).1 h

theorem tablesPy_injective : Function.Injective tablesPy := by
  unfold tablesPy
  apply map_injective
  rintro ⟨c1, es1⟩ ⟨c2, es2⟩ h
  simp only [Prod.mk.injEq] at h ⊢
  refine ⟨h.1, map_injective _ ?_ h.2⟩
  rintro ⟨r1, k1, m1, s1⟩ ⟨r2, k2, m2, s2⟩ he
  simp only [Entry.py, Prod.mk.injEq] at he
  simp [he.1, he.2.1, he.2.2.1, he.2.2.2]

theorem resPy_injective {α β : Type} (f : α → β) (hf : Function.Injective f) : Function.Injective (resPy f) := by
  intro a b h
  cases a <;> cases b <;> simp only [resPy, Except.ok.injEq, Except.error.injEq, reduceCtorEq] at h
  · exact congrArg _ (errPy_injective h)
  · exact congrArg _ (hf h)

/-- The first clause of C10, about the code as written: what the generated `routing_tree_to_tables` returns or raises
is the Python form of a result that satisfies `TablesSpec` (tables exact and no conflict, or the multi-source error at a
real conflict - `tables_exact`, `multisource_iff`), and that result is unique. -/
theorem gen_tables_spec (L : List (Nat × Net)) (net_keys : List (Nat × (Nat × Nat)))
    (hk : ∀ p ∈ L, net_keys.lookup p.1 = some (p.2.key, p.2.mask)) (hwf : ∀ p ∈ L, p.2.tree.WF) :
    ∃ r, routing_tree_to_tables (L.map (fun p => (p.1, travPy p.2))) net_keys = resPy tablesPy r ∧
      TablesSpec (L.map (·.2)) r ∧
      ∀ r', routing_tree_to_tables (L.map (fun p => (p.1, travPy p.2))) net_keys = resPy tablesPy r' → r' = r := by
  refine ⟨treeTables (L.map (·.2)), gen_tree_tables L net_keys hk hwf, ?_, ?_⟩
  · apply tables_spec
    intro n hn
    obtain ⟨p, hp, rfl⟩ := List.mem_map.1 hn
    exact hwf p hp
  · intro r' h
    rw [gen_tree_tables L net_keys hk hwf] at h
    exact (resPy_injective tablesPy tablesPy_injective h).symm

/-- the hypotheses are satisfiable: two nets sharing a key on a two-chip tree -/
example :
    let t : Tree := .node (0, 0) (.sub (some 0) (.node (1, 0) (.leaf (some 7) .nil)) .nil)
    let L : List (Nat × Net) := [(5, ⟨3, 15, t⟩), (9, ⟨3, 15, t⟩)]
    routing_tree_to_tables (L.map (fun p => (p.1, travPy p.2))) [(9, (3, 15)), (5, (3, 15))]
      = .ok [((0, 0), [([0], 3, 15, [none])]), ((1, 0), [([7], 3, 15, [some 3])])] := by
  intro t L
  have hwf : ∀ p ∈ L, p.2.tree.WF := by
    intro p hp
    simp only [L, List.mem_cons, List.mem_nil_iff, or_false] at hp
    rcases hp with rfl | rfl <;> exact ⟨⟨0, rfl, by decide⟩, trivial, trivial⟩
  rw [gen_tree_tables L _ (by decide) hwf]
  rfl

end Rig.C10
