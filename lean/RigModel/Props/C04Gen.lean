/-
C04 - translator tie, on the Python ints of 32-bit words (Python ints -> `Int`, `&` / `~` -> Mathlib's
two's-complement `Int.land` / `Int.lnot`): `intersect`, `get_common_xs` (rig/routing_table/utils.py) = the model's
`intersect`, `commonXs`; `_get_generality`, `_get_insertion_index` (ordered_covering.py) = `generality`,
`insertionIndex`; the methods `is_link`, `is_core`, `core_num`, `opposite`, `core` of `Routes` (entries.py), `self`
being the member's integer value, = Model/C04U.lean.
-/
import RigModel.Model.C04U
import RigModel.Gen.PyFun
import RigModel.Lemmas.PyCast
import RigModel.Lemmas.C04Ins

-- see Lemmas/PyCast.lean
set_option linter.unusedTactic false
set_option linter.unreachableTactic false
set_option linter.unusedSimpArgs false

namespace Rig.C04
open Rig.Gen Rig.IntBits Rig.PyLoops

/-- the Python int of a 32-bit word -/
abbrev wi (k : W) : Int := ((k.toNat : Nat) : Int)

theorem wi_testBit (k : W) (i : Nat) : (wi k).testBit i = k.getLsbD i := by
  simp only [wi, testBit_natCast, BitVec.testBit_toNat]

theorem gen_intersect (ka ma kb mb : W) :
    PyFun.intersect (wi ka) (wi ma) (wi kb) (wi mb) = intersect ka ma kb mb := by
  simp only [PyFun.intersect, intersect, wi, land_natCast, ← BitVec.toNat_and, Int.natCast_inj, BitVec.toNat_inj]
  first
  | rfl
  | (rw [Bool.eq_iff_iff]; simp only [decide_eq_true_eq, beq_iff_eq]
     constructor <;> intro h <;> ext i hi <;> have := congrArg (fun t => BitVec.getLsbD t i) h <;>
       simp at this ⊢ <;> grind)

/-- `~key & ~mask` on unbounded ints, bits 0..31 counted = the popcount of the 32-bit complement -/
theorem gen_get_generality (k m : W) :
    PyFun.get_generality (wi k) (wi m) = ((generality k m : Nat) : Int) := by
  simp only [PyFun.get_generality, generality, popcount, Int.natCast_inj]
  apply List.countP_congr
  intro i hi
  have hi : i < 32 := List.mem_range.mp hi
  simp only [Int.toNat_natCast, decide_eq_true_eq, land_one_shiftLeft_ne_zero, Int.testBit_land, Int.testBit_lor,
    Int.testBit_lxor, Int.testBit_lnot, wi_testBit, BitVec.getLsbD_and, BitVec.getLsbD_or, BitVec.getLsbD_xor,
    BitVec.getLsbD_not, hi, decide_true, Bool.true_and] <;>
  cases k.getLsbD i <;> cases m.getLsbD i <;> rfl

def excInt : Except RErr Nat → Except String Int
  | .ok v => .ok (v : Int)
  | .error .valueError => .error "ValueError"

/-- `Routes(v)` as the translator writes it: membership in the literal list of the member values -/
theorem routes_lookup (z : Int) (v : Nat) (hz : z = v) :
    (if ([0, 1, 2, 3, 4, 5, 6, 7, 8, 9, 10, 11, 12, 13, 14, 15, 16, 17, 18, 19, 20, 21, 22, 23] : List Int).contains z
      then Except.ok z else Except.error "ValueError") = excInt (routesOfValue v) := by
  subst hz
  change (if ((C04Routes.members.map (·.2)).map (fun (n : Nat) => (n : Int))).contains (v : Int) then _ else _) = _
  rw [routesOfValue, contains_natCast]
  split <;> rfl

theorem gen_routes_is_link (r : Nat) : PyFun.Routes_is_link r = isLink r :=
  decide_eq_decide.mpr (by omega)

theorem gen_routes_is_core (r : Nat) : PyFun.Routes_is_core r = isCore r := by
  rw [PyFun.Routes_is_core, gen_routes_is_link, isCore]
  cases isLink r <;> rfl

theorem gen_routes_core_num (r : Nat) : PyFun.Routes_core_num r = excInt (coreNum r) := by
  rw [PyFun.Routes_core_num, gen_routes_is_core, coreNum]
  split
  · rename_i h
    have h6 : 6 ≤ r := by simpa [isCore, isLink] using h
    rw [show (r : Int) - 6 = _ from sub_natCast r 6 h6]; rfl
  · rfl

theorem gen_routes_opposite (r : Nat) : PyFun.Routes_opposite r = excInt (routeOpposite r) := by
  rw [PyFun.Routes_opposite, gen_routes_is_link, routeOpposite]
  cases isLink r with
  | false => rfl
  | true =>
    simp only [not_true_eq_false, Bool.not_true, Bool.false_eq_true, if_false,
      fmod_lit]
    exact routes_lookup _ _ (by omega)

theorem gen_routes_core (num : Int) : PyFun.Routes_core num = excInt (routesCore num) := by
  rw [PyFun.Routes_core, routesCore]
  split
  · rfl
  · exact routes_lookup _ (6 + num).toNat (by omega)

/-- `(entry.key, entry.mask)` -/
def kmInt (e : Entry) : Int × Int := (wi e.key, wi e.mask)

theorem wi_lor (a b : W) : Int.lor (wi a) (wi b) = wi (a ||| b) := rfl

theorem common_loop1 (a b : W) (e : Entry) :
    PyFun.get_common_xs_loop1 (wi a, wi b) (kmInt e) = (wi (a ||| e.key), wi (b ||| e.mask)) := by
  unfold PyFun.get_common_xs_loop1 kmInt
  simp only [wi_lor, BitVec.or_comm e.key a, BitVec.or_comm e.mask b]

theorem common_fold (T : List Entry) (a b : W) :
    (T.map kmInt).foldl PyFun.get_common_xs_loop1 (wi a, wi b)
      = (wi (T.foldl (fun a e => a ||| e.key) a), wi (T.foldl (fun a e => a ||| e.mask) b)) := by
  induction T generalizing a b with
  | nil => rfl
  | cons e t ih => rw [List.map_cons, List.foldl_cons, common_loop1]; exact ih _ _

theorem testBit_mask32 (i : Nat) : (4294967295 : Int).testBit i = decide (i < 32) := by
  have : (4294967295 : Int) = ((2 ^ 32 - 1 : Nat) : Int) := by decide
  rw [this, testBit_natCast, Nat.testBit_two_pow_sub_one]

theorem gen_get_common_xs (T : List Entry) : PyFun.get_common_xs (T.map kmInt) = wi (commonXs T) := by
  unfold PyFun.get_common_xs commonXs
  have h0 : (0 : Int) = wi 0 := rfl
  dsimp only
  rw [h0, common_fold]
  dsimp only
  apply eq_of_testBit_eq
  intro i
  simp only [Int.testBit_land, Int.testBit_lor, Int.testBit_lnot, testBit_mask32, wi_testBit,
    BitVec.getLsbD_not, BitVec.getLsbD_or]
  by_cases hi : i < 32 <;> simp [hi] <;> exact Bool.and_comm _ _

theorem pyGet_kmInt (T : List Entry) (p : Nat) (hp : p < T.length) :
    PyFun.pyGet (T.map kmInt) (p : Int) = .ok (kmInt T[p]) := by
  rw [pyGet_map, List.getElem?_eq_getElem hp]

/-- `gg(entry)` of the source on an entry of the model -/
theorem gg_kmInt (e : Entry) : PyFun.get_generality (kmInt e).1 (kmInt e).2 = ((e.gen : Nat) : Int) :=
  gen_get_generality e.key e.mask

def genAt (T : List Entry) (p : Nat) : Nat := (T[p]?.map Entry.gen).getD 0

theorem genAt_eq (T : List Entry) (p : Nat) (hp : p < T.length) : genAt T p = T[p].gen := by
  rw [genAt, List.getElem?_eq_getElem hp]; rfl

/-- the binary search on `(bottom, top, pos)`: its state as the generated loop sees it, its condition, one round -/
def bsState (T : List Entry) (x : Nat × Nat × Nat) : Bool × Option (Except String Int) × Int × Int × Int × Int :=
  (false, none, (x.1 : Int), (x.2.1 : Int), (x.2.2 : Int), ((genAt T x.2.2 : Nat) : Int))

def bsGo (T : List Entry) (g : Nat) (x : Nat × Nat × Nat) : Bool :=
  decide (genAt T x.2.2 + 1 ≠ g ∧ x.1 < x.2.2 ∧ x.2.2 < x.2.1)

def bsNext (T : List Entry) (g : Nat) (x : Nat × Nat × Nat) : Nat × Nat × Nat :=
  if genAt T x.2.2 + 1 < g then (x.2.2, x.2.1, x.2.2 + (x.2.1 - x.2.2) / 2) else (x.1, x.2.2, x.1 + (x.2.2 - x.1) / 2)

/-- the comparisons with `generality - 1` of the source, on naturals -/
theorem lt_pred_iff (a g : Nat) : (a : Int) < (g : Int) - 1 ↔ a + 1 < g := by omega

theorem le_pred_iff (a g : Nat) : (a : Int) ≤ (g : Int) - 1 ↔ a + 1 ≤ g := by omega

theorem bs_loop (T : List Entry) (g b t p fuel mf : Nat) (hp : p < T.length) (ht : t ≤ T.length)
    (hf : t - b ≤ fuel) (hmf : t - b ≤ mf) :
    ∃ x : Nat × Nat × Nat, x.2.2 ≤ T.length ∧
      PyFun.pyWhile (PyFun.get_insertion_index_loop1_cond ((g : Int) - 1))
        (PyFun.get_insertion_index_loop1 (T.map kmInt) ((g : Int) - 1)) fuel (bsState T (b, t, p)) = some (bsState T x) ∧
      bsLoop T g mf b t p = x.2.2 := by
  obtain ⟨x, hx, -, e, hm⟩ := pyWhile_sim
    (cond := PyFun.get_insertion_index_loop1_cond ((g : Int) - 1))
    (body := PyFun.get_insertion_index_loop1 (T.map kmInt) ((g : Int) - 1))
    (bsState T) (fun x => x.2.2 < T.length ∧ x.2.1 ≤ T.length) (bsGo T g) (bsNext T g) (fun x => x.2.1 - x.1)
    (fun mf x => bsLoop T g mf x.1 x.2.1 x.2.2) (fun x => x.2.2)
    (fun x _ => by
      unfold PyFun.get_insertion_index_loop1_cond bsState bsGo
      exact decide_eq_decide.mpr (by omega))
    (fun ⟨b, t, p⟩ hx hc => by
      obtain ⟨-, hbp, hpt⟩ := of_decide_eq_true hc
      dsimp only at hx hbp hpt
      unfold PyFun.get_insertion_index_loop1 bsState bsNext
      dsimp only
      by_cases hlt : genAt T p + 1 < g
      · have hp' : p + (t - p) / 2 < T.length := Nat.lt_of_lt_of_le (half_lt hpt) hx.2
        simp only [lt_pred_iff, hlt, if_true, genAt_eq T _ hp']
        refine ⟨?_, ⟨hp', hx.2⟩, Nat.sub_lt_sub_left (Nat.lt_trans hbp hpt) hbp⟩
        simp (disch := omega) only [py_cast, py_ac, List.getElem?_eq_getElem, gg_kmInt]
      · have hp' : b + (p - b) / 2 < T.length := Nat.lt_trans (half_lt hbp) hx.1
        simp only [lt_pred_iff, hlt, if_false, genAt_eq T _ hp']
        refine ⟨?_, ⟨hp', Nat.le_of_lt hx.1⟩, Nat.sub_lt_sub_right (Nat.le_of_lt hbp) hpt⟩
        simp (disch := omega) only [py_cast, py_ac, List.getElem?_eq_getElem, gg_kmInt])
    (fun mf x hx hc => by
      cases mf with
      | zero => rfl
      | succ mf =>
        have hc' := of_decide_eq_false hc
        rw [genAt_eq T _ hx.1] at hc'
        rw [bsLoop, List.getElem?_eq_getElem hx.1]
        exact if_neg hc')
    (fun mf x hx hc => by
      have hc' := of_decide_eq_true hc
      rw [genAt_eq T _ hx.1] at hc'
      rw [bsLoop, List.getElem?_eq_getElem hx.1, bsNext, genAt_eq T _ hx.1]
      dsimp only
      rw [if_pos hc']
      split <;> rfl)
    fuel mf (b, t, p) ⟨hp, ht⟩ hf hmf
  exact ⟨x, Nat.le_of_lt hx.1, e, hm⟩

/-- the forward scan as the generated loop runs it: `(brk_, pos)`; the condition of the source is evaluated inside
the body and the loop is left by `break`, which takes one more iteration (the `+ 1` in the fuel of `scan_loop`) -/
def scanNext (T : List Entry) (g : Nat) (x : Bool × Nat) : Bool × Nat :=
  if x.2 < T.length ∧ genAt T x.2 + 1 ≤ g then (false, x.2 + 1) else (true, x.2)

theorem scan_loop (T : List Entry) (g p fuel : Nat) (hp : p ≤ T.length) (hf : T.length - p + 1 ≤ fuel) :
    PyFun.pyWhile PyFun.get_insertion_index_loop2_cond
        (PyFun.get_insertion_index_loop2 (T.map kmInt) ((g : Int) - 1)) fuel (false, none, (p : Int))
      = some (true, none, ((scanFwd g (T.drop p) p : Nat) : Int)) := by
  obtain ⟨⟨brk, p'⟩, -, hb, e, hm⟩ := pyWhile_sim
    (cond := PyFun.get_insertion_index_loop2_cond)
    (body := PyFun.get_insertion_index_loop2 (T.map kmInt) ((g : Int) - 1))
    (fun (x : Bool × Nat) => (x.1, none, (x.2 : Int))) (fun x => x.2 ≤ T.length) (fun x => !x.1)
    (fun x => scanNext T g (false, x.2)) (fun x => if x.1 then 0 else T.length - x.2 + 1)
    (fun _ x => if x.1 then x.2 else scanFwd g (T.drop x.2) x.2) (fun x => x.2)
    (fun x _ => by cases x.1 <;> rfl)
    (fun ⟨brk, p⟩ hx hc => by
      have hb : brk = false := by simpa using hc
      subst hb
      unfold PyFun.get_insertion_index_loop2 scanNext
      dsimp only at hx ⊢
      rw [List.length_map]
      by_cases hp : p < T.length
      · have hp' : (p : Int) < (T.length : Int) := Int.ofNat_lt.mpr hp
        simp only [hp', hp, decide_true, true_and, pyGet_kmInt T p hp, gg_kmInt, genAt_eq T p hp]
        by_cases hle : T[p].gen + 1 ≤ g
        · simp only [le_pred_iff, hle, decide_true, if_true]
          exact ⟨congrArg (fun z : Int => (false, none, z)) (by omega), hp,
            Nat.succ_lt_succ (Nat.sub_lt_sub_left hp (Nat.lt_succ_self p))⟩
        · simp only [le_pred_iff, hle, decide_false, if_false]
          exact ⟨trivial, hx, Nat.succ_pos _⟩
      · have hp' : ¬ (p : Int) < (T.length : Int) := mt Int.ofNat_lt.mp hp
        simp only [hp', hp, decide_false, false_and, if_false]
        exact ⟨trivial, hx, Nat.succ_pos _⟩)
    (fun _ ⟨brk, p⟩ _ hc => by
      have hb : brk = true := by simpa using hc
      subst hb; rfl)
    (fun _ ⟨brk, p⟩ hx hc => by
      have hb : brk = false := by simpa using hc
      subst hb
      unfold scanNext
      dsimp only at hx ⊢
      simp only [Bool.false_eq_true, if_false]
      by_cases hp : p < T.length
      · rw [List.drop_eq_getElem_cons hp, scanFwd, genAt_eq T p hp]
        by_cases hle : T[p].gen + 1 ≤ g <;> simp only [hp, hle, true_and, if_true, if_false, Bool.false_eq_true]
      · rw [List.drop_eq_nil_of_le (Nat.le_of_not_lt hp)]
        simp only [hp, false_and, if_false, if_true]; rfl)
    fuel fuel (false, p) hp hf hf
  have hb' : brk = true := by simpa using hb
  subst hb'
  simp only [Bool.false_eq_true, if_false] at hm
  rw [e, hm]

/-- neither the `IndexError` of `routing_table[pos]` nor fuel exhaustion can happen -/
theorem gen_get_insertion_index (T : List Entry) (g fuel : Nat) (hf : T.length + 1 ≤ fuel) :
    PyFun.get_insertion_index (T.map kmInt) (g : Int) fuel = .ok ((insertionIndex T g : Nat) : Int) := by
  unfold PyFun.get_insertion_index insertionIndex
  by_cases hT : T = []
  · subst hT; rfl
  have hlen : 0 < T.length := List.length_pos_iff.mpr hT
  have hne : (T.map kmInt) ≠ [] := by simpa using hT
  have hemp : T.isEmpty = false := by simpa using hT
  simp only [hne, not_true_eq_false, ne_eq, not_false_eq_true, if_false, hemp, Bool.false_eq_true]
  have e0 : Int.fdiv (((T.map kmInt).length : Int) - 0) 2 = ((T.length / 2 : Nat) : Int) := by
    rw [Int.sub_zero, List.length_map]; exact fdiv_natCast T.length 2
  have hp0 : T.length / 2 < T.length := Nat.div_lt_self hlen (by decide)
  rw [e0, pyGet_kmInt T _ hp0]
  simp only [gg_kmInt]
  obtain ⟨⟨b', t', p'⟩, hle, hw, hm⟩ :=
    bs_loop T g 0 T.length (T.length / 2) fuel T.length hp0 (le_refl _) (by omega) (le_refl _)
  simp only [bsState, genAt_eq T _ hp0, List.length_map, Nat.cast_zero] at hw ⊢
  rw [hw]
  dsimp only
  rw [scan_loop T g p' fuel hle (by omega), hm]

/-- the fuel hypothesis holds on an instance (two entries, fuel 3) -/
example : PyFun.get_insertion_index
    ([(⟨1, 0#32, 0xFFFFFFFF#32, 0⟩ : Entry), ⟨2, 0#32, 0xFFFFFFFE#32, 0⟩].map kmInt) 1 3
      = .ok ((insertionIndex [(⟨1, 0#32, 0xFFFFFFFF#32, 0⟩ : Entry), ⟨2, 0#32, 0xFFFFFFFE#32, 0⟩] 1 : Nat) : Int) :=
  gen_get_insertion_index _ 1 3 (by decide)

end Rig.C04
