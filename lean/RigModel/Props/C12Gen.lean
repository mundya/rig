/-
C12 - translator tie (rig/machine_control/regions.py; Python ints -> `Int`, `& | ^ << >>` -> Mathlib's
`Int.land/lor/xor` and shifts): `get_region_for_chip` = the model's `regionForChip` on naturals whenever the model
returns a value (level <= 3; for level > 3 Python raises `ValueError: negative shift count`); the integer attributes
stored by `RegionCoreTree.__init__` (`scale = 4 ** (4 - level)`, `shift = 6 - 2*level`) = the model's `scale`, `shift`.
-/
import RigModel.Model.C12
import RigModel.Gen.PyFun
import RigModel.Lemmas.PyCast

-- see Lemmas/PyCast.lean
set_option linter.unusedSimpArgs false
set_option linter.unusedTactic false
set_option linter.unreachableTactic false

namespace Rig.C12
open Rig.Gen

theorem gen_get_region_for_chip (x y level r : Nat) (h : regionForChip x y level = .ok r) :
    PyFun.get_region_for_chip x y level = (r : Int) := by
  unfold regionForChip at h
  split at h
  · cases h
  · rename_i hl
    injection h with h
    subst h
    have : level = 0 ∨ level = 1 ∨ level = 2 ∨ level = 3 := by omega
    rcases this with rfl | rfl | rfl | rfl <;>
    simp (disch := decide) only [PyFun.get_region_for_chip, py_cast]
    all_goals try (first
      | with_reducible rfl
      | (simp [Nat.mul_comm]; done)
      | (apply Nat.eq_of_testBit_eq; intro i
         simp only [Nat.testBit_or, Nat.testBit_and, Nat.testBit_xor, Nat.testBit_shiftLeft,
           Nat.testBit_shiftRight, Nat.mul_comm]
         grind))

/-- `RTree.new`'s `baseX`, `baseY`, `level`, with `scale` and `shift` as functions of the level; the two attributes
holding the selection array and the children are not integers and not translated -/
theorem gen_region_tree_init (s0 s1 s2 s3 s4 : Int) (x0 y0 lv : Nat) (h : lv ≤ 3) :
    PyFun.RegionCoreTree_init s0 s1 s2 s3 s4 x0 y0 lv
      = ((x0 : Int), (y0 : Int), ((scale lv : Nat) : Int), ((shift lv : Nat) : Int), (lv : Int)) := by
  have : lv = 0 ∨ lv = 1 ∨ lv = 2 ∨ lv = 3 := by omega
  rcases this with rfl | rfl | rfl | rfl <;> simp [PyFun.RegionCoreTree_init, scale, shift] <;> decide

example : regionForChip 5 9 3 = .ok 67829792 ∧ PyFun.get_region_for_chip 5 9 3 = 67829792 := by
  constructor <;> decide

end Rig.C12
