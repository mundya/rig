/-
C10 - `load_routing_tables` against a machine of several chips, the end-to-end
corollary trees -> tables -> routers -> read-back, and the retransmitted `alloc_rtr`.
-/
import RigModel.Model.C10
import RigModel.Lemmas.C10Machine
import RigModel.Props.C10

namespace Rig.C10
open Rig.Gen.Router

/-! ## `load_routing_tables` on a machine

`m : Machine` maps every chip coordinate to a chip state, `pol c` is the allocation policy of chip
`c` (any valid one), `tables` is the dict in its iteration order (an input: Python iterates the
caller's dict), so its chips are pairwise distinct.  `buf c` is the staging buffer address held in
chip `c`'s `sv.sdram_sys`. -/

/-- **All chips loaded.** If every chip of `tables` answers its `alloc_rtr` with a base ≠ 0, then
`load_routing_tables` returns normally; the commands sent are, chip after chip in dict order, the
allocation, the read of `sv.sdram_sys`, the writes of the packed table and one router load;
afterwards every chip of `tables` holds exactly its entries (`LoadSpec`: rows `base..base+n-1` in
order, owned by the application, all other rows unchanged) and every chip not in `tables` is
unchanged (router and memory). -/
theorem load_tables_exact (pol : ChipXY → Pol) (m : Machine) (scpLen app : Nat) (buf : ChipXY → Nat)
    (tables : Tables) (hnd : (tables.map (·.1)).Nodup) (hpol : ∀ c, PolValid (pol c)) (hb : 0 < scpLen)
    (ha : app < 256) (hrdy : ∀ ct ∈ tables, ChipReady (m ct.1) ct.2 (buf ct.1))
    (hbase : ∀ ct ∈ tables, baseOf pol m app ct ≠ 0) :
    (runM pol (loadTables scpLen app tables) m).2.1 = .ok () ∧
    (runM pol (loadTables scpLen app tables) m).2.2 = tables.flatMap (tableCmds pol m scpLen app buf) ∧
    (∀ ct ∈ tables,
      (runM pol (loadTables scpLen app tables) m).1 ct.1 =
        loadedChip (m ct.1) (buf ct.1) (baseOf pol m app ct) app ct.2 ∧
      LoadSpec (m ct.1).rows ((runM pol (loadTables scpLen app tables) m).1 ct.1).rows ct.2 app
        (baseOf pol m app ct) false true) ∧
    (∀ c, c ∉ tables.map (·.1) → (runM pol (loadTables scpLen app tables) m).1 c = m c) := by
  obtain ⟨m1, hrun, hin, hout⟩ := loadTables_prefix pol scpLen app buf hpol hb ha tables [] m
    (by rwa [List.append_nil]) hrdy hbase
  rw [List.append_nil] at hrun
  rw [hrun]
  refine ⟨rfl, List.append_nil _, fun ct hct => ⟨hin ct hct, ?_⟩, hout⟩
  rw [show (after _ _).1 = m1 from rfl, hin ct hct]
  exact loadedChip_spec _ _ _ _ _ (hbase ct hct)

/-- **First failing chip.** If the chips before `ct` (in dict order) answer a base ≠ 0 and `ct`
answers 0, `load_routing_tables` raises `SpiNNakerRouterError(len(ct's table), x, y)` naming that
chip; the commands sent are the complete loads of the earlier chips followed by the one refused
allocation request; the earlier chips hold exactly their entries (they are *not* rolled back); the
failing chip, every later chip of `tables` and every other chip are unchanged. -/
theorem load_tables_failure (pol : ChipXY → Pol) (m : Machine) (scpLen app : Nat) (buf : ChipXY → Nat)
    (pre post : Tables) (ct : ChipXY × List Entry)
    (hnd : ((pre ++ ct :: post).map (·.1)).Nodup) (hpol : ∀ c, PolValid (pol c)) (hb : 0 < scpLen)
    (ha : app < 256) (hrdy : ∀ p ∈ pre, ChipReady (m p.1) p.2 (buf p.1))
    (hbase : ∀ p ∈ pre, baseOf pol m app p ≠ 0) (h0 : baseOf pol m app ct = 0) :
    (runM pol (loadTables scpLen app (pre ++ ct :: post)) m).2.1 =
      .error (.routerError ct.2.length ct.1.1 ct.1.2) ∧
    (runM pol (loadTables scpLen app (pre ++ ct :: post)) m).2.2 =
      pre.flatMap (tableCmds pol m scpLen app buf) ++ [allocReq ct.1.1 ct.1.2 app ct.2.length] ∧
    (∀ p ∈ pre,
      (runM pol (loadTables scpLen app (pre ++ ct :: post)) m).1 p.1 =
        loadedChip (m p.1) (buf p.1) (baseOf pol m app p) app p.2 ∧
      LoadSpec (m p.1).rows ((runM pol (loadTables scpLen app (pre ++ ct :: post)) m).1 p.1).rows p.2 app
        (baseOf pol m app p) false true) ∧
    (∀ c, c ∉ pre.map (·.1) → (runM pol (loadTables scpLen app (pre ++ ct :: post)) m).1 c = m c) ∧
    (∀ q ∈ ct :: post, (runM pol (loadTables scpLen app (pre ++ ct :: post)) m).1 q.1 = m q.1) := by
  obtain ⟨m1, hrun, hin, hout⟩ := loadTables_prefix pol scpLen app buf hpol hb ha pre (ct :: post) m hnd hrdy hbase
  rw [List.map_append, List.nodup_append] at hnd
  have hq : ∀ q ∈ ct :: post, q.1 ∉ pre.map (·.1) := fun q hq h => hnd.2.2 _ h _ (List.mem_map_of_mem hq) rfl
  have h0' : pol ct.1 (m1 ct.1).rows app ct.2.length = 0 := by rw [hout _ (hq ct List.mem_cons_self)]; exact h0
  rw [show loadTables scpLen app (ct :: post) = loadEntries scpLen ct.2 ct.1.1 ct.1.2 app (loadTables scpLen app post)
      from rfl, (loadEntries_steps_refused (pol ct.1) (m1 ct.1) scpLen ct.1.1 ct.1.2 app ct.2 _ ha h0').runM m1 rfl,
    Machine.set_self] at hrun
  rw [hrun]
  refine ⟨rfl, rfl, fun p hp => ⟨hin p hp, ?_⟩, hout, fun q hq' => hout _ (hq q hq')⟩
  rw [show (after _ _).1 = m1 from rfl, hin p hp]
  exact loadedChip_spec _ _ _ _ _ (hbase p hp)

theorem first_failure {α : Type} (P : α → Prop) [DecidablePred P] (l : List α) :
    (∀ a ∈ l, P a) ∨ ∃ pre a post, l = pre ++ a :: post ∧ (∀ p ∈ pre, P p) ∧ ¬ P a := by
  induction l with
  | nil => exact Or.inl nofun
  | cons a rest ih =>
    by_cases h : P a
    · rcases ih with hall | ⟨pre, c, post, he, hp, hc⟩
      · exact Or.inl (List.forall_mem_cons.2 ⟨h, hall⟩)
      · exact Or.inr ⟨a :: pre, c, post, by rw [he, List.cons_append], List.forall_mem_cons.2 ⟨h, hp⟩, hc⟩
    · exact Or.inr ⟨[], a, rest, rfl, nofun, h⟩

/-- **Returns normally iff every allocation succeeds.** -/
theorem load_tables_ok_iff (pol : ChipXY → Pol) (m : Machine) (scpLen app : Nat) (buf : ChipXY → Nat)
    (tables : Tables) (hnd : (tables.map (·.1)).Nodup) (hpol : ∀ c, PolValid (pol c)) (hb : 0 < scpLen)
    (ha : app < 256) (hrdy : ∀ ct ∈ tables, ChipReady (m ct.1) ct.2 (buf ct.1)) :
    (runM pol (loadTables scpLen app tables) m).2.1 = .ok () ↔ ∀ ct ∈ tables, baseOf pol m app ct ≠ 0 := by
  constructor
  · intro hok
    rcases first_failure (fun ct => baseOf pol m app ct ≠ 0) tables with hall | ⟨pre, ct, post, he, hp, hc⟩
    · exact hall
    · subst he
      have := (load_tables_failure pol m scpLen app buf pre post ct hnd hpol hb ha
        (fun p hp' => hrdy p (List.mem_append_left _ hp')) hp (Decidable.not_not.1 hc)).1
      rw [this] at hok; cases hok
  · intro hall
    exact (load_tables_exact pol m scpLen app buf tables hnd hpol hb ha hrdy hall).1

theorem tablesLoadSpec_append (rows0 rowsF : ChipXY → Nat → Row) (app : Nat) (base : ChipXY → Nat)
    (res : Option MErr) (pre post : Tables)
    (hp : ∀ p ∈ pre, base p.1 ≠ 0 ∧ LoadSpec (rows0 p.1) (rowsF p.1) p.2 app (base p.1) false true)
    (h : TablesLoadSpec rows0 rowsF app base res post) : TablesLoadSpec rows0 rowsF app base res (pre ++ post) := by
  induction pre with
  | nil => exact h
  | cons ct pre ih =>
    have := hp ct List.mem_cons_self
    simp only [List.cons_append, TablesLoadSpec, this.1, if_false]
    exact ⟨this.2, ih fun p hp' => hp p (List.mem_cons_of_mem _ hp')⟩

/-- **The predicate the harness evaluates on the real controller's runs holds of the model**: for
every machine, valid policies and dict order, with `base` = the chips' allocation answers, the
outcome and the routers before/after satisfy `TablesLoadSpec` (exact partial progress: chips before
the first refused allocation loaded, that chip and all later ones untouched, error names that chip);
and every chip outside `tables` is unchanged. -/
theorem load_tables_spec (pol : ChipXY → Pol) (m : Machine) (scpLen app : Nat) (buf : ChipXY → Nat)
    (tables : Tables) (base : ChipXY → Nat) (hnd : (tables.map (·.1)).Nodup) (hpol : ∀ c, PolValid (pol c))
    (hb : 0 < scpLen) (ha : app < 256) (hrdy : ∀ ct ∈ tables, ChipReady (m ct.1) ct.2 (buf ct.1))
    (hbs : ∀ ct ∈ tables, base ct.1 = baseOf pol m app ct) :
    TablesLoadSpec (fun c => (m c).rows) (fun c => ((runM pol (loadTables scpLen app tables) m).1 c).rows)
      app base (errOf (runM pol (loadTables scpLen app tables) m).2.1) tables ∧
    (∀ c, c ∉ tables.map (·.1) → (runM pol (loadTables scpLen app tables) m).1 c = m c) := by
  rcases first_failure (fun ct => baseOf pol m app ct ≠ 0) tables with hall | ⟨pre, ct, post, he, hp, hc⟩
  · obtain ⟨hok, _, hin, hout⟩ := load_tables_exact pol m scpLen app buf tables hnd hpol hb ha hrdy hall
    refine ⟨?_, hout⟩
    have := tablesLoadSpec_append (fun c => (m c).rows) (fun c => ((runM pol (loadTables scpLen app tables) m).1 c).rows)
      app base (errOf (runM pol (loadTables scpLen app tables) m).2.1) tables []
      (fun p hp => ⟨hbs p hp ▸ hall p hp, hbs p hp ▸ (hin p hp).2⟩) (by rw [hok]; rfl)
    rwa [List.append_nil] at this
  · subst he
    have hc0 : baseOf pol m app ct = 0 := Decidable.not_not.1 hc
    obtain ⟨herr, _, hin, hout, hpost⟩ := load_tables_failure pol m scpLen app buf pre post ct hnd hpol hb ha
      (fun p hp' => hrdy p (List.mem_append_left _ hp')) hp hc0
    refine ⟨tablesLoadSpec_append _ _ app base _ pre _ (fun p hp' => ?_) ?_, fun c hcn => hout c fun h => hcn ?_⟩
    · have hm : p ∈ pre ++ ct :: post := List.mem_append_left _ hp'
      exact ⟨hbs p hm ▸ hp p hp', hbs p hm ▸ (hin p hp').2⟩
    · obtain ⟨c, es⟩ := ct
      have hb0 : base c = 0 := (hbs (c, es) (List.mem_append_right _ List.mem_cons_self)).trans hc0
      simp only [TablesLoadSpec, hb0, if_true, herr, errOf, true_and]
      exact fun q hq j _ => by rw [hpost q hq]
    · rw [List.map_append]
      exact List.mem_append_left _ h

/-- non-vacuity of `hbs` in `load_tables_spec` -/
def baseFn (pol : ChipXY → Pol) (m : Machine) (app : Nat) (tables : Tables) (c : ChipXY) : Nat :=
  match tables.find? (fun ct => ct.1 == c) with
  | some ct => baseOf pol m app ct
  | none => 0

theorem baseFn_spec (pol : ChipXY → Pol) (m : Machine) (app : Nat) :
    ∀ tables : Tables, (tables.map (·.1)).Nodup → ∀ ct ∈ tables, baseFn pol m app tables ct.1 = baseOf pol m app ct
  | [], _, ct, h => by simp at h
  | t :: rest, hnd, ct, h => by
    simp only [List.map_cons, List.nodup_cons] at hnd
    simp only [List.mem_cons] at h
    rcases h with rfl | h
    · simp [baseFn]
    · have hne : t.1 ≠ ct.1 := fun e => hnd.1 (e ▸ List.mem_map_of_mem h)
      rw [← baseFn_spec pol m app rest hnd.2 ct h, baseFn, baseFn, List.find?_cons, beq_false_of_ne hne]

/-- **Trees to routers.** For well-formed trees (keys/masks 32-bit, routes below 24) whose
conversion returns tables `T` (by `multisource_iff`: exactly when no two nodes on a chip under one
key and mask fork differently), on any machine whose chips of `T` all grant their allocation:
`load_routing_tables(T, app)` returns normally, and `get_routing_table_entries` of every chip of `T`
afterwards returns 1024 items of which those at `base + i` are, in table order, entries with the
key and mask of a (key, mask) the trees use on that chip, the application's id, and a route set that
is exactly the set of directions by which the tree nodes on that chip under that key and mask leave
it; the table's `sources` (not stored by the hardware) are exactly the links they arrive by; every
tree node on the chip is covered by one of these entries; every other item is what the router held
before; reading back changes nothing; every chip the trees visit is in `T`. -/
theorem trees_to_router (nets : List Net) (hwf : ∀ n ∈ nets, n.tree.WF)
    (hdom : ∀ o ∈ allOccs nets, o.key < 4294967296 ∧ o.mask < 4294967296 ∧ ∀ r ∈ o.v.outs, r < 24)
    (T : Tables) (hT : treeTables nets = .ok T)
    (pol : ChipXY → Pol) (m : Machine) (scpLen app : Nat) (buf : ChipXY → Nat)
    (hpol : ∀ c, PolValid (pol c)) (hb : 0 < scpLen) (ha : app < 256)
    (hsv : ∀ ct ∈ T, SvWord (m ct.1) svSdramSys (buf ct.1))
    (hdis : ∀ ct ∈ T, buf ct.1 + 16 * ct.2.length ≤ (m ct.1).copyBase ∨
                      (m ct.1).copyBase + 16 * rtrEntries ≤ buf ct.1)
    (hsv2 : ∀ ct ∈ T, SvWord (m ct.1) svRtrCopy (m ct.1).copyBase)
    (hdis2 : ∀ ct ∈ T, buf ct.1 + 16 * ct.2.length ≤ svBase + svRtrCopy ∨ svBase + svRtrCopy + 4 ≤ buf ct.1)
    (hrows : ∀ ct ∈ T, ∀ j, j < rtrEntries → ((m ct.1).rows j).Ok)
    (hbase : ∀ ct ∈ T, baseOf pol m app ct ≠ 0) :
    (runM pol (loadTables scpLen app T) m).2.1 = .ok () ∧
    (∀ o ∈ allOccs nets, ∃ ct ∈ T, ct.1 = o.v.chip) ∧
    ∀ ct ∈ T, ∃ t,
      runM pol (getEntries scpLen ct.1.1 ct.1.2) (runM pol (loadTables scpLen app T) m).1 =
        ((runM pol (loadTables scpLen app T) m).1, .ok t,
         (Rig.C07.read scpLen (svBase + svRtrCopy) 4).map (readReq ct.1.1 ct.1.2 0) ++
           (Rig.C07.read scpLen (m ct.1).copyBase (rtrEntries * 16)).map (readReq ct.1.1 ct.1.2 0)) ∧
      t.length = rtrEntries ∧
      (∀ i, i < ct.2.length → ∃ e d, ct.2[i]? = some e ∧ t[baseOf pol m app ct + i]? = some (some d) ∧
        d.key = e.key ∧ d.mask = e.mask ∧ d.app = app ∧ d.core = 0 ∧
        (∃ o ∈ allOccs nets, o.at ct.1 e.key e.mask) ∧
        (∀ r, r ∈ d.routes ↔ ∃ o ∈ allOccs nets, o.at ct.1 e.key e.mask ∧ r ∈ o.v.outs) ∧
        (∀ s, s ∈ e.sources ↔ ∃ o ∈ allOccs nets, o.at ct.1 e.key e.mask ∧ srcOf o.v.dir = s)) ∧
      (∀ o ∈ allOccs nets, o.v.chip = ct.1 → ∃ (i : Nat) (e : Entry), ct.2[i]? = some e ∧ e.key = o.key ∧ e.mask = o.mask) ∧
      (∀ j, j < rtrEntries → ¬ (baseOf pol m app ct ≤ j ∧ j < baseOf pol m app ct + ct.2.length) →
        t[j]? = some (decRow ((m ct.1).rows j))) := by
  have hex := (tables_exact nets hwf T hT).1
  have hir := tables_inRange (allOccs nets) T hex hdom
  have hrdy : ∀ ct ∈ T, ChipReady (m ct.1) ct.2 (buf ct.1) := fun ct hct => ⟨hir ct hct, hsv ct hct, hdis ct hct⟩
  obtain ⟨hok, _, hin, _⟩ := load_tables_exact pol m scpLen app buf T hex.1 hpol hb ha hrdy hbase
  refine ⟨hok, hex.2.1, ?_⟩
  intro ct hct
  have hF := (hin ct hct).1
  have hfree := blockFree_of_pol (hpol ct.1) (hbase ct hct)
  have hget := runM_getEntries pol (runM pol (loadTables scpLen app T) m).1 scpLen ct.1 hb
    (by rw [hF]; exact loadedChip_svRtrCopy _ _ _ _ _ (hsv2 ct hct) (hdis2 ct hct))
    (by rw [hF]; exact loadedChip_rows_ok _ _ _ _ _ ha (hir ct hct) (hrows ct hct))
  rw [hF] at hget
  refine ⟨_, hget, length_readback _, ?_, ?_, ?_⟩
  · intro i hi
    obtain ⟨e, d, he, hd, h1, h2, h3, h4, h5⟩ := readback_loaded_in (m ct.1) (buf ct.1) (baseOf pol m app ct) app ct.2 i hi
      (hfree.lt hi) (hir ct hct)
    have hE := hex.entry hct (List.mem_of_getElem? he)
    exact ⟨e, d, he, hd, h1, h2, h3, h4, hE.1, fun r => (h5 r).trans (hE.route_iff r), hE.sources_iff⟩
  · intro o ho hc
    obtain ⟨e, he, hk, hm⟩ := (hex.2.2 ct hct).2.2.2 o ho hc
    obtain ⟨i, hi⟩ := List.getElem?_of_mem he
    exact ⟨i, e, hi, hk, hm⟩
  · exact fun j hj hjb => readback_loaded_out (m ct.1) (buf ct.1) (baseOf pol m app ct) app ct.2 j hj hjb

/-! ## a retransmitted `alloc_rtr` (first reply lost)

`alloc_rtr` is not idempotent.  SCP retransmits a request whose reply did not arrive (C06); if it was
the reply that was lost, the chip executes the allocation twice and the controller only ever learns the
second base.  On the router specification: -/

theorem afterLostAlloc_eq (pol : Pol) (s : Chip) (x y app n : Nat) (ha : app < 256)
    (h : pol s.rows app n ≠ 0) :
    afterLostAlloc pol s x y app n = { s with rows := claim s.rows (pol s.rows app n) n app } := by
  simp [afterLostAlloc, step_alloc pol s x y app n ha, h]

/-- otherwise the later of the two first rows would be owned and free -/
theorem blockFree_claim_disjoint {rows : Nat → Row} {b1 b2 n app : Nat}
    (h : BlockFree (claim rows b1 n app) b2 n) : b1 + n ≤ b2 ∨ b2 + n ≤ b1 := by
  refine Decidable.byContradiction fun hno => ?_
  rw [not_or, Nat.not_le, Nat.not_le] at hno
  rcases Nat.le_total b1 b2 with hle | hle
  · have := h.2.2 0 (Nat.lt_of_add_lt_add_left (Nat.lt_of_le_of_lt hle hno.1))
    rw [Nat.add_zero, claim_in ⟨hle, hno.1⟩] at this
    cases this
  · have hi : b1 - b2 < n := Nat.sub_lt_left_of_lt_add hle hno.2
    have := h.2.2 _ hi
    rw [Nat.add_sub_cancel' hle,
      claim_in ⟨Nat.le_refl b1, Nat.lt_add_of_pos_right (Nat.lt_of_le_of_lt (Nat.zero_le _) hi)⟩] at this
    cases this

/-- **Retransmitted allocation leaks a block, the load is still exact.**  Let the chip execute the
allocation of `n > 0` rows (answer `b1 ≠ 0`, reply lost) and then `load_routing_table_entries` run
with its (retransmitted) allocation answered `b2 ≠ 0`.  Then: the two blocks are disjoint; the call
returns normally and satisfies `LoadSpec` for the block `b2` it was told about, relative to the
router as it was when that request was executed; the rows `b1..b1+n-1`
were free before, now belong to the application, carry no entry of the table, and no command ever
refers to them - a leaked block; rows outside both blocks are as before the first request; and
relative to the router *before* the lost request `LoadSpec` does not hold (the leak is visible as
changed owner fields).  The clauses of the property (entries exact, block allocated for the
application) hold; the leak is a resource observation. -/
theorem alloc_retransmit_leak (pol : Pol) (s : Chip) (scpLen x y app buf : Nat) (entries : List Entry)
    (hpol : PolValid pol) (hb : 0 < scpLen) (ha : app < 256) (hn : 0 < entries.length)
    (hr : ∀ e ∈ entries, e.InRange) (hsv : SvWord s svSdramSys buf)
    (hdis : buf + 16 * entries.length ≤ s.copyBase ∨ s.copyBase + 16 * rtrEntries ≤ buf)
    (hb1 : pol s.rows app entries.length ≠ 0)
    (hb2 : pol (afterLostAlloc pol s x y app entries.length).rows app entries.length ≠ 0) :
    let n := entries.length
    let b1 := pol s.rows app n
    let s1 := afterLostAlloc pol s x y app n
    let b2 := pol s1.rows app n
    let out := run pol (loadEntries scpLen entries x y app (.ret ())) s1
    (b1 + n ≤ b2 ∨ b2 + n ≤ b1) ∧
    out.2.1 = .ok () ∧
    out.2.2 = loadCmds scpLen x y app buf b2 entries ∧
    LoadSpec s1.rows out.1.rows entries app b2 false true ∧
    (∀ i, i < n → (s.rows (b1 + i)).owner = none ∧
        out.1.rows (b1 + i) = { s.rows (b1 + i) with owner := some app }) ∧
    (∀ j, ¬ (b1 ≤ j ∧ j < b1 + n) → ¬ (b2 ≤ j ∧ j < b2 + n) → out.1.rows j = s.rows j) ∧
    ¬ LoadSpec s.rows out.1.rows entries app b2 false true := by
  intro n b1 s1 b2 out
  have hs1 : s1 = { s with rows := claim s.rows b1 n app } := afterLostAlloc_eq pol s x y app n ha hb1
  have hfree1 : BlockFree s.rows b1 n := blockFree_of_pol hpol hb1
  have hfree2 : BlockFree s1.rows b2 n := blockFree_of_pol hpol hb2
  have hdisj : b1 + n ≤ b2 ∨ b2 + n ≤ b1 := blockFree_claim_disjoint (hs1 ▸ hfree2)
  have hrun : out = (loadedChip s1 buf b2 app entries, .ok (), loadCmds scpLen x y app buf b2 entries) :=
    (loadEntries_steps pol s1 scpLen x y app buf entries (.ret ()) hb ha hb2 hpol hr (hs1 ▸ hsv)
      (hs1 ▸ hdis)).run.trans (after_run_ret _ _ _ _)
  have hout : ∀ i, i < n → ¬ (b2 ≤ b1 + i ∧ b1 + i < b2 + n) := fun i hi => not_mem_of_disjoint hdisj hi
  have hleak : ∀ i, i < n →
      (loadedChip s1 buf b2 app entries).rows (b1 + i) = { s.rows (b1 + i) with owner := some app } := by
    intro i hi
    rw [loaded_rows_out s1 buf b2 app entries (b1 + i) (hout i hi), hs1]
    exact claim_in (mem_block hi)
  rw [hrun]
  refine ⟨hdisj, rfl, rfl, loadedChip_spec s1 buf b2 app entries hb2, fun i hi => ⟨hfree1.2.2 i hi, hleak i hi⟩,
    fun j h1 h2 => ?_, fun hspec => ?_⟩
  · rw [loaded_rows_out s1 buf b2 app entries j h2, hs1]
    exact claim_out h1
  · unfold LoadSpec at hspec
    rw [if_neg hb2] at hspec
    have h := congrArg Row.owner
      (hspec.2.2 (b1 + 0) (hfree1.lt hn) (hout 0 hn))
    rw [hleak 0 hn, hfree1.2.2 0 hn] at h
    cases h

/-- **Retransmitted allocation, second answer 0.**  If the second execution is refused (e.g. the
first one took the last free block), the call raises the router error and sends nothing else - the
clause "raises and installs nothing" holds - yet the block of the lost first answer stays owned by
the application, its contents untouched: leaked until the application's rows are freed. -/
theorem alloc_retransmit_refused (pol : Pol) (s : Chip) (scpLen x y app : Nat) (entries : List Entry)
    (hpol : PolValid pol) (ha : app < 256) (hb1 : pol s.rows app entries.length ≠ 0)
    (hb2 : pol (afterLostAlloc pol s x y app entries.length).rows app entries.length = 0) :
    let n := entries.length
    let b1 := pol s.rows app n
    let s1 := afterLostAlloc pol s x y app n
    let out := run pol (loadEntries scpLen entries x y app (.ret ())) s1
    out = (s1, .error (.routerError n x y), [allocReq x y app n]) ∧
    LoadSpec s1.rows out.1.rows entries app 0 true false ∧
    (∀ i, i < n → (s.rows (b1 + i)).owner = none ∧
        out.1.rows (b1 + i) = { s.rows (b1 + i) with owner := some app }) := by
  intro n b1 s1 out
  have hs1 : s1 = { s with rows := claim s.rows b1 n app } := afterLostAlloc_eq pol s x y app n ha hb1
  have hf := load_alloc_failure pol s1 scpLen x y app entries (.ret ()) ha hb2
  have hout : out = _ := hf.1
  rw [hout]
  refine ⟨rfl, hf.2, fun i hi => ⟨(blockFree_of_pol hpol hb1).2.2 i hi, ?_⟩⟩
  rw [show (s1, _, _).1 = s1 from rfl, hs1]
  exact claim_in (mem_block hi)

/-- **The leak ends with the application.**  `clear_routing_table_entries` (and SC&MP's own clean-up
when the application is stopped: `free_rtr_by_app`) frees every row owned by the application -
including a leaked block. -/
theorem leak_recovered_by_clear (pol : Pol) (s : Chip) (x y app : Nat) (ha : app < 256) (j : Nat)
    (hown : (s.rows j).owner = some app) :
    ((run pol (clearEntries x y app) s).1.rows j).owner = none ∧
    ((run pol (clearEntries x y app) s).1.rows j).ent = none :=
  ((clear_exact pol s x y app ha).2 j).1 hown

/-- non-vacuity: a machine of empty routers with `sv` set up, two chips to load, first-fit
everywhere (all succeed) or chip (1,0) refusing (first failing chip is the second of the dict) -/
def exMachine : Machine := fun _ => exChip
def exTables : Tables :=
  [((0, 0), [{ route := [0, 8], key := 5, mask := 7, sources := [none] },
             { route := [23], key := 4294967295, mask := 4294967295, sources := [some 3] }]),
   ((1, 0), [{ route := [], key := 0, mask := 0, sources := [] }])]
def refuseAt (c : ChipXY) : ChipXY → Pol := fun c' => if c' = c then (fun _ _ _ => 0) else firstFit
example : (exTables.map (·.1)).Nodup ∧ (∀ c : ChipXY, PolValid ((fun _ => firstFit : ChipXY → Pol) c)) ∧
    (∀ ct ∈ exTables, ChipReady (exMachine ct.1) ct.2 0x60001000) ∧
    (∀ ct ∈ exTables, baseOf (fun _ => firstFit) exMachine 7 ct ≠ 0) := by
  have h : ∀ ct ∈ exTables, ChipReady (exMachine ct.1) ct.2 0x60001000 ∧
      baseOf (fun _ => firstFit) exMachine 7 ct ≠ 0 := by
    intro ct hct
    simp only [exTables, List.mem_cons, List.not_mem_nil, or_false] at hct
    rcases hct with rfl | rfl <;>
      exact ⟨⟨by simp only [Entry.InRange]; decide, exChip_svSdramSys, by decide⟩,
        by rw [baseOf, show exMachine _ = exChip from rfl, firstFit_exChip 7 _ (by decide) (by decide)]; decide⟩
  exact ⟨by decide, fun _ => firstFit_valid, fun ct hct => (h ct hct).1, fun ct hct => (h ct hct).2⟩
example : (∀ c, PolValid (refuseAt (1, 0) c)) ∧
    baseOf (refuseAt (1, 0)) exMachine 7 ((0, 0), [dfltEntry]) ≠ 0 ∧
    baseOf (refuseAt (1, 0)) exMachine 7 ((1, 0), [dfltEntry]) = 0 := by
  refine ⟨fun c => ?_, ?_, by simp [baseOf, refuseAt]⟩
  · unfold refuseAt
    split
    · intro _ _ _; exact Or.inl rfl
    · exact firstFit_valid
  · rw [baseOf, refuseAt, if_neg (by decide), show exMachine _ = exChip from rfl,
      firstFit_exChip 7 _ (by decide) (by decide)]
    decide

/-- non-vacuity of the retransmission theorems: first fit on an empty router answers 1, then 4 for
three rows; a policy that grants only while row 1 is free answers 1, then 0 -/
example : firstFit exChip.rows 7 3 = 1 ∧ firstFit (afterLostAlloc firstFit exChip 0 0 7 3).rows 7 3 = 4 := by
  have h1 := firstFit_exChip 7 3 (by decide) (by decide)
  refine ⟨h1, ?_⟩
  rw [afterLostAlloc_eq firstFit exChip 0 0 7 3 (by decide) (by rw [h1]; decide)]
  decide +kernel
def onceOnly : Pol := fun rows app n => if (rows 1).owner = none then firstFit rows app n else 0
example : PolValid onceOnly ∧ onceOnly exChip.rows 7 3 = 1 ∧
    onceOnly (afterLostAlloc onceOnly exChip 0 0 7 3).rows 7 3 = 0 := by
  have h1 : onceOnly exChip.rows 7 3 = 1 := (if_pos rfl).trans (firstFit_exChip 7 3 (by decide) (by decide))
  refine ⟨?_, h1, ?_⟩
  · intro rows app n
    unfold onceOnly
    split
    · exact firstFit_valid rows app n
    · exact Or.inl rfl
  · rw [afterLostAlloc_eq onceOnly exChip 0 0 7 3 (by decide) (by rw [h1]; decide)]
    decide +kernel

/-- non-vacuity of `trees_to_router`: the example forest of Props/C10 is in range, converts, and the
example machine grants every allocation -/
example : (∀ o ∈ allOccs exNets, o.key < 4294967296 ∧ o.mask < 4294967296 ∧ ∀ r ∈ o.v.outs, r < 24) ∧
    (∃ T, treeTables exNets = .ok T ∧ ∀ ct ∈ T, baseOf (fun _ => firstFit) exMachine 7 ct ≠ 0) := by
  refine ⟨by decide, _, exNets_tables, ?_⟩
  intro ct hct
  simp only [List.mem_cons, List.not_mem_nil, or_false] at hct
  rcases hct with rfl | rfl <;>
    (rw [baseOf, show exMachine _ = exChip from rfl, firstFit_exChip 7 _ (by decide) (by decide)]; decide)

end Rig.C10
