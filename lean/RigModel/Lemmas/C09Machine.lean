/-
What the machine specification does with a well-formed fill, and what the controller's reads and read-back
pass see of the core states.
-/
import RigModel.Lemmas.C09Fill
import RigModel.Lemmas.LE

namespace Rig.C09
open Rig.Gen.Load Rig.Gen.Scp

def runP (mc : MCfg) (m : MState) (ps : List Pkt) : MState := ps.foldl (fun m p => (stepP mc m p).1) m

theorem runP_nil (mc : MCfg) (m : MState) : runP mc m [] = m := rfl
theorem runP_cons (mc : MCfg) (m : MState) (p : Pkt) (ps : List Pkt) :
    runP mc m (p :: ps) = runP mc (stepP mc m p).1 ps := rfl
theorem runP_append (mc : MCfg) (m : MState) (ps qs : List Pkt) :
    runP mc m (ps ++ qs) = runP mc (runP mc m ps) qs := List.foldl_append ..

theorem sendAll_m (mc : MCfg) (rs : List Req) : ∀ s : Sim, (sendAll mc s rs).m = runP mc s.m (rs.map decode) := by
  induction rs with
  | nil => exact fun _ => rfl
  | cons r rs ih => exact fun s => ih (s.send mc r).1

theorem run_ffcs (mc : MCfg) (regs : List (Nat × Nat)) : ∀ m : MState,
    runP mc m (regs.map fun rm => Pkt.ffcs rm.1 rm.2) =
      { m with rx := { m.rx with regs := m.rx.regs ++ regs } } := by
  induction regs with
  | nil => intro m; rw [List.append_nil]; rfl
  | cons r rs ih => intro m; rw [List.map_cons, runP_cons, ih, stepP, List.append_assoc]; rfl

/-- the fill in flight after `n` more data blocks carrying `data` were accepted -/
def MState.accept (m : MState) (n nx : Nat) (data : List Nat) : MState :=
  { m with rx := { m.rx with got := m.rx.got + n, next := nx, data := m.rx.data ++ data } }

theorem MState.accept_accept (m : MState) (n nx n' nx' : Nat) (d d' : List Nat) :
    (m.accept n nx d).accept n' nx' d' = m.accept (n + n') nx' (d ++ d') := by
  simp only [accept, Nat.add_assoc, List.append_assoc]

theorem MState.accept_zero (m : MState) : m.accept 0 m.rx.next [] = m := by
  simp only [accept, Nat.add_zero, List.append_nil]

theorem stepP_ffd_ok (mc : MCfg) (m : MState) (pid block words addr : Nat) (data : List Nat)
    (h : pid = m.rx.pid ∧ block = m.rx.got ∧ data.length = 4 * (words + 1) ∧ (m.rx.got = 0 ∨ addr = m.rx.next)) :
    (stepP mc m (.ffd pid block words addr data)).1 = m.accept 1 (addr + data.length) data := by
  rw [stepP, if_pos h]; rfl

theorem words_eq {n : Nat} (h0 : 0 < n) (h4 : 4 ∣ n) : n = 4 * (n / 4 - 1 + 1) := by
  obtain ⟨k, rfl⟩ := h4
  rw [Nat.mul_div_cancel_left k (by decide), Nat.sub_add_cancel (Nat.pos_of_mul_pos_left h0)]

theorem run_ffd (mc : MCfg) (pid buf : Nat) (hb : 0 < buf) (hb4 : 4 ∣ buf) (fuel block addr : Nat) (data : List Nat)
    (m : MState) (hf : data.length ≤ fuel) (h4 : 4 ∣ data.length) (hp : m.rx.pid = pid) (hg : m.rx.got = block)
    (hn : data ≠ [] → block = 0 ∨ m.rx.next = addr) :
    ∃ nx, runP mc m (ffdPkts pid buf fuel block addr data) =
      m.accept (ffdPkts pid buf fuel block addr data).length nx data := by
  fun_induction ffdPkts pid buf fuel block addr data generalizing m with
  | case1 => rw [List.eq_nil_of_length_eq_zero (Nat.le_zero.mp hf)]; exact ⟨_, m.accept_zero.symm⟩
  | case2 fuel block addr data hd ih =>
    obtain ⟨h0, _, hw⟩ := take_size buf data hb hd
    obtain ⟨nx, hnx⟩ := ih (m.accept 1 (addr + (data.take buf).length) (data.take buf))
      (drop_le_fuel hb hf) (List.length_drop ▸ Nat.dvd_sub h4 hb4) hp (by rw [← hg]; rfl) (fun _ => .inr rfl)
    refine ⟨nx, ?_⟩
    rw [runP_cons, stepP_ffd_ok mc m _ _ _ _ _ ⟨hp.symm, hg.symm, words_eq h0 (hw hb4 h4),
        (hn (List.ne_nil_of_length_pos hd)).imp hg.trans Eq.symm⟩,
      hnx, MState.accept_accept, List.take_append_drop, List.length_cons, Nat.add_comm]
  | case3 fuel block addr data hd =>
    rw [List.eq_nil_of_length_eq_zero (Nat.eq_zero_of_not_pos hd)]; exact ⟨_, m.accept_zero.symm⟩

theorem stepP_ffe_ok (mc : MCfg) (m : MState) (pid appId flags : Nat)
    (h : pid = m.rx.pid ∧ m.rx.ok = true ∧ m.rx.got = m.rx.nBlocks) :
    (stepP mc m (.ffe pid appId flags)).1 =
      { m with core := fun x y p => if takes mc m.rx x y p
                         then ⟨if flags % 2 = 1 then stWait else stRun, appId, m.rx.data⟩ else m.core x y p,
               rx := { m.rx with ok := false } } := by
  rw [stepP, if_pos h]

theorem run_fill (mc : MCfg) (buf pid base appId flags : Nat) (regs : List (Nat × Nat)) (image : List Nat)
    (hb : 0 < buf) (hb4 : 4 ∣ buf) (hi4 : 4 ∣ image.length) (m : MState) :
    let m' := runP mc m (fillPkts buf pid base appId flags regs image)
    m'.fills = m.fills + 1 ∧
    ∀ x y p, m'.core x y p =
      if mc.chips.contains (x, y) && !mc.missed m.fills x y && decide (p < 18) && selectsCore regs x y p
      then ⟨if flags % 2 = 1 then stWait else stRun, appId, image⟩ else m.core x y p := by
  obtain ⟨nx, hnx⟩ := run_ffd mc pid buf hb hb4 image.length 0 base image
    (runP mc (stepP mc m (.ffs pid ((image.length + buf - 1) / buf))).1 (regs.map fun rm => .ffcs rm.1 rm.2))
    (Nat.le_refl _) hi4 (by rw [run_ffcs]; rfl) (by rw [run_ffcs]; rfl) (fun _ => .inl rfl)
  intro m'
  have e : m' = (stepP mc _ (.ffe pid appId flags)).1 :=
    (runP_append ..).trans (congrArg (runP mc · _) ((runP_append ..).trans hnx))
  -- the end packet finds the id, no error, and as many blocks as announced
  rw [e, stepP_ffe_ok mc _ pid appId flags ⟨by rw [run_ffcs]; rfl, by rw [run_ffcs]; rfl,
    by rw [run_ffcs]; exact (Nat.zero_add _).trans (ffdPkts_shape pid buf hb _ _ _ _ (Nat.le_refl _)).1⟩, run_ffcs]
  exact ⟨rfl, fun x y p => rfl⟩

theorem stepP_read_m (mc : MCfg) (m : MState) (x y addr len : Nat) :
    (stepP mc m (.read x y addr len)).1 = m := by
  simp only [stepP, apply_ite Prod.fst, ite_self]

def readStep (mc : MCfg) (x y : Nat) (acc : Sim × List Nat) (c : C07.Chunk) : Sim × List Nat :=
  let o := acc.1.send mc { x := x, y := y, p := 0, cmd := cmdRead, arg1 := c.addr, arg2 := c.size,
                           arg3 := c.dt, data := [] }
  (o.1, acc.2 ++ o.2.bytes)

theorem readMem_m (mc : MCfg) (buf : Nat) (s : Sim) (x y addr len : Nat) :
    (readMem mc buf s x y addr len).1.m = s.m := by
  suffices h : ∀ (cs : List C07.Chunk) (acc : Sim × List Nat), (cs.foldl (readStep mc x y) acc).1.m = acc.1.m from
    h _ (s, [])
  intro cs
  induction cs with
  | nil => exact fun _ => rfl
  | cons c cs ih => exact fun acc => (ih _).trans (stepP_read_m ..)

theorem readMem_one (mc : MCfg) (buf : Nat) (s : Sim) (x y addr len : Nat) (h0 : 0 < len) (hb : len ≤ buf) :
    (readMem mc buf s x y addr len).2 = (stepP mc s.m (.read x y addr len)).2.bytes := by
  obtain ⟨n, rfl⟩ : ∃ n, len = n + 1 := ⟨len - 1, by omega⟩
  simp only [readMem, C07.read, C07.readChunks, if_pos h0, Nat.min_eq_left hb, Nat.sub_self]
  cases n <;> rfl

theorem leVal_eq (l : List Nat) : leVal l = LE.val l := by
  induction l with
  | nil => rfl
  | cons b l ih => rw [leVal, ih]; rfl

theorem leVal_le32 (w : Nat) (h : w < 4294967296) : leVal (C07.le32 w) = w := by
  rw [leVal_eq, C07.le32, ← LE.bytes_four]; exact LE.val_bytes_of_lt h

theorem stepP_read_state (mc : MCfg) (m : MState) (x y p : Nat) :
    (stepP mc m (.read x y (mc.vcpuBase x y + vcpuSize * p + offCpuState) 1)).2 = .data [(m.core x y p).state] := by
  have e : mc.vcpuBase x y + vcpuSize * p + offCpuState - mc.vcpuBase x y = vcpuSize * p + offCpuState := by
    rw [Nat.add_assoc, Nat.add_sub_cancel_left]
  rw [stepP, if_neg (fun h => absurd h.2 (by decide)), if_neg (fun h => absurd h.2 (by decide)), e,
    if_pos ⟨by omega, Nat.mul_add_mod .., rfl⟩, Nat.mul_add_div (by decide)]
  rfl

/-- the target list `ts` names core `p` of chip `(x, y)` -/
def wantsT (ts : List (Nat × Nat × List Nat)) (x y p : Nat) : Bool :=
  ts.any fun t => t.1 == x && t.2.1 == y && t.2.2.contains p

theorem wants_eq (a : App) (x y p : Nat) : wants a x y p = wantsT a.targets x y p := rfl

def notWaiting (core : Nat → Nat → Nat → Core) (x y p : Nat) : Bool := decide ((core x y p).state ≠ stWait)

/-- the read-back of a target list; entries left empty go -/
def filtTargets (core : Nat → Nat → Nat → Core) (ts : List (Nat × Nat × List Nat)) : List (Nat × Nat × List Nat) :=
  (ts.map fun t => (t.1, t.2.1, t.2.2.filter (notWaiting core t.1 t.2.1))).filter fun t => decide (t.2.2.length > 0)

def filtApps (core : Nat → Nat → Nat → Core) (as : List App) : List App :=
  (as.map fun a => { a with targets := filtTargets core a.targets }).filter fun a => decide (a.targets.length > 0)

section
variable (mc : MCfg) (buf : Nat) (hb : 4 ≤ buf) (hv : ∀ x y, mc.vcpuBase x y < 4294967296)
include hb hv

theorem readCpuState_spec (s : Sim) (x y p : Nat) :
    (readCpuState mc buf s x y p).2 = (s.m.core x y p).state ∧ (readCpuState mc buf s x y p).1.m = s.m := by
  have hm1 := readMem_m mc buf s x y (svBase + offVcpuBase) 4
  refine ⟨?_, (readMem_m ..).trans hm1⟩
  have h1 : (readMem mc buf s x y (svBase + offVcpuBase) 4).2 = C07.le32 (mc.vcpuBase x y) :=
    readMem_one mc buf s x y _ 4 (by decide) hb
  rw [readCpuState, readMem_one mc buf _ x y _ 1 (by decide) (by omega), hm1, h1, leVal_le32 _ (hv x y),
    stepP_read_state]
  exact Nat.add_zero _

theorem checkCores_spec (x y : Nat) :
    ∀ (ps : List Nat) (s : Sim),
      (checkCores mc buf x y s ps).2 = ps.filter (notWaiting s.m.core x y) ∧ (checkCores mc buf x y s ps).1.m = s.m
  | [], _ => ⟨rfl, rfl⟩
  | p :: ps, s => by
    obtain ⟨h1, h2⟩ := readCpuState_spec mc buf hb hv s x y p
    obtain ⟨i1, i2⟩ := checkCores_spec x y ps (readCpuState mc buf s x y p).1
    refine ⟨?_, i2.trans h2⟩
    rw [checkCores, i1, h1, h2, List.filter_cons]
    simp only [notWaiting, decide_eq_true_eq]

theorem checkTargets_spec :
    ∀ (ts : List (Nat × Nat × List Nat)) (s : Sim),
      (checkTargets mc buf s ts).2 = filtTargets s.m.core ts ∧ (checkTargets mc buf s ts).1.m = s.m
  | [], _ => ⟨rfl, rfl⟩
  | (x, y, cs) :: ts, s => by
    obtain ⟨h1, h2⟩ := checkCores_spec mc buf hb hv x y cs s
    obtain ⟨i1, i2⟩ := checkTargets_spec ts (checkCores mc buf x y s cs).1
    refine ⟨?_, i2.trans h2⟩
    rw [checkTargets, i1, h1, h2]
    simp only [filtTargets, List.map_cons, List.filter_cons, decide_eq_true_eq]

theorem checkApps_spec :
    ∀ (as : List App) (s : Sim),
      (checkApps mc buf s as).2 = filtApps s.m.core as ∧ (checkApps mc buf s as).1.m = s.m
  | [], _ => ⟨rfl, rfl⟩
  | a :: as, s => by
    obtain ⟨h1, h2⟩ := checkTargets_spec mc buf hb hv a.targets s
    obtain ⟨i1, i2⟩ := checkApps_spec as (checkTargets mc buf s a.targets).1
    refine ⟨?_, i2.trans h2⟩
    rw [checkApps, i1, h1, h2]
    simp only [filtApps, List.map_cons, List.filter_cons, decide_eq_true_eq]

end

theorem wantsT_filt (core : Nat → Nat → Nat → Core) (x y p : Nat) (ts : List (Nat × Nat × List Nat)) :
    wantsT (filtTargets core ts) x y p = true ↔ wantsT ts x y p = true ∧ (core x y p).state ≠ stWait := by
  simp only [wantsT, filtTargets, List.any_eq_true, List.mem_filter, List.mem_map, Bool.and_eq_true, beq_iff_eq,
    List.contains_iff_mem, decide_eq_true_eq]
  constructor
  · rintro ⟨_, ⟨⟨t, ht, rfl⟩, _⟩, ⟨rfl, rfl⟩, hp⟩
    exact ⟨⟨t, ht, ⟨rfl, rfl⟩, (List.mem_filter.mp hp).1⟩, of_decide_eq_true (List.mem_filter.mp hp).2⟩
  · rintro ⟨⟨t, ht, ⟨rfl, rfl⟩, hp⟩, hn⟩
    -- the core itself is left in its entry, so the entry is kept
    have : p ∈ t.2.2.filter (notWaiting core t.1 t.2.1) := List.mem_filter.mpr ⟨hp, decide_eq_true hn⟩
    exact ⟨_, ⟨⟨t, ht, rfl⟩, List.length_pos_of_mem this⟩, ⟨rfl, rfl⟩, this⟩

end Rig.C09
