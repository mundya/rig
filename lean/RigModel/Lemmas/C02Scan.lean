/-
C02 - the chip scan of the sequential placer: it stops within one round of the chip cycle, what it returns when it
places and when it gives up, and a scan that gives up over distinct chips has tried every one of them.
-/
import RigModel.Model.C02

namespace Rig.C02

theorem scan_no_fuel (chips : List Chip) (m : Machine) (d : Res) (last : Chip) (fuel pos : Nat)
    (h : ∃ k, 1 ≤ k ∧ k ≤ fuel ∧ chipAt chips (pos + k) = last) :
    scan chips m d last fuel pos ≠ .failed .fuel := by
  obtain ⟨k, h1, h2, h3⟩ := h
  fun_induction scan chips m d last fuel pos generalizing k
  case case1 => exact absurd (Nat.le_trans h1 h2) (by decide)
  case case5 n pos _ _ _ _ _ hne ih =>
    match k, h1 with
    | 1, _ => exact absurd h3 hne
    | k + 2, _ =>
      exact ih (k + 1) (Nat.succ_pos _) (Nat.le_of_succ_le_succ h2) (by rwa [Nat.add_right_comm pos 1 (k + 1)])
  all_goals nofun

theorem chipAt_add_length (chips : List Chip) (pos : Nat) :
    chipAt chips (pos + chips.length) = chipAt chips pos := by
  simp only [chipAt, Nat.add_mod_right]

theorem scan_terminates (chips : List Chip) (hne : chips ≠ []) (m : Machine) (d : Res) (pos : Nat) :
    scan chips m d (chipAt chips pos) chips.length pos ≠ .failed .fuel :=
  scan_no_fuel _ _ _ _ _ _
    ⟨chips.length, List.length_pos_iff.2 hne, Nat.le_refl _, chipAt_add_length chips pos⟩

theorem chipAt_eq {chips : List Chip} {q : Nat} (hn : 0 < chips.length) :
    chipAt chips q = chips[q % chips.length]'(Nat.mod_lt _ hn) := by
  rw [chipAt, List.getD_eq_getElem?_getD, List.getElem?_eq_getElem (Nat.mod_lt _ hn), Option.getD_some]

theorem chipAt_mem (chips : List Chip) (q : Nat) (hn : 0 < chips.length) : chipAt chips q ∈ chips := by
  rw [chipAt_eq hn]; exact List.getElem_mem _

theorem scan_placed {chips : List Chip} {m : Machine} {d : Res} {last : Chip} :
    ∀ (fuel pos : Nat) {pos' : Nat} {c : Chip} {r : Res}, scan chips m d last fuel pos = .placed pos' c r →
      c = chipAt chips pos' ∧ ∃ cur, m.get c = some cur ∧ r = sub cur d ∧ over r = false := by
  intro fuel pos pos' c r h
  fun_induction scan chips m d last fuel pos
  case case3 cur hg _ ho =>
    injection h with hp hc hr
    subst hp hc hr
    exact ⟨rfl, cur, hg, rfl, by simpa using ho⟩
  case case5 ih => exact ih h
  all_goals cases h

theorem scan_failed (chips : List Chip) (m : Machine) (d : Res) (last : Chip) :
    ∀ (fuel pos : Nat) (e : Err), scan chips m d last fuel pos = .failed e →
      e = .fuel ∨ e = .insufficient ∨ e = .indexError ∧ ∃ q, m.get (chipAt chips q) = none := by
  intro fuel pos e h
  fun_induction scan chips m d last fuel pos
  case case1 => cases h; exact .inl rfl
  case case2 hg => cases h; exact .inr (.inr ⟨rfl, _, hg⟩)
  case case3 => cases h
  case case4 => cases h; exact .inr (.inl rfl)
  case case5 ih => exact ih h

theorem scan_fail_spec (chips : List Chip) (m : Machine) (d : Res) (last : Chip) (fuel pos : Nat)
    (h : scan chips m d last fuel pos = .failed .insufficient) :
    ∃ t, t < fuel ∧ chipAt chips (pos + t + 1) = last ∧
      ∀ j, j ≤ t → ∃ cur, m.get (chipAt chips (pos + j)) = some cur ∧ over (sub cur d) = true := by
  fun_induction scan chips m d last fuel pos
  case case4 n pos _ cur hg _ hov hl =>
    refine ⟨0, Nat.succ_pos _, hl, fun j hj => ?_⟩
    obtain rfl := Nat.le_zero.1 hj
    exact ⟨cur, hg, by simpa using hov⟩
  case case5 n pos _ cur hg _ hov _ ih =>
    obtain ⟨t, h1, h2, h3⟩ := ih h
    rw [Nat.add_right_comm pos 1 t] at h2
    refine ⟨t + 1, Nat.succ_lt_succ h1, h2, fun j hj => ?_⟩
    cases j with
    | zero => exact ⟨cur, hg, by simpa using hov⟩
    | succ j' =>
      have := h3 j' (Nat.le_of_succ_le_succ hj)
      rwa [Nat.add_right_comm pos 1 j'] at this
  all_goals cases h

/-- a position of the cycle recurs after a full round at the earliest -/
theorem mod_cycle {n pos s : Nat} (hn : 0 < n) (hs1 : 0 < s) (hs2 : s ≤ n)
    (h : (pos + s) % n = pos % n) : s = n := by
  rcases Nat.lt_or_ge s n with hlt | hge
  · exfalso
    have hr : pos % n < n := Nat.mod_lt _ hn
    rw [← Nat.mod_add_mod] at h
    rcases Nat.lt_or_ge (pos % n + s) n with h1 | h1
    · rw [Nat.mod_eq_of_lt h1] at h; omega
    · rw [Nat.mod_eq_sub_mod h1, Nat.mod_eq_of_lt (by omega)] at h; omega
  · omega

theorem exists_add_mod (pos : Nat) {n k : Nat} (hk : k < n) : ∃ j, j < n ∧ (pos + j) % n = k := by
  have hr : pos % n < n := Nat.mod_lt _ (by omega)
  refine ⟨(k + n - pos % n) % n, Nat.mod_lt _ (by omega), ?_⟩
  rw [Nat.add_mod_mod, ← Nat.mod_add_mod, show pos % n + (k + n - pos % n) = k + n by omega,
    Nat.add_mod_right, Nat.mod_eq_of_lt hk]

theorem scan_fail_all (chips : List Chip) (hnd : chips.Nodup) (m : Machine) (d : Res) (pos : Nat)
    (h : scan chips m d (chipAt chips pos) chips.length pos = .failed .insufficient) :
    ∀ c ∈ chips, ∃ cur, m.get c = some cur ∧ over (sub cur d) = true := by
  obtain ⟨t, h1, h2, h3⟩ := scan_fail_spec chips m d _ _ _ h
  have hn : 0 < chips.length := by omega
  rw [chipAt_eq hn, chipAt_eq hn, List.getElem_inj hnd, Nat.add_assoc] at h2
  have ht := mod_cycle hn (by omega) (by omega) h2
  intro c hc
  obtain ⟨k, hk, rfl⟩ := List.getElem_of_mem hc
  obtain ⟨j, hj, e⟩ := exists_add_mod pos hk
  have := h3 j (by omega)
  rw [chipAt_eq hn] at this
  simpa only [e] using this

end Rig.C02
