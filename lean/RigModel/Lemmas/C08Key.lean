/-
C08 lemmas: bit masks as sets of bit positions (`Nat.testBit`); what `get_value` and `get_mask` return; read-back of a
field from the key and orthogonality of two keys.
-/
import RigModel.Lemmas.Bits
import RigModel.Lemmas.C08Tree

namespace Rig.C08

theorem testBit_rangeMask (l s i : Nat) :
    (rangeMask l s).testBit i = (decide (s ≤ i) && decide (i < s + l)) := by
  unfold rangeMask
  rw [Nat.testBit_shiftLeft, Nat.one_shiftLeft, Nat.testBit_two_pow_sub_one]
  by_cases h : s ≤ i <;> simp [h]
  omega

theorem and_eq_zero_iff (a b : Nat) : a &&& b = 0 ↔ ∀ i, ¬ (a.testBit i = true ∧ b.testBit i = true) := by
  simp only [← Bool.and_eq_true, ← Nat.testBit_and]
  exact ⟨fun h i => by simp [h], fun h => Nat.eq_of_testBit_eq fun i => by simpa using h i⟩

theorem rangeMask_and_eq_zero (l s l' s' : Nat) (hl : 1 ≤ l) (hl' : 1 ≤ l') :
    rangeMask l s &&& rangeMask l' s' = 0 ↔ Disjoint s l s' l' := by
  rw [and_eq_zero_iff]
  simp only [testBit_rangeMask, Bool.and_eq_true, decide_eq_true_eq, Disjoint]
  constructor
  · intro h
    have := h (max s s')
    omega
  · intro h i
    omega

theorem testBit_fieldBits (f : Field) (j : Nat) :
    (fieldBits f).testBit j = true ↔ ∃ l s, f.length = some l ∧ f.startAt = some s ∧ s ≤ j ∧ j < s + l := by
  unfold fieldBits
  cases hl : f.length <;> cases hs : f.startAt <;>
    simp [testBit_rangeMask, Nat.zero_testBit]

theorem testBit_unionBits (sel : List Entry) (j : Nat) :
    (unionBits sel).testBit j = true ↔
      ∃ e ∈ sel, ∃ l s, e.field.length = some l ∧ e.field.startAt = some s ∧ s ≤ j ∧ j < s + l := by
  unfold unionBits
  rw [Bits.testBit_foldl_or]
  simp only [Nat.zero_testBit, Bool.false_or, List.any_eq_true, testBit_fieldBits]

theorem readback_and_mask {k m s l : Nat} (hc : ∀ i, i < l → m.testBit (s + i) = true) :
    ((k &&& m) >>> s) % 2 ^ l = (k >>> s) % 2 ^ l := by
  apply Nat.eq_of_testBit_eq
  intro i
  simp only [Nat.testBit_mod_two_pow, Nat.testBit_shiftRight, Nat.testBit_and]
  by_cases hi : i < l
  · simp [hi, hc i hi]
  · simp [hi]

/-- every present field that has a value and a length holds a value that fits the length -/
def ValuesFit (es : List Entry) (fv : Reqs) : Prop :=
  ∀ e ∈ enabledFields es fv, ∀ x l, fv.lookup e.ident = some x → e.field.length = some l → x < 2 ^ l

theorem enabled_pair {es : List Entry} (hd : SpecDisjoint es) {fv : Reqs} {e e' : Entry}
    (he : e ∈ enabledFields es fv) (he' : e' ∈ enabledFields es fv) : e = e' ∨ EntryDisjoint e e' := by
  simp only [enabledFields, List.mem_filter] at he he'
  rcases Lists.pairwise_mem hd he.1 he'.1 with h | h | h
  · exact Or.inl h
  · exact Or.inr (h (compatible_of_enabled he.2 he'.2))
  · exact Or.inr (h (compatible_of_enabled he'.2 he.2)).symm

theorem isFixed_iff (f : Field) : f.isFixed = true ↔ ∃ l s, f.length = some l ∧ f.startAt = some s := by
  unfold Field.isFixed
  cases f.length <;> cases f.startAt <;> simp

theorem getValue_all {es : List Entry} {fv : Reqs} {key : Nat} (h : getValue es fv none none = .ok key) :
    (∀ j, key.testBit j = (enabledFields es fv).any fun e => (valBits fv e).testBit j) ∧
    (∀ e ∈ enabledFields es fv, (∃ x, fv.lookup e.ident = some x) ∧ e.field.isFixed = true) := by
  revert h
  fun_cases getValue es fv none none with
  | case1 | case2 | case3 => exact fun h => nomatch h
  | case4 sel hsel hmiss hfix =>
    intro h; cases h; cases hsel
    simp only [Bool.not_eq_true, List.any_eq_false, Option.isNone_iff_eq_none] at hmiss hfix
    exact ⟨fun j => by rw [Bits.testBit_foldl_or]; simp,
      fun e he => ⟨Option.ne_none_iff_exists'.mp (hmiss e he), by simpa using hfix e he⟩⟩

theorem readback_lemma {es : List Entry} {fv : Reqs} {key : Nat} (hd : SpecDisjoint es) (hfit : ValuesFit es fv)
    (hk : getValue es fv none none = .ok key) {e : Entry} (he : e ∈ enabledFields es fv) {x l s : Nat}
    (hx : fv.lookup e.ident = some x) (hl : e.field.length = some l) (hs : e.field.startAt = some s) :
    ReadBack key s l x := by
  obtain ⟨hbits, hall⟩ := getValue_all hk
  have hxl := hfit e he x l hx hl
  unfold ReadBack
  apply Nat.eq_of_testBit_eq
  intro i
  rw [Nat.testBit_mod_two_pow, Nat.testBit_shiftRight]
  by_cases hi : i < l
  · simp only [hi, decide_true, Bool.true_and]
    rw [hbits, Bool.eq_iff_iff, List.any_eq_true]
    constructor
    · -- a field that contributes bit `s + i` overlaps `e`, so it is `e`
      rintro ⟨e', he', hb⟩
      obtain ⟨⟨x', hx'⟩, hfix'⟩ := hall e' he'
      obtain ⟨l', s', hl', hs'⟩ := (isFixed_iff _).mp hfix'
      simp only [valBits, hx', hs', Nat.testBit_shiftLeft, Bool.and_eq_true, decide_eq_true_eq] at hb
      have hlt : s + i - s' < l' := by
        refine Nat.lt_of_not_le fun hc => ?_
        rw [Bits.testBit_false_of_lt (hfit e' he' x' l' hx' hl') hc] at hb
        exact absurd hb.2 (by simp)
      rcases enabled_pair hd he he' with rfl | hdis
      · cases hx.symm.trans hx'; cases hs.symm.trans hs'
        rw [Nat.add_sub_cancel_left] at hb; exact hb.2
      · have := hdis l s l' s' hl hs hl' hs'
        unfold Disjoint at this
        omega
    · intro hb
      refine ⟨e, he, ?_⟩
      simp only [valBits, hx, hs, Nat.testBit_shiftLeft, Nat.add_sub_cancel_left, hb, Nat.le_add_right,
        decide_true, Bool.and_self]
  · simp only [hi, decide_false, Bool.false_and]
    exact (Bits.testBit_false_of_lt hxl (Nat.le_of_not_lt hi)).symm

theorem getMask_of_select {es : List Entry} {fv : Reqs} {tag : Option String} {field : Option Ident} {sel : List Entry}
    (hs : selectFields es fv tag field = .ok sel) :
    getMask es fv tag field = if sel.any (fun e => !e.field.isFixed) then .error .valueError else .ok (unionBits sel) := by
  rw [getMask, hs]; rfl

theorem getMask_all {es : List Entry} {fv : Reqs} {m : Nat} (h : getMask es fv none none = .ok m) :
    m = unionBits (enabledFields es fv) := by
  rw [getMask_of_select (sel := enabledFields es fv) rfl] at h
  split at h <;> cases h
  rfl

theorem getMask_tag {es : List Entry} {fv : Reqs} {t : String} {m : Nat} (h : getMask es fv (some t) none = .ok m) :
    m = unionBits ((enabledFields es fv).filter fun e => e.field.tags.contains t) := by
  cases hs : selectFields es fv (some t) none with
  | error e => rw [getMask, hs] at h; cases h
  | ok sel =>
    rw [getMask_of_select hs] at h
    split at h <;> cases h
    rw [selectFields] at hs
    split at hs <;> cases hs
    rfl

theorem mask_covers {es : List Entry} {fv : Reqs} {m : Nat} (h : getMask es fv none none = .ok m)
    {e : Entry} (he : e ∈ enabledFields es fv) {l s : Nat} (hl : e.field.length = some l)
    (hs : e.field.startAt = some s) : ∀ i, i < l → m.testBit (s + i) = true := by
  intro i hi
  rw [getMask_all h, testBit_unionBits]
  exact ⟨e, he, l, s, hl, hs, by omega, by omega⟩

theorem orthogonal_lemma {es : List Entry} {fv fv' : Reqs} {k m k' m' : Nat} (hd : SpecDisjoint es)
    (hfit : ValuesFit es fv) (hfit' : ValuesFit es fv')
    (hk : getValue es fv none none = .ok k) (hm : getMask es fv none none = .ok m)
    (hk' : getValue es fv' none none = .ok k') (hm' : getMask es fv' none none = .ok m')
    {e : Entry} (he : e ∈ enabledFields es fv) (he' : e ∈ enabledFields es fv') {x x' : Nat}
    (hx : fv.lookup e.ident = some x) (hx' : fv'.lookup e.ident = some x') (hne : x ≠ x') :
    k &&& m' ≠ k' &&& m ∧ ¬ Matches k k' m' ∧ ¬ Matches k' k m := by
  obtain ⟨_, hall⟩ := getValue_all hk
  obtain ⟨l, s, hl, hs⟩ := (isFixed_iff _).mp (hall e he).2
  have r1 : (k >>> s) % 2 ^ l = x := readback_lemma hd hfit hk he hx hl hs
  have r2 : (k' >>> s) % 2 ^ l = x' := readback_lemma hd hfit' hk' he' hx' hl hs
  have c1 := readback_and_mask (k := k') (mask_covers hm he hl hs)
  have c2 := readback_and_mask (k := k) (mask_covers hm' he' hl hs)
  -- compare the field `e` as read from both sides of each (in)equation
  refine ⟨fun h => ?_, fun h => ?_, fun h => ?_⟩ <;>
    have := congrArg (fun v => (v >>> s) % 2 ^ l) h
  · exact hne (by simpa only [c1, c2, r1, r2] using this)
  · exact hne (by simpa only [c2, r1, r2] using this)
  · exact hne (by simpa only [c1, r1, r2] using this.symm)

end Rig.C08
