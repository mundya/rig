/-
C20 - helper lemmas: byte swap, the block loop and `transmit`, the configuration splice, reassembly and
shape of the datagrams sent, and what `bootCore` does when it returns.
-/
import RigModel.Model.C20

namespace Rig.C20
open Rig.Gen.C20Boot

theorem swapWords_length : ∀ l : List Nat, (swapWords l).length = l.length
  | _ :: _ :: _ :: _ :: r => congrArg (· + 4) (swapWords_length r)
  | [] | [_] | [_, _] | [_, _, _] => rfl

theorem swapWords_swapWords : ∀ l : List Nat, swapWords (swapWords l) = l
  | a :: b :: c :: d :: r => congrArg (a :: b :: c :: d :: ·) (swapWords_swapWords r)
  | [] | [_] | [_, _] | [_, _, _] => rfl

theorem swapWords_append (a b : List Nat) (h : a.length % 4 = 0) :
    swapWords (a ++ b) = swapWords a ++ swapWords b := by
  match a, h with
  | [], _ => rfl
  | [_], h | [_, _], h | [_, _, _], h => exact nomatch h
  | x :: y :: z :: w :: r, h =>
    exact congrArg (w :: z :: y :: x :: ·)
      (swapWords_append r b ((Nat.add_mod_right r.length 4).symm.trans h))

theorem headerV_length (v c a1 a2 a3 : Nat) : (headerV v c a1 a2 a3).length = 18 := rfl

theorem header_eq (c a1 a2 a3 : Nat) : header c a1 a2 a3 = headerV 1 c a1 a2 a3 := rfl

/-- the block number occupies the low byte, below the word count shifted by 8: `|` is `+` -/
theorem or_block : ∀ b, b < 256 → ((BOOT_WORD_SIZE - 1) <<< 8) ||| b = 255 * 256 + b :=
  fun _ h => (Nat.shiftLeft_add_eq_or_of_lt (i := 8) h 255).symm

theorem payload_drop (buf : List Nat) : payload (buf.drop 1024) = fun i => payload buf (i + 1) :=
  funext fun i => by rw [payload, payload, List.drop_drop, Nat.mul_succ, Nat.add_comm]

theorem blockDg_drop (buf : List Nat) (b : Nat) :
    blockDg (buf.drop 1024) (b + 1) = fun i => blockDg buf b (i + 1) :=
  funext fun i => by rw [blockDg, blockDg, payload_drop, Nat.add_assoc, Nat.add_comm 1]

theorem sends_append (a b : List Event) : sends (a ++ b) = sends a ++ sends b := by
  induction a with
  | nil => rfl
  | cons e r ih => cases e <;> simp [sends, ih]

theorem sendBlocks_step (fuel : Nat) (data : List Nat) (b : Nat) (hd : data ≠ [])
    (h4 : (data.take 1024).length % 4 = 0) (hb : b < 256) :
    sendBlocks (fuel + 1) data b =
      (.send (blockDg data b 0) :: .sleepBoot :: (sendBlocks fuel (data.drop 1024) (b + 1)).1,
        (sendBlocks fuel (data.drop 1024) (b + 1)).2) := by
  simp only [sendBlocks, hd, if_false, bootPacket, h4, if_true, or_block b hb]
  rfl

theorem sendBlocks_sends (n : Nat) : ∀ (fuel : Nat) (data : List Nat) (b : Nat), data.length ≤ fuel →
    data.length ≤ 1024 * n → 1024 * n < data.length + 1024 → b + n ≤ 256 → data.length % 4 = 0 →
    ∃ evs, sendBlocks fuel data b = (evs, none) ∧ sends evs = (List.range n).map (blockDg data b) := by
  induction n with
  | zero =>
    intro fuel data b _ hle _ _ _
    rw [List.eq_nil_of_length_eq_zero (Nat.le_zero.mp hle)]
    exact ⟨[], by cases fuel <;> rfl, rfl⟩
  | succ n ih =>
    intro fuel data b hf hle hlt hb
    obtain ⟨h0, hfu, hb', h1, h2, h3, h5⟩ : 0 < data.length ∧ fuel = fuel - 1 + 1 ∧ b < 256 ∧
        data.length - 1024 ≤ fuel - 1 ∧ data.length - 1024 ≤ 1024 * n ∧
        1024 * n < data.length - 1024 + 1024 ∧ b + 1 + n ≤ 256 := by
      omega
    -- the `% 4` hypothesis only here: in the context of the `omega` call above it would make that call much slower
    intro h4
    obtain ⟨fuel, rfl⟩ : ∃ k, fuel = k + 1 := ⟨_, hfu⟩
    have h4' : (data.take 1024).length % 4 = 0 := by
      rw [List.length_take, Nat.min_def]; split
      · rfl
      · exact h4
    rw [← List.length_drop] at h1 h2 h3
    obtain ⟨evs, e1, e2⟩ := ih fuel (data.drop 1024) (b + 1) h1 h2 h3 h5
      (by rw [List.length_drop]; exact Nat.sub_mod_eq_zero_of_mod_eq h4)
    rw [sendBlocks_step _ _ _ (List.length_pos_iff.mp h0) h4' hb', e1]
    refine ⟨_, rfl, ?_⟩
    simp only [sends, e2, List.range_succ_eq_map, List.map_cons, List.map_map, Function.comp_def,
      Nat.succ_eq_add_one, blockDg_drop]

theorem transmit_ok (host : String) (port : Nat) (buf : List Nat)
    (h4 : buf.length % 4 = 0) (hlen : buf.length < 32768) :
    ∃ evs, transmit host port buf = (.connect host port :: evs, none) ∧ sends evs = bootDatagrams buf := by
  have hn : buf.length ≤ 1024 * ((buf.length + 1023) / 1024) ∧
      1024 * ((buf.length + 1023) / 1024) < buf.length + 1024 ∧ 0 + (buf.length + 1023) / 1024 ≤ 256 := by
    omega
  obtain ⟨evs, e1, e2⟩ := sendBlocks_sends _ buf.length buf 0 (Nat.le_refl _) hn.1 hn.2.1 hn.2.2 h4
  refine ⟨_, by simp only [transmit, bootPacket, List.length_nil, Nat.zero_mod, if_true, e1]; rfl, ?_⟩
  simp only [List.append_eq, sends, sends_append, e2, bootDatagrams, header_eq, swapWords, List.append_nil,
    nBlocks]
  rfl

theorem bootImage_eq (image packed : List Nat) :
    bootImage image packed = image.take 384 ++ packed.take 128 ++ image.drop 512 := by
  simp [bootImage, splice, BOOT_DATA_OFFSET, BOOT_DATA_LENGTH]

theorem bootImage_length (image packed : List Nat) (hi : 512 ≤ image.length) (hp : 128 ≤ packed.length) :
    (bootImage image packed).length = image.length := by
  rw [bootImage_eq, List.length_append, List.length_append, List.length_drop,
    List.length_take_of_le (Nat.le_trans (by decide) hi), List.length_take_of_le hp]
  exact Nat.add_sub_cancel' hi

theorem bootImage_take (image packed : List Nat) (hi : 512 ≤ image.length) :
    (bootImage image packed).take 384 = image.take 384 := by
  rw [bootImage_eq, List.append_assoc]
  exact List.take_left' (List.length_take_of_le (Nat.le_trans (by decide) hi))

theorem bootImage_config (image packed : List Nat) (hi : 512 ≤ image.length) (hp : 128 ≤ packed.length) :
    ((bootImage image packed).drop 384).take 128 = packed.take 128 := by
  rw [bootImage_eq, List.append_assoc, List.drop_left' (List.length_take_of_le (Nat.le_trans (by decide) hi))]
  exact List.take_left' (List.length_take_of_le hp)

theorem bootImage_drop (image packed : List Nat) (hi : 512 ≤ image.length) (hp : 128 ≤ packed.length) :
    (bootImage image packed).drop 512 = image.drop 512 := by
  rw [bootImage_eq]
  exact List.drop_left' (by
    rw [List.length_append, List.length_take_of_le (Nat.le_trans (by decide) hi), List.length_take_of_le hp])

theorem flatten_payloads : ∀ (n : Nat) (buf : List Nat), buf.length ≤ 1024 * n →
    ((List.range n).map (payload buf)).flatten = buf := by
  intro n
  induction n with
  | zero => intro buf h; rw [List.eq_nil_of_length_eq_zero (Nat.le_zero.mp h)]; rfl
  | succ n ih =>
    intro buf h
    rw [List.range_succ_eq_map, List.map_cons, List.map_map, List.flatten_cons]
    have e : (payload buf ∘ Nat.succ) = payload (buf.drop 1024) := (payload_drop buf).symm
    rw [e, ih (buf.drop 1024) (by rw [List.length_drop]; omega)]
    simp [payload]

theorem reassemble_bootDatagrams (buf : List Nat) : reassemble (bootDatagrams buf) = buf := by
  simp only [reassemble, bootDatagrams, List.drop_succ_cons, List.drop_zero, List.dropLast_concat,
    List.map_map]
  have e : ((fun b => swapWords (List.drop 18 b)) ∘ blockDg buf 0) = payload buf := by
    funext i
    simp only [Function.comp, blockDg]
    rw [List.drop_left' (headerV_length _ _ _ _ _), swapWords_swapWords]
  rw [e]
  exact flatten_payloads _ buf (by omega)

theorem payload_length (buf : List Nat) (i : Nat) : (payload buf i).length ≤ 1024 :=
  List.length_take_le _ _

theorem payload_length_mod (buf : List Nat) (i : Nat) (h : buf.length % 4 = 0) :
    (payload buf i).length % 4 = 0 := by
  rw [payload, List.length_take, List.length_drop, Nat.min_def]
  split
  · rfl
  · exact Nat.sub_mod_eq_zero_of_mod_eq
      (h.trans (Nat.mod_eq_zero_of_dvd (Nat.dvd_mul_right_of_dvd (by decide : 4 ∣ 1024) i)).symm)

theorem shapeOK_bootDatagrams (buf : List Nat) (h4 : buf.length % 4 = 0) (hpos : 0 < buf.length) :
    shapeOK (bootDatagrams buf) = true := by
  have hn : 1 ≤ (buf.length + 1023) / 1024 := by omega
  simp only [shapeOK, bootDatagrams, List.getLast?_concat, List.dropLast_concat, List.length_map,
    List.length_range, Bool.and_eq_true, decide_eq_true_eq, beq_self_eq_true, List.all_eq_true,
    List.mem_range, and_true]
  refine ⟨hn, ?_⟩
  intro i hi
  have : ((List.range ((buf.length + 1023) / 1024)).map (blockDg buf 0)).getD i [] = blockDg buf 0 i := by
    simp [List.getD_eq_getElem?_getD, List.getElem?_map, List.getElem?_range hi]
  rw [this]
  have hl := payload_length buf i
  have hm := payload_length_mod buf i h4
  simp only [blockDg, Nat.zero_add, List.take_left' (headerV_length _ _ _ _ _), beq_self_eq_true,
    List.length_append, headerV_length, swapWords_length, true_and, Nat.add_sub_cancel_left]
  exact ⟨Nat.le_add_right _ _, Nat.add_le_add_left hl _, hm⟩

theorem bootCore_ok (c : Call) (opts : Dict) (hd : c.ImageDomain) (fs : List Field) (packed : List Nat)
    (hf : finalFields c opts = .ok fs) (hp : structPack c.svSize fs = .ok packed)
    (hl : 128 ≤ packed.length) :
    (bootCore c opts).result = .ok fs ∧
    sends (bootCore c opts).events = bootDatagrams (bootImage c.image packed) := by
  obtain ⟨h4, h512, hlt⟩ := hd
  have hlen := bootImage_length c.image packed h512 hl
  obtain ⟨evs, ht, t2⟩ := transmit_ok c.host c.port (bootImage c.image packed) (hlen ▸ h4) (hlen ▸ hlt)
  have n1 : ¬ packed.length < 128 := Nat.not_lt.mpr hl
  have n2 : (bootImage c.image packed).length < DTCM_SIZE := hlen ▸ hlt
  simp only [bootCore, hf, hp, n1, n2, if_false, not_true_eq_false, ht]
  exact ⟨trivial, t2⟩

theorem bootCore_returns (c : Call) (opts : Dict) (fs : List Field) (hd : c.ImageDomain)
    (h : (bootCore c opts).result = .ok fs) :
    ∃ packed, finalFields c opts = .ok fs ∧ structPack c.svSize fs = .ok packed ∧ 128 ≤ packed.length ∧
      sends (bootCore c opts).events = bootDatagrams (bootImage c.image packed) ∧
      (bootCore c opts).events.head? = some (.connect c.host c.port) := by
  revert h
  fun_cases bootCore c opts
  case case6 fs' hf packed hp hl _ _ evs ht =>
    -- the branch that returns
    rintro ⟨⟩
    have hl := Nat.le_of_not_lt hl
    have hlen := bootImage_length c.image packed hd.2.1 hl
    obtain ⟨evs', ht', t2⟩ := transmit_ok c.host c.port (bootImage c.image packed) (hlen ▸ hd.1) (hlen ▸ hd.2.2)
    cases ht.symm.trans ht'
    exact ⟨packed, hf, hp, hl, t2, rfl⟩
  all_goals exact nofun

end Rig.C20
