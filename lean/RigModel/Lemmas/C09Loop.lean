/-
The `while unloaded != {} and tries <= n_tries` loop of `load_application`.
One pass, an invariant rule, and the invariant that holds whatever was on the machine before the call; the count and
start requests against the machine (`send_countReq`, `send_start`); under `PreClean` the invariant gives `Tracks`
(`tracks_of_wait`).
-/
import RigModel.Lemmas.C09Load

namespace Rig.C09
open Rig.Gen.Load

theorem send_countReq (mc : MCfg) (s : Sim) (st appId : Nat) (hs : st < 16) (ha : appId < 256) :
    s.send mc (countReq st appId) =
      ({ s with trace := (countReq st appId, Reply.count (cnt1 mc s.m.core st appId)) :: s.trace },
       Reply.count (cnt1 mc s.m.core st appId)) := by
  rw [Sim.send, step, decode_count st appId hs ha]; rfl

theorem send_start (mc : MCfg) (s : Sim) (appId : Nat) (ha : appId < 256) :
    (s.send mc (startReq appId)).1 =
      { s with m := { s.m with core := fun x y p =>
                        if mc.chips.contains (x, y) && decide (p < 18) && matchesApp (s.m.core x y p) stWait appId
                        then { s.m.core x y p with state := stRun } else s.m.core x y p },
               trace := (startReq appId, Reply.ok) :: s.trace } := by
  rw [Sim.send, step, decode_start appId ha]; rfl

/-- the verification after a fill: the count shortcut when it applies, else the read-back; returns the
unloaded map it leaves -/
def verify (mc : MCfg) (c : Ctl) (total : Nat) (s : Sim) (unl : List App) : Sim × List App :=
  match (if c.useCount then some (s.send mc (countReq stWait c.appId)) else none) with
  | some (s', .count n) => if total = n then (s', []) else checkApps mc c.buf s' unl
  | some (s', _) => checkApps mc c.buf s' unl
  | none => checkApps mc c.buf s unl

theorem loadLoop_succ (mc : MCfg) (c : Ctl) (total fuel : Nat) (s : Sim) (tries : Nat) (unl : List App)
    (sent : List (List App)) :
    loadLoop mc c total (fuel + 1) s tries unl sent =
      if unl ≠ [] ∧ tries ≤ c.nTries then
        loadLoop mc c total fuel (verify mc c total (floodFill mc c true s unl) unl).1 (tries + 1)
          (verify mc c total (floodFill mc c true s unl) unl).2 (sent ++ [unl])
      else (s, unl, sent) := by
  rw [loadLoop, verify]
  split
  · dsimp only
    cases c.useCount
    · rfl
    · generalize Sim.send mc (floodFill mc c true s unl) (countReq stWait c.appId) = o
      obtain ⟨s', (_ | n | _ | _)⟩ := o
      · rfl
      · by_cases h : total = n <;> simp only [h, if_true, if_false]
      · rfl
      · rfl
  · rfl

theorem verify_spec (mc : MCfg) (c : Ctl) (apps : List App) (s : Sim) (unl : List App) (hb : 4 ≤ c.buf)
    (hvb : ∀ x y, mc.vcpuBase x y < 4294967296) (ha : c.appId < 256) :
    (verify mc c (coreCount apps) s unl).1.m = s.m ∧
    ((verify mc c (coreCount apps) s unl).2 = filtApps s.m.core unl ∨
      (verify mc c (coreCount apps) s unl).2 = [] ∧ c.useCount = true ∧ CountEq mc c apps s.m) := by
  have hchk := checkApps_spec mc c.buf hb hvb unl
  rw [verify]
  cases c.useCount
  · exact ⟨(hchk _).2, .inl (hchk _).1⟩
  · rw [if_pos rfl, send_countReq mc _ stWait c.appId (by decide) ha]
    dsimp only
    split
    · next h => exact ⟨rfl, .inr ⟨rfl, rfl, h⟩⟩
    · exact ⟨(hchk _).2, .inl (hchk _).1⟩

/-- `n` passes were made, and the loop was left for lack of fuel or because its condition failed -/
theorem loadLoop_rule (mc : MCfg) (c : Ctl) (total : Nat) (P : Sim → Nat → List App → List (List App) → Prop)
    (hstep : ∀ s tries unl sent, P s tries unl sent → unl ≠ [] → tries ≤ c.nTries →
      P (verify mc c total (floodFill mc c true s unl) unl).1 (tries + 1)
        (verify mc c total (floodFill mc c true s unl) unl).2 (sent ++ [unl])) :
    ∀ (fuel : Nat) (s : Sim) (tries : Nat) (unl : List App) (sent : List (List App)), P s tries unl sent →
      ∃ n, n ≤ fuel ∧
        P (loadLoop mc c total fuel s tries unl sent).1 (tries + n)
          (loadLoop mc c total fuel s tries unl sent).2.1 (loadLoop mc c total fuel s tries unl sent).2.2 ∧
        (n = fuel ∨ ¬ ((loadLoop mc c total fuel s tries unl sent).2.1 ≠ [] ∧ tries + n ≤ c.nTries))
  | 0, _, _, _, _, h => ⟨0, Nat.le_refl 0, h, .inl rfl⟩
  | fuel + 1, s, tries, unl, sent, h => by
    rw [loadLoop_succ]
    split
    · next hc =>
      obtain ⟨n, hn, hP, hex⟩ := loadLoop_rule mc c total P hstep fuel _ _ _ _ (hstep s tries unl sent h hc.1 hc.2)
      rw [Nat.add_right_comm, Nat.add_assoc] at hP hex
      exact ⟨n + 1, Nat.succ_le_succ hn, hP, hex.imp_left (congrArg (· + 1))⟩
    · next hc => exact ⟨0, Nat.zero_le _, h, .inr hc⟩

/-- the loop as `load_application` runs it -/
abbrev mainLoop (mc : MCfg) (c : Ctl) (s : Sim) (apps : List App) : Sim × List App × List (List App) :=
  loadLoop mc c (coreCount apps) (c.nTries + 1) s 0 apps []

def WaitInv (apps : List App) (m : MState) (unl : List App) : Prop :=
  ∀ a ∈ apps, ∀ x y p, wants a x y p = true → (m.core x y p).state ≠ stWait → ∃ u ∈ unl, wants u x y p = true

def NamedInv (m : MState) (unl : List App) : Prop :=
  ∀ u ∈ unl, ∀ x y p, wants u x y p = true → (m.core x y p).state ≠ stWait

/-- what is recorded about every (re-)sent map: it is part of the request and names exactly the
requested cores that did not hold their binary in a state reached during this load -/
def SentOK (c : Ctl) (apps : List App) (m0 : MState) (l : List App) : Prop :=
  SubList l apps ∧ ∃ m, Inv apps c.appId m0 m ∧ Tracks apps c.appId m l

/-- what holds of every map handed to `flood_fill_aplx` after the first attempt, whatever the pre-state -/
def SentW (c : Ctl) (apps : List App) (m0 : MState) (l : List App) : Prop :=
  SubList l apps ∧ ∃ m, Inv apps c.appId m0 m ∧ NamedInv m l

/-- `SentW` with the other half (`WaitInv`) -/
def SentX (c : Ctl) (apps : List App) (m0 : MState) (l : List App) : Prop :=
  SubList l apps ∧ ∃ m, Inv apps c.appId m0 m ∧ WaitInv apps m l ∧ NamedInv m l

theorem SentX.sentW {c : Ctl} {apps : List App} {m0 : MState} {l : List App} (h : SentX c apps m0 l) :
    SentW c apps m0 l :=
  ⟨h.1, h.2.imp fun _ h => ⟨h.1, h.2.2⟩⟩

/-- loop invariant without `PreClean`: the machine invariant; why the map is what it is (it names every
requested core that does not wait, or - count mode - it is empty because the count matched); and, after
the first attempt, that it names no waiting core -/
def LIw (mc : MCfg) (c : Ctl) (apps : List App) (m0 : MState) (s : Sim) (tries : Nat) (unl : List App) : Prop :=
  Inv apps c.appId m0 s.m ∧ SubList unl apps ∧
  (WaitInv apps s.m unl ∨ unl = [] ∧ c.useCount = true ∧ CountEq mc c apps s.m) ∧
  (tries = 0 ∧ unl = apps ∨ NamedInv s.m unl)

theorem LIw.pass {mc : MCfg} {c : Ctl} {apps : List App} (hv : Valid mc c apps) {m0 : MState} {s : Sim} {tries : Nat}
    {unl : List App} (h : LIw mc c apps m0 s tries unl) (hne : unl ≠ []) :
    LIw mc c apps m0 (verify mc c (coreCount apps) (floodFill mc c true s unl) unl).1 (tries + 1)
      (verify mc c (coreCount apps) (floodFill mc c true s unl) unl).2 := by
  obtain ⟨hinv, hsub, hreason, _⟩ := h
  have hwait : WaitInv apps s.m unl := hreason.resolve_right fun h => hne h.1
  have hstep := floodFill_step mc c apps hv unl hsub s
  generalize floodFill mc c true s unl = s1 at hstep ⊢
  have hinv1 := hinv.step hv hstep
  obtain ⟨hm, hu | ⟨hu, huc, hcnt⟩⟩ := verify_spec mc c apps s1 unl hv.hb hv.hv hv.happ <;> rw [LIw, hm, hu]
  · -- a core that waited before the fills still waits (`wait_mono`): a requested core that does not wait after them
    -- did not wait before, so `unl` named it, and the read-back keeps it
    exact ⟨hinv1, hsub.filt _,
      .inl fun a ha x y p hw hn =>
        (wants_filtApps ..).mpr ⟨hwait a ha x y p hw fun h => hn (hstep.wait_mono x y p h), hn⟩,
      .inr fun u' hu' x y p hw => ((wants_filtApps ..).mp ⟨u', hu', hw⟩).2⟩
  · exact ⟨hinv1, fun _ h => absurd h List.not_mem_nil, .inr ⟨rfl, huc, hcnt⟩, .inr fun _ h => absurd h List.not_mem_nil⟩

theorem mainLoop_exact (mc : MCfg) (c : Ctl) (apps : List App) (hv : Valid mc c apps) (s : Sim) :
    Inv apps c.appId s.m (mainLoop mc c s apps).1.m ∧ SubList (mainLoop mc c s apps).2.1 apps ∧
      NamedInv (mainLoop mc c s apps).1.m (mainLoop mc c s apps).2.1 ∧
      (WaitInv apps (mainLoop mc c s apps).1.m (mainLoop mc c s apps).2.1 ∨
        (mainLoop mc c s apps).2.1 = [] ∧ c.useCount = true ∧ CountEq mc c apps (mainLoop mc c s apps).1.m) ∧
      ∀ l ∈ (mainLoop mc c s apps).2.2, l = apps ∨ SentX c apps s.m l := by
  obtain ⟨n, _, ⟨⟨hinv, hsub, hreason, hnamed⟩, hsent⟩, hex⟩ := loadLoop_rule mc c (coreCount apps)
    (fun s' tries unl sent => LIw mc c apps s.m s' tries unl ∧ ∀ l ∈ sent, l = apps ∨ SentX c apps s.m l)
    (fun s' tries unl sent ⟨h, hsent⟩ hne _ => ⟨h.pass hv hne, fun l hl =>
      (List.mem_append.mp hl).elim (hsent l) fun hl => List.mem_singleton.mp hl ▸
        h.2.2.2.imp (·.2) fun hn => ⟨h.2.1, s'.m, h.1, h.2.2.1.resolve_right fun h => hne h.1, hn⟩⟩)
    (c.nTries + 1) s 0 apps []
    ⟨⟨.refl .., .refl apps,
      .inl fun a ha _ _ _ hw _ => ⟨a, ha, hw⟩, .inl ⟨rfl, rfl⟩⟩, fun _ h => absurd h List.not_mem_nil⟩
  refine ⟨hinv, hsub, hnamed.elim (fun h => ?_) id, hreason, hsent⟩
  -- no pass was made: the request is empty
  obtain rfl : n = 0 := Nat.eq_zero_of_add_eq_zero_left h.1
  rw [Classical.not_not.mp fun hne => (hex.elim (Nat.succ_ne_zero _ ·.symm) fun hc => hc ⟨hne, Nat.zero_le _⟩)]
  exact fun _ hu => absurd hu List.not_mem_nil

/-- under `PreClean` a requested core holds its binary iff it waits -/
theorem tracks_of_wait {mc : MCfg} {c : Ctl} {apps : List App} (hv : Valid mc c apps) {m0 m : MState}
    (hpre : PreClean m0 apps c.appId) (hi : Inv apps c.appId m0 m) {unl : List App} (hsub : SubList unl apps)
    (hw : WaitInv apps m unl) (hn : NamedInv m unl) : Tracks apps c.appId m unl := by
  intro a ha x y p hwa
  have hnw : m.core x y p ≠ ld c.appId a ↔ (m.core x y p).state ≠ stWait := by
    rcases hi.2 a ha x y p hwa with h | h <;> rw [h]
    · exact iff_of_false (fun h => h rfl) (fun h => h rfl)
    · exact iff_of_true (fun heq => hpre.not_wait ha hwa (by rw [heq]; rfl)) (hpre.not_wait ha hwa)
  rw [hnw]
  refine ⟨fun h => ?_, fun ⟨u, hu, _, hwu⟩ => hn u hu x y p hwu⟩
  obtain ⟨u, hu, hwu⟩ := hw a ha x y p hwa h
  exact ⟨u, hu, hsub.named hv ha hu hwa hwu, hwu⟩

end Rig.C09
