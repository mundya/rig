/-
The normal form of the translator ties.  `py_cast` (members in Lemmas/IntBits.lean, Lemmas/PyLoops.lean and below) turns
a generated definition on the Python view of natural data into an expression on naturals under casts; `py_ac` orders
the operands of `+ * | & ^ min max and or`, so that a tie does not depend on the order in which the source writes them.
Not covered: the sides of `==` (`eq_comm`), truncating subtraction, regrouping across `-` (`omega`).  Ordering a long
bit expression is dear: there `py_ac` stands behind `first | rfl |`, unused on the source as it is; hence `linter.unusedSimpArgs`,
`unusedTactic` and `unreachableTactic` are off in the tie modules.
-/
import RigModel.Lemmas.PyLoops

namespace Rig.PyCast

attribute [py_cast] List.length_map List.map_take List.map_drop List.length_take List.length_drop

attribute [py_ac] Nat.add_comm Nat.add_left_comm Nat.add_assoc Nat.mul_comm Nat.mul_left_comm Nat.mul_assoc
  Nat.lor_comm Nat.or_left_comm Nat.lor_assoc Nat.land_comm Nat.and_left_comm Nat.land_assoc
  Nat.xor_comm Nat.xor_left_comm Nat.xor_assoc Nat.min_comm Nat.min_left_comm Nat.min_assoc
  Nat.max_comm Nat.max_left_comm Nat.max_assoc
  Int.add_comm Int.add_left_comm Int.add_assoc Int.mul_comm Int.mul_left_comm Int.mul_assoc
  Int.min_comm Int.min_assoc Int.max_comm Int.max_assoc

@[py_ac] theorem int_min_left_comm (a b c : Int) : min a (min b c) = min b (min a c) := by
  rw [← Int.min_assoc, Int.min_comm a b, Int.min_assoc]
@[py_ac] theorem int_max_left_comm (a b c : Int) : max a (max b c) = max b (max a c) := by
  rw [← Int.max_assoc, Int.max_comm a b, Int.max_assoc]

/-! equations, not `↔` (cf. `IntBits.lt_natCast`) -/

@[py_ac] theorem and_comm' (a b : Prop) : (a ∧ b) = (b ∧ a) := propext and_comm
@[py_ac] theorem and_left_comm' (a b c : Prop) : (a ∧ b ∧ c) = (b ∧ a ∧ c) := propext and_left_comm
@[py_ac] theorem and_assoc' (a b c : Prop) : ((a ∧ b) ∧ c) = (a ∧ b ∧ c) := propext and_assoc
@[py_ac] theorem or_comm' (a b : Prop) : (a ∨ b) = (b ∨ a) := propext or_comm
@[py_ac] theorem or_left_comm' (a b c : Prop) : (a ∨ b ∨ c) = (b ∨ a ∨ c) := propext or_left_comm
@[py_ac] theorem or_assoc' (a b c : Prop) : ((a ∨ b) ∨ c) = (a ∨ b ∨ c) := propext or_assoc

end Rig.PyCast
