/-
C10 - controller programs against a machine of several chips.
-/
import RigModel.Model.C10
import RigModel.Lemmas.C10Load

namespace Rig.C10
open Rig.Gen.Router

theorem Machine.set_self (m : Machine) (c : ChipXY) : m.set c (m c) = m := by
  funext c'
  unfold Machine.set
  split
  · next h => rw [h]
  · rfl

theorem Machine.set_set (m : Machine) (c : ChipXY) (s s' : Chip) : (m.set c s).set c s' = m.set c s' := by
  funext c'
  unfold Machine.set
  split <;> rfl

theorem Machine.set_same (m : Machine) (c : ChipXY) (s : Chip) : (m.set c s) c = s := by
  simp [Machine.set]

theorem Machine.set_other (m : Machine) (c c' : ChipXY) (s : Chip) (h : c' ≠ c) : (m.set c s) c' = m c' := by
  simp [Machine.set, h]

theorem Steps.runM {pol : ChipXY → Pol} {c : ChipXY} {α : Type} {p p' : Prog α} {s s' : Chip} {cs : List Req}
    (h : Steps (pol c) c p s cs p' s') :
    ∀ m : Machine, m c = s → runM pol p m = after cs (runM pol p' (m.set c s')) := by
  induction h with
  | refl => intro m hm; rw [← hm, Machine.set_self]; rfl
  | send hr _ ih =>
    intro m hm
    rw [Rig.C10.runM, hr, hm, ih _ (Machine.set_same ..), Machine.set_set]
    rfl

theorem runM_getEntries (pol : ChipXY → Pol) (m : Machine) (scpLen : Nat) (c : ChipXY) (hb : 0 < scpLen)
    (hsv : SvWord (m c) svRtrCopy (m c).copyBase) (hrows : ∀ j, j < rtrEntries → ((m c).rows j).Ok) :
    runM pol (getEntries scpLen c.1 c.2) m =
      (m, .ok (readback (m c).rows),
       (Rig.C07.read scpLen (svBase + svRtrCopy) 4).map (readReq c.1 c.2 0) ++
         (Rig.C07.read scpLen (m c).copyBase (rtrEntries * 16)).map (readReq c.1 c.2 0)) := by
  rw [(getEntries_steps (pol c) (m c) scpLen c.1 c.2 hb hsv hrows).runM m rfl, Machine.set_self]
  simp only [Rig.C10.runM, after, List.append_nil]

/-- what a chip must satisfy for its table to be loadable: entries in the documented range,
`sv.sdram_sys` holds the staging buffer address `buf`, the buffer is outside the router copy -/
structure ChipReady (s : Chip) (entries : List Entry) (buf : Nat) : Prop where
  inRange : ∀ e ∈ entries, e.InRange
  sv : SvWord s svSdramSys buf
  dis : buf + 16 * entries.length ≤ s.copyBase ∨ s.copyBase + 16 * rtrEntries ≤ buf

/-- answer of chip `ct.1` to the allocation of its table, from its initial state -/
def baseOf (pol : ChipXY → Pol) (m : Machine) (app : Nat) (ct : ChipXY × List Entry) : Nat :=
  pol ct.1 (m ct.1).rows app ct.2.length

def tableCmds (pol : ChipXY → Pol) (m : Machine) (scpLen app : Nat) (buf : ChipXY → Nat)
    (ct : ChipXY × List Entry) : List Req :=
  loadCmds scpLen ct.1.1 ct.1.2 app (buf ct.1) (baseOf pol m app ct) ct.2

/-- the loop, up to any point: as long as allocations succeed, the chips processed so far hold
`loadedChip` of their initial state, all other chips are untouched, and the loop continues with the
remaining tables -/
theorem loadTables_prefix (pol : ChipXY → Pol) (scpLen app : Nat) (buf : ChipXY → Nat)
    (hpol : ∀ c, PolValid (pol c)) (hb : 0 < scpLen) (ha : app < 256) (pre post : Tables) :
    ∀ m : Machine, ((pre ++ post).map (·.1)).Nodup →
      (∀ ct ∈ pre, ChipReady (m ct.1) ct.2 (buf ct.1)) → (∀ ct ∈ pre, baseOf pol m app ct ≠ 0) →
      ∃ m1 : Machine,
        runM pol (loadTables scpLen app (pre ++ post)) m =
          after (pre.flatMap (tableCmds pol m scpLen app buf)) (runM pol (loadTables scpLen app post) m1) ∧
        (∀ ct ∈ pre, m1 ct.1 = loadedChip (m ct.1) (buf ct.1) (baseOf pol m app ct) app ct.2) ∧
        (∀ c, c ∉ pre.map (·.1) → m1 c = m c) := by
  induction pre with
  | nil => exact fun m _ _ _ => ⟨m, rfl, nofun, fun _ _ => rfl⟩
  | cons ct pre ih =>
    obtain ⟨c, es⟩ := ct
    intro m hnd hrdy hbase
    have hc : pol c (m c).rows app es.length ≠ 0 := hbase (c, es) List.mem_cons_self
    have hr := hrdy (c, es) List.mem_cons_self
    simp only [List.cons_append, List.map_cons, List.nodup_cons, List.map_append, List.mem_append, not_or] at hnd
    -- the first chip is loaded; the chips of `pre` are elsewhere, so nothing they depend on has changed
    let m' := m.set c (loadedChip (m c) (buf c) (pol c (m c).rows app es.length) app es)
    have hm' : ∀ ct ∈ pre, m' ct.1 = m ct.1 := fun ct hct =>
      Machine.set_other m c ct.1 _ fun h => hnd.1.1 (h ▸ List.mem_map_of_mem hct)
    have hbo : ∀ ct ∈ pre, baseOf pol m' app ct = baseOf pol m app ct := by
      intro ct hct; simp only [baseOf, hm' ct hct]
    obtain ⟨m1, hrun, hin, hout⟩ := ih m' (by rw [List.map_append]; exact hnd.2)
      (fun ct hct => hm' ct hct ▸ hrdy ct (List.mem_cons_of_mem _ hct))
      (fun ct hct => hbo ct hct ▸ hbase ct (List.mem_cons_of_mem _ hct))
    refine ⟨m1, ?_, ?_, fun c' hc' => ?_⟩
    · rw [List.cons_append, loadTables,
        (loadEntries_steps (pol c) (m c) scpLen c.1 c.2 app (buf c) es _ hb ha hc (hpol c)
          hr.inRange hr.sv hr.dis).runM m rfl,
        hrun, after_after, List.flatMap_def, List.map_congr_left fun ct hct => by rw [tableCmds, hbo ct hct],
        ← List.flatMap_def]
      rfl
    · intro ct hct
      rcases List.mem_cons.1 hct with rfl | hct
      · exact (hout _ hnd.1.1).trans (Machine.set_same m _ _)
      · rw [hin ct hct, hm' ct hct, hbo ct hct]
    · rw [List.map_cons, List.mem_cons, not_or] at hc'
      exact (hout c' hc'.2).trans (Machine.set_other m c c' _ hc'.1)

end Rig.C10
