/-
C02 - the annealing kernel (sa/python_kernel.py): the state invariant `SAInv`, which `__init__` establishes
and `_swap` / `_step` / `run_steps` keep, and under which the kernel raises nothing.
Each function of the kernel has one statement `Except.Sat E Q`: `E` names the only ways it can fail, and the
caller refutes them from the invariant.
-/
import RigModel.Lemmas.C02Merge

namespace Rig.C02

def sumDem (vr : VR) (i : Nat) : List Vtx → Int
  | [] => 0
  | v :: vs => dem ((aget vr v).getD []) i + sumDem vr i vs

abbrev St := Placement × List Vtx × List Vtx × Res × Res

/-- body of `for va in vas` (move `va` to chip `b`) -/
def mvA (vr : VR) (b : Chip) (st : St) (va : Vtx) : M St :=
  let (p, la, lb, ra, rb) := st
  if va ∉ la then (.error .valueError : M _) else
  match aget vr va with
  | none => .error .keyError
  | some d => .ok (aset p va b, la.erase va, lb ++ [va], add ra d, sub rb d)

/-- body of `for vb in vbs` (move `vb` to chip `a`) -/
def mvB (vr : VR) (a : Chip) (st : St) (vb : Vtx) : M St :=
  let (p, la, lb, ra, rb) := st
  if vb ∉ lb then (.error .valueError : M _) else
  match aget vr vb with
  | none => .error .keyError
  | some d => .ok (aset p vb a, la ++ [vb], lb.erase vb, sub ra d, add rb d)

theorem swap_eq (vr : VR) (s : SA) (vas : List Vtx) (a : Chip) (vbs : List Vtx) (b : Chip) :
    swap vr s vas a vbs b = (do
      let la ← (aget s.l2v a).elim (.error .keyError) pure
      let lb ← (aget s.l2v b).elim (.error .keyError) pure
      let ra ← (s.m.get a).elim (.error .indexError) pure
      let rb ← (s.m.get b).elim (.error .indexError) pure
      let st1 ← vas.foldlM (mvA vr b) (s.p, la, lb, ra, rb)
      let st2 ← vbs.foldlM (mvB vr a) st1
      let m1 ← (s.m.set a st2.2.2.2.1).elim (.error .indexError) pure
      let m2 ← (m1.set b st2.2.2.2.2).elim (.error .indexError) pure
      pure { m := m2, p := st2.1, l2v := aset (aset s.l2v a st2.2.1) b st2.2.2.1 }) := rfl

/-- what the loops of `_swap` maintain for the two chips `a`, `b` involved (`pref` is the
placement before the swap) -/
structure FI (vr : VR) (pref : Placement) (a b : Chip) (na nb : Nat) (Ta Tb : Nat → Int)
    (p : Placement) (la lb : List Vtx) (ra rb : Res) : Prop where
  lenA : ra.length = na
  lenB : rb.length = nb
  eqA : ∀ i, i < na → dem ra i = Ta i - load vr p a i
  eqB : ∀ i, i < nb → dem rb i = Tb i - load vr p b i
  laIff : ∀ v, v ∈ la ↔ aget p v = some a
  lbIff : ∀ v, v ∈ lb ↔ aget p v = some b
  laNd : la.Nodup
  lbNd : lb.Nodup
  pnd : (keys p).Nodup
  pkeys : ∀ v, v ∈ keys p ↔ v ∈ keys pref
  other : ∀ v c, c ≠ a → c ≠ b → (aget p v = some c ↔ aget pref v = some c)

theorem FI.symm {vr pref a b na nb Ta Tb p la lb ra rb}
    (I : FI vr pref a b na nb Ta Tb p la lb ra rb) : FI vr pref b a nb na Tb Ta p lb la rb ra :=
  ⟨I.lenB, I.lenA, I.eqB, I.eqA, I.lbIff, I.laIff, I.lbNd, I.laNd, I.pnd, I.pkeys,
    fun v c h1 h2 => I.other v c h2 h1⟩

theorem FI.step {vr pref a b na nb Ta Tb p la lb ra rb}
    (I : FI vr pref a b na nb Ta Tb p la lb ra rb) (hn : (keys vr).Nodup) (hab : a ≠ b)
    {v : Vtx} {d : Res} (hv : v ∈ la) (hd : aget vr v = some d) :
    FI vr pref a b na nb Ta Tb (aset p v b) (la.erase v) (lb ++ [v]) (add ra d) (sub rb d) := by
  have hpa : aget p v = some a := (I.laIff v).1 hv
  have hba : ¬ b = a := fun h => hab h.symm
  have hsab : ¬ some a = some b := fun h => hab (Option.some.inj h)
  have hvb : v ∉ lb := fun h => hsab (hpa.symm.trans ((I.lbIff v).1 h))
  have hk : keys (aset p v b) = keys p := by
    rw [keys_aset, if_pos ((aget_isSome_iff p v).1 (by rw [hpa]; rfl))]
  refine ⟨by rw [add_length]; exact I.lenA, by rw [sub_length]; exact I.lenB, fun i hi => ?_, fun i hi => ?_,
    fun w => ?_, fun w => ?_, I.laNd.erase v, ?_, hk ▸ I.pnd, fun w => hk ▸ I.pkeys w, fun w c h1 h2 => ?_⟩
  · rw [dem_add (by rw [I.lenA]; exact hi), I.eqA i hi, load_aset_eq vr p v b a d i hn hd,
      if_pos hpa, if_neg hba]
    omega
  · rw [dem_sub (by rw [I.lenB]; exact hi), I.eqB i hi, load_aset_eq vr p v b b d i hn hd,
      if_neg (by rw [hpa]; exact hsab), if_pos rfl]
    omega
  · rw [I.laNd.mem_erase_iff, I.laIff w, aget_aset_eq_of_ne _ _ _ _ (fun h => hab (Option.some.inj h))]
  · rw [List.mem_append, List.mem_singleton, I.lbIff w, aget_aset_eq_self]
    exact or_comm
  · exact List.nodup_append.2 ⟨I.lbNd, List.pairwise_singleton _ _, fun x hx y hy e =>
      hvb (List.mem_singleton.1 hy ▸ e ▸ hx)⟩
  · rw [aget_aset_eq_of_ne _ _ _ _ (fun h => h2 (Option.some.inj h)), ← I.other w c h1 h2]
    exact and_iff_right_of_imp fun h e => h1 (Option.some.inj ((e ▸ h).symm.trans hpa))

theorem foldB_sat {vr pref a b na nb Ta Tb} (hn : (keys vr).Nodup) (hab : a ≠ b) :
    ∀ (vs : List Vtx) p la lb ra rb, FI vr pref a b na nb Ta Tb p la lb ra rb →
      Except.Sat (fun _ => ¬ (vs.Nodup ∧ (∀ v ∈ vs, v ∈ lb) ∧ ∀ v ∈ vs, v ∈ keys vr))
        (fun st' => FI vr pref a b na nb Ta Tb st'.1 st'.2.1 st'.2.2.1 st'.2.2.2.1 st'.2.2.2.2 ∧
          st'.1 = vs.foldl (fun q v => aset q v a) p ∧
          (∀ i, i < na → dem st'.2.2.2.1 i = dem ra i - sumDem vr i vs) ∧
          (∀ i, i < nb → dem st'.2.2.2.2 i = dem rb i + sumDem vr i vs))
        (vs.foldlM (mvB vr a) (p, la, lb, ra, rb)) := by
  intro vs
  induction vs with
  | nil => exact fun p la lb ra rb I => ⟨I, rfl, fun i _ => (Int.sub_zero _).symm, fun i _ => (Int.add_zero _).symm⟩
  | cons v t ih =>
    intro p la lb ra rb I
    rw [List.foldlM_cons]
    simp only [mvB]
    by_cases hv : v ∈ lb
    · rw [if_neg (not_not_intro hv)]
      cases hd : aget vr v with
      | none => exact fun h => aget_none_iff.1 hd (h.2.2 v List.mem_cons_self)
      | some d =>
        refine ((ih _ _ _ _ _ (I.symm.step hn (fun e => hab e.symm) hv hd).symm).imp ?_).imp_error ?_
        · rintro st' ⟨I', e1, e4, e5⟩
          refine ⟨I', e1, fun i hi => ?_, fun i hi => ?_⟩
          · rw [e4 i hi, dem_sub (I.lenA ▸ hi)]; simp only [sumDem, hd, Option.getD_some]; omega
          · rw [e5 i hi, dem_add (I.lenB ▸ hi)]; simp only [sumDem, hd, Option.getD_some]; omega
        · rintro _ hE ⟨h1, h2, h3⟩
          have ⟨hvt, ht⟩ := List.nodup_cons.1 h1
          exact hE ⟨ht, fun u hu => (List.mem_erase_of_ne (fun (e : u = v) => hvt (e ▸ hu))).2
            (h2 u (List.mem_cons_of_mem _ hu)), fun u hu => h3 u (List.mem_cons_of_mem _ hu)⟩
    · rw [if_pos hv]
      exact fun h => hv (h.2.1 v List.mem_cons_self)

/-- the part of the invariant `_swap` maintains by itself: `tot c i` is the (time-invariant)
amount of resource `i` chip `c` offers to vertices, `p0` the kernel's initial placement -/
structure SAInvW (vr : VR) (p0 : Placement) (m0 : Machine) (tot : Chip → Nat → Int) (s : SA) : Prop where
  w : s.m.w = m0.w
  h : s.m.h = m0.h
  dead : s.m.dead = m0.dead
  len : ∀ c, m0.ok c = true → (cap s.m c).length = (cap m0 c).length
  freeEq : ∀ c, m0.ok c = true → ∀ i, i < (cap m0 c).length →
    dem (cap s.m c) i = tot c i - load vr s.p c i
  pok : ∀ v c, aget s.p v = some c → m0.ok c = true
  pnodup : (keys s.p).Nodup
  pkeys : ∀ v, v ∈ keys s.p ↔ v ∈ keys p0
  l2v : ∀ c, m0.ok c = true → ∃ vs, aget s.l2v c = some vs ∧ vs.Nodup ∧ ∀ v, v ∈ vs ↔ aget s.p v = some c

/-- the kernel's invariant: `SAInvW`, no chip over-allocated, fixed vertices where `p0` put them -/
structure SAInv (vr : VR) (fixed : List Vtx) (p0 : Placement) (m0 : Machine) (tot : Chip → Nat → Int)
    (s : SA) : Prop extends SAInvW vr p0 m0 tot s where
  nonneg : ∀ c, m0.ok c = true → ∀ i, 0 ≤ dem (cap s.m c) i
  fixedUnmoved : ∀ v, v ∈ fixed → aget s.p v = aget p0 v

theorem SAInvW.ok_eq {vr p0 m0 tot s} (I : SAInvW vr p0 m0 tot s) (c : Chip) : s.m.ok c = m0.ok c :=
  Machine.ok_congr I.w I.h I.dead c

/-- the vertices the placement puts on chip `c`, in insertion order -/
def onChip (p : Placement) (c : Chip) : List Vtx := (p.filter fun vc => decide (vc.2 = c)).map Prod.fst

theorem mkL2v_sat : ∀ (q : Placement) (l : List (Chip × List Vtx)),
    Except.Sat (fun _ => ¬ ∀ vc ∈ q, vc.2 ∈ keys l) (fun l' => ∀ c, aget l' c = (aget l c).map (· ++ onChip q c))
      (q.foldlM (fun l (vc : Vtx × Chip) =>
        match aget l vc.2 with
        | none => (.error .keyError : M _)
        | some vs => .ok (aset l vc.2 (vs ++ [vc.1]))) l) := by
  intro q
  induction q with
  | nil => intro l c; cases aget l c <;> simp [onChip]
  | cons hd t ih =>
    obtain ⟨v, c0⟩ := hd
    intro l
    rw [List.foldlM_cons]
    cases hvs : aget l c0 with
    | none => exact fun h => aget_none_iff.1 hvs (h (v, c0) List.mem_cons_self)
    | some vs =>
      refine ((ih (aset l c0 (vs ++ [v]))).imp fun l' hl c => ?_).imp_error fun _ hE h => hE fun vc hvc =>
        (mem_keys_aset ..).2 (Or.inr (h vc (List.mem_cons_of_mem _ hvc)))
      rw [hl c, aget_aset]
      by_cases e : c0 = c
      · subst e
        simp only [hvs, if_true, Option.map_some, onChip, List.filter_cons, decide_true,
          List.map_cons, List.append_assoc, List.singleton_append]
      · simp only [onChip, List.filter_cons, e, decide_false, Bool.false_eq_true, if_false]

theorem aget_map_nil (l : List Chip) (c : Chip) :
    aget (l.map fun c => (c, ([] : List Vtx))) c = if c ∈ l then some [] else none := by
  induction l with
  | nil => simp [aget]
  | cons x t ih =>
    simp only [List.map_cons, aget, ih, List.mem_cons]
    by_cases e : x = c
    · subst e; simp
    · have : ¬ c = x := fun h => e h.symm
      simp [e, this]

theorem mem_iff_aget {p : Placement} (hn : (keys p).Nodup) (v : Vtx) (c : Chip) :
    (v, c) ∈ p ↔ aget p v = some c := by
  rw [aget_eq_lookup]; exact Assoc.mem_iff_lookup hn

theorem mem_onChip {p : Placement} (hn : (keys p).Nodup) (v : Vtx) (c : Chip) :
    v ∈ onChip p c ↔ aget p v = some c := by
  rw [← mem_iff_aget hn]
  simp only [onChip, List.mem_map, List.mem_filter, decide_eq_true_eq]
  constructor
  · rintro ⟨⟨u, cu⟩, ⟨h1, h2⟩, h3⟩
    simp at h2 h3; subst h2; subst h3; exact h1
  · intro h; exact ⟨(v, c), ⟨h, rfl⟩, rfl⟩

theorem nodup_onChip {p : Placement} (hn : (keys p).Nodup) (c : Chip) : (onChip p c).Nodup := by
  have : (onChip p c).Sublist (keys p) := by
    unfold onChip keys
    exact List.Sublist.map _ List.filter_sublist
  exact List.Nodup.sublist this hn

theorem SAInv.start {vr : VR} {m m2 : Machine} {rsv : Chip → Nat → Int} {p0 : Placement} (fixed : List Vtx)
    {l2v : List (Chip × List Vtx)} (I : Inv vr m rsv m2 p0) (h : mkL2v m2 p0 = .ok l2v) :
    SAInv vr fixed p0 m2 (fun c i => dem (cap m2 c) i + load vr p0 c i) { m := m2, p := p0, l2v := l2v } := by
  have hl := (mkL2v_sat p0 _).ok h
  refine ⟨⟨rfl, rfl, rfl, fun _ _ => rfl, fun c hc i hi => by show dem (cap m2 c) i = _ - load vr p0 c i; omega, ?_,
    I.pnodup, fun _ => Iff.rfl, ?_⟩, ?_, fun _ _ => rfl⟩
  · intro v c hv; rw [I.ok_eq]; exact I.pok v c hv
  · intro c hc
    refine ⟨onChip p0 c, ?_, nodup_onChip I.pnodup c, fun v => mem_onChip I.pnodup v c⟩
    show aget l2v c = _
    rw [hl c, aget_map_nil, if_pos ((mem_chips_iff m2 c).2 hc)]
    simp
  · intro c hc i; exact I.nonneg c (by rw [← I.ok_eq]; exact hc) i

theorem SAInv.toInv {vr : VR} {m m2 : Machine} {rsv : Chip → Nat → Int} {p0 : Placement} {fixed : List Vtx}
    {s : SA} (I : Inv vr m rsv m2 p0)
    (J : SAInv vr fixed p0 m2 (fun c i => dem (cap m2 c) i + load vr p0 c i) s) :
    Inv vr m rsv s.m s.p := by
  have hok : ∀ c, m.ok c = true → m2.ok c = true := fun c hc => by rw [I.ok_eq]; exact hc
  refine ⟨J.w.trans I.w, J.h.trans I.h, J.dead.trans I.dead, ?_, ?_, ?_, ?_, ?_, J.pnodup⟩
  · intro c hc; rw [J.len c (hok c hc), I.len c hc]
  · intro c hc i; exact J.nonneg c (hok c hc) i
  · intro c hc i hi
    have := J.freeEq c (hok c hc) i (by rw [I.len c hc]; exact hi)
    have := I.bound c hc i hi
    omega
  · intro v c hv; rw [← I.ok_eq]; exact J.pok v c hv
  · intro v hv; exact I.pvr v ((J.pkeys v).1 hv)

theorem Machine.set_set {m : Machine} {a b : Chip} (ra rb : Res) (ha : m.ok a = true) (hb : m.ok b = true) :
    ∃ m1 m2, m.set a ra = some m1 ∧ m1.set b rb = some m2 ∧ m2.w = m.w ∧ m2.h = m.h ∧ m2.dead = m.dead ∧
      ∀ c, cap m2 c = if b = c then rb else if a = c then ra else cap m c := by
  have hb' : ({ m with exc := aset m.exc a ra } : Machine).ok b = true := hb
  obtain ⟨_, w1, h1, d1, _, c1⟩ := Machine.set_some (Machine.set_of_ok ra ha)
  obtain ⟨_, w2, h2, d2, _, c2⟩ := Machine.set_some (Machine.set_of_ok rb hb')
  exact ⟨_, _, Machine.set_of_ok ra ha, Machine.set_of_ok rb hb', w2.trans w1, h2.trans h1, d2.trans d1,
    fun c => by rw [c2 c, c1 c]⟩

theorem swap_sat {vr p0 m0 tot} {s : SA} {x : Vtx} {dx : Res} {a b : Chip} {vbs : List Vtx}
    (hn : (keys vr).Nodup) (hab : a ≠ b) (I : SAInvW vr p0 m0 tot s) (hdx : aget vr x = some dx) :
    Except.Sat
      (fun _ => ¬ (aget s.p x = some a ∧ vbs.Nodup ∧ (∀ v ∈ vbs, aget s.p v = some b) ∧ m0.ok b = true ∧
        ∀ v ∈ vbs, v ∈ keys vr))
      (fun s' => SAInvW vr p0 m0 tot s' ∧
        (∀ v, aget s'.p v = if v ∈ vbs then some a else if x = v then some b else aget s.p v) ∧
        (∀ i, i < (cap s.m a).length → dem (cap s'.m a) i = dem (cap s.m a) i + dem dx i - sumDem vr i vbs) ∧
        (∀ i, i < (cap s.m b).length → dem (cap s'.m b) i = dem (cap s.m b) i - dem dx i + sumDem vr i vbs) ∧
        (∀ c, c ≠ a → c ≠ b → cap s'.m c = cap s.m c))
      (swap vr s [x] a vbs b) := by
  rw [swap_eq]
  cases hla : aget s.l2v a with
  | none => exact fun P => by obtain ⟨_, e, _⟩ := I.l2v a (I.pok x a P.1); cases hla.symm.trans e
  | some la =>
  cases hlb : aget s.l2v b with
  | none => exact fun P => by obtain ⟨_, e, _⟩ := I.l2v b P.2.2.2.1; cases hlb.symm.trans e
  | some lb =>
  by_cases hoka : s.m.ok a = true
  case neg => rw [Machine.get_eq, if_neg hoka]; exact fun P => hoka (by rw [I.ok_eq]; exact I.pok x a P.1)
  rw [Machine.get_of_ok hoka]
  by_cases hokb : s.m.ok b = true
  case neg => rw [Machine.get_eq, if_neg hokb]; exact fun P => hokb (by rw [I.ok_eq]; exact P.2.2.2.1)
  have hoka0 : m0.ok a = true := by rw [← I.ok_eq]; exact hoka
  have hokb0 : m0.ok b = true := by rw [← I.ok_eq]; exact hokb
  obtain ⟨la', ela, ndA, iffA⟩ := I.l2v a hoka0
  obtain ⟨lb', elb, ndB, iffB⟩ := I.l2v b hokb0
  cases hla.symm.trans ela
  cases hlb.symm.trans elb
  have F0 : FI vr s.p a b (cap m0 a).length (cap m0 b).length (tot a) (tot b) s.p la lb (cap s.m a) (cap s.m b) :=
    ⟨I.len a hoka0, I.len b hokb0, I.freeEq a hoka0, I.freeEq b hokb0,
      iffA, iffB, ndA, ndB, I.pnodup, fun v => Iff.rfl, fun v c _ _ => Iff.rfl⟩
  rw [Machine.get_of_ok hokb]
  simp only [Option.elim, List.foldlM_cons, List.foldlM_nil, mvA, pure_bind, bind_pure]
  by_cases hxla : x ∈ la
  case neg => rw [if_pos hxla]; exact fun P => hxla ((iffA x).2 P.1)
  rw [if_neg (not_not_intro hxla), hdx]
  show Except.Sat _ _ (List.foldlM (mvB vr a) _ vbs >>= _)
  refine ((foldB_sat hn hab vbs _ _ _ _ _ (F0.step hn hab hxla hdx)).imp_error ?_).bind ?_
  · rintro _ hE ⟨-, P2, P3, -, P5⟩
    exact hE ⟨P2, fun v hv => List.mem_append_left _ ((iffB v).2 (P3 v hv)), P5⟩
  rintro ⟨p2, la2, lb2, ra2, rb2⟩ - ⟨F2, e1, e4, e5⟩
  obtain ⟨m1, m2, em1, em2, hw, hh, hd, hcap⟩ := Machine.set_set ra2 rb2 hoka hokb
  rw [em1]
  simp only [pure_bind]
  rw [em2]
  have hba : ¬ b = a := fun e => hab e.symm
  -- afterwards chips `a` and `b` are as the loops left them, every other chip as before
  have key : ∀ c, m0.ok c = true →
      (cap m2 c).length = (cap m0 c).length ∧
      (∀ i, i < (cap m0 c).length → dem (cap m2 c) i = tot c i - load vr p2 c i) ∧
      ∃ vs, aget (aset (aset s.l2v a la2) b lb2) c = some vs ∧ vs.Nodup ∧ ∀ v, v ∈ vs ↔ aget p2 v = some c := by
    intro c hc
    rw [hcap c, aget_aset, aget_aset]
    by_cases eb : b = c
    · subst eb
      simp only
      exact ⟨F2.lenB, F2.eqB, _, rfl, F2.lbNd, F2.lbIff⟩
    · by_cases ea : a = c
      · subst ea
        simp only [if_neg eb]
        exact ⟨F2.lenA, F2.eqA, _, rfl, F2.laNd, F2.laIff⟩
      · simp only [if_neg eb, if_neg ea]
        obtain ⟨vs, q1, q2, q3⟩ := I.l2v c hc
        have ho := fun v => F2.other v c (fun e => ea e.symm) (fun e => eb e.symm)
        exact ⟨I.len c hc, fun i hi => by rw [I.freeEq c hc i hi, load_congr_chip vr _ _ c i fun v _ => ho v],
          vs, q1, q2, fun v => (q3 v).trans (ho v).symm⟩
  refine ⟨⟨hw.trans I.w, hh.trans I.h, hd.trans I.dead, fun c hc => (key c hc).1, fun c hc => (key c hc).2.1, ?_,
    F2.pnd, fun v => (F2.pkeys v).trans (I.pkeys v), fun c hc => (key c hc).2.2⟩, ?_, ?_, ?_, ?_⟩
  · intro v c hv
    by_cases eb : c = b
    · subst eb; exact hokb0
    · by_cases ea : c = a
      · subst ea; exact hoka0
      · exact I.pok v c ((F2.other v c ea eb).1 hv)
  · intro v
    rw [show p2 = _ from e1, aget_foldl_aset, aget_aset]
  · intro i hi
    show dem (cap m2 a) i = _
    rw [hcap a, if_neg hba, if_pos rfl, e4 i (by rw [← I.len a hoka0]; exact hi), dem_add hi]
  · intro i hi
    show dem (cap m2 b) i = _
    rw [hcap b, if_pos rfl, e5 i (by rw [← I.len b hokb0]; exact hi), dem_sub hi]
  · intro c hca hcb
    show cap m2 c = _
    rw [hcap c, if_neg (fun e => hcb e.symm), if_neg (fun e => hca e.symm)]

theorem candidate_sat (vr : VR) (fixed : List Vtx) (need : Res) (vs : List Vtx) (free : Res) (acc : List Vtx) :
    Except.Sat (fun _ => ¬ ∀ v ∈ vs, v ∈ keys vr)
      (fun r => ∀ dvs, r = some dvs →
        ∃ moved, dvs = acc ++ moved ∧ moved.Sublist vs ∧ (∀ v ∈ moved, v ∉ fixed) ∧
          ∀ i, i < free.length → 0 ≤ dem free i + sumDem vr i moved - dem need i)
      (candidate vr fixed need vs free acc) := by
  have hE : ∀ {v : Vtx} {rest : List Vtx} (e : Err), (¬ ∀ u ∈ rest, u ∈ keys vr) → ¬ ∀ u ∈ v :: rest, u ∈ keys vr :=
    fun _ hE h => hE (List.forall_mem_cons.1 h).2
  fun_induction candidate vr fixed need vs free acc with
  | case1 vs free acc ho =>
    -- the proposal collected so far is returned as soon as it makes room for `need`
    rintro _ ⟨⟩
    refine ⟨[], by simp, List.nil_sublist _, by simp, fun i hi => ?_⟩
    have := (over_false_iff _).1 (by simpa using ho) i (by rw [sub_length]; exact hi)
    rw [dem_sub hi] at this
    simp only [sumDem]; omega
  | case2 => exact nofun
  | case3 free acc _ v rest hvf ih =>
    refine (ih.imp fun r hr dvs e => ?_).imp_error hE
    obtain ⟨moved, e1, e2, e3, e4⟩ := hr dvs e
    exact ⟨moved, e1, e2.cons _, e3, e4⟩
  | case4 free acc _ v rest _ hd => exact fun h => aget_none_iff.1 hd (h v List.mem_cons_self)
  | case5 free acc _ v rest hvf d hd ih =>
    refine (ih.imp fun r hr dvs e => ?_).imp_error hE
    obtain ⟨moved, e1, e2, e3, e4⟩ := hr dvs e
    refine ⟨v :: moved, by rw [e1]; simp, e2.cons_cons _, ?_, fun i hi => ?_⟩
    · intro u hu
      rcases List.mem_cons.1 hu with rfl | hu
      · exact hvf
      · exact e3 u hu
    · have := e4 i (by rw [add_length]; exact hi)
      rw [dem_add hi] at this
      simp only [sumDem, hd, Option.getD_some]; omega

/-- the return-fit computation of `_step`: `r0` less the demands of `dvs` -/
def saReturnFit (vr : VR) (dvs : List Vtx) (r0 : Res) : M Res :=
  dvs.foldlM (fun (r : Res) v =>
    match aget vr v with
    | none => (.error .keyError : M Res)
    | some d => .ok (sub r d)) r0

theorem back_sat (vr : VR) : ∀ dvs r0,
    Except.Sat (fun _ => ¬ ∀ v ∈ dvs, v ∈ keys vr)
      (fun back => ∀ i, i < r0.length → dem back i = dem r0 i - sumDem vr i dvs) (saReturnFit vr dvs r0) := by
  intro dvs
  induction dvs with
  | nil => exact fun r0 i _ => (Int.sub_zero _).symm
  | cons v t ih =>
    intro r0
    unfold saReturnFit
    rw [List.foldlM_cons]
    cases hd : aget vr v with
    | none => exact fun h => aget_none_iff.1 hd (h v List.mem_cons_self)
    | some d =>
      refine ((ih (sub r0 d)).imp fun back e2 i hi => ?_).imp_error fun _ hE h => hE (List.forall_mem_cons.1 h).2
      rw [sub_length] at e2
      rw [e2 i hi, dem_sub hi]; simp only [sumDem, hd, Option.getD_some]; omega

/-- `_step` once its four lookups have succeeded: the fifth branch of `saStep` is this by unfolding, which is how
`SAInv.step_sat` uses `saTry_sat` -/
def saTry (vr : VR) (fixed : List Vtx) (s : SA) (src : Vtx) (srcLoc dst : Chip) (accept : Bool)
    (need free : Res) (vs : List Vtx) (srcFree : Res) : M (SA × Bool) := do
  match ← candidate vr fixed need vs free [] with
  | none => pure (s, false)
  | some dvs =>
    let back ← saReturnFit vr dvs (add srcFree need)
    if over back then pure (s, false)
    else do
      let s1 ← swap vr s [src] srcLoc dvs dst
      if accept then pure (s1, true)
      else do
        let s2 ← swap vr s1 [src] dst dvs srcLoc
        pure (s2, true)

theorem SAInvW.toSAInv {vr fixed p0 m0 tot s} (W : SAInvW vr p0 m0 tot s)
    (hnn : ∀ c, m0.ok c = true → ∀ i, i < (cap m0 c).length → 0 ≤ dem (cap s.m c) i)
    (hfix : ∀ v, v ∈ fixed → aget s.p v = aget p0 v) : SAInv vr fixed p0 m0 tot s := by
  refine ⟨W, fun c hc i => ?_, hfix⟩
  by_cases hi : i < (cap m0 c).length
  · exact hnn c hc i hi
  · rw [dem_ge_length _ i (by rw [W.len c hc]; omega)]; omega

/-- the free resources are a function of the placement -/
theorem SAInv.congr_p {vr fixed p0 m0 tot s s'} (I : SAInv vr fixed p0 m0 tot s) (W : SAInvW vr p0 m0 tot s')
    (h : ∀ v, aget s'.p v = aget s.p v) : SAInv vr fixed p0 m0 tot s' := by
  refine W.toSAInv (fun c hc i hi => ?_) fun v hv => (h v).trans (I.fixedUnmoved v hv)
  rw [W.freeEq c hc i hi, load_congr vr s'.p s.p c i (fun v _ => h v), ← I.freeEq c hc i hi]
  exact I.nonneg c hc i

theorem saTry_sat {vr fixed p0 m0 tot} {s : SA} {src srcLoc dst accept need vs}
    (hn : (keys vr).Nodup) (I : SAInv vr fixed p0 m0 tot s) (hsf : src ∉ fixed)
    (hsrc : aget s.p src = some srcLoc) (hab : srcLoc ≠ dst) (hneed : aget vr src = some need)
    (hokd0 : m0.ok dst = true) (ndvs : vs.Nodup) (iffvs : ∀ v, v ∈ vs ↔ aget s.p v = some dst) :
    Except.Sat (fun _ => ¬ ∀ v c, aget s.p v = some c → v ∈ keys vr) (fun r => SAInv vr fixed p0 m0 tot r.1)
      (saTry vr fixed s src srcLoc dst accept need (cap s.m dst) vs (cap s.m srcLoc)) := by
  have hoks0 : m0.ok srcLoc = true := I.pok src srcLoc hsrc
  unfold saTry
  refine ((candidate_sat vr fixed need vs (cap s.m dst) []).imp_error ?_).bind ?_
  · exact fun _ hE K => hE fun v hv => K v dst ((iffvs v).1 hv)
  intro cand _ hcand
  cases cand with
  | none => exact I
  | some dvs =>
  obtain ⟨moved, em, hsub, hmf, hfit⟩ := hcand dvs rfl
  simp only [List.nil_append] at em; subst em
  have hdv : ∀ v ∈ dvs, aget s.p v = some dst := fun v hv => (iffvs v).1 (hsub.subset hv)
  have hdnd : dvs.Nodup := List.Nodup.sublist hsub ndvs
  refine ((back_sat vr dvs (add (cap s.m srcLoc) need)).imp_error ?_).bind ?_
  · exact fun _ hE K => hE fun v hv => K v dst (hdv v hv)
  rintro back - eb2
  rw [add_length] at eb2
  by_cases hob : over back = true
  · simp only [hob, if_true]; exact I
  simp only [hob, Bool.false_eq_true, if_false]
  refine ((swap_sat hn hab I.toSAInvW hneed).imp_error ?_).bind ?_
  · exact fun _ hE K => hE ⟨hsrc, hdnd, hdv, hokd0, fun v hv => K v dst (hdv v hv)⟩
  rintro s1 - ⟨W1, hp1, hA1, hB1, hO1⟩
  have hp1' : ∀ v, v ∉ dvs → v ≠ src → aget s1.p v = aget s.p v := by
    intro v h1 h2; rw [hp1 v, if_neg h1, if_neg (Ne.symm h2)]
  have I1 : SAInv vr fixed p0 m0 tot s1 := by
    refine W1.toSAInv (fun c hc i hi => ?_) fun v hv => ?_
    · rw [← I.len c hc] at hi
      by_cases ea : c = srcLoc
      · subst ea
        rw [hA1 i hi]
        have := dem_nonneg_of_over (by simpa using hob : over back = false) i
        rwa [eb2 i hi, dem_add hi] at this
      · by_cases eb : c = dst
        · subst eb
          rw [hB1 i hi]
          have := hfit i hi
          omega
        · rw [hO1 c ea eb]; exact I.nonneg c hc i
    · rw [hp1' v (fun h => hmf v h hv) (fun e => hsf (e ▸ hv))]
      exact I.fixedUnmoved v hv
  cases accept with
  | true => exact I1
  | false =>
  have hsrcnd : src ∉ dvs := fun hm => hab (Option.some.inj ((hsrc.symm.trans (hdv src hm))))
  simp only [Bool.false_eq_true, if_false]
  refine ((swap_sat (vbs := dvs) hn (fun e => hab e.symm) W1 hneed).imp_error ?_).bind ?_
  · exact fun _ hE K => hE ⟨by rw [hp1 src, if_neg hsrcnd, if_pos rfl], hdnd, fun v hv => by rw [hp1 v, if_pos hv],
      hoks0, fun v hv => K v dst (hdv v hv)⟩
  rintro s2 - ⟨W2, hp2, -, -, -⟩
  -- the second swap puts every vertex back
  refine I.congr_p W2 fun v => ?_
  rw [hp2 v]
  by_cases h1 : v ∈ dvs
  · rw [if_pos h1, hdv v h1]
  · rw [if_neg h1]
    by_cases h2 : src = v
    · subst h2; rw [if_pos rfl, hsrc]
    · rw [if_neg h2]; exact hp1' v h1 (Ne.symm h2)

theorem SAInv.step_sat {vr : VR} {fixed : List Vtx} {p0 : Placement} {m0 : Machine} {tot : Chip → Nat → Int}
    {s : SA} {src : Vtx} {dst : Chip} {accept : Bool} (hn : (keys vr).Nodup) (I : SAInv vr fixed p0 m0 tot s) :
    Except.Sat (fun e => (∀ v ∈ keys p0, v ∈ keys vr) → src ∈ keys p0 → e = .badOracle)
      (fun r => SAInv vr fixed p0 m0 tot r.1) (saStep vr fixed s src dst accept) := by
  have hkvr : (∀ v ∈ keys p0, v ∈ keys vr) → ∀ v c, aget s.p v = some c → v ∈ keys vr := fun hpvr v c hv =>
    hpvr v ((I.pkeys v).1 ((aget_isSome_iff s.p v).1 (by simp [hv])))
  fun_cases saStep vr fixed s src dst accept
  -- guards: fixed source, unplaced source, destination = source chip, destination off the machine
  case case1 => exact fun _ _ => rfl
  case case2 hsl => exact fun _ hsrc => absurd ((I.pkeys src).2 hsrc) (aget_none_iff.1 hsl)
  case case3 => exact fun _ _ => rfl
  case case4 => exact I
  -- the step proper
  case case5 hsf c hsl hds hokd need free vs srcFree hsF hvs hfree hneed =>
    obtain ⟨hokd', rfl⟩ := Machine.get_some hfree
    obtain ⟨-, rfl⟩ := Machine.get_some hsF
    have hokd0 : m0.ok dst = true := by rw [← I.ok_eq]; exact hokd'
    obtain ⟨vs', evs, ndvs, iffvs⟩ := I.l2v dst hokd0
    cases hvs.symm.trans evs
    exact (saTry_sat hn I hsf hsl (fun e => hds e.symm) hneed hokd0 ndvs iffvs).imp_error
      fun _ hE hpvr _ => absurd (hkvr hpvr) hE
  -- failed lookups
  case case6 hneed => exact fun hpvr hsrc => absurd (hpvr src hsrc) (aget_none_iff.1 hneed)
  case case7 hokd hg _ => rw [Machine.get_of_ok (by simpa using hokd)] at hg; cases hg
  case case8 hokd hl _ _ =>
    obtain ⟨_, e, _⟩ := I.l2v dst (by rw [← I.ok_eq]; simpa using hokd)
    cases hl.symm.trans e
  case case9 c hsl _ _ hg _ _ _ => rw [Machine.get_of_ok (by rw [I.ok_eq]; exact I.pok src c hsl)] at hg; cases hg

theorem SAInv.run_sat {vr : VR} {fixed : List Vtx} {p0 : Placement} {m0 : Machine} {tot : Chip → Nat → Int}
    (hn : (keys vr).Nodup) :
    ∀ (steps : List Step) (s : SA) (fl : List Bool), SAInv vr fixed p0 m0 tot s →
      Except.Sat (fun e => (∀ v ∈ keys p0, v ∈ keys vr) → (∀ st ∈ steps, st.src ∈ keys p0) → e = .badOracle)
        (fun r => SAInv vr fixed p0 m0 tot r.1) (saRun vr fixed steps s fl) := by
  intro steps
  induction steps with
  | nil => exact fun s fl I => I
  | cons st rest ih =>
    intro s fl I
    unfold saRun
    refine ((I.step_sat hn).imp_error fun e hE hpvr hsrc => hE hpvr (hsrc st List.mem_cons_self)).bind ?_
    exact fun r _ I1 => (ih r.1 _ I1).imp_error fun e hE hpvr hsrc =>
      hE hpvr fun st' h' => hsrc st' (List.mem_cons_of_mem _ h')

end Rig.C02
