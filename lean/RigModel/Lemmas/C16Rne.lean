/-
C16 - lemmas about the rounding functions of the model (`rne`, `bitLen`, `round53`): the
round-to-nearest-even specification of `rne`, its uniqueness, symmetry and monotonicity, the binade
facts of `ulpExp` that make `round53` "nearest with 53 significant bits", and the value of
`float(2^n - 1)` for every n (the float bound two converters clip against).
-/
import Mathlib.Tactic.Positivity
import Mathlib.Tactic.Ring
import RigModel.Model.C16

namespace Rig.C16

/-- `q` is `n / d` rounded to the nearest integer, ties to even (relational form, `d > 0`) -/
def IsRne (n d q : Int) : Prop :=
  -d ≤ 2 * (n - q * d) ∧ 2 * (n - q * d) ≤ d ∧
    ((2 * (n - q * d) = d ∨ 2 * (n - q * d) = -d) → q % 2 = 0)

theorem rne_isRne (n : Int) (s : Nat) : IsRne n (2 ^ s) (rne n s) := by
  have hd : (0 : Int) < 2 ^ s := by positivity
  unfold rne IsRne
  simp only
  generalize (2 : Int) ^ s = d at hd ⊢
  have h := Int.ediv_mul_add_emod n d
  have h0 := Int.emod_nonneg n (Int.ne_of_gt hd)
  have h1 := Int.emod_lt_of_pos n hd
  generalize n / d = q at h ⊢
  generalize n % d = r at h h0 h1 ⊢
  split
  · omega
  · split
    · rw [Int.add_mul, Int.one_mul]; omega
    · split
      · omega
      · rw [Int.add_mul, Int.one_mul]; omega

theorem rne_zero (k : Int) : rne k 0 = k := by
  unfold rne; simp

theorem isRne_mono {n n' d q q' : Int} (hd : 0 < d) (hn : n ≤ n') (h : IsRne n d q) (h' : IsRne n' d q') :
    q ≤ q' := by
  obtain ⟨a1, a2, a3⟩ := h
  obtain ⟨b1, b2, b3⟩ := h'
  by_contra hc
  -- then `q = q' + 1` and both are ties, rounded to neighbours that cannot both be even
  have hm : (q' + 1) * d ≤ q * d := Int.mul_le_mul_of_nonneg_right (by omega) (Int.le_of_lt hd)
  obtain ⟨t1, t2, hq⟩ : 2 * (n - q * d) = -d ∧ 2 * (n' - q' * d) = d ∧ q * d = (q' + 1) * d := by
    rw [Int.add_mul, Int.one_mul] at hm ⊢; omega
  have := Int.eq_of_mul_eq_mul_right (Int.ne_of_gt hd) hq
  have := a3 (.inr t1)
  have := b3 (.inl t2)
  omega

theorem isRne_unique {n d q q' : Int} (hd : 0 < d) (h : IsRne n d q) (h' : IsRne n d q') : q = q' :=
  Int.le_antisymm (isRne_mono hd (Int.le_refl n) h h') (isRne_mono hd (Int.le_refl n) h' h)

theorem isRne_neg {n d q : Int} (h : IsRne n d q) : IsRne (-n) d (-q) := by
  unfold IsRne at h ⊢
  rw [Int.neg_mul]
  omega

theorem rne_neg (n : Int) (s : Nat) : rne (-n) s = -rne n s :=
  isRne_unique (by positivity) (rne_isRne (-n) s) (isRne_neg (rne_isRne n s))

theorem rne_mono (n n' : Int) (s : Nat) (h : n ≤ n') : rne n s ≤ rne n' s :=
  isRne_mono (by positivity) h (rne_isRne n s) (rne_isRne n' s)

theorem rne_grid (t : Int) (s : Nat) : rne (t * 2 ^ s) s = t := by
  have hd : (0 : Int) < 2 ^ s := by positivity
  exact isRne_unique hd (rne_isRne _ s) (by unfold IsRne; omega)

theorem grid_far {d q t : Int} (n : Int) (hd : 0 < d) (ht : t ≠ q) : d ≤ |n - t * d| + |n - q * d| := by
  have h1 : 1 ≤ |q - t| := Int.one_le_abs (sub_ne_zero.mpr ht.symm)
  calc d = 1 * d := (Int.one_mul d).symm
    _ ≤ |q - t| * d := Int.mul_le_mul_of_nonneg_right h1 (Int.le_of_lt hd)
    _ = |(n - t * d) - (n - q * d)| := by rw [← abs_of_pos hd, ← abs_mul, abs_of_pos hd]; congr 1; ring
    _ ≤ |n - t * d| + |n - q * d| := abs_sub _ _

theorem isRne_abs_le {n d q : Int} (h : IsRne n d q) : 2 * |n - q * d| ≤ d := by
  obtain ⟨a1, a2, _⟩ := h
  rcases abs_cases (n - q * d) with ⟨e, _⟩ | ⟨e, _⟩ <;> omega

/-- **nearest:** no multiple of the spacing is closer -/
theorem isRne_nearest {n d q : Int} (hd : 0 < d) (h : IsRne n d q) (t : Int) :
    |n - q * d| ≤ |n - t * d| := by
  by_cases ht : t = q
  · rw [ht]
  · have := grid_far n hd ht
    have := isRne_abs_le h
    omega

theorem isRne_half {n d q : Int} (h : IsRne n d q) (he : 2 * |n - q * d| = d) : q % 2 = 0 :=
  h.2.2 (by rcases abs_cases (n - q * d) with ⟨e, _⟩ | ⟨e, _⟩ <;> omega)

/-- **ties to even:** another multiple at the same distance means the chosen one is even -/
theorem isRne_tie {n d q : Int} (hd : 0 < d) (h : IsRne n d q) (t : Int) (ht : t ≠ q)
    (heq : |n - t * d| = |n - q * d|) : q % 2 = 0 := by
  have := grid_far n hd ht
  have := isRne_abs_le h
  exact isRne_half h (by omega)

theorem bitLen_le_iff {n b : Nat} : bitLen n ≤ b ↔ n < 2 ^ b := by
  unfold bitLen
  split
  · rename_i h; rw [h]; exact ⟨fun _ => Nat.two_pow_pos b, fun _ => Nat.zero_le b⟩
  · rename_i h; exact Nat.succ_le_iff.trans (Nat.log2_lt h)

theorem natAbs_le_pow_iff {m : Int} {b : Nat} : m.natAbs ≤ 2 ^ b ↔ |m| ≤ 2 ^ b := by
  rw [Int.abs_eq_natAbs]; exact_mod_cast Iff.rfl

/-- the exponent `round53` chooses: `bitLen |k| - 53` (0 up to 53 bits) -/
def ulpExp (k : Int) : Nat := bitLen k.natAbs - 53

theorem round53_m (k : Int) : (round53 k).m = rne k (ulpExp k) := rfl
theorem round53_e (k : Int) : (round53 k).e = (ulpExp k : Int) := rfl

theorem round53Val_eq (k : Int) : round53Val k = rne k (ulpExp k) * 2 ^ ulpExp k := by
  unfold round53Val
  rw [round53_m, round53_e, Int.toNat_natCast]

theorem ulpExp_neg (k : Int) : ulpExp (-k) = ulpExp k := by
  unfold ulpExp; rw [Int.natAbs_neg]

theorem rne_ge_of_grid_le {n t : Int} {s : Nat} (h : t * 2 ^ s ≤ n) : t ≤ rne n s := by
  have := rne_mono _ _ s h
  rwa [rne_grid] at this

theorem rne_le_of_grid_ge {n t : Int} {s : Nat} (h : n ≤ t * 2 ^ s) : rne n s ≤ t := by
  have := rne_mono _ _ s h
  rwa [rne_grid] at this

/-- `ulpExp k` is the least `s` for which `k` has at most `53 + s` bits -/
theorem ulpExp_le_iff {k : Int} {s : Nat} : ulpExp k ≤ s ↔ |k| < 2 ^ 53 * 2 ^ s := by
  rw [ulpExp, Nat.sub_le_iff_le_add', bitLen_le_iff, Int.abs_eq_natAbs, ← Int.pow_add]
  exact_mod_cast Iff.rfl

/-- `k` lies below the top of the binade `ulpExp` assigns to it ... -/
theorem abs_lt_ulp (k : Int) : |k| < 2 ^ 53 * 2 ^ ulpExp k := ulpExp_le_iff.mp (Nat.le_refl _)

/-- ... and, when rounding happens (`ulpExp k > 0`), above its bottom -/
theorem ulp_le_abs (k : Int) (hs : 0 < ulpExp k) : 2 ^ 52 * 2 ^ ulpExp k ≤ |k| := by
  obtain ⟨j, hj⟩ := Nat.exists_eq_add_one_of_ne_zero (Nat.ne_of_gt hs)
  have h : ¬ ulpExp k ≤ j := by omega
  rw [ulpExp_le_iff, Int.not_lt] at h
  rwa [hj, Int.pow_succ 2 j, Int.mul_comm (2 ^ j) 2, ← Int.mul_assoc]

theorem ulpExp_mono {k k' : Int} (h : |k| ≤ |k'|) : ulpExp k ≤ ulpExp k' :=
  ulpExp_le_iff.mpr (lt_of_le_of_lt h (abs_lt_ulp k'))

theorem round53Val_nonneg {k : Int} (h : 0 ≤ k) : 0 ≤ round53Val k := by
  rw [round53Val_eq]
  have := rne_ge_of_grid_le (t := 0) (n := k) (s := ulpExp k) (by rwa [Int.zero_mul])
  positivity

theorem rne_abs_le {n B : Int} {s : Nat} (h : |n| ≤ B * 2 ^ s) : |rne n s| ≤ B := by
  have := abs_le.mp h
  exact abs_le.mpr ⟨rne_ge_of_grid_le (by rw [Int.neg_mul]; exact this.1), rne_le_of_grid_ge this.2⟩

theorem le_rne_abs {n B : Int} {s : Nat} (h : B * 2 ^ s ≤ |n|) : B ≤ |rne n s| := by
  rcases abs_cases n with ⟨e, _⟩ | ⟨e, _⟩ <;> rw [e] at h
  · exact le_trans (rne_ge_of_grid_le h) (le_abs_self _)
  · exact le_trans (Int.le_neg_of_le_neg (rne_le_of_grid_ge (by rw [Int.neg_mul]; omega))) (neg_le_abs _)

/-- the significand `round53` produces has at most 53 bits (`2^53` only by carry) -/
theorem round53_m_le (k : Int) : |(round53 k).m| ≤ 2 ^ 53 := rne_abs_le (Int.le_of_lt (abs_lt_ulp k))

theorem round53_m_natAbs_le (k : Int) : (round53 k).m.natAbs ≤ 2 ^ 53 := natAbs_le_pow_iff.mpr (round53_m_le k)

/-- ... and at least 53 bits when rounding happens: `2^ulpExp k` is the ulp of `k`'s binade -/
theorem round53_m_ge (k : Int) (hs : 0 < ulpExp k) : 2 ^ 52 ≤ |(round53 k).m| := le_rne_abs (ulp_le_abs k hs)

theorem round53Val_of_dvd (k : Int) (h : (2 : Int) ^ ulpExp k ∣ k) : round53Val k = k := by
  obtain ⟨t, ht⟩ := h
  rw [round53Val_eq]
  generalize ulpExp k = s at *
  have : k = t * 2 ^ s := by rw [ht]; ring
  rw [this, rne_grid]

/-- an integer with at most 53 significant bits is a multiple of its ulp, hence exact -/
theorem round53Val_mul_pow (m : Int) (j : Nat) (hm : m.natAbs ≤ 2 ^ 53) :
    round53Val (m * 2 ^ j) = m * 2 ^ j := by
  apply round53Val_of_dvd
  have hj : (0 : Int) < 2 ^ j := by positivity
  have habs : |m * 2 ^ j| = |m| * 2 ^ j := by rw [abs_mul, abs_of_pos hj]
  rcases Int.lt_or_eq_of_le (natAbs_le_pow_iff.mp hm) with h | h
  · -- `|m| < 2^53`: the product fits in `53 + j` bits, its ulp divides `2^j`
    have hs : ulpExp (m * 2 ^ j) ≤ j := ulpExp_le_iff.mpr (by rw [habs]; exact Int.mul_lt_mul_of_pos_right h hj)
    exact Dvd.dvd.mul_left (pow_dvd_pow 2 hs) m
  · -- `|m| = 2^53`: `54 + j` bits, and `2^(j+1)` divides `2^53 * 2^j`
    have hs : ulpExp (m * 2 ^ j) ≤ j + 1 := ulpExp_le_iff.mpr (by rw [habs, h, Int.pow_succ]; omega)
    have h2 : (2 : Int) ∣ m := (dvd_abs 2 m).mp (by rw [h]; exact ⟨2 ^ 52, rfl⟩)
    exact Dvd.dvd.trans (pow_dvd_pow 2 hs) (by rw [Int.pow_succ, Int.mul_comm m]; exact mul_dvd_mul_left _ h2)

theorem abs_pow_pred (n : Nat) : |(2 : Int) ^ n - 1| = 2 ^ n - 1 :=
  abs_of_nonneg (Int.sub_nonneg.mpr (one_le_pow₀ (by decide)))

theorem ulpExp_pow_pred_le {n s : Nat} (hs : n ≤ 53 + s) : ulpExp (2 ^ n - 1) ≤ s := by
  rw [ulpExp_le_iff, abs_pow_pred, ← Int.pow_add]
  exact lt_of_lt_of_le (Int.sub_one_lt_iff.mpr (Int.le_refl _)) (pow_le_pow_right₀ (by decide) hs)

theorem lt_ulpExp_pow_pred (m : Nat) : m < ulpExp (2 ^ (m + 54) - 1) := by
  apply Nat.lt_of_not_le
  rw [ulpExp_le_iff, abs_pow_pred, Int.not_lt, Int.pow_add, Int.mul_comm]
  have : (1 : Int) ≤ 2 ^ m := one_le_pow₀ (by decide)
  omega

theorem ulpExp_pow_pred (n : Nat) : ulpExp (2 ^ n - 1) = n - 53 := by
  rcases Nat.lt_or_ge 53 n with h | h
  · obtain ⟨m, rfl⟩ : ∃ m, n = m + 54 := ⟨n - 54, by omega⟩
    exact Nat.le_antisymm (ulpExp_pow_pred_le (by omega)) (lt_ulpExp_pow_pred m)
  · exact Nat.le_antisymm (ulpExp_pow_pred_le (by omega)) (by omega)

theorem round53Val_pow_pred (n : Nat) :
    round53Val (2 ^ n - 1) = if n ≤ 53 then 2 ^ n - 1 else 2 ^ n := by
  split
  · rename_i h
    apply round53Val_of_dvd
    rw [ulpExp_pow_pred, show n - 53 = 0 by omega]; simp
  · rename_i h
    rw [round53Val_eq, ulpExp_pow_pred]
    have hs : 1 ≤ n - 53 := by omega
    have e2 : (2 : Int) ^ n = 2 ^ 53 * 2 ^ (n - 53) := by rw [← pow_add]; congr 1; omega
    have hd : (2 : Int) ≤ 2 ^ (n - 53) := by
      calc (2 : Int) = 2 ^ 1 := rfl
        _ ≤ 2 ^ (n - 53) := pow_le_pow_right₀ (by decide) hs
    have : rne (2 ^ n - 1) (n - 53) = 2 ^ 53 := by
      apply isRne_unique (by positivity) (rne_isRne _ _)
      unfold IsRne
      rw [e2]
      refine ⟨by omega, by omega, fun _ => by decide⟩
    rw [this, e2]

end Rig.C16
