/-
C14 - probed system description and derived machine model match the machine.
-/
import RigModel.Lemmas.C14Machine
import RigModel.Lemmas.C14Status
import RigModel.Lemmas.Lists

namespace Rig.C14
open Rig.Gen.C14

/-- the generated enumerations are the documented ones: every 3-bit P2P code is an entry, `none`
is 6, links are 0..5, idle is 15 and is a state, the P2P table sits at 0xE1010000, `info` is command 31, a vcpu
block is 128 bytes -/
theorem consts_documented :
    P2P_VALUES = [0, 1, 2, 3, 4, 5, 6, 7] ∧ P2P_NONE = 6 ∧ LINK_VALUES = [0, 1, 2, 3, 4, 5] ∧
    APPSTATE_IDLE = 15 ∧ validState APPSTATE_IDLE = true ∧ SPINNAKER_RTR_P2P = 0xE1010000 ∧
    CMD_INFO = 31 ∧ VCPU_SIZE = 128 := by
  decide

/-- **Chip information.** Decoding the `info` reply the machine specification builds for a chip
returns exactly the chip's core count, the states of its first `cores` core slots, its working
links, the three largest-free figures, the Ethernet flag, IP address and nearest Ethernet chip -
for every value of every field over its full width. -/
theorem chipinfo_roundtrip (c : ChipState) (h : c.WF) : decodeInfo (infoReply c) = .ok (chipView c) :=
  decodeInfo_infoReply c h

/-- non-vacuity: a chip with every field at its maximum is well formed -/
example : ({ cores := 18, states := List.replicate 18 15, links := [0, 1, 2, 3, 4, 5], sdram := 4294967295,
             sram := 4294967295, rtr := 2047, ethUp := true, ip0 := 255, ip1 := 255, ip2 := 255, ip3 := 255,
             ethX := 255, ethY := 255 } : ChipState).WF := by
  unfold ChipState.WF; decide

/-- **P2P table.** For every table `f` of 3-bit entries and all dimensions up to 255 x 255, reading
the table memory laid out by the machine specification (column `x` in the 32 words from
`SPINNAKER_RTR_P2P + 128 x`, row `y` in word `y / 8` at bits `3 (y mod 8)`) yields exactly the entry
`f x y` for every `x < w`, `y < h`, column by column, and nothing else.  Only reads inside the table
region (`P2P_REGION` = 256 columns x 128 bytes from `SPINNAKER_RTR_P2P`) are constrained. -/
theorem p2p_roundtrip (f : Nat → Nat → Nat) (hf : ∀ x y, f x y < 8) (rd : Rd) (w h : Nat)
    (hw : w ≤ 255) (hh : h ≤ 255)
    (hrd : ∀ a n, SPINNAKER_RTR_P2P ≤ a → a + n ≤ SPINNAKER_RTR_P2P + P2P_REGION →
      rd a n = readMem (p2pMem f) a n) :
    p2pTableOfDims rd (w * 256 + h) = .ok (p2pSpecTable f (List.range w) h) :=
  p2pTableOfDims_spec f hf rd w h hw hh hrd

theorem p2p_table_mem (f : Nat → Nat → Nat) (w h x y r : Nat) :
    ((x, y), r) ∈ p2pSpecTable f (List.range w) h ↔ x < w ∧ y < h ∧ r = f x y :=
  mem_p2pSpecTable f w h x y r

/-- the dimension register is read as a little-endian half word -/
theorem p2p_dims_read (rd : Rd) (w h : Nat) (hw : w ≤ 255) (hh : h ≤ 255)
    (hd : rd (SV_BASE + SV_P2P_DIMS_OFF) SV_P2P_DIMS_SIZE = le16 (w * 256 + h)) :
    readInt rd (SV_BASE + SV_P2P_DIMS_OFF) SV_P2P_DIMS_SIZE = .ok (w * 256 + h) :=
  readInt_le16 rd _ _ (by omega) hd

/-- **System description (exact).** With a P2P table `table` and chips answering `info` with the
reply of their state (`answering xy = none`: no answer or an error reply), discovery returns
exactly - in table order - the chips whose entry is not `none` and that answer, each with the view
of its own state; width and height are one more than the largest listed coordinates. -/
theorem sysinfo_exact (answering : Nat × Nat → Option ChipState)
    (hwf : ∀ xy st, answering xy = some st → st.WF) (table : List ((Nat × Nat) × Nat))
    (hlive : liveEntries table ≠ []) :
    systemInfo table (fun xy => (answering xy).map infoReply) =
      .ok { width := maxList ((liveEntries table).map (·.1.1)) + 1,
            height := maxList ((liveEntries table).map (·.1.2)) + 1,
            chips := describedChips answering table } :=
  systemInfo_spec answering hwf table hlive

theorem sysinfo_mem (answering : Nat × Nat → Option ChipState) (table : List ((Nat × Nat) × Nat))
    (xy : Nat × Nat) (ci : ChipInfo) :
    (xy, ci) ∈ describedChips answering table ↔
      ∃ r st, (xy, r) ∈ table ∧ r ≠ P2P_NONE ∧ answering xy = some st ∧ ci = chipView st :=
  mem_describedChips answering table xy ci

/-- every listed chip lies inside the reported extent and both bounds are attained -/
theorem sysinfo_extent (table : List ((Nat × Nat) × Nat)) (hlive : liveEntries table ≠ []) :
    (∀ xy r, (xy, r) ∈ table → r ≠ P2P_NONE →
      xy.1 < maxList ((liveEntries table).map (·.1.1)) + 1 ∧ xy.2 < maxList ((liveEntries table).map (·.1.2)) + 1) ∧
    (∃ e ∈ liveEntries table, e.1.1 + 1 = maxList ((liveEntries table).map (·.1.1)) + 1) ∧
    (∃ e ∈ liveEntries table, e.1.2 + 1 = maxList ((liveEntries table).map (·.1.2)) + 1) :=
  extent_spec table hlive

/-- no listed chip: the code raises (max of an empty sequence) - the documented domain limit -/
theorem sysinfo_empty (table : List ((Nat × Nat) × Nat)) (probe : Nat × Nat → Option InfoReply)
    (h : liveEntries table = []) : systemInfo table probe = .error "ValueError" := by
  unfold liveEntries at h
  simp [systemInfo, h]

/-- **Dead chips** are exactly the coordinates inside the extent that have no record. -/
theorem dead_chips_complement (si : SysInfo) (x y : Nat) :
    (x, y) ∈ si.deadChips ↔ x < si.width ∧ y < si.height ∧ ¬ ∃ ci, ((x, y), ci) ∈ si.chips :=
  mem_deadChips si x y

/-- **Dead links** are exactly the links 0..5 of described chips that are not reported working. -/
theorem dead_links_complement (si : SysInfo) (x y l : Nat) :
    (x, y, l) ∈ si.deadLinks ↔ ∃ ci, ((x, y), ci) ∈ si.chips ∧ l < 6 ∧ l ∉ ci.links :=
  mem_deadLinks si x y l

/-- **Machine model (exact).** For a description with distinct keys inside its extent, the machine
built from it has (1) exactly the described chips, (2) on them exactly the working links, and
(3) for every described chip exactly the probed core count and largest free SDRAM / SRAM block
(defaults are the maxima, every chip that differs is an exception). -/
theorem build_machine_exact (si : SysInfo) (hwf : si.WF) :
    (buildMachine si).width = si.width ∧ (buildMachine si).height = si.height ∧
    (∀ x y, (buildMachine si).chipOk (x, y) = true ↔ ∃ ci, ((x, y), ci) ∈ si.chips) ∧
    (∀ x y l, l < 6 → ((buildMachine si).linkOk x y l = true ↔ ∃ ci, ((x, y), ci) ∈ si.chips ∧ l ∈ ci.links)) ∧
    (∀ xy ci, (xy, ci) ∈ si.chips → (buildMachine si).resources xy = (ci.numCores, ci.sdram, ci.sram)) :=
  ⟨rfl, rfl, buildMachine_chip si hwf, buildMachine_link si hwf, buildMachine_resources si hwf⟩

/-- the defaults are the maxima over the described chips (as the code does) -/
theorem build_machine_defaults (si : SysInfo) :
    (buildMachine si).cores = maxList (si.chips.map (·.2.numCores)) ∧
    (buildMachine si).sdram = maxList (si.chips.map (·.2.sdram)) ∧
    (buildMachine si).sram = maxList (si.chips.map (·.2.sram)) := ⟨rfl, rfl, rfl⟩

/-- **Reservations partition.** For a description with distinct keys and at most 18 core slots per
chip (the global pass of `build_core_constraints` is `for core in range(18)`): on every described chip, every core that is not idle lies in exactly one of the generated
reservations that apply to the chip (global ones and its own), and every other core number in
none - so reservations applying to a chip never overlap and their union is exactly the busy cores. -/
theorem reservations_partition (si : SysInfo) (hnd : (si.chips.map (·.1)).Nodup)
    (h18 : ∀ xy ci, (xy, ci) ∈ si.chips → ci.coreStates.length ≤ 18)
    (xy : Nat × Nat) (ci : ChipInfo) (h : (xy, ci) ∈ si.chips) (p : Nat) :
    coverCount (coreConstraints si) xy p = if busy ci p = true then 1 else 0 :=
  coverCount_coreConstraints si hnd h18 xy ci h p

/-- a global reservation covers only cores that are busy on every chip -/
theorem global_reservation_shared (si : SysInfo) (hnd : (si.chips.map (·.1)).Nodup)
    (h18 : ∀ xy ci, (xy, ci) ∈ si.chips → ci.coreStates.length ≤ 18)
    (r : Reservation) (hr : r ∈ coreConstraints si) (hg : r.chip = none) (p : Nat)
    (hp : r.start ≤ p ∧ p < r.stop) (xy : Nat × Nat) (ci : ChipInfo) (h : (xy, ci) ∈ si.chips) :
    busy ci p = true := by
  have hc := reservations_partition si hnd h18 xy ci h p
  have hpos := List.length_pos_of_mem (List.mem_filter.2 ⟨hr, by simp [Reservation.appliesTo, hg, hp.1, hp.2]⟩ :
    r ∈ (coreConstraints si).filter fun r => r.appliesTo xy && r.start ≤ p && p < r.stop)
  unfold coverCount at hc
  cases hb : busy ci p
  · rw [hb] at hc; simp only [Bool.false_eq_true, if_false] at hc; omega
  · rfl

/-- **Console buffer.** If the machine holds the chain `blocks` (each block: header next / time / ms /
length, then the buffer; the last `next` is 0), walking it from its head returns the concatenation of
the first `length` bytes of every block's buffer, in chain order (the whole buffer when `length`
exceeds it). -/
theorem iobuf_chain (rd : Rd) (size : Nat) (blocks : List IoBlock) (fuel : Nat) (acc : List Nat)
    (hc : ChainIn rd size blocks) (hf : blocks.length < fuel) :
    iobufLoop rd size fuel (chainNext blocks) acc = .ok (acc ++ chainText blocks) := by
  induction blocks generalizing fuel acc with
  | nil =>
    cases fuel with
    | zero => omega
    | succ n => simp [iobufLoop, chainNext, chainText]
  | cons b bs ih =>
    obtain ⟨ha, hl, hn, hrd, hrest⟩ := hc
    cases fuel with
    | zero => simp at hf
    | succ n =>
      obtain ⟨p1, p2, p3, p4⟩ := blockBytes_parts b (chainNext bs)
      simp only [iobufLoop, chainNext_cons, ha, if_false, hrd, p1, p2, p3, p4, ne_eq, not_true,
        leVal_le32 _ hn, leVal_le32 _ hl]
      rw [ih n _ hrest (by simp at hf; omega)]
      simp [chainText, List.append_assoc]

/-- `get_iobuf_bytes` end to end: block size from `sv.iobuf_size`, head from the core's vcpu block
(`sv.vcpu_base + 128 p + 0x58`) -/
theorem iobuf_bytes_exact (rd : Rd) (size vbase p fuel : Nat) (blocks : List IoBlock)
    (hs : size < 4294967296) (hvb : vbase < 4294967296)
    (h1 : rd (SV_BASE + SV_IOBUF_SIZE_OFF) SV_IOBUF_SIZE_SIZE = le32 size)
    (h2 : rd (SV_BASE + SV_VCPU_BASE_OFF) SV_VCPU_BASE_SIZE = le32 vbase)
    (h3 : rd (vbase + VCPU_SIZE * p + 88) 4 = le32 (chainNext blocks))
    (hn : chainNext blocks < 4294967296)
    (hc : ChainIn rd size blocks) (hf : blocks.length < fuel) :
    iobufBytes rd p fuel = .ok (chainText blocks) := by
  have e1 := readInt_le32 rd _ size hs h1
  have e2 := readInt_le32 rd _ vbase hvb h2
  have e3 := readInt_le32 rd _ _ hn h3
  simp only [iobufBytes, vcpuAddr, SV_IOBUF_SIZE_SIZE, SV_VCPU_BASE_SIZE, e1, e2, vcpuFieldOff_iobuf, bind, Except.bind, pure,
    Except.pure, e3]
  rw [iobuf_chain rd size blocks fuel [] hc hf]
  simp

/-- non-vacuity: a two-block chain laid out in a memory satisfies `ChainIn` -/
example : ∃ rd : Rd, ChainIn rd 4 [⟨100, 1, 2, 3, [65, 66, 67, 68]⟩, ⟨200, 0, 0, 9, [69, 70, 71, 72]⟩] ∧
    chainText [⟨100, 1, 2, 3, [65, 66, 67, 68]⟩, ⟨200, 0, 0, 9, [69, 70, 71, 72]⟩] = [65, 66, 67, 69, 70, 71, 72] := by
  refine ⟨fun a _ => if a = 100 then blockBytes ⟨100, 1, 2, 3, [65, 66, 67, 68]⟩ 200
                    else blockBytes ⟨200, 0, 0, 9, [69, 70, 71, 72]⟩ 0, ?_, by decide⟩
  simp [ChainIn, chainNext]

/-- **Status block, layout half.** Unpacking the 128-byte vcpu block that the machine specification
lays out yields, for every field of the (regenerated) vcpu struct table, the little-endian value of
exactly that field's bytes. -/
theorem status_fields_partial (r0 r1 r2 r3 r4 r5 r6 r7 u0 u1 u2 u3 : Nat) (s : Status) (swTop : Nat)
    (name16 pad : List Nat) (hn : name16.length = 16) (hp : pad.length = 16)
    (hr : s.registers = [r0, r1, r2, r3, r4, r5, r6, r7]) (hu : s.userVars = [u0, u1, u2, u3]) :
    unpackFields (statusBytes s swTop name16 pad) VCPU_FIELDS = .ok
      [("r0", .int (leVal (le32 r0))), ("r1", .int (leVal (le32 r1))), ("r2", .int (leVal (le32 r2))),
       ("r3", .int (leVal (le32 r3))), ("r4", .int (leVal (le32 r4))), ("r5", .int (leVal (le32 r5))),
       ("r6", .int (leVal (le32 r6))), ("r7", .int (leVal (le32 r7))), ("psr", .int (leVal (le32 s.psr))),
       ("sp", .int (leVal (le32 s.sp))), ("lr", .int (leVal (le32 s.lr))), ("rt_code", .int (leVal [s.rtCode])),
       ("phys_cpu", .int (leVal [s.physCpu])), ("cpu_state", .int (leVal [s.cpuState])),
       ("app_id", .int (leVal [s.appId])), ("mbox_ap_msg", .int (leVal (le32 s.mboxApMsg))),
       ("mbox_mp_msg", .int (leVal (le32 s.mboxMpMsg))), ("mbox_ap_cmd", .int (leVal [s.mboxApCmd])),
       ("mbox_mp_cmd", .int (leVal [s.mboxMpCmd])), ("sw_count", .int (leVal (le16 s.swCount))),
       ("sw_file", .int (leVal (le32 s.swFile))), ("sw_line", .int (leVal (le32 s.swLine))),
       ("time", .int (leVal (le32 s.time))), ("app_name", .str name16), ("iobuf", .int (leVal (le32 s.iobuf))),
       ("sw_ver", .int (leVal [s.version.2.2, s.version.2.1, s.version.1, swTop])),
       ("__PAD", .int (leVal (pad.take 4))), ("user0", .int (leVal (le32 u0))), ("user1", .int (leVal (le32 u1))),
       ("user2", .int (leVal (le32 u2))), ("user3", .int (leVal (le32 u3)))] := by
  -- `[] ++`: the form `unpackFields_tiles` is stated in
  have hb : statusBytes s swTop name16 pad = [] ++ List.flatten
      [le32 r0, le32 r1, le32 r2, le32 r3, le32 r4, le32 r5, le32 r6, le32 r7, le32 s.psr, le32 s.sp, le32 s.lr,
       [s.rtCode], [s.physCpu], [s.cpuState], [s.appId], le32 s.mboxApMsg, le32 s.mboxMpMsg, [s.mboxApCmd],
       [s.mboxMpCmd], le16 s.swCount, le32 s.swFile, le32 s.swLine, le32 s.time, name16, le32 s.iobuf,
       [s.version.2.2, s.version.2.1, s.version.1, swTop], pad, le32 u0, le32 u1, le32 u2, le32 u3] := by
    simp only [statusBytes, hr, hu, List.append_assoc]
    rfl
  rw [hb]
  refine (unpackFields_tiles VCPU_FIELDS [] _ ?_).trans (congrArg Except.ok ?_)
  · simp only [List.map_cons, List.map_nil, le32, le16, List.length_cons, List.length_nil, hn, hp, Nat.reduceAdd]
    decide
  · conv => rhs; rw [← List.take_of_length_le (Nat.le_of_eq hn)]
    rfl

/-- **Status block (full).** Decoding the 128-byte vcpu block that the machine specification lays out
for a status record `s` (registers r0-r7, psr, sp, lr, rt_code, phys_cpu, cpu_state, app_id, the mailbox
fields, sw_count / sw_file / sw_line, time, the NUL-padded 16-byte name, iobuf, sw_ver = patch | minor << 8
| major << 16 | swTop << 24, 16 padding bytes, user0-3) returns exactly `s`: every field under its
`ProcessorStatus` name (iobuf -> iobuf_address, psr -> program_state_register, ...), registers and user
variables collected in order, the name stripped of NULs, cpu_state / rt_code accepted as enumeration
members, the version split into (major, minor, patch); the top byte of sw_ver and the padding are ignored.
For all field values over their full widths. -/
theorem status_block (s : Status) (swTop : Nat) (name16 pad : List Nat) (hwf : s.WF)
    (hn : name16.length = 16) (hp : pad.length = 16) (hname : strip0 name16 = s.appName)
    (hascii : ∀ b ∈ s.appName, b < 128) :
    decodeStatus (statusBytes s swTop name16 pad) = .ok s := by
  obtain ⟨hr8, hrb, hu4, hub, hpsr, hsp, hlr, hcpu, hrt, hap, hmp, hsc, hsf, hsl, hti, hio, hv1, hv2, hv3⟩ := hwf
  obtain ⟨r0, r1, r2, r3, r4, r5, r6, r7, hr⟩ : ∃ r0 r1 r2 r3 r4 r5 r6 r7, s.registers = [r0, r1, r2, r3, r4, r5, r6, r7] :=
    ⟨_, _, _, _, _, _, _, _, Lists.eq_ofFn_of_length hr8⟩
  obtain ⟨u0, u1, u2, u3, hu⟩ : ∃ u0 u1 u2 u3, s.userVars = [u0, u1, u2, u3] := ⟨_, _, _, _, Lists.eq_ofFn_of_length hu4⟩
  have hun := status_fields_partial r0 r1 r2 r3 r4 r5 r6 r7 u0 u1 u2 u3 s swTop name16 pad hn hp hr hu
  have hany : (strip0 name16).any (· ≥ 128) = false := by
    rw [hname, List.any_eq_false]
    intro b hb
    have := hascii b hb
    simp only [ge_iff_le, decide_eq_true_eq]; omega
  rw [decodeStatus_of_fields hun hany (by rw [leVal_one]; exact hcpu) (by rw [leVal_one]; exact hrt)]
  -- the words of the registers and of the user variables read back as the lists themselves
  have hw : ∀ l : List Nat, (∀ r ∈ l, r < 4294967296) → l.map (fun r => leVal (le32 r)) = l := fun l hl =>
    (List.map_congr_left fun r h => leVal_le32 r (hl r h)).trans (List.map_id' l)
  have b := hw _ hrb
  have c := hw _ hub
  rw [hr] at b
  rw [hu] at c
  simp only [List.map_cons, List.map_nil] at b c
  rw [swver_split _ _ _ _ hv3 hv2 hv1, hname]
  simp only [leVal_one, leVal_le32 _ hpsr, leVal_le32 _ hsp, leVal_le32 _ hlr, leVal_le32 _ hap, leVal_le32 _ hmp,
    leVal_le16 _ hsc, leVal_le32 _ hsf, leVal_le32 _ hsl, leVal_le32 _ hti, leVal_le32 _ hio,
    b, c, ← hr, ← hu]

/-- `get_processor_status` end to end: the block is read from `sv.vcpu_base + 128 p` -/
theorem processor_status_exact (rd : Rd) (vbase p : Nat) (s : Status) (swTop : Nat) (name16 pad : List Nat)
    (hvb : vbase < 4294967296)
    (h1 : rd (SV_BASE + SV_VCPU_BASE_OFF) SV_VCPU_BASE_SIZE = le32 vbase)
    (h2 : rd (vbase + VCPU_SIZE * p) VCPU_SIZE = statusBytes s swTop name16 pad)
    (hwf : s.WF) (hn : name16.length = 16) (hp : pad.length = 16) (hname : strip0 name16 = s.appName)
    (hascii : ∀ b ∈ s.appName, b < 128) :
    processorStatus rd p = .ok s := by
  have e1 := readInt_le32 rd _ vbase hvb h1
  simp only [processorStatus, vcpuAddr, SV_VCPU_BASE_SIZE, e1, bind, Except.bind, pure, Except.pure, h2]
  exact status_block s swTop name16 pad hwf hn hp hname hascii

/-- non-vacuity: a status record with every numeric field at its maximum and the name "ab" -/
def exStatus : Status :=
  { registers := List.replicate 8 4294967295, psr := 4294967295, sp := 4294967295, lr := 4294967295, rtCode := 20,
    physCpu := 255, cpuState := 7, mboxApMsg := 4294967295, mboxMpMsg := 4294967295, mboxApCmd := 255,
    mboxMpCmd := 255, swCount := 65535, swFile := 4294967295, swLine := 4294967295, time := 4294967295,
    appName := [97, 98], iobuf := 4294967295, appId := 255, version := (255, 255, 255),
    userVars := List.replicate 4 4294967295 }

example : exStatus.WF ∧ strip0 (97 :: 98 :: List.replicate 14 0) = exStatus.appName ∧
    (∀ b ∈ exStatus.appName, b < 128) ∧
    (statusBytes exStatus 255 (97 :: 98 :: List.replicate 14 0) (List.replicate 16 255)).length = 128 := by
  refine ⟨by unfold Status.WF; decide, by decide, by decide, by rfl⟩

theorem le_values (n : Nat) : (n < 4294967296 → leVal (le32 n) = n) ∧ (n < 65536 → leVal (le16 n) = n) ∧ leVal [n] = n :=
  ⟨leVal_le32 n, leVal_le16 n, leVal_one n⟩

/-- **Router counters.** Sixteen little-endian words are read back as their values. -/
theorem router_counters (ws : List Nat) (h16 : ws.length = 16) (hb : ∀ w ∈ ws, w < 4294967296) (rd : Rd)
    (hrd : rd ROUTER_DIAG_ADDR ROUTER_DIAG_LEN = ws.flatMap le32) : routerDiagnostics rd = .ok ws := by
  have hw : ∀ l : List Nat, (∀ w ∈ l, w < 4294967296) → words l.length (l.flatMap le32) = .ok l := by
    intro l
    induction l with
    | nil => intro _; rfl
    | cons a t ih =>
      intro hb'
      have e : (le32 a).length = 4 := rfl
      simp only [List.flatMap_cons, List.length_cons, words, List.take_left' e, List.drop_left' e, e, ne_eq, not_true,
        if_false, ih fun w hw' => hb' w (List.mem_cons_of_mem _ hw'), leVal_le32 a (hb' a List.mem_cons_self)]
  rw [routerDiagnostics, hrd, ← h16]
  exact hw ws hb

/-- **Software version, both encodings.** The reply the machine specification builds - legacy
(version = major * 100 + minor in the top half of arg2) or string (top half 0xFFFF, data = name NUL
"major.minor.patch" labels NUL with numbers as decimal digit strings) - decodes to the position,
physical / virtual core, buffer size, build date, name, numbers and labels it was built from. -/
theorem sver_both_encodings (x y pcpu vcpu buf date : Nat) (name : List Nat)
    (hx : x < 256) (hy : y < 256) (hp : pcpu < 256) (hv : vcpu < 256) (hb : buf < 65536) (hn : Ascii name) :
    (∀ major minor, minor < 100 → major * 100 + minor < 65535 →
      let r := sverLegacy x y pcpu vcpu buf date major minor name
      decodeSver r.1 r.2.1 r.2.2.1 r.2.2.2 =
        .ok { pos := (x, y), physCpu := pcpu, virtCpu := vcpu, bufferSize := buf, buildDate := date,
              version := { name := rstrip0 name, major := major, minor := minor, patch := 0, labels := [] } }) ∧
    (∀ ma mi pa labels, (∀ b ∈ name, b ≠ 0) → Digits ma → Digits mi → Digits pa → Ascii labels →
      (∀ b ∈ labels, b ≠ 0) → (∀ c ∈ labels.head?, isDigit c = false) →
      let r := sverString x y pcpu vcpu buf date name ma mi pa labels
      decodeSver r.1 r.2.1 r.2.2.1 r.2.2.2 =
        .ok { pos := (x, y), physCpu := pcpu, virtCpu := vcpu, bufferSize := buf, buildDate := date,
              version := { name := name, major := digitsVal ma, minor := digitsVal mi, patch := digitsVal pa,
                           labels := labels } }) := by
  constructor
  · intro major minor hmi hv'
    exact decodeSver_fields x y pcpu vcpu _ buf date name _ hx hy hp hv hb
      (unpackSver_legacy major minor buf name hmi hv' hb hn)
  · intro ma mi pa labels hn0 hma hmi hpa hl hl0 hlh
    exact decodeSver_fields x y pcpu vcpu 65535 buf date _ _ hx hy hp hv hb
      (unpackSver_string buf name ma mi pa labels hb hn hn0 hma hmi hpa hl hl0 hlh)

/-- non-vacuity: "2.1.0-dev" satisfies the hypotheses and the digit strings have the expected values -/
example : Digits [50] ∧ Digits [49] ∧ Digits [48] ∧ Ascii [45, 100, 101, 118] ∧
    (∀ c ∈ ([45, 100, 101, 118] : List Nat).head?, isDigit c = false) ∧ digitsVal [49, 50, 51] = 123 := by
  refine ⟨⟨by decide, by decide⟩, ⟨by decide, by decide⟩, ⟨by decide, by decide⟩, by unfold Ascii; decide, by decide, by decide⟩

/-- **The keys of the P2P table are distinct**: the table the code reads from the specification's memory
lists every coordinate inside the dimensions exactly once (so the `dict` the code builds loses nothing). -/
theorem p2p_keys_nodup (f : Nat → Nat → Nat) (w h : Nat) : ((p2pSpecTable f (List.range w) h).map (·.1)).Nodup :=
  p2pSpecTable_nodup f w h

/-- **`get_system_info` on a machine state (exact value).** If the memory serves the dimension register
and the P2P table of machine state `m` (`m.Serves rd`: dimensions <= 255, 3-bit entries, well-formed chip
states, only the 2 + 32768 bytes concerned are constrained) and at least one chip is listed, then
`get_system_info` - reading the table and sending `info` to every listed chip, chips absent from `m.chips`
not answering - returns exactly `m.sysInfo`: the listed chips that answer, in table order, each with the
view of its state; and that description is well formed (distinct keys inside width x height). -/
theorem get_system_info_exact (m : MachineState) (rd : Rd) (hs : m.Serves rd) (hl : ∃ xy, m.listed xy = true) :
    getSystemInfo rd m.probe = .ok m.sysInfo ∧ m.sysInfo.WF ∧
    (∀ xy ci, (xy, ci) ∈ m.sysInfo.chips ↔
      ∃ st, m.listed xy = true ∧ m.chips.lookup xy = some st ∧ ci = chipView st) :=
  ⟨getSystemInfo_spec m rd hs hl, sysInfo_WF m hl, mem_sysInfo m⟩

/-- **Probe to machine (exact).** Under the same hypotheses, the description `si` that `get_system_info`
returns is well formed, and the `Machine` built from it by `build_machine` together with the reservations
of `build_core_constraints` describe exactly the machine: (extent) width / height bound every listed chip
and are attained; (chips) a chip is in the machine iff it is listed in the P2P table and answers; (links) a
link 0..5 is in the machine iff its chip is and the chip's state has the link working; (quantities) every
such chip has exactly its state's core count and largest free SDRAM / SRAM block; (reservations) on every
such chip each core number `p` is covered by exactly one reservation applying to the chip if `p` is a
working core that is not idle (`busyCore`) and by none otherwise; reservations name only such chips. -/
theorem probe_to_machine_exact (m : MachineState) (rd : Rd) (hs : m.Serves rd) (hl : ∃ xy, m.listed xy = true) :
    ∃ si, getSystemInfo rd m.probe = .ok si ∧ si.WF ∧
      (buildMachine si).width = si.width ∧ (buildMachine si).height = si.height ∧
      (∀ xy, m.listed xy = true → xy.1 < si.width ∧ xy.2 < si.height) ∧
      (∃ xy, m.listed xy = true ∧ xy.1 + 1 = si.width) ∧ (∃ xy, m.listed xy = true ∧ xy.2 + 1 = si.height) ∧
      (∀ x y, (buildMachine si).chipOk (x, y) = true ↔
        m.listed (x, y) = true ∧ (m.chips.lookup (x, y)).isSome = true) ∧
      (∀ x y l, l < 6 → ((buildMachine si).linkOk x y l = true ↔
        ∃ st, m.listed (x, y) = true ∧ m.chips.lookup (x, y) = some st ∧ l ∈ st.links)) ∧
      (∀ xy st, m.listed xy = true → m.chips.lookup xy = some st →
        (buildMachine si).resources xy = (st.cores, st.sdram, st.sram) ∧
        ∀ p, coverCount (coreConstraints si) xy p = if st.busyCore p = true then 1 else 0) ∧
      (∀ r ∈ coreConstraints si, ∀ c, r.chip = some c →
        m.listed c = true ∧ (m.chips.lookup c).isSome = true) := by
  have hWF := sysInfo_WF m hl
  obtain ⟨e1, e2, e3⟩ := sysInfo_extent m hl
  have h18 : ∀ xy ci, (xy, ci) ∈ m.sysInfo.chips → ci.coreStates.length ≤ 18 := fun xy ci hmem =>
    (sysInfo_states m hs.chipsWF xy ci hmem).1 ▸ (sysInfo_states m hs.chipsWF xy ci hmem).2
  refine ⟨m.sysInfo, getSystemInfo_spec m rd hs hl, hWF, rfl, rfl, e1, e2, e3, ?_, ?_, ?_, ?_⟩
  · intro x y
    rw [buildMachine_chip _ hWF, has_sysInfo]
  · intro x y l hl6
    rw [buildMachine_link _ hWF x y l hl6, exists_mem_sysInfo]
    simp only [mem_chipView_links, hl6, true_and]
  · intro xy st h1 h2
    have hmem : (xy, chipView st) ∈ m.sysInfo.chips := (mem_sysInfo m _ _).2 ⟨st, h1, h2, rfl⟩
    refine ⟨buildMachine_resources _ hWF xy _ hmem, ?_⟩
    intro p
    rw [coverCount_coreConstraints m.sysInfo hWF.1 h18 xy _ hmem p, busy_chipView]
  · intro r hr c hc
    exact (has_sysInfo m c).1 (coreConstraints_chip _ r hr c hc)

/-- **`__contains__`.** For a description with distinct keys: `(x, y) in si` iff the chip has a record;
`(x, y, link) in si` iff it has a record whose working links contain the link; `(x, y, p) in si` iff it has a
record with more than `p` cores; `(x, y, p, state) in si` is true iff additionally the record's `p`-th state
is `state`, and it cannot raise when every record has a state per core. -/
theorem contains_exact (si : SysInfo) (hnd : (si.chips.map (·.1)).Nodup) :
    (∀ xy, si.has xy = true ↔ ∃ ci, (xy, ci) ∈ si.chips) ∧
    (∀ x y l, si.hasLink x y l = true ↔ ∃ ci, ((x, y), ci) ∈ si.chips ∧ l ∈ ci.links) ∧
    (∀ x y p, si.hasCore x y p = true ↔ ∃ ci, ((x, y), ci) ∈ si.chips ∧ p < ci.numCores) ∧
    (∀ x y p s, si.hasCoreState x y p s = .ok true ↔
      ∃ ci, ((x, y), ci) ∈ si.chips ∧ p < ci.numCores ∧ ci.coreStates[p]? = some s) ∧
    ((∀ xy ci, (xy, ci) ∈ si.chips → ci.numCores ≤ ci.coreStates.length) →
      ∀ x y p s, ∃ b, si.hasCoreState x y p s = .ok b) :=
  ⟨has_iff si, hasLink_iff si hnd, hasCore_iff si hnd, hasCoreState_iff si hnd, hasCoreState_total si⟩

/-- **`links()` and `cores()`** enumerate exactly the working links of the records and exactly the
(core number, state) pairs of the records' state lists. -/
theorem links_cores_enumerate (si : SysInfo) :
    (∀ x y l, (x, y, l) ∈ si.liveLinks ↔ ∃ ci, ((x, y), ci) ∈ si.chips ∧ l ∈ ci.links) ∧
    (∀ x y p s, (x, y, p, s) ∈ si.cores ↔ ∃ ci, ((x, y), ci) ∈ si.chips ∧ ci.coreStates[p]? = some s) :=
  ⟨mem_liveLinks si, mem_cores si⟩

/-- **`links()` / `cores()` yield nothing twice**: with distinct keys, every (core, state) is yielded once, and
every working link once when each record's link collection has no repetition (it is a `set` in the code; the
decoded view lists 0..5 filtered) - in particular on the description returned by probing a machine state. -/
theorem links_cores_once (si : SysInfo) (hnd : (si.chips.map (·.1)).Nodup) :
    ((∀ xy ci, (xy, ci) ∈ si.chips → ci.links.Nodup) → si.liveLinks.Nodup) ∧ si.cores.Nodup ∧
    (∀ st : ChipState, (chipView st).links.Nodup) :=
  ⟨liveLinks_nodup si hnd, cores_nodup si hnd, chipView_links_nodup⟩

/-- **`build_routing_table_target_lengths`** has exactly the description's keys (in order) and maps each
chip to the probed largest free block of router entries. -/
theorem target_lengths_exact (si : SysInfo) :
    (targetLengths si).map (·.1) = si.chips.map (·.1) ∧
    (∀ xy n, (xy, n) ∈ targetLengths si ↔ ∃ ci, (xy, ci) ∈ si.chips ∧ n = ci.rtr) ∧
    ((si.chips.map (·.1)).Nodup → ∀ xy n, (targetLengths si).lookup xy = some n ↔
      ∃ ci, (xy, ci) ∈ si.chips ∧ n = ci.rtr) :=
  ⟨targetLengths_keys si, mem_targetLengths si, fun hnd => targetLengths_lookup si hnd⟩

/-- **Probe to views (exact).** On the description returned by probing machine state `m`: membership
tests, `links()`, `cores()` and the routing-table target lengths report exactly the listed chips that
answer, their working links 0..5, their working cores with the state of each, and each chip's largest free
router block; the state membership test never raises. -/
theorem probe_views_exact (m : MachineState) (rd : Rd) (hs : m.Serves rd) (hl : ∃ xy, m.listed xy = true) :
    ∃ si, getSystemInfo rd m.probe = .ok si ∧
      (∀ xy, si.has xy = true ↔ m.listed xy = true ∧ (m.chips.lookup xy).isSome = true) ∧
      (∀ x y l, si.hasLink x y l = true ↔
        ∃ st, m.listed (x, y) = true ∧ m.chips.lookup (x, y) = some st ∧ l < 6 ∧ l ∈ st.links) ∧
      (∀ x y p, si.hasCore x y p = true ↔
        ∃ st, m.listed (x, y) = true ∧ m.chips.lookup (x, y) = some st ∧ p < st.cores) ∧
      (∀ x y p s, (∃ b, si.hasCoreState x y p s = .ok b) ∧ (si.hasCoreState x y p s = .ok true ↔
        ∃ st, m.listed (x, y) = true ∧ m.chips.lookup (x, y) = some st ∧ p < st.cores ∧
          st.states[p]? = some s)) ∧
      (∀ x y l, (x, y, l) ∈ si.liveLinks ↔
        ∃ st, m.listed (x, y) = true ∧ m.chips.lookup (x, y) = some st ∧ l < 6 ∧ l ∈ st.links) ∧
      (∀ x y p s, (x, y, p, s) ∈ si.cores ↔
        ∃ st, m.listed (x, y) = true ∧ m.chips.lookup (x, y) = some st ∧ p < st.cores ∧
          st.states[p]? = some s) ∧
      (∀ xy n, (targetLengths si).lookup xy = some n ↔
        ∃ st, m.listed xy = true ∧ m.chips.lookup xy = some st ∧ n = st.rtr) := by
  have hWF := sysInfo_WF m hl
  have hnd := hWF.1
  have hlen : ∀ xy ci, (xy, ci) ∈ m.sysInfo.chips → ci.numCores ≤ ci.coreStates.length := fun xy ci hmem =>
    Nat.le_of_eq (sysInfo_states m hs.chipsWF xy ci hmem).1.symm
  refine ⟨m.sysInfo, getSystemInfo_spec m rd hs hl, ?_, ?_, ?_, ?_, ?_, ?_, ?_⟩
  · intro xy
    rw [has_iff, has_sysInfo]
  · intro x y l
    rw [hasLink_iff _ hnd, exists_mem_sysInfo m (x, y) (fun ci => l ∈ ci.links)]
    simp only [mem_chipView_links]
  · intro x y p
    rw [hasCore_iff _ hnd, exists_mem_sysInfo m (x, y) (fun ci => p < ci.numCores)]
    rfl
  · intro x y p s
    refine ⟨hasCoreState_total _ hlen x y p s, ?_⟩
    rw [hasCoreState_iff _ hnd, exists_mem_sysInfo m (x, y) (fun ci => p < ci.numCores ∧ ci.coreStates[p]? = some s)]
    simp only [chipView_states_get]
    constructor
    · rintro ⟨st, h1, h2, _, h3, h4⟩; exact ⟨st, h1, h2, h3, h4⟩
    · rintro ⟨st, h1, h2, h3, h4⟩; exact ⟨st, h1, h2, h3, h3, h4⟩
  · intro x y l
    rw [mem_liveLinks, exists_mem_sysInfo m (x, y) (fun ci => l ∈ ci.links)]
    simp only [mem_chipView_links]
  · intro x y p s
    rw [mem_cores, exists_mem_sysInfo m (x, y) (fun ci => ci.coreStates[p]? = some s)]
    simp only [chipView_states_get]
  · intro xy n
    rw [targetLengths_lookup _ hnd, exists_mem_sysInfo m xy (fun ci => n = ci.rtr)]
    rfl

/-- non-vacuity of `Serves` and of "a chip is listed": a 2 x 1 machine whose second chip does not answer,
served by a memory holding only the dimension register and the table -/
def exChip : ChipState :=
  { cores := 18, states := 7 :: 5 :: List.replicate 16 15, links := [0, 1, 5], sdram := 4294967295,
    sram := 4294967295, rtr := 2047, ethUp := true, ip0 := 255, ip1 := 255, ip2 := 255, ip3 := 255,
    ethX := 255, ethY := 255 }

def exMachine : MachineState :=
  { dimW := 2, dimH := 1, p2p := [((0, 0), 0), ((1, 0), 2)], chips := [((0, 0), exChip)] }

def exRd : Rd := fun a n =>
  if a = SV_BASE + SV_P2P_DIMS_OFF then le16 (2 * 256 + 1) else readMem (p2pMem exMachine.entry) a n

example : exMachine.Serves exRd ∧ (∃ xy, exMachine.listed xy = true) ∧
    exMachine.sysInfo.chips.map (·.1) = [(0, 0)] ∧ exMachine.sysInfo.width = 2 ∧
    exChip.busyCore 1 = true ∧ exChip.busyCore 2 = false := by
  refine ⟨⟨by decide, by decide, by decide, ?_, ?_, ?_⟩, ⟨(0, 0), by decide⟩, by decide, by decide, by decide,
    by decide⟩
  · intro xy st h
    have hm := Assoc.mem_of_lookup h
    simp only [exMachine, List.mem_cons, Prod.mk.injEq, List.mem_nil_iff, or_false] at hm
    rw [hm.2]
    refine ⟨by decide, by decide, ?_, by decide, by decide, by decide, by decide, by decide, by decide, by decide,
      by decide, by decide⟩
    intro s hs
    simp only [exChip, List.mem_cons, List.mem_replicate] at hs
    rcases hs with rfl | rfl | ⟨_, rfl⟩ <;> decide
  · simp only [exRd, if_true]
    rfl
  · intro a n h1 h2
    have : a ≠ SV_BASE + SV_P2P_DIMS_OFF := by
      simp only [SPINNAKER_RTR_P2P, P2P_REGION, SV_BASE, SV_P2P_DIMS_OFF] at *
      omega
    simp only [exRd, this, if_false]

set_option linter.unusedVariables false in
/-- **Struct fields.** `read_struct_field` / `read_vcpu_struct_field` of a scalar field return the value whose `size`
little-endian bytes the memory holds at `base + off`; and the model's `specTable` is the `table` of the theorems above. -/
theorem struct_field_exact (rd : Rd) (fields : List (String × Nat × Nat × Bool × Nat)) (base : Nat) (name : String)
    (off size v : Nat) (hf : fields.find? (·.1 == name) = some (name, off, size, false, 1))
    (hs : size = 1 ∨ size = 2 ∨ size = 4) (hv : v < 256 ^ size) (hrd : rd (base + off) size = leN size v) :
    structField rd fields base name = .ok v ∧ ∀ m : MachineState, m.specTable = m.table :=
  ⟨(structField_scalar rd fields base name hf).trans (readInt_leN rd _ size v hv hrd), fun _ => rfl⟩

/-- non-vacuity: `sv.iobuf_size` is such a field -/
example : SV_FIELDS.find? (·.1 == "iobuf_size") = some ("iobuf_size", 80, 4, false, 1) := sv_find_iobuf_size

/-- **Struct layouts.** The probes are modelled with the struct definitions in force (`MachineController.structs`)
as a parameter (`…L` functions, used by the harness for machines laid out under other definitions); at the bundled
definitions they ARE the functions all theorems above are about. -/
theorem layout_default_instance (rd : Rd) :
    (∀ name, svFieldL defaultLayout rd name = svField rd name) ∧
    (∀ p, vcpuAddrL defaultLayout rd p = vcpuAddr rd p) ∧
    (∀ data, decodeStatusL defaultLayout data = decodeStatus data) ∧
    (∀ p, processorStatusL defaultLayout rd p = processorStatus rd p) ∧
    (∀ p fuel, iobufBytesL defaultLayout rd p fuel = iobufBytes rd p fuel) ∧
    p2pTableL defaultLayout rd = p2pTable rd ∧
    (∀ probe, getSystemInfoL defaultLayout rd probe = getSystemInfo rd probe) :=
  ⟨svFieldL_default rd, vcpuAddrL_default rd, decodeStatusL_default, processorStatusL_default rd,
   iobufBytesL_default rd, p2pTableL_default rd, getSystemInfoL_default rd⟩

/-- **Which cores answer.** In the machine specification the monitor answers in every state, an application core
exactly in the states wait, c_main, run, sync0, sync1, pause (members of the generated state enumeration) - so the
idle state, in particular, does not answer. -/
theorem monitor_always_answers :
    (∀ s, coreAnswers 0 s = true) ∧ (∀ p s, p ≠ 0 → (coreAnswers p s = true ↔ s ∈ [5, 6, 7, 8, 9, 10])) ∧
    (∀ s ∈ SARK_ALIVE, validState s = true) ∧ coreAnswers 1 APPSTATE_IDLE = false := by
  refine ⟨fun s => rfl, fun p s hp => ?_, by decide, by decide⟩
  rw [coreAnswers, beq_false_of_ne hp, Bool.false_or]
  exact List.contains_iff_mem

/-- **`sysinfo_ok` accepts only exact descriptions, and the model's.** The predicate the harness evaluates on the `SystemInfo` returned by the real
`get_system_info` (a) accepts only descriptions that are exact up to record order: extent = one more than
the largest listed coordinates, distinct keys, and the records are precisely the listed chips that answer,
each with the view of its state; (b) accepts what the model of `get_system_info` returns; and `listedCoords` lists
exactly the listed chips. -/
theorem sysinfo_oracle_exact (m : MachineState) :
    (∀ si, sysinfoOk m si = true →
      si.width = maxList ((listedCoords m).map (·.1)) + 1 ∧
      si.height = maxList ((listedCoords m).map (·.2)) + 1 ∧
      (si.chips.map (·.1)).Nodup ∧
      (∀ xy ci, (xy, ci) ∈ si.chips ↔
        ∃ st, m.listed xy = true ∧ m.chips.lookup xy = some st ∧ ci = chipView st)) ∧
    ((∃ xy, m.listed xy = true) → sysinfoOk m m.sysInfo = true) ∧
    (∀ xy, xy ∈ listedCoords m ↔ m.listed xy = true) :=
  ⟨fun si h => (sysinfoOk_iff m si).1 h,
    fun hl => (sysinfoOk_iff m _).2 ⟨by rw [maxList_listed]; rfl, by rw [maxList_listed]; rfl, (sysInfo_WF m hl).1,
      mem_sysInfo m⟩,
    mem_listedCoords m⟩

/-- **`reservations_ok` is exact.** For descriptions with at most 18 core slots per chip, the finite check
the harness runs on the constraints returned by the real `build_core_constraints` holds iff reservations
name only described chips and on every described chip EVERY core number is covered exactly once when busy
and never otherwise; and it accepts the model's constraints. -/
theorem reservations_oracle_exact (si : SysInfo)
    (h18 : ∀ xy ci, (xy, ci) ∈ si.chips → ci.coreStates.length ≤ 18) :
    (∀ rs, reservationsOk si rs = true ↔
      (∀ r ∈ rs, ∀ c, r.chip = some c → si.has c = true) ∧
      (∀ xy ci, (xy, ci) ∈ si.chips → ∀ p, coverCount rs xy p = if busy ci p = true then 1 else 0)) ∧
    ((si.chips.map (·.1)).Nodup → reservationsOk si (coreConstraints si) = true) :=
  ⟨fun rs => reservationsOk_iff si rs h18, fun hnd => reservationsOk_sound si hnd h18⟩

/-- **`dead_ok` is exact.** For a description with distinct keys, the predicate evaluated on the collections
returned by the real `dead_chips()` / `dead_links()` holds iff they are, as sets, the model's dead chips and
dead links (characterised by `dead_chips_complement` / `dead_links_complement`). -/
theorem dead_oracle_exact (si : SysInfo) (hnd : (si.chips.map (·.1)).Nodup) (dc : List (Nat × Nat))
    (dl : List (Nat × Nat × Nat)) :
    deadOk si dc dl = true ↔
      (∀ x y, (x, y) ∈ dc ↔ (x, y) ∈ si.deadChips) ∧ (∀ x y l, (x, y, l) ∈ dl ↔ (x, y, l) ∈ si.deadLinks) := by
  have key : ∀ x y l, (match si.chips.lookup (x, y) with
        | some ci => decide (l < 6) && !ci.links.contains l
        | none => false) = true ↔ ∃ ci, ((x, y), ci) ∈ si.chips ∧ l < 6 ∧ l ∉ ci.links := fun x y l => by
    rw [exists_mem_iff_lookup _ hnd]
    cases si.chips.lookup (x, y) <;> simp
  unfold deadOk
  simp only [Bool.and_eq_true, List.all_eq_true, List.mem_range, Std.HashSet.contains_ofList,
    List.contains_iff_mem, Bool.or_eq_true, decide_eq_true_eq, Bool.not_eq_true', mem_deadChips, mem_deadLinks,
    has_iff, has_false_iff, and_assoc]
  constructor
  · rintro ⟨h1, h2, h3, h4⟩
    exact ⟨fun x y => ⟨h1 (x, y), fun ⟨hx, hy, hn⟩ => (h2 x hx y hy).resolve_left hn⟩,
      fun x y l => ⟨fun hm => (key x y l).1 (h3 (x, y, l) hm),
        fun ⟨ci, hm, hl, hn⟩ => (h4 ((x, y), ci) hm l hl).resolve_left hn⟩⟩
  · rintro ⟨h1, h2⟩
    exact ⟨fun xy => (h1 xy.1 xy.2).1,
      fun x hx y hy => Classical.or_iff_not_imp_left.2 fun hn => (h1 x y).2 ⟨hx, hy, hn⟩,
      fun e hm => (key _ _ _).2 ((h2 e.1 e.2.1 e.2.2).1 hm),
      fun e hm l hl => Classical.or_iff_not_imp_left.2 fun hn => (h2 e.1.1 e.1.2 l).2 ⟨e.2, hm, hl, hn⟩⟩

/-- and `dead_ok` accepts the model's own `dead_chips()` / `dead_links()` -/
theorem deadOk_sound (si : SysInfo) (hnd : (si.chips.map (·.1)).Nodup) :
    deadOk si si.deadChips si.deadLinks = true :=
  (dead_oracle_exact si hnd _ _).2 ⟨fun _ _ => Iff.rfl, fun _ _ _ => Iff.rfl⟩

/-- **`machine_ok` is exact.** The predicate evaluated on the `Machine` returned by the real `build_machine`
holds iff the machine has the description's extent, inside it exactly the described chips are alive, and
every described chip is present with exactly its working links 0..5 and exactly its probed core count / SDRAM
/ SRAM; and it accepts the model's machine for every well-formed description. -/
theorem machine_oracle_exact (si : SysInfo) :
    (∀ m, machineOk si m = true ↔
      m.width = si.width ∧ m.height = si.height ∧
      (∀ x y, x < m.width → y < m.height → ((x, y) ∉ m.deadChips ↔ ∃ ci, ((x, y), ci) ∈ si.chips)) ∧
      (∀ xy ci, (xy, ci) ∈ si.chips → m.chipOk xy = true ∧
        (∀ l, l < 6 → (m.linkOk xy.1 xy.2 l = true ↔ l ∈ ci.links)) ∧
        m.resources xy = (ci.numCores, ci.sdram, ci.sram))) ∧
    (si.WF → machineOk si (buildMachine si) = true) :=
  ⟨machineOk_iff si, machineOk_sound si⟩

/-- non-vacuity of the hypotheses of `build_machine_exact` / `reservations_partition` / `contains_exact`: a
two-chip description -/
def exSys : SysInfo :=
  { width := 2, height := 1,
    chips := [((0, 0), { numCores := 18, coreStates := 7 :: 7 :: List.replicate 16 15, links := [0, 2], sdram := 10,
                         sram := 5, rtr := 1023, ethUp := true, ip := [10, 0, 0, 1], ethChip := (0, 0) }),
              ((1, 0), { numCores := 17, coreStates := 7 :: 15 :: 5 :: List.replicate 14 15, links := [3], sdram := 9,
                         sram := 5, rtr := 100, ethUp := false, ip := [0, 0, 0, 0], ethChip := (0, 0) })] }

example : exSys.WF ∧ (∀ xy ci, (xy, ci) ∈ exSys.chips → ci.coreStates.length ≤ 18) ∧
    coreConstraints exSys = [⟨0, 1, none⟩, ⟨1, 2, some (0, 0)⟩, ⟨2, 3, some (1, 0)⟩] ∧
    (buildMachine exSys).exceptions = [((1, 0), (17, 9, 5))] := by
  refine ⟨⟨by decide, ?_⟩, ?_, by decide, by decide⟩
  · intro xy ci h
    simp only [exSys, List.mem_cons, Prod.mk.injEq, List.mem_nil_iff, or_false] at h
    rcases h with ⟨rfl, _⟩ | ⟨rfl, _⟩ <;> decide
  · intro xy ci h
    simp only [exSys, List.mem_cons, Prod.mk.injEq, List.mem_nil_iff, or_false] at h
    rcases h with ⟨_, rfl⟩ | ⟨_, rfl⟩ <;> decide

end Rig.C14
