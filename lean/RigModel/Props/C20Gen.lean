/-
C20 - translator tie: `boot_packet` (rig/machine_control/boot.py) - the big-endian header `struct.pack("!H4I", ...)`,
the word-size assertion, the `while` loop that re-packs every little-endian word big-endian
(`struct.pack("!I", struct.unpack("<I", word)[0])`) and the single `sock.send(header + fdata)` (recorded as an event) -
= the model's `bootPacketChecked`, for data made of bytes, with fuel of at least the number of words.
-/
import RigModel.Model.C20
import RigModel.Gen.PyFun
import RigModel.Lemmas.PyFunB
import RigModel.Lemmas.PyCast

-- see Lemmas/PyCast.lean
set_option linter.unusedSimpArgs false

namespace Rig.C20
open Rig.Gen Rig.Gen.C20Boot Rig.PyLoops Rig.PyFunB Rig.Lists

def bytesInt (d : List Nat) : List Int := d.map (fun (n : Nat) => (n : Int))

theorem bytesInt_append (a b : List Nat) : bytesInt (a ++ b) = bytesInt a ++ bytesInt b := List.map_append

theorem length_bytesInt (d : List Nat) : (bytesInt d).length = d.length := List.length_map _

def IsBytes (l : List Nat) : Prop := ∀ b ∈ l, b < 256

theorem IsBytes.int {l : List Nat} (h : IsBytes l) : ∀ x ∈ bytesInt l, 0 ≤ x ∧ x < 256 := by
  intro x hx
  obtain ⟨n, hn, rfl⟩ := List.mem_map.1 hx
  have := h n hn
  omega

theorem pack_nil_be : PyFun.pyStructPack true [] [] = .ok [] := rfl

theorem pack_I_be_int (fs : List PyFun.PyFmt) (v : Int) (vs : List Int) :
    PyFun.pyStructPack true (PyFun.PyFmt.I :: fs) (v :: vs)
      = if 0 ≤ v ∧ v < 4294967296 then (PyFun.pyStructPack true fs vs).map (fun r => bytesInt (be32 v.toNat) ++ r)
        else .error "struct.error" := by
  by_cases h : 0 ≤ v ∧ v < 4294967296
  · obtain ⟨n, rfl⟩ := Int.eq_ofNat_of_zero_le h.1
    rw [if_pos h, pack_I_be, if_pos (by omega)]
    rfl
  · rw [if_neg h, pack_cons true _ (by decide), if_neg]
    exact fun h' => h ⟨h'.1, by have := h'.2; simp only [PyFun.PyFmt.size] at this; omega⟩

/-- `struct.pack(">kI", *vs)` -/
theorem pack_I_all : ∀ (vs : List Int),
    PyFun.pyStructPack true (vs.map (fun _ => PyFun.PyFmt.I)) vs
      = if vs.all (fun v => decide (0 ≤ v ∧ v < 4294967296)) then .ok (bytesInt (vs.flatMap (fun v => be32 v.toNat)))
        else .error "struct.error"
  | [] => rfl
  | v :: vs => by
    rw [List.map_cons, pack_I_be_int, pack_I_all vs, List.all_cons, List.flatMap_cons, bytesInt_append]
    by_cases h : 0 ≤ v ∧ v < 4294967296
    · rw [if_pos h, decide_eq_true h, Bool.true_and]
      split <;> rfl
    · rw [if_neg h, decide_eq_false h, Bool.false_and]
      rfl

/-- `struct.pack("!H4I", 1, cmd, arg1, arg2, arg3)` -/
theorem header_be (cmd a1 a2 a3 : Int) :
    PyFun.pyStructPack true [PyFun.PyFmt.H, PyFun.PyFmt.I, PyFun.PyFmt.I, PyFun.PyFmt.I, PyFun.PyFmt.I] [1, cmd, a1, a2, a3]
      = if [cmd, a1, a2, a3].all (fun v => decide (0 ≤ v ∧ v < 4294967296)) then
          .ok (bytesInt (headerV 1 cmd.toNat a1.toNat a2.toNat a3.toNat))
        else .error "struct.error" := by
  rw [pack_cons true _ (by decide), if_pos (by decide)]
  show Except.map _ (PyFun.pyStructPack true ([cmd, a1, a2, a3].map (fun _ => PyFun.PyFmt.I)) _) = _
  rw [pack_I_all]
  generalize List.all _ _ = ok
  cases ok <;> rfl

abbrev BpSt := Bool × Option (Except String (List PyFun.PyEvent)) × List Int × List Int

theorem bp_body (a b c e : Nat) (rest : List Nat) (acc : List Int) (hB : IsBytes [a, b, c, e]) :
    PyFun.boot_packet_loop1 ((false, none, bytesInt (a :: b :: c :: e :: rest), acc) : BpSt)
      = (false, none, bytesInt rest, acc ++ bytesInt [e, c, b, a]) := by
  have s1 : PyFun.pySlice (bytesInt (a :: b :: c :: e :: rest)) 0 4 = bytesInt [a, b, c, e] :=
    pySlice_nat _ 0 4
  have s2 : PyFun.pySlice (bytesInt (a :: b :: c :: e :: rest)) 4
      (((bytesInt (a :: b :: c :: e :: rest)).length : Nat) : Int) = bytesInt rest := pySlice_from _ 4
  have hu : PyFun.pyStructUnpack false [PyFun.PyFmt.I] (bytesInt [a, b, c, e])
      = .ok [PyFun.pyLeValue (bytesInt [a, b, c, e])] := rfl
  unfold PyFun.boot_packet_loop1
  dsimp only
  rw [s1, s2, hu]
  dsimp only
  rw [List.getD_cons_zero, repack_I _ rfl hB.int]
  rfl

theorem bp_cond (d : List Nat) (acc : List Int) :
    PyFun.boot_packet_loop1_cond ((false, none, bytesInt d, acc) : BpSt) = decide (0 < d.length) := by
  simp only [PyFun.boot_packet_loop1_cond, bytesInt, py_cast, Bool.not_false, Bool.true_and]

theorem bp_loop (d : List Nat) : ∀ (acc : List Int), d.length % 4 = 0 → IsBytes d → ∀ fuel, d.length ≤ 4 * fuel →
    PyFun.pyWhile PyFun.boot_packet_loop1_cond PyFun.boot_packet_loop1 fuel ((false, none, bytesInt d, acc) : BpSt)
      = some (false, none, [], acc ++ bytesInt (swapWords d)) := by
  fun_induction swapWords d with
  | case1 a b c e rest ih =>
    intro acc h4 hB fuel hf
    obtain ⟨fuel, rfl⟩ : ∃ k, fuel = k + 1 := ⟨fuel - 1, by simp only [List.length_cons] at hf; omega⟩
    have hB' : IsBytes ([a, b, c, e] ++ rest) := hB
    rw [pyWhile_step (by rw [bp_cond]; exact decide_eq_true (Nat.succ_pos _)),
      bp_body a b c e rest acc (fun x hx => hB' x (List.mem_append_left _ hx)),
      ih _ ((Nat.add_mod_right rest.length 4).symm.trans h4)
        (fun x hx => hB' x (List.mem_append_right _ hx)) fuel (Nat.le_of_add_le_add_right (b := 4) hf),
      List.append_assoc, ← bytesInt_append]
    rfl
  | case2 d hne =>
    -- no four bytes left, and a whole number of words: nothing left
    intro acc h4 _ fuel _
    have h0 : d = [] := List.eq_nil_of_length_eq_zero
      (Nat.eq_zero_of_not_pos fun hp => hne _ _ _ _ _ (eq_ofFn_append_drop (n := 4) (by omega)))
    subst h0
    rw [pyWhile_stop (bp_cond [] acc)]
    exact congrArg (fun l => some (false, none, [], l)) (List.append_nil acc).symm

def bpExc : Except Err Event → Except String (List PyFun.PyEvent)
  | .ok (.send b) => .ok [⟨"send", [], bytesInt b⟩]
  | .ok _ => .error "unreachable"
  | .error .structError => .error "struct.error"
  | .error .assertWord => .error "AssertionError"
  | .error _ => .error "unreachable"

/-- generated `boot_packet` = the model's `bootPacketChecked`, for data that are bytes and enough fuel; the same packets
are refused (a value outside 32 bits: `struct.error`, before the assertion; data that is not a whole number of words:
AssertionError) -/
theorem gen_boot_packet (cmd a1 a2 a3 : Int) (data : List Nat) (hB : IsBytes data) (fuel : Nat)
    (hf : data.length ≤ 4 * fuel) :
    PyFun.boot_packet cmd a1 a2 a3 (bytesInt data) fuel = bpExc (bootPacketChecked cmd a1 a2 a3 data) := by
  unfold PyFun.boot_packet bootPacketChecked
  dsimp only
  rw [header_be]
  by_cases hall : [cmd, a1, a2, a3].all (fun v => decide (0 ≤ v ∧ v < 4294967296)) = true
  swap
  · rw [if_neg hall, if_neg hall]; rfl
  rw [if_pos hall, if_pos hall]
  simp only [length_bytesInt, py_cast, bootPacket, @eq_comm _ 0 (data.length % 4)]
  by_cases hw : data.length % 4 = 0
  · rw [if_pos hw, if_pos hw]
    dsimp only
    rw [bp_loop data [] hw hB fuel hf]
    simp only [bpExc, header, PROTOCOL_VERSION, List.nil_append, bytesInt_append]
  · rw [if_neg hw, if_neg hw]
    rfl

/-- the hypotheses are satisfiable -/
example : IsBytes [1, 2, 3, 4] ∧ [1, 2, 3, 4].length ≤ 4 * 1 := by
  constructor
  · intro b hb; simp at hb; omega
  · decide

end Rig.C20
