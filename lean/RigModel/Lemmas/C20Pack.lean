/-
C20 - helper lemmas: struct packing and default replacement.
-/
import RigModel.Model.C20
import RigModel.Lemmas.LE

namespace Rig.C20

def covers (f : Field) (i : Nat) : Prop := f.offset ≤ i ∧ i < f.offset + packWidth f.pack

/-- the bytes `struct.pack` produces: byte `j` of the two's complement little-endian value -/
def valueBytes (pc : String) (v : Int) : List Nat := (List.range (packWidth pc)).map (leByte v)

theorem leByte_natCast (n j : Nat) : leByte (n : Int) j = n / 256 ^ j % 256 := by
  rw [leByte, show (256 : Int) = ((256 : Nat) : Int) from rfl, ← Int.natCast_pow, ← Int.natCast_ediv,
    ← Int.natCast_emod, Int.toNat_natCast]

theorem leBytes_eq_le (w n : Nat) : leBytes w n = LE.bytes w n := by
  induction w generalizing n with
  | zero => rfl
  | succ w ih => rw [leBytes, ih]; rfl

theorem leBytes_eq (w n : Nat) : leBytes w n = (List.range w).map (fun j => n / 256 ^ j % 256) := by
  rw [leBytes_eq_le]; exact LE.bytes_eq_map w n

theorem leBytes_toNat (w : Nat) {v : Int} (h : 0 ≤ v) : leBytes w v.toNat = (List.range w).map (leByte v) := by
  obtain ⟨n, rfl⟩ := Int.eq_ofNat_of_zero_le h
  rw [Int.toNat_natCast, leBytes_eq]
  exact List.map_congr_left fun j _ => (leByte_natCast n j).symm

theorem packValue_spec (pc : String) (v : Int) (h : valueFits pc v = true) :
    packValue pc v = .ok (valueBytes pc v) := by
  unfold valueFits at h
  unfold packValue valueBytes packWidth
  by_cases h1 : pc = "B"
  · subst h1; simp at h; simp [h, leBytes_toNat 1 h.1]
  by_cases h2 : pc = "b"
  · -- the signed byte is packed as `v % 256`, which has the same low byte as `v`
    subst h2; simp at h
    have := leBytes_toNat 1 (Int.emod_nonneg v (by decide : (256 : Int) ≠ 0))
    simp [h, this, leByte]
  by_cases h3 : pc = "H"
  · subst h3; simp at h; simp [h, leBytes_toNat 2 h.1]
  by_cases h4 : pc = "I"
  · subst h4; simp at h; simp [h, leBytes_toNat 4 h.1]
  simp [h1, h2, h3, h4] at h

theorem valueBytes_length (pc : String) (v : Int) : (valueBytes pc v).length = packWidth pc := by
  simp [valueBytes]

theorem valueBytes_get (pc : String) (v : Int) (j : Nat) (h : j < packWidth pc) :
    (valueBytes pc v)[j]? = some (leByte v j) := by
  simp [valueBytes, List.getElem?_map, List.getElem?_range h]

theorem splice_eq (data p : List Nat) (a : Nat) :
    splice data a (p.length + a) p = data.take a ++ (p ++ data.drop (a + p.length)) := by
  rw [splice, Nat.max_eq_right (Nat.le_add_left a p.length), List.append_assoc, Nat.add_comm]

theorem splice_length (data p : List Nat) (a : Nat) (h : a + p.length ≤ data.length) :
    (splice data a (p.length + a) p).length = data.length := by
  rw [splice_eq, List.length_append, List.length_append, List.length_take_of_le (Nat.le_of_add_right_le h),
    List.length_drop, ← Nat.add_assoc, Nat.add_sub_cancel' h]

theorem splice_get (data p : List Nat) (a i : Nat) (h : a + p.length ≤ data.length) :
    (splice data a (p.length + a) p)[i]? =
      if a ≤ i ∧ i < a + p.length then p[i - a]? else data[i]? := by
  rw [splice_eq, List.getElem?_append, List.length_take_of_le (Nat.le_of_add_right_le h), List.getElem?_append,
    List.getElem?_take, List.getElem?_drop]
  by_cases h1 : i < a
  · rw [if_pos h1, if_pos h1, if_neg (fun c => Nat.not_le.mpr h1 c.1)]
  · rw [if_neg h1]
    by_cases h2 : i - a < p.length
    · rw [if_pos h2, if_pos ⟨Nat.le_of_not_lt h1, by omega⟩]
    · rw [if_neg h2, if_neg (by omega)]
      congr 1; omega

def Disjoint (fs : List Field) : Prop :=
  fs.Pairwise (fun f g => f.offset + packWidth f.pack ≤ g.offset ∨ g.offset + packWidth g.pack ≤ f.offset)

theorem packLoop_spec (fs : List Field) : ∀ (data : List Nat),
    (∀ f ∈ fs, valueFits f.pack f.default = true ∧ f.offset + packWidth f.pack ≤ data.length) →
    Disjoint fs →
    ∃ out, packLoop data fs = .ok out ∧ out.length = data.length ∧
      (∀ f ∈ fs, ∀ j, j < packWidth f.pack → out[f.offset + j]? = some (leByte f.default j)) ∧
      (∀ i, (∀ f ∈ fs, ¬ covers f i) → out[i]? = data[i]?) := by
  induction fs with
  | nil => intro data _ _; exact ⟨data, rfl, rfl, fun _ h => absurd h List.not_mem_nil, fun _ _ => rfl⟩
  | cons f r ih =>
    intro data hv hd
    rw [Disjoint, List.pairwise_cons] at hd
    obtain ⟨hfit, hin⟩ := hv f (List.mem_cons_self ..)
    have hpl := valueBytes_length f.pack f.default
    have hin' : f.offset + (valueBytes f.pack f.default).length ≤ data.length := hpl.symm ▸ hin
    have hlen := splice_length data _ f.offset hin'
    obtain ⟨out, ho, hol, hfld, hrest⟩ := ih _
      (fun g hg => ⟨(hv g (.tail _ hg)).1, by rw [hlen]; exact (hv g (.tail _ hg)).2⟩) hd.2
    refine ⟨out, by simp only [packLoop, packStep, packValue_spec _ _ hfit, ho], hol.trans hlen, ?_, ?_⟩
    · intro g hg j hj
      rcases List.mem_cons.mp hg with rfl | hg
      · -- no later field touches the bytes of `g`
        rw [hrest _ (fun g' hg' hc => by have := hd.1 g' hg'; unfold covers at hc; omega),
          splice_get _ _ _ _ hin', if_pos ⟨Nat.le_add_right _ _, Nat.add_lt_add_left (hpl.symm ▸ hj) _⟩,
          Nat.add_sub_cancel_left, valueBytes_get _ _ _ hj]
      · exact hfld g hg j hj
    · intro i hi
      have := hi f (List.mem_cons_self ..)
      rw [hrest i (fun g hg => hi g (.tail _ hg)), splice_get _ _ _ _ hin', if_neg (hpl.symm ▸ this)]

def upd (k : String) (v : Int) (f : Field) : Field := if f.name = k then { f with default := v } else f

/-- the field after a sequence of assignments `d` -/
def applyDict (d : Dict) (f : Field) : Field :=
  match dictGet d f.name with
  | some v => { f with default := v }
  | none => f

def DistinctNames (fs : List Field) : Prop := fs.Pairwise (fun f g => f.name ≠ g.name)

theorem upd_name (k : String) (v : Int) (f : Field) : (upd k v f).name = f.name := by
  unfold upd; split <;> rfl

theorem applyDict_name (d : Dict) (f : Field) : (applyDict d f).name = f.name := by
  unfold applyDict; split <;> rfl

theorem setDefault_map (fs : List Field) (k : String) (v : Int) (hk : ∃ f ∈ fs, f.name = k)
    (nd : DistinctNames fs) : setDefault fs k v = some (fs.map (upd k v)) := by
  induction fs with
  | nil => obtain ⟨f, hf, _⟩ := hk; cases hf
  | cons f r ih =>
    rw [DistinctNames, List.pairwise_cons] at nd
    by_cases hf : f.name = k
    · -- the names after the first hit differ from `k`: `upd` leaves the rest alone
      have : r.map (upd k v) = r :=
        (List.map_congr_left fun g hg => by simp [upd, hf ▸ (nd.1 g hg).symm]).trans (List.map_id r)
      simp [setDefault, hf, upd, this]
    · obtain ⟨g, hg, hn⟩ := hk
      have hk' : ∃ g ∈ r, g.name = k :=
        ⟨g, (List.mem_cons.mp hg).resolve_left fun e => hf (e ▸ hn), hn⟩
      simp [setDefault, hf, ih hk' nd.2, upd]

theorem distinct_map (fs : List Field) (g : Field → Field) (hg : ∀ f, (g f).name = f.name)
    (nd : DistinctNames fs) : DistinctNames (fs.map g) := by
  unfold DistinctNames at *
  rw [List.pairwise_map]
  simpa [hg] using nd

theorem applyDict_cons (k : String) (v : Int) (r : Dict) (f : Field) :
    applyDict ((k, v) :: r) f = applyDict r (upd k v f) := by
  simp only [applyDict, upd_name, dictGet]
  cases dictGet r f.name with
  | some x => simp only [upd]; split <;> rfl
  | none =>
    by_cases e : f.name = k
    · simp [upd, e]
    · have e' : ¬ k = f.name := fun h => e h.symm
      simp [upd, e, e']

theorem updateDefaults_map (d : Dict) (fs : List Field)
    (hk : ∀ p ∈ d, ∃ f ∈ fs, f.name = p.1) (nd : DistinctNames fs) :
    updateDefaults fs d = .ok (fs.map (applyDict d)) := by
  fun_induction updateDefaults fs d with
  | case1 fs => exact congrArg Except.ok (List.map_id'' (fun _ => rfl) fs).symm
  | case2 fs k v r fs' h ih =>
    cases Option.some.inj (h.symm.trans (setDefault_map fs k v (hk _ (.head _)) nd))
    rw [ih (fun q hq => let ⟨f, hf, hn⟩ := hk q (.tail _ hq); ⟨_, List.mem_map_of_mem hf, (upd_name k v f).trans hn⟩)
      (distinct_map fs _ (upd_name k v) nd), List.map_map]
    exact congrArg Except.ok (List.map_congr_left fun f _ => (applyDict_cons k v r f).symm)
  | case3 fs k v r h => rw [setDefault_map fs k v (hk _ (.head _)) nd] at h; cases h

end Rig.C20
