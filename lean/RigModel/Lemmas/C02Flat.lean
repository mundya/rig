/-
C02 - the resource invariant `Inv` of the constraint loop and of the placement loops, on the problem after same-chip
merging (the "flat" problem); `Feasible` from the invariant at the end.  The documented preconditions `NonNegVR`,
`NonNegCap`, `Known`; the lemmas about `load`; `mergeP` / `Inv.compose`: the placement of the constraint loop joined
with the annealer's initial placement.
-/
import RigModel.Lemmas.C02Basic

namespace Rig.C02

/-- documented precondition: resource requirements are non-negative -/
def NonNegVR (vr : VR) : Prop := ∀ v d, (v, d) ∈ vr → ∀ i, 0 ≤ dem d i

/-- documented precondition: chip resources are non-negative -/
def NonNegCap (m : Machine) : Prop := ∀ c, m.ok c = true → ∀ i, 0 ≤ dem (cap m c) i

/-- documented precondition: constraints name only vertices of `vertices_resources` -/
def CKnown (vr : VR) : Constraint → Prop
  | .loc v _ => v ∈ keys vr
  | .same vs => ∀ v ∈ vs, v ∈ keys vr
  | _ => True

def Known (vr : VR) (cs : List Constraint) : Prop := ∀ c ∈ cs, CKnown vr c

theorem load_cons (v : Vtx) (d : Res) (t : VR) (p : Placement) (c : Chip) (i : Nat) :
    load ((v, d) :: t) p c i = (if aget p v = some c then dem d i else 0) + load t p c i := rfl

theorem load_congr_chip (vr : VR) (p q : Placement) (c : Chip) (i : Nat)
    (h : ∀ v ∈ keys vr, (aget p v = some c ↔ aget q v = some c)) : load vr p c i = load vr q c i := by
  induction vr with
  | nil => rfl
  | cons hd t ih =>
    obtain ⟨u, du⟩ := hd
    rw [load_cons, load_cons, ih (List.forall_mem_cons.1 h).2]
    simp only [h u List.mem_cons_self]

theorem load_congr (vr : VR) (p q : Placement) (c : Chip) (i : Nat)
    (h : ∀ v ∈ keys vr, aget p v = aget q v) : load vr p c i = load vr q c i :=
  load_congr_chip vr p q c i fun v hv => by rw [h v hv]

theorem load_adel (vr : VR) (p : Placement) (v : Vtx) (r : Res) (c : Chip) (i : Nat)
    (hn : (keys vr).Nodup) (hv : aget vr v = some r) :
    load vr p c i = load (adel vr v) p c i + (if aget p v = some c then dem r i else 0) := by
  induction vr with
  | nil => cases hv
  | cons hd t ih =>
    obtain ⟨u, du⟩ := hd
    rw [aget_cons] at hv
    rw [adel_cons, load_cons]
    by_cases hu : u = v
    · rw [if_pos hu] at hv; cases hv; rw [if_pos hu, hu]; exact Int.add_comm ..
    · rw [if_neg hu] at hv; rw [if_neg hu, load_cons, ih (List.nodup_cons.1 hn).2 hv, Int.add_assoc]

theorem load_aset_notin (vr : VR) (p : Placement) (v : Vtx) (c0 c : Chip) (i : Nat)
    (h : v ∉ keys vr) : load vr (aset p v c0) c i = load vr p c i :=
  load_congr vr _ p c i fun _ hu => aget_aset_ne p c0 fun e => h (e ▸ hu)

theorem load_aset_eq (vr : VR) (p : Placement) (v : Vtx) (b c : Chip) (d : Res) (i : Nat)
    (hn : (keys vr).Nodup) (hv : aget vr v = some d) :
    load vr (aset p v b) c i =
      load vr p c i - (if aget p v = some c then dem d i else 0) + (if b = c then dem d i else 0) := by
  -- without `v` nothing moves; `v` itself leaves `c` if it was there and arrives if `b = c`
  rw [load_adel vr (aset p v b) v d c i hn hv, load_adel vr p v d c i hn hv,
    load_aset_notin _ p v b c i fun h => ((mem_keys_adel vr v v hn).1 h).1 rfl, aget_aset_self]
  simp only [Option.some.injEq]
  omega

theorem load_aset_le (vr : VR) (p : Placement) (v : Vtx) (c0 c : Chip) (d : Res) (i : Nat)
    (hn : (keys vr).Nodup) (hv : aget vr v = some d) (hd : 0 ≤ dem d i) :
    load vr (aset p v c0) c i ≤ load vr p c i + (if c = c0 then dem d i else 0) := by
  rw [load_aset_eq vr p v c0 c d i hn hv]
  have : 0 ≤ if aget p v = some c then dem d i else 0 := by
    split
    · exact hd
    · exact Int.le_refl 0
  by_cases e : c0 = c
  · rw [if_pos e, if_pos e.symm]; omega
  · rw [if_neg e, if_neg (Ne.symm e)]; omega

theorem load_append (a b : VR) (p : Placement) (c : Chip) (i : Nat) :
    load (a ++ b) p c i = load a p c i + load b p c i := by
  induction a with
  | nil => exact (Int.zero_add _).symm
  | cons hd t ih => obtain ⟨u, du⟩ := hd; rw [List.cons_append, load_cons, load_cons, ih, Int.add_assoc]

theorem load_nil (vr : VR) (c : Chip) (i : Nat) : load vr [] c i = 0 := by
  induction vr with
  | nil => rfl
  | cons hd t ih => obtain ⟨u, du⟩ := hd; rw [load_cons, ih]; rfl

/-- `m0` holds the capacities, `m` (same size, same dead chips) the resources still free, `rsv c i` an
amount set aside on chip `c`; `bound`: load of `p` + `rsv` + free of `m` ≤ capacity of `m0` -/
structure Inv (vr : VR) (m0 : Machine) (rsv : Chip → Nat → Int) (m : Machine) (p : Placement) : Prop where
  w : m.w = m0.w
  h : m.h = m0.h
  dead : m.dead = m0.dead
  len : ∀ c, m0.ok c = true → (cap m c).length = (cap m0 c).length
  nonneg : ∀ c, m0.ok c = true → ∀ i, 0 ≤ dem (cap m c) i
  bound : ∀ c, m0.ok c = true → ∀ i, i < (cap m0 c).length →
    load vr p c i + rsv c i + dem (cap m c) i ≤ dem (cap m0 c) i
  pok : ∀ v c, aget p v = some c → m0.ok c = true
  pvr : ∀ v, v ∈ keys p → v ∈ keys vr
  pnodup : (keys p).Nodup

theorem Inv.ok_eq {vr m0 rsv m p} (I : Inv vr m0 rsv m p) (c : Chip) : m.ok c = m0.ok c :=
  Machine.ok_congr I.w I.h I.dead c

theorem Inv.init (vr : VR) (m0 : Machine) (h : NonNegCap m0) : Inv vr m0 (fun _ _ => 0) m0 [] where
  w := rfl
  h := rfl
  dead := rfl
  len := fun _ _ => rfl
  nonneg := h
  bound := fun c _ i _ => by rw [load_nil]; omega
  pok := nofun
  pvr := nofun
  pnodup := .nil

theorem Inv.congr_rsv {vr m0 rsv rsv' m p} (I : Inv vr m0 rsv m p) (h : ∀ c i, rsv c i = rsv' c i) :
    Inv vr m0 rsv' m p :=
  (funext fun c => funext (h c) : rsv = rsv') ▸ I

theorem Inv.update {vr m0 rsv rsv' m m' p p'} (I : Inv vr m0 rsv m p)
    (hw : m'.w = m.w) (hh : m'.h = m.h) (hd : m'.dead = m.dead)
    (hc : ∀ c, m0.ok c = true → (cap m' c).length = (cap m c).length ∧ (∀ i, 0 ≤ dem (cap m' c) i) ∧
      ∀ i, i < (cap m c).length →
        load vr p' c i + rsv' c i + dem (cap m' c) i ≤ load vr p c i + rsv c i + dem (cap m c) i)
    (pok : ∀ v c, aget p' v = some c → m0.ok c = true) (pvr : ∀ v, v ∈ keys p' → v ∈ keys vr)
    (pnodup : (keys p').Nodup) : Inv vr m0 rsv' m' p' where
  w := hw.trans I.w
  h := hh.trans I.h
  dead := hd.trans I.dead
  len c h0 := ((hc c h0).1).trans (I.len c h0)
  nonneg c h0 := (hc c h0).2.1
  bound c h0 i hi :=
    Int.le_trans ((hc c h0).2.2 i (I.len c h0 ▸ hi)) (I.bound c h0 i hi)
  pok := pok
  pvr := pvr
  pnodup := pnodup

theorem dem_nonneg_of_over {r : Res} (h : over r = false) (i : Nat) : 0 ≤ dem r i := by
  by_cases hi : i < r.length
  · exact (over_false_iff r).1 h i hi
  · rw [dem_ge_length r i (by omega)]; omega

theorem NonNegCap.set {m m' : Machine} {c : Chip} {r : Res} (hnn : NonNegCap m) (hs : m.set c r = some m')
    (hr : over r = false) : NonNegCap m' := by
  obtain ⟨_, hw, hh, hd, _, hcap⟩ := Machine.set_some hs
  intro c' hc' i
  rw [hcap c']; split
  · exact dem_nonneg_of_over hr i
  · exact hnn c' (Machine.ok_congr hw hh hd c' ▸ hc') i

/-- a step moves `t` from the free amount `x` to the load `a` or the reservations `r` -/
theorem add_sub_le {a a' r r' x t : Int} (h : a' + r' ≤ a + r + t) : a' + r' + (x - t) ≤ a + r + x := by
  omega

theorem Inv.place {vr m0 rsv m p} (I : Inv vr m0 rsv m p) (hn : (keys vr).Nodup) (hnn : NonNegVR vr)
    {v : Vtx} {d : Res} {c0 : Chip} {cur : Res} {m' : Machine}
    (hv : aget vr v = some d) (hg : m.get c0 = some cur) (ho : over (sub cur d) = false)
    (hs : m.set c0 (sub cur d) = some m') : Inv vr m0 rsv m' (aset p v c0) := by
  obtain ⟨hok, rfl⟩ := Machine.get_some hg
  obtain ⟨_, hw, hh, hdd, _, hcap⟩ := Machine.set_some hs
  refine I.update hw hh hdd (fun c _ => ?_) (fun u c hu => ?_) (fun u hu => ?_)
    (nodup_keys_aset _ _ _ I.pnodup)
  · have hl := fun i => load_aset_le vr p v c0 c d i hn hv (hnn v d (aget_some_mem hv) i)
    rw [hcap c]
    by_cases e : c0 = c
    · subst e
      rw [if_pos rfl]
      refine ⟨sub_length _ _, dem_nonneg_of_over ho, fun i hi => ?_⟩
      have := hl i
      rw [if_pos rfl] at this
      rw [dem_sub hi]
      exact add_sub_le (Int.add_right_comm _ _ _ ▸ Int.add_le_add_right this _)
    · rw [if_neg e]
      refine ⟨rfl, I.nonneg c ‹_›, fun i _ => ?_⟩
      have := hl i
      rw [if_neg (Ne.symm e), Int.add_zero] at this
      exact Int.add_le_add_right (Int.add_le_add_right this _) _
  · rw [aget_aset] at hu
    split at hu
    · cases hu; exact I.ok_eq _ ▸ hok
    · exact I.pok u c hu
  · rcases (mem_keys_aset ..).1 hu with rfl | hu
    · exact (aget_isSome_iff vr _).1 (hv ▸ rfl)
    · exact I.pvr u hu

/-- `initial_placements.update(fixed_vertices)` -/
def mergeP (init fixed : Placement) : Placement := fixed.foldl (fun q (vc : Vtx × Chip) => aset q vc.1 vc.2) init

theorem aget_mergeP : ∀ (fixed init : Placement) (v : Vtx), (keys fixed).Nodup →
    aget (mergeP init fixed) v = match aget fixed v with | some c => some c | none => aget init v := by
  intro fixed
  induction fixed with
  | nil => intro init v _; simp [mergeP, aget]
  | cons hd t ih =>
    obtain ⟨u, cu⟩ := hd
    intro init v hn
    simp only [keys, List.map_cons, List.nodup_cons] at hn
    have := ih (aset init u cu) v hn.2
    simp only [mergeP, List.foldl_cons] at this ⊢
    rw [this]
    by_cases e : u = v
    · subst e
      have hnone : aget t u = none := aget_none_iff.2 hn.1
      simp [aget, hnone, aget_aset_self]
    · simp only [aget, e, if_false]
      cases aget t v with
      | none => simp [aget_aset_ne init cu e]
      | some c => rfl

theorem load_merge_le (vr : VR) (p a b : Placement) (c : Chip) (i : Nat) (hnn : NonNegVR vr)
    (h : ∀ v c, aget p v = some c → aget a v = some c ∨ aget b v = some c) :
    load vr p c i ≤ load vr a c i + load vr b c i := by
  induction vr with
  | nil => exact Int.le_refl 0
  | cons hd t ih =>
    obtain ⟨u, du⟩ := hd
    have hd0 : 0 ≤ dem du i := hnn u du (List.mem_cons_self ..) i
    have := ih (fun v d hv => hnn v d (List.mem_cons_of_mem _ hv))
    have ha : 0 ≤ if aget a u = some c then dem du i else 0 := by split; exact hd0; exact Int.le_refl 0
    have hb : 0 ≤ if aget b u = some c then dem du i else 0 := by split; exact hd0; exact Int.le_refl 0
    simp only [load]
    by_cases hp : aget p u = some c
    · rw [if_pos hp]
      rcases h u c hp with h1 | h1 <;> rw [if_pos h1] <;> omega
    · rw [if_neg hp]; omega

theorem Inv.compose {vr : VR} {m0 m1 m2 : Machine} {rsv : Chip → Nat → Int} {fixed init : Placement}
    (hnn : NonNegVR vr)
    (I1 : Inv vr m0 rsv m1 fixed) (I2 : Inv vr m1 (fun _ _ => 0) m2 init) :
    Inv vr m0 rsv m2 (mergeP init fixed) := by
  have hok : ∀ {c}, m0.ok c = true → m1.ok c = true := fun hc => (I1.ok_eq _).trans hc
  have hor : ∀ v c, aget (mergeP init fixed) v = some c → aget init v = some c ∨ aget fixed v = some c := by
    intro v c hv
    rw [aget_mergeP fixed init v I1.pnodup] at hv
    cases hx : aget fixed v with
    | none => rw [hx] at hv; exact .inl hv
    | some c' => rw [hx] at hv; exact .inr hv
  have hkey : ∀ {p : Placement} {v c}, aget p v = some c → v ∈ keys p := fun h => (aget_isSome_iff _ _).1 (h ▸ rfl)
  -- what the second phase takes from the machine of the first covers its own load
  refine I1.update I2.w I2.h I2.dead (fun c hc => ⟨I2.len c (hok hc), I2.nonneg c (hok hc), fun i hi => ?_⟩)
    (fun v c hv => (hor v c hv).elim (fun h => I1.ok_eq c ▸ I2.pok v c h) (I1.pok v c)) (fun v hv => ?_)
    (foldl_inv (fun q => (keys q).Nodup) _ fixed init I2.pnodup fun _ hq _ _ => nodup_keys_aset _ _ _ hq)
  · have b2 := I2.bound c (hok hc) i hi
    have hl := load_merge_le vr (mergeP init fixed) init fixed c i hnn hor
    omega
  · obtain ⟨c, hx⟩ := Option.isSome_iff_exists.1 ((aget_isSome_iff _ v).2 hv)
    exact (hor v c hx).elim (fun h => I2.pvr v (hkey h)) fun h => I1.pvr v (hkey h)

/-- every same-chip constraint left after merging lists one vertex only -/
def SameTrivial (cs : List Constraint) : Prop :=
  ∀ vs, Constraint.same vs ∈ cs → ∀ a ∈ vs, ∀ b ∈ vs, a = b

theorem feasible_of_inv {vr : VR} {cs : List Constraint} {m0 mf : Machine} {pf : Placement}
    (I : Inv vr m0 (fun c i => reserved cs c i) mf pf)
    (hall : ∀ v ∈ keys vr, (aget pf v).isSome)
    (hloc : ∀ v c, Constraint.loc v c ∈ cs → aget pf v = some c)
    (hsame : SameTrivial cs) : Feasible vr cs m0 pf where
  keysNodup := I.pnodup
  placed v hv :=
    have ⟨c, hp⟩ := Option.isSome_iff_exists.1 (hall v hv)
    ⟨c, hp, I.pok v c hp⟩
  onlyVertices := I.pvr
  capacity c hc i hi := by
    have := I.bound c hc i hi
    have := I.nonneg c hc i
    omega
  location := hloc
  sameChip vs hvs a ha b hb := by rw [hsame vs hvs a ha b hb]

end Rig.C02
