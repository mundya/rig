/-
C08 - translator tie: `BitField._assign_field` (rig/bitfield.py) = the part of the model's `assignField` that follows
`get_field` (`assignCore`).  The `_Field` object returned by `self.fields.get_field(...)` is represented by its
attributes `length`, `start_at` (int or None) and `max_value`; `int(log(max_value, 2))` is the operation `ilog2` of the
float-semantics parameter, instantiated with the model's account of that floating-point logarithm (`Field.chosenLen`:
the exact integer logarithm, plus the observed spare bit from 2^44 on).
-/
import RigModel.Model.C08
import RigModel.Gen.PyFun
import RigModel.Lemmas.PyCast

namespace Rig.C08
open Rig.Gen Rig.IntBits Rig.PyLoops

/-- `_assign_field` after `get_field`: (new mask, chosen length, chosen start) -/
def assignCore (L : Nat) (f : Field) (assigned : Nat) : Except Err (Nat × Nat × Nat) :=
  let len := f.chosenLen
  match f.startAt with
  | none =>
    match firstFit L len assigned with
    | some b => if b + len ≤ L then .ok (assigned ||| rangeMask len b, len, b) else .error .valueError
    | none => .error .valueError
  | some s =>
    if assigned &&& rangeMask len s != 0 then .error .valueError
    else if s + len ≤ L then .ok (assigned ||| rangeMask len s, len, s)
    else .error .valueError

/-- the model's `assignField` is `get_field` followed by `assignCore` and the write-back -/
theorem assignField_core (st : State) (assigned : Nat) (ident : Ident) (fv : Reqs) :
    assignField st assigned ident fv =
      match getField st.entries ident fv with
      | none => .error .unavailable
      | some e =>
        match assignCore st.length e.field assigned with
        | .ok (a', len, s) =>
          .ok ({ st with entries := modifyField st.entries ident fv fun f => { f with length := some len, startAt := some s } }, a')
        | .error x => .error x := by
  unfold assignField assignCore
  cases getField st.entries ident fv with
  | none => rfl
  | some e =>
    dsimp only
    cases e.field.startAt with
    | none =>
      dsimp only
      cases firstFit st.length e.field.chosenLen assigned with
      | none => rfl
      | some b => dsimp only; split <;> rfl
    | some s => dsimp only; split <;> [rfl; (split <;> rfl)]

/-- `int(log(k, 2))` as the model accounts for it (`spare` = the floating-point logarithm of this value came out one
too large; only possible from `SPARE_FROM` on) -/
def logOps (spare : Bool) : PyFun.PyFloatOps Unit where
  pow2 _ := .ok ()
  ofInt _ := .ok ()
  mul _ _ := ()
  toInt _ := .ok 0
  ilog2 k := if k ≤ 0 then .error "ValueError"
    else .ok (((Nat.log2 k.toNat + (if spare && decide (SPARE_FROM ≤ k.toNat) then 1 else 0) : Nat)) : Int)

def optI : Option Nat → Option Int
  | none => none
  | some a => some (a : Int)

/-- `((1 << length) - 1) << bit` on the Python ints of naturals -/
theorem rangeMask_int (len b : Nat) :
    (((1 : Int) <<< len) - 1) <<< b = ((rangeMask len b : Nat) : Int) := by
  have h1 : 1 ≤ (1 : Nat) <<< len := by rw [Nat.one_shiftLeft]; exact Nat.two_pow_pos _
  rw [one_natCast, shl_natCast, sub_natCast _ _ h1, shl_natCast]
  rfl

theorem scan_step (len a b : Nat) (s : Int) :
    PyFun.BitField_assign_field_loop2 (len : Int) (false, s, (a : Int)) (b : Int)
      = if (a &&& rangeMask len b == 0) = true then (true, (b : Int), ((a ||| rangeMask len b : Nat) : Int))
        else (false, s, (a : Int)) := by
  simp only [PyFun.BitField_assign_field_loop2, Bool.false_eq_true, if_false, ↓rangeMask_int, py_cast, py_ac, ne_eq,
    not_not, beq_iff_eq]

/-- after the `break` the remaining iterations do nothing -/
theorem scan_done (len s a : Int) (l : List Int) :
    l.foldl (PyFun.BitField_assign_field_loop2 len) (true, s, a) = (true, s, a) :=
  foldl_fixed (fun _ => rfl) l

theorem scan_find (len a : Nat) (s : Int) :
    ∀ (l : List Nat), (l.map (fun (k : Nat) => (k : Int))).foldl (PyFun.BitField_assign_field_loop2 (len : Int))
        (false, s, (a : Int))
      = match l.find? (fun b => a &&& rangeMask len b == 0) with
        | some b => (true, (b : Int), ((a ||| rangeMask len b : Nat) : Int))
        | none => (false, s, (a : Int))
  | [] => rfl
  | b :: t => by
    rw [List.map_cons, List.foldl_cons, scan_step, List.find?_cons]
    cases a &&& rangeMask len b == 0 with
    | true => exact scan_done _ _ _ _
    | false => exact scan_find len a s t

theorem firstFit_eq (L len assigned : Nat) :
    firstFit L len assigned = (List.range (L + 1 - len)).find? (fun b => assigned &&& rangeMask len b == 0) := by
  unfold firstFit
  split
  · rename_i h
    rw [show L + 1 - len = 0 from Nat.sub_eq_zero_of_le h]; rfl
  · rfl

theorem scan_range (L len : Nat) :
    PyFun.pyRange1 0 ((L : Int) - (len : Int) + 1) = (List.range (L + 1 - len)).map (fun (k : Nat) => (k : Int)) := by
  rw [pyRange1_eq, show ((L : Int) - (len : Int) + 1 - 0).toNat = L + 1 - len by omega]
  exact List.map_congr_left fun k _ => Int.zero_add _

/-- (mask, field.length, field.start_at, field.max_value) -/
def corePy (mv : Nat) : Except Err (Nat × Nat × Nat) → Except String (Int × Option Int × Option Int × Int)
  | .ok (a', len, s) => .ok ((a' : Int), some (len : Int), some (s : Int), (mv : Int))
  | .error _ => .error "ValueError"

/-- the branch `length is None` computes the length and goes on as the other branch does: the two copies of the scan
loop's body, one per branch, unfold to the same term -/
theorem auto_length {φ : Type} (F : PyFun.PyFloatOps φ) (sa : Option Int) (mv L a : Int) :
    PyFun.BitField_assign_field F none sa mv L a
      = match F.ilog2 mv with
        | .error e => .error e
        | .ok t => PyFun.BitField_assign_field F (some (t + 1)) sa mv L a := by
  unfold PyFun.BitField_assign_field
  cases F.ilog2 mv <;> rfl

theorem assign_length {φ : Type} (F : PyFun.PyFloatOps φ) (L : Nat) (f : Field) (assigned : Nat) :
    PyFun.BitField_assign_field F (some (f.chosenLen : Int)) (optI f.startAt) (f.maxValue : Int) (L : Int) (assigned : Int)
      = corePy f.maxValue (assignCore L f assigned) := by
  unfold PyFun.BitField_assign_field assignCore
  generalize f.chosenLen = len
  cases f.startAt with
  | none =>
    simp only [optI, scan_range, scan_find, firstFit_eq]
    cases hf : (List.range (L + 1 - len)).find? (fun b => assigned &&& rangeMask len b == 0) with
    | some b =>
      simp only [py_cast, py_ac]
      split <;> rfl
    | none =>
      -- nothing found, although a field of no bits fits anywhere: `len ≥ 1`, and `start_at = L` does not fit
      have hlen : len ≠ 0 := by
        rintro rfl
        have := List.find?_eq_none.mp hf 0 (List.mem_range.mpr (Nat.succ_pos L))
        simp [rangeMask] at this
      simp only [py_cast, py_ac]
      rw [if_neg (by omega)]
      rfl
  | some s =>
    simp only [optI, ↓rangeMask_int, py_cast, py_ac, ne_eq, bne_iff_ne, ite_not]
    split
    · split <;> rfl
    · rfl

/-- the automatic length needs `max_value > 0`: Python raises ValueError (math domain error) for `log(0)`, which the
model does not have -/
theorem gen_assign_field (L : Nat) (f : Field) (assigned : Nat) (hmv : f.length = none → 0 < f.maxValue) :
    PyFun.BitField_assign_field (logOps f.spare) (optI f.length) (optI f.startAt) (f.maxValue : Int) (L : Int)
        (assigned : Int)
      = corePy f.maxValue (assignCore L f assigned) := by
  rw [← assign_length (logOps f.spare)]
  cases hl : f.length with
  | none =>
    have hk : ¬ ((f.maxValue : Int) ≤ 0) := by have := hmv hl; omega
    rw [optI, auto_length, Field.chosenLen, hl]
    simp only [logOps, hk, if_false, Int.toNat_natCast, autoLen]
    congr 2
    split <;> omega
  | some len => rw [Field.chosenLen, hl]; rfl

/-- `assignCore` on an instance that meets `hmv` (`max_value` defaults to 1) -/
example : assignCore 8 { length := some 3, startAt := none, tags := [], maxValue := 1 } 3 = .ok (31, 3, 2) := by decide

end Rig.C08
