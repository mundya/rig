/-
C02 (companion) - the reverse Cuthill-McKee vertex order, second part.  `_cuthill_mckee` is THE
loop that does not terminate on a disconnected graph (the docstring warns).  Every subgraph handed
to it by `rcm_vertex_order` is the depth-first closure of one vertex in a SYMMETRIC table, hence
connected; while `len(cm_order) < len(vertices)` the next layer is then non-empty (otherwise the
visited set would be closed under neighbours and contain the whole subgraph), so `cm_order` grows
by at least one vertex per iteration: at most `len(vertices)` iterations.  The same invariant
keeps the next layer inside the subgraph (no `KeyError`); the subgraph is not empty (no
`ValueError` from `min()`); the order is a rearrangement of the subgraph.
-/
import RigModel.Lemmas.C02OrdersRcm
import Mathlib.Data.List.Perm.Subperm

namespace Rig.C02Orders

section generic
variable {α : Type}

theorem argminFirst_mem (f : α → Int) (l : List α) (p : α) (h : argminFirst f l = some p) : p ∈ l := by
  fun_induction argminFirst f l with
  | case1 => cases h
  | case2 a t _ => cases h; exact List.mem_cons_self
  | case3 a t b hb _ ih => cases h; exact List.mem_cons_of_mem _ (ih hb)
  | case4 => cases h; exact List.mem_cons_self

theorem argminFirst_ne_none (f : α → Int) (l : List α) (hl : l ≠ []) : argminFirst f l ≠ none := by
  cases l with
  | nil => exact absurd rfl hl
  | cons a t =>
    unfold argminFirst
    split
    · exact nofun
    · split <;> exact nofun

theorem sortBy_perm (f : α → Int) (l : List α) : (sortBy f l).Perm l := by
  have ins : ∀ (a : α) (l : List α), (insertBy f a l).Perm (a :: l) := by
    intro a l
    induction l with
    | nil => exact .refl _
    | cons b t ih =>
      unfold insertBy
      split
      · exact .refl _
      · exact (ih.cons b).trans (.swap a b t)
  induction l with
  | nil => exact .refl _
  | cons a t ih => exact (ins a _).trans (ih.cons a)

variable [DecidableEq α]

def CmInv (sg : List α) (s : CmSt α) : Prop :=
  s.order.Nodup ∧ (∀ a, a ∈ s.visited ↔ a ∈ s.order) ∧ (∀ a ∈ s.order, a ∈ sg)

/-- the next layer: `adjacent` after `difference_update(visited)` -/
def cmAdj (vn : VN α) (s : CmSt α) : List α :=
  (dedupL (s.prev.flatMap (nbrs vn))).filter (fun a => !decide (a ∈ s.visited))

theorem mem_cmAdj (vn : VN α) (s : CmSt α) (b : α) :
    b ∈ cmAdj vn s ↔ (∃ a ∈ s.prev, b ∈ nbrs vn a) ∧ b ∉ s.visited := by
  simp [cmAdj, mem_dedupL, List.mem_flatMap]

theorem cmStep_spec (vn : VN α) (sg : List α) (s : CmSt α) (hsub : ∀ a ∈ cmAdj vn s, a ∈ sg) :
    Returns (fun s' => ∃ it iters2, it.Nodup ∧ (∀ a, a ∈ it ↔ a ∈ cmAdj vn s) ∧
      s' = { visited := s.visited ++ cmAdj vn s, order := s.order ++ sortBy (degree vn) it,
             prev := cmAdj vn s, iters := iters2 }) (cmStep vn sg s) := by
  fun_cases cmStep vn sg s
  case case1 e he | case2 _ _ _ _ e he => exact takeIter_spec.error he
  case case3 _ _ _ _ it iters2 ht _ =>
    obtain ⟨_, hit, hm⟩ := takeIter_spec.ok ht
    exact ⟨it, iters2, hit, hm, rfl⟩
  case case4 _ _ _ _ it iters2 ht hall =>
    obtain ⟨_, hit, hm⟩ := takeIter_spec.ok ht
    exact absurd (List.all_eq_true.2 fun a ha => decide_eq_true (hsub a ((hm a).1 ha))) hall

/-- the loop invariant of `_cuthill_mckee` that carries termination: the visited set is closed
under neighbours except through the last layer -/
structure CmInv2 (vn : VN α) (sg : List α) (s : CmSt α) : Prop where
  base : CmInv sg s
  prevSub : ∀ a ∈ s.prev, a ∈ s.visited
  closed : ∀ a ∈ s.visited, a ∉ s.prev → ∀ b ∈ nbrs vn a, b ∈ s.visited
  start : ∃ a, a ∈ s.visited

theorem cmAdj_sub (vn : VN α) (sg : List α) (hc : Conn vn sg) (s : CmSt α) (I : CmInv2 vn sg s) :
    ∀ a ∈ cmAdj vn s, a ∈ sg := by
  intro b hb
  obtain ⟨⟨a, hap, hab⟩, _⟩ := (mem_cmAdj vn s b).1 hb
  exact hc.closed a (I.base.2.2 a ((I.base.2.1 a).1 (I.prevSub a hap))) b hab

theorem cmAdj_ne_nil (vn : VN α) (sg : List α) (hc : Conn vn sg) (s : CmSt α) (I : CmInv2 vn sg s)
    (hl : s.order.length < sg.length) : cmAdj vn s ≠ [] := by
  intro hadj
  have hcl : ∀ a ∈ s.visited, ∀ b ∈ nbrs vn a, b ∈ s.visited := by
    intro a ha b hb
    by_cases hap : a ∈ s.prev
    · refine Decidable.byContradiction fun hbv => ?_
      exact List.not_mem_nil (hadj ▸ (mem_cmAdj vn s b).2 ⟨⟨a, hap, hb⟩, hbv⟩)
    · exact I.closed a ha hap b hb
  obtain ⟨p0, hp0⟩ := I.start
  have hall : ∀ b, Reach vn p0 b → b ∈ s.visited := by
    intro b hr
    induction hr with
    | refl => exact hp0
    | tail _ hstep ih => exact hcl _ ih _ hstep
  have hsub : sg ⊆ s.order := fun b hb => (I.base.2.1 b).1
    (hall b (hc.conn p0 (I.base.2.2 p0 ((I.base.2.1 p0).1 hp0)) b hb))
  exact Nat.not_le_of_lt hl (List.subperm_of_subset hc.nodup hsub).length_le

theorem CmInv2.step {vn : VN α} {sg : List α} {s : CmSt α} (I : CmInv2 vn sg s)
    (hsub : ∀ a ∈ cmAdj vn s, a ∈ sg) {it : List α} (hit : it.Nodup) (hm : ∀ a, a ∈ it ↔ a ∈ cmAdj vn s)
    (iters2 : List (List α)) :
    CmInv2 vn sg { visited := s.visited ++ cmAdj vn s, order := s.order ++ sortBy (degree vn) it,
                   prev := cmAdj vn s, iters := iters2 } := by
  have hsp := sortBy_perm (degree vn) it
  obtain ⟨⟨i1, i2, i3⟩, _, icl, a0, ha0⟩ := I
  refine ⟨⟨?_, fun a => ?_, fun a ha => ?_⟩, fun a ha => List.mem_append_right _ ha, fun a ha hna b hb' => ?_,
    a0, List.mem_append_left _ ha0⟩
  · refine List.nodup_append.2 ⟨i1, hsp.nodup_iff.2 hit, fun a ha b hb e => ?_⟩
    exact ((mem_cmAdj vn s b).1 ((hm b).1 (hsp.mem_iff.1 hb))).2 ((i2 b).2 (e ▸ ha))
  · simp only [List.mem_append, i2 a, hsp.mem_iff, hm a]
  · exact (List.mem_append.1 ha).elim (i3 a) fun h => hsub a ((hm a).1 (hsp.mem_iff.1 h))
  · have hav : a ∈ s.visited := (List.mem_append.1 ha).resolve_right hna
    by_cases hbv : b ∈ s.visited
    · exact List.mem_append_left _ hbv
    · refine List.mem_append_right _ ((mem_cmAdj vn s b).2 ⟨⟨a, ?_, hb'⟩, hbv⟩)
      exact Decidable.byContradiction fun hap => hbv (icl a hav hap b hb')

theorem cmLoop_spec (vn : VN α) (sg : List α) (hc : Conn vn sg) (fuel : Nat) (s : CmSt α)
    (I : CmInv2 vn sg s) (hf : sg.length ≤ s.order.length + fuel) :
    Returns (fun r => r.1.Perm sg) (cmLoop vn sg fuel s) := by
  have fin : ∀ {s : CmSt α}, CmInv2 vn sg s → ¬ s.order.length < sg.length → s.order.Perm sg :=
    fun I hl => (List.subperm_of_subset I.base.1 I.base.2.2).perm_of_length_le (Nat.le_of_not_lt hl)
  fun_induction cmLoop vn sg fuel s with
  | case1 s hl => exact absurd hf (Nat.not_le_of_lt hl)
  | case2 s hl | case5 _ s hl => exact fin I hl
  | case3 _ s hl e he => exact (cmStep_spec vn sg s (cmAdj_sub vn sg hc s I)).error he
  | case4 fuel s hl s' hs ih =>
    obtain ⟨it, iters2, hit, hm, rfl⟩ := (cmStep_spec vn sg s (cmAdj_sub vn sg hc s I)).ok hs
    refine ih (I.step (cmAdj_sub vn sg hc s I) hit hm iters2) ?_
    have hit1 : 0 < it.length := by
      cases hca : cmAdj vn s with
      | nil => exact absurd hca (cmAdj_ne_nil vn sg hc s I hl)
      | cons a t => exact List.length_pos_of_mem ((hm a).2 (hca ▸ List.mem_cons_self))
    have := (sortBy_perm (degree vn) it).length_eq
    simp only [List.length_append]
    omega

theorem cuthillMckee_spec (vn : VN α) (sg : List α) (hc : Conn vn sg) (iters : List (List α)) :
    Returns (fun r => r.1.Perm sg) (cuthillMckee vn sg iters) := by
  fun_cases cuthillMckee vn sg iters
  case case1 e he | case2 _ _ _ e he => exact takeIter_spec.error he
  case case3 _ _ _ it iters2 ht hnone =>
    -- `min()` of an empty set: impossible, the subgraph is not empty
    obtain ⟨a, ha⟩ := List.exists_mem_of_ne_nil sg hc.ne
    have hm := (takeIter_spec.ok ht).2.2
    exact absurd hnone (argminFirst_ne_none _ it (List.ne_nil_of_mem ((hm a).2 ha)))
  case case4 _ _ _ it iters2 ht p hp =>
    have hpsg : p ∈ sg := ((takeIter_spec.ok ht).2.2 p).1 (argminFirst_mem _ _ _ hp)
    refine cmLoop_spec vn sg hc _ _ ⟨⟨List.nodup_singleton p, fun a => Iff.rfl, ?_⟩, fun a ha => ha,
      fun a ha hna => absurd ha hna, p, List.mem_cons_self⟩ (Nat.le_add_left _ _)
    exact fun a ha => List.mem_singleton.1 ha ▸ hpsg

theorem rcmLoop_spec (vn : VN α) (sgs : List (List α)) (iters : List (List α)) (out : List α)
    (hc : ∀ sg ∈ sgs, Conn vn sg) : Returns (fun r => r.1.Perm (out ++ sgs.flatten)) (rcmLoop vn sgs iters out) := by
  fun_induction rcmLoop vn sgs iters out with
  | case1 => exact (List.append_nil _).symm ▸ List.Perm.refl _
  | case2 sg rest iters out e he => exact (cuthillMckee_spec vn sg (hc sg List.mem_cons_self) iters).error he
  | case3 sg rest iters out cm iters' hcm ih =>
    have hp : cm.Perm sg := (cuthillMckee_spec vn sg (hc sg List.mem_cons_self) iters).ok hcm
    refine (ih fun s hs => hc s (List.mem_cons_of_mem _ hs)).imp fun r hr => hr.trans ?_
    rw [List.flatten_cons, List.append_assoc]
    exact ((cm.reverse_perm.trans hp).append_right _).append_left _

theorem rcmVertexOrder_spec (vs : List α) (nets : List (Net α)) (pops : List α) (iters : List (List α)) :
    Returns (fun order => order.Nodup ∧ (∀ v ∈ vs, v ∈ order) ∧
      ∀ v ∈ order, v ∈ vs ∨ ∃ n ∈ nets, v = n.src ∨ v ∈ n.sinks) (rcmVertexOrder vs nets pops iters) := by
  let V : α → Prop := fun v => ∃ n ∈ nets, v = n.src ∨ v ∈ n.sinks
  let Q : α → Prop := fun v => v ∈ vs ∨ V v
  have hW : Within V (getVerticesNeighbours nets) :=
    getVN_within nets V (fun n hn => ⟨⟨n, hn, Or.inl rfl⟩, fun s hs => ⟨n, hn, Or.inr hs⟩⟩)
  have hsym := getVN_sym nets
  have S := subgraphsLoop_spec (getVerticesNeighbours nets) (SgInv (getVerticesNeighbours nets) vs Q)
    (fun _ _ _ _ I hp hd => I.step hsym (fun a _ b hb => Or.inr (hW a b hb).2) hp hd)
    (dedupL vs).length (dedupL vs) pops []
    ⟨nodup_dedupL vs, nofun, nofun, .nil, nofun, fun v hv => Or.inl ((mem_dedupL vs v).2 hv), nofun,
      fun a ha => Or.inl ((mem_dedupL vs a).1 ha)⟩ (Nat.le_refl _)
  unfold rcmVertexOrder connectedSubgraphs
  dsimp only
  split
  · exact S.error ‹_›
  · rename_i sgs pops' hs
    have I := S.ok hs
    have R := rcmLoop_spec (getVerticesNeighbours nets) sgs iters []
      ((subgraphsLoop_conn _ hsym _ _ pops [] nofun (Nat.le_refl _)).ok hs)
    split
    · exact R.error ‹_›
    · rename_i out iters' hr
      have hp : out.Perm sgs.flatten := R.ok hr
      split
      · refine ⟨hp.nodup_iff.2 (List.nodup_flatten.2 ⟨I.nodup, I.disj⟩), fun v hv => ?_, fun v hv => ?_⟩
        · obtain ⟨s, hs', hvs⟩ := (I.cover v hv).resolve_left List.not_mem_nil
          exact hp.mem_iff.2 (List.mem_flatten.2 ⟨s, hs', hvs⟩)
        · obtain ⟨s, hs', hvs⟩ := List.mem_flatten.1 (hp.mem_iff.1 hv)
          exact I.q s hs' v hvs
      · rfl

end generic
end Rig.C02Orders
