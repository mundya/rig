/-
C04 - assembling the ordered-covering loop and the sort.  `Covers`: the first clause of `RouteEquiv`, composed with a
`RouteEquiv` by `covers_then_equiv`.
-/
import RigModel.Lemmas.C04Refine

namespace Rig.C04

theorem mkMerge_ins_le {T : List Entry} (hs : SortedGen T) (es : List Nat) : (mkMerge T es).ins ≤ T.length :=
  insertionIndex_le T _ hs

theorem mkMerge_insOk {T : List Entry} (hs : SortedGen T) (es : List Nat) : InsOk T (mkMerge T es) :=
  insertionIndex_spec T _ hs

theorem applyMerge_sorted (T : List Entry) (es : List Nat) (A : Aliases) (hs : SortedGen T) :
    SortedGen (applyMerge T (mkMerge T es) A).1 := by
  rw [applyMerge_table T es A (mkMerge_ins_le hs es)]
  obtain ⟨hlo, hhi⟩ := mkMerge_insOk hs es
  have hM : (mergedEntry T (mkMerge T es)).gen = generality (mkMerge T es).key (mkMerge T es).mask := rfl
  have s1 := keepIdx_sublist es 0 (T.take (mkMerge T es).ins)
  have s2 := keepIdx_sublist es (mkMerge T es).ins (T.drop (mkMerge T es).ins)
  rw [SortedGen, List.pairwise_append, List.pairwise_cons]
  refine ⟨(hs.sublist (List.take_sublist _ _)).sublist s1,
    ⟨fun b hb => hM ▸ hhi b (s2.subset hb), (hs.sublist (List.drop_sublist _ _)).sublist s2⟩,
    fun a ha b hb => ?_⟩
  have h1 := Nat.le_of_lt (hlo a (s1.subset ha))
  rcases List.mem_cons.mp hb with rfl | hb
  · exact hM ▸ h1
  · exact Nat.le_trans h1 (hhi b (s2.subset hb))

theorem keepIdx_length (es : List Nat) (i : Nat) (l : List Entry) :
    (keepIdx es i l).length + (List.range' i l.length).countP (fun j => es.contains j) = l.length := by
  induction l generalizing i with
  | nil => rfl
  | cons e r ih =>
    have := ih (i + 1)
    rw [keepIdx, List.length_append, List.length_cons, List.range'_succ, List.countP_cons]
    by_cases hc : es.contains i = true
    · rw [if_pos hc, if_pos hc, List.length_nil]; omega
    · rw [if_neg hc, if_neg hc, List.length_singleton]; omega

/-- `_Merge.goodness`, "the reduction in table size" -/
theorem applyMerge_length (T : List Entry) (es : List Nat) (A : Aliases) (hs : SortedGen T)
    (hr : es.Sublist (List.range T.length)) :
    (applyMerge T (mkMerge T es) A).1.length + es.length = T.length + 1 := by
  have hp : es.Perm ((List.range' 0 T.length).filter (fun j => es.contains j)) :=
    (List.perm_ext_iff_of_nodup (List.nodup_range.sublist hr) ((List.nodup_range' (s := 0)
      (n := T.length)).sublist List.filter_sublist)).mpr fun j => by
      rw [List.mem_filter, List.mem_range'_1, List.contains_iff_mem]
      exact ⟨fun h => ⟨⟨Nat.zero_le _, Nat.zero_add _ ▸ List.mem_range.mp (hr.subset h)⟩, h⟩, And.right⟩
  have hk := keepIdx_length es 0 T
  have hins := mkMerge_ins_le hs es
  rw [List.countP_eq_length_filter, ← hp.length_eq] at hk
  rw [applyMerge_table T es A hins, ← hk]
  conv => rhs; rw [← List.take_append_drop (mkMerge T es).ins T, keepIdx_append, Nat.zero_add,
    List.length_take_of_le hins]
  simp only [List.length_append, List.length_cons]
  omega

/-- the loop of `ordered_covering` as an invariant rule: `P` is what a round applying a `GoodMerge` preserves -/
theorem ocLoop_run (P : List Entry → Aliases → Prop)
    (hstep : ∀ T A m, SortedGen T → GoodMerge T A m → P T A → P (applyMerge T m A).1 (applyMerge T m A).2)
    (fuel : Nat) (T : List Entry) (target : Option Nat) (A : Aliases)
    (hs : SortedGen T) (hf : T.length + 1 ≤ fuel) (hP : P T A) :
    ∃ r, ocLoop fuel T target A = .ok r ∧ P r.1 r.2 ∧ SortedGen r.1 ∧ r.1.length ≤ T.length := by
  fun_induction ocLoop fuel T target A with
  | case1 => cases hf
  | case2 fuel T target A _ hb =>
    obtain ⟨_, hb', _⟩ := bestMerge_ok T A hs
    cases hb.symm.trans hb'
  | case3 => exact ⟨_, rfl, hP, hs, Nat.le_refl _⟩
  | case4 fuel T target A _ m hb hg r ih =>
    obtain ⟨_, hb', hgood⟩ := bestMerge_ok T A hs
    cases hb.symm.trans hb'
    have hgm := hgood (Int.lt_of_not_ge hg)
    have hP' := hstep T A m hs hgm hP
    obtain ⟨es, rfl, hr, _⟩ := hgm
    have hlt : (applyMerge T (mkMerge T es) A).1.length < T.length := by
      have := applyMerge_length T es A hs hr
      rw [mkMerge_goodness] at hg
      omega
    obtain ⟨r', h1, h2, h3, h4⟩ := ih (applyMerge_sorted T es A hs)
      (Nat.le_trans (Nat.succ_le_of_lt hlt) (Nat.le_of_succ_le_succ hf)) hP'
    exact ⟨r', h1, h2, h3, Nat.le_trans h4 (Nat.le_of_lt hlt)⟩
  | case5 => exact ⟨_, rfl, hP, hs, Nat.le_refl _⟩

theorem goodMerge_inv {T0 T : List Entry} {A : Aliases} {m : Merge} (hs : SortedGen T)
    (hm : GoodMerge T A m) (hinv : Inv T0 T A) : Inv T0 (applyMerge T m A).1 (applyMerge T m A).2 := by
  obtain ⟨es, rfl, _, hsr, hup, hdown⟩ := hm
  exact apply_inv T0 T A es hinv (mkMerge_ins_le hs es) hup hdown (mkMerge_insOk hs es) hsr

theorem insertGen_perm (e : Entry) (l : List Entry) : (insertGen e l).Perm (e :: l) := by
  fun_induction insertGen e l with
  | case1 => exact List.Perm.refl _
  | case2 => exact List.Perm.refl _
  | case3 x r _ ih => exact (List.Perm.cons x ih).trans (List.Perm.swap e x r)

theorem insertGen_sorted (e : Entry) (l : List Entry) (h : SortedGen l) : SortedGen (insertGen e l) := by
  induction l with
  | nil => simp [insertGen, SortedGen]
  | cons x r ih =>
    simp only [insertGen]
    obtain ⟨hx, hr⟩ := List.pairwise_cons.mp h
    split
    · rename_i hle
      refine List.pairwise_cons.mpr ⟨?_, h⟩
      intro b hb
      rcases List.mem_cons.mp hb with rfl | hb
      · exact hle
      · exact Nat.le_trans hle (hx b hb)
    · rename_i hle
      refine List.pairwise_cons.mpr ⟨?_, ih hr⟩
      intro b hb
      rcases List.mem_cons.mp ((insertGen_perm e r).subset hb) with rfl | hb
      · omega
      · exact hx b hb

theorem sortTable_perm (T : List Entry) : (sortTable T).Perm T := by
  induction T with
  | nil => exact List.Perm.refl _
  | cons e r ih => exact (insertGen_perm e _).trans (List.Perm.cons e ih)

theorem sortTable_sorted (T : List Entry) : SortedGen (sortTable T) := by
  induction T with
  | nil => simp [sortTable, SortedGen]
  | cons e r ih => exact insertGen_sorted e _ ih

theorem sortTable_of_sorted {T : List Entry} (h : SortedGen T) : sortTable T = T := by
  induction T with
  | nil => rfl
  | cons e r ih =>
    obtain ⟨he, hr⟩ := List.pairwise_cons.mp h
    show insertGen e (sortTable r) = e :: r
    rw [ih hr]
    cases r with
    | nil => rfl
    | cons x r' => simp only [insertGen]; rw [if_pos (he x (by simp))]

theorem sortTable_length (T : List Entry) : (sortTable T).length = T.length :=
  (sortTable_perm T).length_eq

theorem ocLoop_sortTable (P : List Entry → Aliases → Prop)
    (hstep : ∀ T A m, SortedGen T → GoodMerge T A m → P T A → P (applyMerge T m A).1 (applyMerge T m A).2)
    (T : List Entry) (target : Option Nat) (A : Aliases) (hP : P (sortTable T) A) :
    ∃ r, ocLoop (T.length + 2) (sortTable T) target A = .ok r ∧ P r.1 r.2 ∧ SortedGen r.1 ∧
      r.1.length ≤ T.length :=
  sortTable_length T ▸ ocLoop_run P hstep _ (sortTable T) target A (sortTable_sorted T)
    (by rw [sortTable_length]; exact Nat.le_succ _) hP

theorem orthogonal_perm {T T' : List Entry} (hp : T'.Perm T) (ho : Orthogonal T) : Orthogonal T' := by
  unfold Orthogonal at *
  exact (hp.symm.pairwise_iff (by
    intro a b h k hk; exact h k ⟨hk.2, hk.1⟩)).mp ho

theorem lookup_sortTable {T : List Entry} (hg : Good T) (k : W) : lookup (sortTable T) k = lookup T k := by
  rcases hg with ho | hs
  · have hp : (sortTable T).Perm T := sortTable_perm T
    have ho' := orthogonal_perm hp ho
    cases h : lookup T k with
    | none =>
      rw [lookup_none_iff] at h ⊢
      exact fun d hd => h d (hp.subset hd)
    | some e =>
      obtain ⟨hm, he⟩ := lookup_some_matches h
      exact orthogonal_lookup_mem ho' (hp.symm.subset he) hm
  · rw [sortTable_of_sorted hs]

theorem subset_two_pow {a l : Nat} (h : bitSubset a (2 ^ l) = true) (hne : a ≠ 0) : a = 2 ^ l := by
  rw [bitSubset_iff] at h
  simp only [Nat.testBit_two_pow, decide_eq_true_eq] at h
  obtain ⟨i, hi⟩ := Nat.exists_testBit_of_ne_zero hne
  obtain rfl := h i hi
  apply Nat.eq_of_testBit_eq
  intro j
  rw [Nat.testBit_two_pow]
  by_cases hj : l = j
  · rw [← hj, hi, decide_eq_true rfl]
  · rw [decide_eq_false hj]; exact Bool.eq_false_iff.mpr fun hb => hj (h j hb)

/-- `T1` keeps every key of `T` on an entry (first clause of `RouteEquiv` only) -/
def Covers (T T1 : List Entry) : Prop :=
  ∀ k o, lookup T k = some o →
    ∃ e, lookup T1 k = some e ∧ e.route = o.route ∧ bitSubset o.sources e.sources = true

theorem covers_then_equiv {T T1 T2 : List Entry} (hsrc : ∀ e ∈ T, e.sources ≠ 0)
    (h1 : Covers T T1) (h2 : RouteEquiv T1 T2) : RouteEquiv T T2 := by
  intro k o ho
  obtain ⟨e, he, hr, hs⟩ := h1 k o ho
  rcases h2 k e he with ⟨e', h3, h4, h5⟩ | ⟨h3, l, hl, hsl, hrl⟩
  · exact Or.inl ⟨e', h3, by rw [h4, hr], bitSubset_trans hs h5⟩
  · refine Or.inr ⟨h3, l, hl, ?_, by rw [← hr, hrl]⟩
    rw [hsl] at hs
    exact subset_two_pow hs (hsrc o (lookup_some_matches ho).2)

end Rig.C04
