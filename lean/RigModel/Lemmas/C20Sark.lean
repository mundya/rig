/-
rig/boot/sark.struct: the ONE kernel evaluation of the model parser over its bytes.  Every fact about the parse is
evaluated in that run and read off `sark_file`; what is evaluated on the generated `String` table itself
(`C20.sv_table_ok`) is not here.
-/
import RigModel.Lemmas.C20Parse
import RigModel.Model.C07Struct

namespace Rig.C20Parse
open Rig.C20 Rig.Gen.C20Boot Rig.C07Struct

/-- test vectors of the accessors: `sv.vcpu_base` lives at 0xf5007f00 + 0xcc; writing
0x12345678 to `sv.iobuf_size` (offset 0x50) with a 3-byte buffer takes two commands and stores the little-endian bytes;
core 3's `user0` (offset 112 of a 128-byte block) is at vcpu_base + 3 * 128 + 112; the string field `app_name` is 16
bytes for the per-core accessors -/
def SarkVectors (T : List PStruct) : Prop :=
  (structAccess T nSv nVcpuBase).toOption.map (fun a => (a.addr, a.items)) =
    some (0xf5007f00 + 0xcc, [.int 73]) ∧
  (structWrite T 3 nSv (sbytes "iobuf_size") (.one (.int 0x12345678))).toOption.map
    (fun r => (r.1.addr, r.2.1, r.2.2.length)) = some (0xf5007f00 + 0x50, [0x78, 0x56, 0x34, 0x12], 2) ∧
  (vcpuAccess T (memOf [(0xf5007f00 + 0xcc, [0, 0x70, 0, 0xe5])]) (sbytes "user0") 3
    ).toOption.map (fun r => (r.2.addr, r.2.size)) = some (0xe5007000 + 3 * 128 + 112, 4) ∧
  (vcpuAccess T (memOf [(0xf5007f00 + 0xcc, [0, 0x70, 0, 0xe5])]) (sbytes "app_name") 0
    ).toOption.map (fun r => (r.2.addr, r.2.size)) = some (0xe5007000 + 72, 16)

instance (T : List PStruct) : Decidable (SarkVectors T) := by unfold SarkVectors; infer_instance

def parsedSv : Option StructDef :=
  match parsedSark with
  | .ok ss => (ss.map PStruct.toDef).find? (fun s => s.name = "sv")
  | .error _ => none

/-- The kernel keeps no result from one theorem to the next: a second theorem about the parsed table would parse the file
again.  `sarkTable` and `parsedSv` are `match`es on the parse, and the kernel can only relate such a constant to its body
by running the parser (it unfolds the `match` before the constant, then needs the parse to reduce it): so their values
are settled here too, `sarkTable` by comparing it with the parse, and afterwards only rewritten. -/
theorem sark_eval :
    parsesTo parsedSark genStructs
      (fun P => decide (sarkTable = P ∧ tableWFB P = true ∧ tableOKB P = true ∧ SarkVectors P)) = true ∧
    parsedSv = some genSv := by
  decide +kernel

theorem sark_file : parsedSark = .ok (genStructs.map ofDef) ∧ sarkTable = genStructs.map ofDef ∧
    tableWFB (genStructs.map ofDef) = true ∧ tableOKB (genStructs.map ofDef) = true ∧
    SarkVectors (genStructs.map ofDef) :=
  (parsesTo_spec sark_eval.1).imp_right of_decide_eq_true

theorem names_distinct {T : List StructDef} (h : tableWFB (T.map ofDef) = true) {s : StructDef} (hs : s ∈ T) :
    s.fields.Pairwise (fun f g => f.name ≠ g.name) := by
  have := ((tableWFB_sound _ h).2.1 _ (List.mem_map_of_mem hs)).distinct
  exact (List.pairwise_map.mp this).imp fun hne e => hne (congrArg sbytes e)

theorem genSv_mem : genSv ∈ genStructs := by
  have h : (genStructs.find? (fun s => s.name = "sv")).isSome = true := by decide
  unfold genSv
  revert h
  cases e : genStructs.find? (fun s => s.name = "sv") with
  | none => intro h; cases h
  | some s => intro _; exact List.mem_of_find?_eq_some e

end Rig.C20Parse
