/-
Equations for the `struct` subset of the translated Python functions (`Gen/PyFun.lean`: `pyStructPack` /
`pyStructValues` / `pyStructUnpackFrom`) on offsets and values that are casts of naturals: with them a generated
`struct.pack` / `struct.unpack` of a literal format is rewritten item by item; the round trip of bounded `Int` bytes
behind `repack_I`.  At the end: how to state a lemma about a generated `match` on an `Except` value.
-/
import RigModel.Gen.PyFun
import RigModel.Lemmas.Lists

namespace Rig.PyFunB
open Rig.Gen.PyFun

theorem pack_x (big : Bool) (fs : List PyFmt) (vs : List Int) :
    pyStructPack big (PyFmt.x :: fs) vs = (pyStructPack big fs vs).map (fun r => (0 : Int) :: r) := by
  cases vs <;> rfl

theorem pack_cons (big : Bool) (f : PyFmt) (hf : f ≠ PyFmt.x) (fs : List PyFmt) (v : Int) (vs : List Int) :
    pyStructPack big (f :: fs) (v :: vs)
      = if 0 ≤ v ∧ v.toNat < 256 ^ f.size then
          (pyStructPack big fs vs).map (fun r => (if big then (pyLeBytes f.size v).reverse else pyLeBytes f.size v) ++ r)
        else .error "struct.error" := by
  cases f <;> first | rfl | exact absurd rfl hf

theorem pyLeBytes_natCast (k n : Nat) :
    pyLeBytes (k + 1) (n : Int) = ((n % 256 : Nat) : Int) :: pyLeBytes k ((n / 256 : Nat) : Int) := rfl

theorem pack_natCast (big : Bool) (f : PyFmt) (hf : f ≠ PyFmt.x) (fs : List PyFmt) (n : Nat) (vs : List Int) :
    pyStructPack big (f :: fs) ((n : Int) :: vs)
      = if n < 256 ^ f.size then
          (pyStructPack big fs vs).map
            (fun r => (if big then (pyLeBytes f.size (n : Int)).reverse else pyLeBytes f.size (n : Int)) ++ r)
        else .error "struct.error" := by
  rw [pack_cons big f hf]
  simp only [Int.natCast_nonneg, true_and, Int.toNat_natCast]

theorem pack_B_nat (big : Bool) (fs : List PyFmt) (n : Nat) (vs : List Int) :
    pyStructPack big (PyFmt.B :: fs) ((n : Int) :: vs)
      = if n < 256 then (pyStructPack big fs vs).map (fun r => (n : Int) :: r) else .error "struct.error" := by
  rw [pack_natCast big _ (by decide)]
  by_cases h : n < 256
  · have e : pyLeBytes PyFmt.B.size (n : Int) = [(n : Int)] := by
      rw [PyFmt.size, pyLeBytes_natCast, Nat.mod_eq_of_lt h]; rfl
    rw [if_pos h, if_pos (show n < 256 ^ PyFmt.B.size from h), e]
    cases big <;> rfl
  · rw [if_neg h, if_neg (show ¬ n < 256 ^ PyFmt.B.size from h)]

theorem pack_H_le (fs : List PyFmt) (n : Nat) (vs : List Int) :
    pyStructPack false (PyFmt.H :: fs) ((n : Int) :: vs)
      = if n < 65536 then
          (pyStructPack false fs vs).map (fun r => [((n % 256 : Nat) : Int), ((n / 256 % 256 : Nat) : Int)] ++ r)
        else .error "struct.error" := by
  rw [pack_natCast false _ (by decide)]
  rfl

theorem pack_I_le (fs : List PyFmt) (n : Nat) (vs : List Int) :
    pyStructPack false (PyFmt.I :: fs) ((n : Int) :: vs)
      = if n < 4294967296 then
          (pyStructPack false fs vs).map (fun r =>
            [((n % 256 : Nat) : Int), ((n / 256 % 256 : Nat) : Int), ((n / 65536 % 256 : Nat) : Int),
             ((n / 16777216 % 256 : Nat) : Int)] ++ r)
        else .error "struct.error" := by
  rw [pack_natCast false _ (by decide)]
  simp only [PyFmt.size, pyLeBytes_natCast, pyLeBytes.eq_1, Nat.div_div_eq_div_mul, Nat.reduceMul, Nat.reducePow,
    Bool.false_eq_true, if_false]

theorem pack_I_be (fs : List PyFmt) (n : Nat) (vs : List Int) :
    pyStructPack true (PyFmt.I :: fs) ((n : Int) :: vs)
      = if n < 4294967296 then
          (pyStructPack true fs vs).map (fun r =>
            [((n / 16777216 % 256 : Nat) : Int), ((n / 65536 % 256 : Nat) : Int), ((n / 256 % 256 : Nat) : Int),
             ((n % 256 : Nat) : Int)] ++ r)
        else .error "struct.error" := by
  rw [pack_natCast true _ (by decide)]
  simp only [PyFmt.size, pyLeBytes_natCast, pyLeBytes.eq_1, Nat.div_div_eq_div_mul, Nat.reduceMul, Nat.reducePow,
    if_true, List.reverse_cons, List.reverse_nil, List.nil_append, List.cons_append]

theorem values_nil (big : Bool) (b : List Int) : pyStructValues big [] b = [] := by
  cases b <;> rfl

theorem values_x (big : Bool) (fs : List PyFmt) (v : Int) (r : List Int) :
    pyStructValues big (PyFmt.x :: fs) (v :: r) = pyStructValues big fs r := rfl

theorem values_B (big : Bool) (fs : List PyFmt) (v : Int) (r : List Int) :
    pyStructValues big (PyFmt.B :: fs) (v :: r) = v :: pyStructValues big fs r := by
  cases big <;> simp [pyStructValues, PyFmt.size, pyLeValue]

theorem values_H (fs : List PyFmt) (a b : Nat) (r : List Int) :
    pyStructValues false (PyFmt.H :: fs) ((a : Int) :: (b : Int) :: r)
      = ((a + 256 * b : Nat) : Int) :: pyStructValues false fs r := by
  simp [pyStructValues, PyFmt.size, pyLeValue]

theorem values_I (fs : List PyFmt) (a b c d : Nat) (r : List Int) :
    pyStructValues false (PyFmt.I :: fs) ((a : Int) :: (b : Int) :: (c : Int) :: (d : Int) :: r)
      = ((a + 256 * b + 65536 * c + 16777216 * d : Nat) : Int) :: pyStructValues false fs r := by
  simp only [pyStructValues, PyFmt.size, pyLeValue, List.take, List.drop, Bool.false_eq_true, if_false,
    List.cons.injEq, and_true]
  omega

theorem leValue_bounds : ∀ (l : List Int), (∀ b ∈ l, 0 ≤ b ∧ b < 256) →
    0 ≤ pyLeValue l ∧ pyLeValue l < 256 ^ l.length
  | [], _ => ⟨Int.le_refl 0, by decide⟩
  | b :: r, h => by
    have hb := h b List.mem_cons_self
    have ih := leValue_bounds r (fun x hx => h x (List.mem_cons_of_mem _ hx))
    rw [pyLeValue, List.length_cons, Int.pow_succ]
    omega

theorem leBytes_leValue : ∀ (l : List Int), (∀ b ∈ l, 0 ≤ b ∧ b < 256) → pyLeBytes l.length (pyLeValue l) = l
  | [], _ => rfl
  | b :: r, h => by
    have hb := h b List.mem_cons_self
    rw [pyLeValue, List.length_cons, pyLeBytes, Int.add_mul_emod_self_left, Int.emod_eq_of_lt hb.1 hb.2,
      Int.add_mul_ediv_left _ _ (by decide), Int.ediv_eq_zero_of_lt hb.1 hb.2, Int.zero_add,
      leBytes_leValue r (fun x hx => h x (List.mem_cons_of_mem _ hx))]

/-- `struct.pack(">I", struct.unpack("<I", w)[0])` reverses the four bytes -/
theorem repack_I (w : List Int) (hl : w.length = 4) (hw : ∀ b ∈ w, 0 ≤ b ∧ b < 256) :
    pyStructPack true [PyFmt.I] [pyLeValue w] = .ok w.reverse := by
  have hb := leValue_bounds w hw
  rw [hl] at hb
  rw [pack_cons true _ (by decide), if_pos ⟨hb.1, show (pyLeValue w).toNat < 4294967296 by omega⟩]
  show Except.ok ((pyLeBytes 4 (pyLeValue w)).reverse ++ []) = _
  rw [← hl, leBytes_leValue w hw, List.append_nil]

theorem unpackFrom_natCast (big : Bool) (fs : List PyFmt) (buf : List Int) (k : Nat) :
    pyStructUnpackFrom big fs buf (k : Int)
      = if buf.length < k + pyStructSize fs then .error "struct.error"
        else .ok (pyStructValues big fs (buf.drop k)) := by
  unfold pyStructUnpackFrom
  simp only [show ¬ ((k : Int) < 0) by omega, if_false, false_or, Int.toNat_natCast]
  congr 1
  exact propext (by omega)

theorem unpackFrom_zero (big : Bool) (fs : List PyFmt) (buf : List Int) :
    pyStructUnpackFrom big fs buf 0
      = if buf.length < pyStructSize fs then .error "struct.error" else .ok (pyStructValues big fs buf) := by
  have := unpackFrom_natCast big fs buf 0
  rwa [Nat.zero_add, List.drop_zero] at this

/-! A model function that destructures a buffer (`| [_, _, f0, .., m3] => ..`) is followed by `split` / `fun_induction`
on its own pattern match; the fall-through case, where `split` leaves `∀ a0 .. rest, l = a0 :: .. :: rest → False`, is
refuted by the length test of the generated side with `Lists.eq_ofFn_append_drop` / `Lists.eq_ofFn_of_length`. -/

/-! The translator's `match x with | .error e => .error e | .ok v => F v` is an application of an auxiliary matcher of
`Gen/PyFun.lean`, which cannot be written in a statement (and does not unfold).  Lemmas about such a term quantify
over an eliminator `E` that computes like the `match`; unification instantiates `E` with the matcher, and both
computation rules hold by `rfl`. -/

def IsExceptMatch {ε α γ : Type} (E : Except ε α → (ε → γ) → (α → γ) → γ) : Prop :=
  (∀ e f k, E (.error e) f k = f e) ∧ ∀ v f k, E (.ok v) f k = k v

theorem match_eq_bind {ε α β : Type}
    (E : Except ε α → (ε → Except ε β) → (α → Except ε β) → Except ε β) (x : Except ε α) (F : α → Except ε β)
    (hE : IsExceptMatch E := by exact ⟨fun _ _ _ => rfl, fun _ _ _ => rfl⟩) :
    E x (fun e => .error e) F = x >>= F := by
  cases x with
  | error e => exact hE.1 e _ _
  | ok v => exact hE.2 v _ _

end Rig.PyFunB
