/-
C16 (companion) - the IEEE facts of the dyadic model proved inside the model: `round53`
(the model of int -> double conversion) is round-to-nearest, ties-to-even, to 53 significant
bits; it is monotone, idempotent, odd, the identity on |k| <= 2^53; `Exact53` is characterised
exactly (at most 53 significant bits, any magnitude).
-/
import Mathlib.Tactic.NormNum
import RigModel.Lemmas.C16

namespace Rig.C16

/-- **Exactness beyond 2^53:** an integer with at most 53 significant bits (`m * 2^j`,
`|m| <= 2^53`) converts to a double without rounding, whatever its magnitude. -/
theorem exact53_of_trailing_zeros (m : Int) (j : Nat) (hm : m.natAbs ≤ 2 ^ 53) :
    Exact53 (m * 2 ^ j) := round53Val_mul_pow m j hm

theorem exact53_iff (k : Int) :
    Exact53 k ↔ ∃ (m : Int) (j : Nat), m.natAbs ≤ 2 ^ 53 ∧ k = m * 2 ^ j := by
  constructor
  · intro h
    unfold Exact53 at h
    refine ⟨(round53 k).m, ulpExp k, ?_, ?_⟩
    · exact round53_m_natAbs_le k
    · rw [round53_m, ← round53Val_eq, h]
  · rintro ⟨m, j, hm, rfl⟩
    exact exact53_of_trailing_zeros m j hm

theorem round53_neg (k : Int) : round53Val (-k) = -round53Val k := by
  rw [round53Val_eq, round53Val_eq, ulpExp_neg, rne_neg]; ring

theorem round53_idem (k : Int) : Exact53 (round53Val k) := by
  rw [round53Val_eq, ← round53_m]
  exact exact53_of_trailing_zeros _ _ (round53_m_natAbs_le k)

theorem round53_id_small (k : Int) (h : |k| ≤ 2 ^ 53) : round53Val k = k := by
  have := exact53_of_trailing_zeros k 0 (natAbs_le_pow_iff.mpr h)
  simpa [Exact53] using this

private theorem round53_mono_nonneg {k k' : Int} (h0 : 0 ≤ k) (h : k ≤ k') :
    round53Val k ≤ round53Val k' := by
  have hle : ulpExp k ≤ ulpExp k' :=
    ulpExp_mono (by rw [abs_of_nonneg h0, abs_of_nonneg (h0.trans h)]; exact h)
  rcases Nat.eq_or_lt_of_le hle with he | hlt
  · rw [round53Val_eq, round53Val_eq, he]
    exact Int.mul_le_mul_of_nonneg_right (rne_mono k k' _ h) (by positivity)
  · -- different binades: float(k) <= 2^53 * ulp <= 2^52 * ulp' <= float(k')
    have b1 := ulp_le_abs k' (by omega)
    rw [abs_of_nonneg (by omega)] at b1
    have lo : (2 : Int) ^ 52 * 2 ^ ulpExp k' ≤ round53Val k' := by
      rw [round53Val_eq]
      exact Int.mul_le_mul_of_nonneg_right (rne_ge_of_grid_le b1) (by positivity)
    have hi : round53Val k ≤ 2 ^ 53 * 2 ^ ulpExp k := by
      rw [round53Val_eq, ← round53_m]
      exact Int.mul_le_mul_of_nonneg_right (le_trans (le_abs_self _) (round53_m_le k)) (by positivity)
    have : (2 : Int) ^ (ulpExp k + 1) ≤ 2 ^ ulpExp k' := pow_le_pow_right₀ (by decide) hlt
    rw [pow_succ] at this
    omega

theorem round53_mono (k k' : Int) (h : k ≤ k') : round53Val k ≤ round53Val k' := by
  rcases le_or_gt 0 k with h0 | h0
  · exact round53_mono_nonneg h0 h
  · rcases le_or_gt 0 k' with h1 | h1
    · have a := round53Val_nonneg h1
      have b := round53Val_nonneg (show 0 ≤ -k by omega)
      rw [round53_neg] at b
      omega
    · have := round53_mono_nonneg (show 0 ≤ -k' by omega) (show -k' ≤ -k by omega)
      rw [round53_neg, round53_neg] at this
      omega

/-- **Round to nearest, ties to even, 53 significant bits (ulp form).**  With
`ulp = 2^(bitLen |k| - 53)` (1 up to 53 bits): the result is a multiple `q * ulp` with
`|k - result| <= ulp / 2`, at a tie `q` is even, `|q| <= 2^53`, and when rounding happens
(`ulp > 1`) `|q| >= 2^52`, i.e. `ulp` is the spacing of doubles in the binade of `k`. -/
theorem round53_nearest_even (k : Int) :
    round53Val k = (round53 k).m * 2 ^ ulpExp k ∧
    2 * |k - round53Val k| ≤ 2 ^ ulpExp k ∧
    (2 * |k - round53Val k| = 2 ^ ulpExp k → (round53 k).m % 2 = 0) ∧
    |(round53 k).m| ≤ 2 ^ 53 ∧
    (0 < ulpExp k → 2 ^ 52 ≤ |(round53 k).m|) := by
  have h := rne_isRne k (ulpExp k)
  refine ⟨round53Val_eq k, ?_, ?_, round53_m_le k, round53_m_ge k⟩
  · rw [round53Val_eq]; exact isRne_abs_le h
  · rw [round53Val_eq, round53_m]; exact isRne_half h

/-- no multiple of the ulp is closer, and one equally close means the chosen significand is even -/
theorem round53_nearest_on_grid (k t : Int) :
    |k - round53Val k| ≤ |k - t * 2 ^ ulpExp k| ∧
    (t ≠ (round53 k).m → |k - t * 2 ^ ulpExp k| = |k - round53Val k| → (round53 k).m % 2 = 0) := by
  rw [round53Val_eq, round53_m]
  exact ⟨isRne_nearest (by positivity) (rne_isRne k _) t,
    fun ht he => isRne_tie (by positivity) (rne_isRne k _) t ht he⟩

/-! Optimality among all 53-bit dyadics: such a `y` either lies on the grid of multiples of the ulp of `k`, or is
so small that the grid point `±2^52 * ulp` lies between it and `k`; either way some grid point is at least as close
to `k` as `y`, and equally close only if it is `y`. -/

/-- **`round53` is IEEE round-to-nearest, ties-to-even among ALL 53-bit dyadics** (any exponent):
no `y = m * 2^e` with `|m| <= 2^53` is closer to `k` than `round53Val k`, and if a different one is
equally close then the significand chosen by `round53` is even. -/
theorem round53_nearest_all (k : Int) (y : Dy) (hy : y.m.natAbs ≤ 2 ^ 53) :
    |(k : ℚ) - (round53Val k : ℚ)| ≤ |(k : ℚ) - y.toRat| ∧
    (|(k : ℚ) - y.toRat| = |(k : ℚ) - (round53Val k : ℚ)| → y.toRat ≠ (round53Val k : ℚ) →
      (round53 k).m % 2 = 0) := by
  rcases Nat.eq_zero_or_pos (ulpExp k) with hs | hs
  · rw [round53Val_eq, hs, rne_zero, Int.pow_zero, Int.mul_one, sub_self, abs_zero]
    exact ⟨abs_nonneg _, fun e1 e2 => absurd (sub_eq_zero.mp (abs_eq_zero.mp e1)).symm e2⟩
  · obtain ⟨t, hle, heq⟩ : ∃ t : Int, |(k : ℚ) - ((t * 2 ^ ulpExp k : Int) : ℚ)| ≤ |(k : ℚ) - y.toRat| ∧
        (|(k : ℚ) - y.toRat| = |(k : ℚ) - ((t * 2 ^ ulpExp k : Int) : ℚ)| →
          y.toRat = ((t * 2 ^ ulpExp k : Int) : ℚ)) := by
      rcases le_or_gt (ulpExp k : Int) y.e with he | he
      · obtain ⟨t, ht⟩ := toRat_grid y _ he
        exact ⟨t, by rw [ht], fun _ => ht⟩
      · have hsm := abs_le.mp (toRat_small y _ hy hs he)
        have b1 := ulp_le_abs k hs
        rcases abs_cases k with ⟨e, _⟩ | ⟨e, _⟩ <;> rw [e] at b1
        · exact ⟨2 ^ 52, closer_of_between (.inl ⟨hsm.2, by exact_mod_cast b1⟩)⟩
        · refine ⟨-2 ^ 52, closer_of_between (.inr ⟨?_, ?_⟩)⟩ <;> rw [Int.neg_mul, Int.cast_neg]
          · exact_mod_cast (show k ≤ -(2 ^ 52 * 2 ^ ulpExp k) by omega)
          · exact hsm.1
    obtain ⟨g1, g2⟩ := round53_nearest_on_grid k t
    have g1' : |(k : ℚ) - (round53Val k : ℚ)| ≤ |(k : ℚ) - ((t * 2 ^ ulpExp k : Int) : ℚ)| := by exact_mod_cast g1
    refine ⟨le_trans g1' hle, fun e1 e2 => ?_⟩
    have e3 := le_antisymm (hle.trans e1.le) g1'
    refine g2 ?_ (by exact_mod_cast e3)
    rintro rfl
    exact e2 ((heq (e1.trans e3.symm)).trans (by rw [round53Val_eq, round53_m]))

/-! non-vacuity / concrete ties: 2^53+1 is a tie rounded down to the even 2^52 * 2, 2^53+3 is a
tie rounded up to the even (2^52+2) * 2, and a 64-bit value with trailing zeros is exact -/
example : round53Val (2 ^ 53 + 1) = 2 ^ 53 ∧ round53Val (2 ^ 53 + 3) = 2 ^ 53 + 4 ∧
    ulpExp (2 ^ 53 + 1) = 1 ∧ Exact53 ((2 ^ 53 - 1) * 2 ^ 10) ∧ ¬ Exact53 (2 ^ 63 - 1) ∧
    round53Val (2 ^ 63 - 1) = 2 ^ 63 := by decide +kernel

/-- the tie clause of `round53_nearest_all` is not vacuous: `2^53 + 2 = (2^52+1) * 2` is as close to
`2^53 + 1` as the result `2^53` and different from it -/
example : (⟨2 ^ 52 + 1, 1⟩ : Dy).m.natAbs ≤ 2 ^ 53 ∧
    |(((2 ^ 53 + 1 : Int)) : ℚ) - (⟨2 ^ 52 + 1, 1⟩ : Dy).toRat| =
      |(((2 ^ 53 + 1 : Int)) : ℚ) - (round53Val (2 ^ 53 + 1) : ℚ)| ∧
    (⟨2 ^ 52 + 1, 1⟩ : Dy).toRat ≠ (round53Val (2 ^ 53 + 1) : ℚ) := by
  have h : round53Val (2 ^ 53 + 1) = 2 ^ 53 := by decide +kernel
  rw [h]
  refine ⟨by decide, ?_, ?_⟩ <;> norm_num [Dy.toRat]

end Rig.C16
