/- The simp sets of the translator ties; what they are for is said in Lemmas/PyCast.lean. -/
import Lean.Meta.Tactic.Simp.RegisterCommand

/-- casts out of generated `Int` code -/
register_simp_attr py_cast

/-- operand order of generated code -/
register_simp_attr py_ac
