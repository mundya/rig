/-
C20 - boot sends the complete image carrying this call's options only.
-/
import RigModel.Lemmas.C20
import RigModel.Lemmas.C20Spec
import RigModel.Lemmas.C20Sark

namespace Rig.C20
open Rig.Gen.C20Boot

/-- the generated constants are the documented ones -/
theorem consts_documented :
    BOOT_BYTE_SIZE = 1024 ∧ BOOT_WORD_SIZE = 256 ∧ BOOT_DATA_OFFSET = 384 ∧ BOOT_DATA_LENGTH = 128 ∧
    DTCM_SIZE = 32768 ∧ BOOT_MAX_BLOCKS = 32 ∧ PROTOCOL_VERSION = 1 ∧
    CMD_START = 1 ∧ CMD_SEND_BLOCK = 3 ∧ CMD_END = 5 := by decide

/-- the `sv` struct regenerated from sark.struct is well formed (integer fields, inside the struct,
pairwise disjoint, distinct names), is at least as long as the configuration area, has the three
fields `boot` always sets (`unix_time`, `boot_sig`, `root_chip`), and every board preset names a field of it with a
value that fits; the bundled boot image is a whole number of words, at least 512 and less than 32768 bytes long. -/
theorem sv_table_ok :
    tableOK genSv.size genSv.fields = true ∧ 128 ≤ genSv.size ∧
    (timeOpts 0 0).all (fun p => genSv.fields.any (fun f => f.name = p.1)) = true ∧
    spinOptions.all (fun p => p.2.all (fun kv =>
      genSv.fields.any (fun f => f.name = kv.1 && valueFits f.pack kv.2))) = true ∧
    scampBootLength % 4 = 0 ∧ 512 ≤ scampBootLength ∧ scampBootLength < 32768 := by
  have hd : genSv.fields.Pairwise (fun f g =>
      f.offset + packWidth f.pack ≤ g.offset ∨ g.offset + packWidth g.pack ≤ f.offset) :=
    (pairsB_sound (r := fun f g => Nat.ble (f.offset + packWidth f.pack) g.offset ||
      Nat.ble (g.offset + packWidth g.pack) f.offset) (by decide +kernel)).imp (by simp [Nat.ble_eq])
  -- strings are slow to compare in the kernel: the names differ because the file parsed to them (keys of a dictionary)
  have hn : genSv.fields.Pairwise (fun f g => f.name ≠ g.name) :=
    C20Parse.names_distinct C20Parse.sark_file.2.2.1 C20Parse.genSv_mem
  refine ⟨?_, by decide +kernel⟩
  simp only [tableOK, Bool.and_eq_true, decide_eq_true_eq]
  exact ⟨⟨by decide +kernel, hd⟩, hn⟩

/-- **Datagram sequence.**  A boot that returns sends: start announcing `n - 1`, then exactly `n`
blocks numbered `0 … n-1` (command 3, arg1 = `(255 << 8) | i`) whose payloads are the consecutive
1 KiB slices of the buffer with every word byte-swapped, then end(1); `1 ≤ n ≤ 32`, every payload is
at most 1024 bytes; the first event is the connect to the host and port of this call. -/
theorem boot_sequence (c : Call) (opts : Dict) (fs : List Field) (hd : c.ImageDomain)
    (h : (bootCore c opts).result = .ok fs) :
    ∃ packed, structPack c.svSize fs = .ok packed ∧ 128 ≤ packed.length ∧
      let buf := bootImage c.image packed
      let n := (buf.length + 1023) / 1024
      1 ≤ n ∧ n ≤ 32 ∧
      sends (bootCore c opts).events =
        headerV 1 1 0 0 (n - 1) :: ((List.range n).map (blockDg buf 0) ++ [headerV 1 5 1 0 0]) ∧
      (∀ i, (payload buf i).length ≤ 1024) ∧
      shapeOK (sends (bootCore c opts).events) = true ∧
      (bootCore c opts).events.head? = some (.connect c.host c.port) := by
  obtain ⟨packed, _, hp, hl, hs, hc⟩ := bootCore_returns c opts fs hd h
  have hlen := bootImage_length c.image packed hd.2.1 hl
  obtain ⟨h4, h512, hlt⟩ := hd
  refine ⟨packed, hp, hl, by omega, by omega, hs, payload_length _, ?_, hc⟩
  rw [hs]
  exact shapeOK_bootDatagrams _ (hlen ▸ h4) (hlen ▸ Nat.lt_of_lt_of_le (by decide) h512)

/-- **Byte swap inverse + concatenation.**  Undoing the per-word swap of every block payload and
concatenating gives exactly the buffer `boot` built: the image with the configuration spliced in. -/
theorem unswap_concat (c : Call) (opts : Dict) (fs : List Field) (hd : c.ImageDomain)
    (h : (bootCore c opts).result = .ok fs) :
    ∃ packed, structPack c.svSize fs = .ok packed ∧
      reassemble (sends (bootCore c opts).events) = bootImage c.image packed := by
  obtain ⟨packed, _, hp, hl, hs, _⟩ := bootCore_returns c opts fs hd h
  exact ⟨packed, hp, by rw [hs, reassemble_bootDatagrams]⟩

/-- **Configuration area.**  The reassembled image has the length of the boot image, equals it
outside bytes 384…511, and bytes 384…511 are the first 128 bytes of the packed struct that is
returned (`fs` are the returned `sv` fields). -/
theorem config_area (c : Call) (opts : Dict) (fs : List Field) (hd : c.ImageDomain)
    (h : (bootCore c opts).result = .ok fs) :
    ∃ packed, structPack c.svSize fs = .ok packed ∧
      let img := reassemble (sends (bootCore c opts).events)
      img.length = c.image.length ∧ img.take 384 = c.image.take 384 ∧ img.drop 512 = c.image.drop 512 ∧
      (img.drop 384).take 128 = packed.take 128 ∧ imageOK c img = true := by
  obtain ⟨packed, _, hp, hl, hs, _⟩ := bootCore_returns c opts fs hd h
  obtain ⟨h4, h512, hlt⟩ := hd
  refine ⟨packed, hp, ?_⟩
  simp only [hs, reassemble_bootDatagrams]
  have a := bootImage_length c.image packed h512 hl
  have b := bootImage_take c.image packed h512
  have d := bootImage_drop c.image packed h512 hl
  exact ⟨a, b, d, bootImage_config c.image packed h512 hl, by simp [imageOK, a, b, d]⟩

/-- **Struct packing.**  For a well-formed table (integer fields inside the struct, pairwise
disjoint) whose defaults fit their fields, `Struct.pack` succeeds, returns `size` bytes, every
field's bytes are the little-endian (two's complement) encoding of its default and every byte
not occupied by a field is zero. -/
theorem struct_pack_spec (size : Nat) (fs : List Field) (ht : tableOK size fs = true)
    (hv : ∀ f ∈ fs, valueFits f.pack f.default = true) :
    ∃ packed, structPack size fs = .ok packed ∧ packed.length = size ∧
      (∀ f ∈ fs, ∀ j, j < packWidth f.pack → packed[f.offset + j]? = some (leByte f.default j)) ∧
      (∀ i, i < size → (∀ f ∈ fs, ¬ covers f i) → packed[i]? = some 0) := by
  obtain ⟨hin, hd, _⟩ := tableOK_parts size fs ht
  exact structPack_spec size fs (fun f hf => (hin f hf).2) hd hv

/-- **Returned struct / options of this call.**  With distinct field names and options (and the
three clock fields) naming fields, the two `update_default_values` calls produce the file's fields
in file order where every default is: the clock readings for `unix_time` / `boot_sig` and 1 for `root_chip`
(`timeOpts`), else the value this call's options give, else the file's default. -/
theorem returned_defaults (c : Call) (opts : Dict) (ht : tableOK c.svSize c.svFields = true)
    (hv : optsValid c opts = true) :
    finalFields c opts = .ok (c.svFields.map (fun f => { f with default := expectedDefault c opts f })) := by
  obtain ⟨_, _, hn⟩ := tableOK_parts _ _ ht
  obtain ⟨h1, h2, _⟩ := optsValid_parts c opts hv
  exact finalFields_spec c opts hn h1 h2

/-- **The property for one call.**  Inside the domain, with options that name fields and fit
them, `boot` returns, and its datagrams and returned struct satisfy the executable specification
`specOK` (the oracle the check evaluates on the implementation's output): sequence shape, image
identical outside bytes 384…511, configuration area = expected values field by field and zero
elsewhere, returned struct = expected values. -/
theorem boot_meets_spec (c : Call) (opts : Dict) (hd : c.InDomain) (hv : optsValid c opts = true) :
    ∃ fs, (bootCore c opts).result = .ok fs ∧
      fs = c.svFields.map (fun f => { f with default := expectedDefault c opts f }) ∧
      specOK c opts (sends (bootCore c opts).events) fs = true := by
  obtain ⟨h1, h2⟩ := boot_meets_spec_aux c opts hd hv
  exact ⟨_, h1, rfl, h2⟩

/-- the repaired `boot` leaves the process state (default dictionary, caller dictionaries) alone -/
theorem state_unchanged (s : State) (c : Call) : (bootStep false s c).1 = s := rfl

/-- **History independence (repaired code).**  In any history of boots the outcome of every call
(events, returned struct or exception) is `bootCore` of that call's own arguments: the caller's
dictionary as the caller built it, updated with that call's keyword arguments. -/
theorem history_independent (s : State) (cs : List Call) :
    runHistory false s cs = cs.map (fun c => bootCore c (dictUpdate (s.lookup c.sv) c.kwargs)) := by
  induction cs with
  | nil => rfl
  | cons c cs ih => simp [runHistory, bootStep, ih]

/-- **Every boot of every history meets the specification for its own options (repaired code).** -/
theorem history_meets_spec (s : State) (cs : List Call) (k : Nat) (c : Call) (hk : cs[k]? = some c)
    (hd : c.InDomain) (hv : optsValid c (dictUpdate (s.lookup c.sv) c.kwargs) = true) :
    ∃ o fs, (runHistory false s cs)[k]? = some o ∧ o.result = .ok fs ∧
      specOK c (dictUpdate (s.lookup c.sv) c.kwargs) (sends o.events) fs = true := by
  obtain ⟨h1, h2⟩ := boot_meets_spec_aux c _ hd hv
  exact ⟨_, _, by rw [history_independent, List.getElem?_map, hk]; rfl, h1, h2⟩

/-- in a fresh process a call without `sv_overrides` uses exactly its keyword arguments,
whatever was booted before -/
theorem fresh_process_default (store : List Dict) (before : List Call) (c : Call) (hc : c.sv = none) :
    (runHistory false (State.init store) (before ++ [c])).getLast? = some (bootCore c (dictUpdate [] c.kwargs)) := by
  rw [history_independent]
  simp [State.lookup, State.init, hc]

/-! ### the code as written leaks (a witness; only its leaky run is evaluated, in the kernel) -/

def wTable : List Field :=
  [⟨"hw_ver", "B", 0, "%d", 0, 1⟩, ⟨"unix_time", "I", 4, "%d", 0, 1⟩,
   ⟨"boot_sig", "I", 8, "%d", 0, 1⟩, ⟨"root_chip", "B", 12, "%d", 0, 1⟩]

def wCall (host : String) (kw : Dict) : Call :=
  { host := host, port := 54321, image := List.replicate 512 7, svSize := 128, svFields := wTable,
    sv := none, kwargs := kw, t1 := 5, t2 := 6 }

def observe (o : Outcome) : List (List Nat) × Option (List Field) := (sends o.events, o.result.toOption)

def leakHistory : List Call := [wCall "a" [("hw_ver", 3)], wCall "b" []]

/-- the specification evaluated on the second boot of `leakHistory` (which asked for no options) -/
def secondMeetsSpec (leaky : Bool) : Bool :=
  match (runHistory leaky (State.init []) leakHistory)[1]? with
  | some o => specOK (wCall "b" []) [] (sends o.events) (o.result.toOption.getD [])
  | none => false

theorem wCall_domain (host : String) (kw : Dict) : (wCall host kw).InDomain := by
  refine ⟨?_, (by decide +kernel : tableOK 128 wTable = true), (by decide : 128 ≤ 128)⟩
  simp only [Call.ImageDomain, wCall, List.length_replicate]
  decide

theorem wCall_optsValid : optsValid (wCall "b" []) [] = true := by decide +kernel

/-- the verdict on the second boot is a function of what `observe` keeps of the history -/
theorem secondMeetsSpec_observe (leaky : Bool) : secondMeetsSpec leaky =
    match ((runHistory leaky (State.init []) leakHistory).map observe)[1]? with
    | some p => specOK (wCall "b" []) [] p.1 (p.2.getD [])
    | none => false := by
  rw [secondMeetsSpec, List.getElem?_map]
  cases (runHistory leaky (State.init []) leakHistory)[1]? <;> rfl

/-- **Leak witness.**  `boot("a", hw_ver=3); boot("b")` on the model of the code as written
(in-place update of the default dictionary): the second boot, which asked for nothing, fails the
specification (its configuration carries `hw_ver = 3`), while on the repaired model it meets it. -/
theorem leak_witness :
    (runHistory true (State.init []) leakHistory).map observe ≠
      (runHistory false (State.init []) leakHistory).map observe ∧
    secondMeetsSpec true = false ∧ secondMeetsSpec false = true := by
  have hb : secondMeetsSpec true = false := by decide +kernel
  -- the repaired model needs no evaluation: it is `history_meets_spec` at the second call
  obtain ⟨o, fs, ho, hr, hs⟩ := history_meets_spec (State.init []) leakHistory 1 (wCall "b" []) rfl
    (wCall_domain _ _) wCall_optsValid
  have hc : secondMeetsSpec false = true := by
    simp only [secondMeetsSpec, ho, hr]
    exact hs
  -- and equal observations would give equal verdicts
  refine ⟨fun heq => ?_, hb, hc⟩
  have := secondMeetsSpec_observe true
  rw [heq, ← secondMeetsSpec_observe false, hb, hc] at this
  cases this

/-- non-vacuity: the witness call is in the domain and returns -/
example : (wCall "b" []).ImageDomain ∧ ((bootCore (wCall "b" []) []).result.toOption.isSome = true) := by
  obtain ⟨fs, h, -⟩ := boot_meets_spec (wCall "b" []) [] (wCall_domain _ _) wCall_optsValid
  exact ⟨(wCall_domain _ _).1, by rw [h]; rfl⟩

/-- non-vacuity of `boot_meets_spec`: the bundled `sv` table, a SpiNN-3 preset and a 1 KiB image -/
def exCall : Call :=
  { host := "board", port := BOOT_PORT, image := List.replicate 1024 0, svSize := genSv.size,
    svFields := genSv.fields, sv := none, kwargs := [("hw_ver", 3), ("led0", 0x502)],
    t1 := 1443571200, t2 := 1443571201 }

example : tableOK exCall.svSize exCall.svFields = true ∧ 128 ≤ exCall.svSize ∧
    optsValid exCall (dictUpdate [] exCall.kwargs) = true :=
  ⟨sv_table_ok.1, sv_table_ok.2.1, by decide +kernel⟩

end Rig.C20
