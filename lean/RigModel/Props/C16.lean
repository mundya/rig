/-
C16 - fixed-point conversion saturates, is monotone and inverts exactly.
The hypotheses (`Fmt.Ok`, `FiniteScaled`, `InverseDomain`, `IsDouble`, `ArrayDomain`, `FixOk`) and `clamp` are
defined in Lemmas/C16.lean.  The specification predicates (`SpecFp`, `SpecFix`, `SpecMono`, `Exact53`, in
Model/C16.lean) are the ones the harness evaluates on the implementation's outputs.

What the argument is:  every theorem is about the REAL NUMBER the argument denotes, the exact dyadic
rational `v.toRat = m * 2^e` (`specFp_iff_rat` reads the rule over the rationals) - not about the
Python / NumPy type that carries it.  A python float, a NumPy float16 / float32 / float64 scalar, an
exactly representable int or Fraction, or an element of an array of any float dtype that denote the same
number must convert to the same result (the harness sends the exact (m, e) of whatever object it passes;
`IsDouble` / `|m| < 2^p` only bound the significand).  Likewise the integer arguments of the to-float
direction are the integers the word denotes, whatever NumPy integer type holds it.

Reading guide:  v = (m, e) is the double m * 2^e;  scaledNum / scaledDen is the exact scaled value
v * 2^n_frac as a fraction;  `floatToFp` = float_to_fp, `npFloatToFix` = NumpyFloatToFixConverter
(unrepaired code), `npFloatToFixRepaired` (after fixes/c16-saturate-64bit.diff), `floatToFix` =
deprecated float_to_fix, `fixToFloat` = deprecated fix_to_float, `fpToFloat` = fp_to_float.
-/
import RigModel.Lemmas.C16

namespace Rig.C16
open Rig.Gen.TypeCasts

/-- the generated dtype table covers exactly the accepted widths, signed -> intN, unsigned -> uintN -/
theorem dtypes_cover :
    npBits = [8, 16, 32, 64] ∧
    dtypeTable.map (fun t => (t.1, t.2.1)) = npBits.flatMap (fun b => [(false, b), (true, b)]) ∧
    (∀ t ∈ dtypeTable, t.2.2 = (if t.1 then "int" else "uint") ++ toString t.2.1) := by
  decide

/-- in its domain `float_to_fp` returns `int(value * 2.0**n_frac)` clamped to `[min_v, max_v]` -/
theorem fp_total (fmt : Fmt) (v : Dy) (hf : fmt.Ok) (hv : FiniteScaled fmt v) :
    floatToFp fmt v = .ok (clamp fmt (truncScaled v.m (v.e + fmt.frac))) := by
  have a : ¬ ((fmt.signed && fmt.bits == 0) = true) := fun h => hf.1 (by simpa using h)
  rw [floatToFp, if_neg a, if_neg (Int.not_le.mpr hf.2), show magLt _ _ 1024 = true from hv]
  rfl

/-- what `float_to_fp` returns obeys the rule: truncation toward zero, saturation at the ends of the range -/
theorem fp_sat (fmt : Fmt) (v : Dy) (r : Int) (h : floatToFp fmt v = .ok r) : SpecFp fmt v r :=
  (specFp_iff fmt v r).mpr (fp_ok_inv h)

theorem spec_unique (fmt : Fmt) (v : Dy) (r r' : Int) (h : SpecFp fmt v r) (h' : SpecFp fmt v r') : r = r' := by
  rw [(specFp_iff fmt v r).mp h, (specFp_iff fmt v r').mp h']

theorem spec_range (fmt : Fmt) (v : Dy) (r : Int) (h : SpecFp fmt v r) : fmt.minV ≤ r ∧ r ≤ fmt.maxV := by
  rw [(specFp_iff fmt v r).mp h]; exact clamp_mem fmt _

theorem fp_range (fmt : Fmt) (v : Dy) (r : Int) (h : floatToFp fmt v = .ok r) :
    fmt.minV ≤ r ∧ r ≤ fmt.maxV := spec_range fmt v r (fp_sat fmt v r h)

/-- in range the result is within one LSB, `|v * 2^n_frac - r| < 1`, written over the common denominator `scaledDen` -/
theorem fp_lsb (fmt : Fmt) (v : Dy) (r : Int) (h : floatToFp fmt v = .ok r)
    (hlo : fmt.minV * scaledDen fmt v ≤ scaledNum fmt v)
    (hhi : scaledNum fmt v ≤ fmt.maxV * scaledDen fmt v) :
    -(scaledDen fmt v) < scaledNum fmt v - r * scaledDen fmt v ∧
      scaledNum fmt v - r * scaledDen fmt v < scaledDen fmt v := by
  have hd : 0 < scaledDen fmt v := den_pos _
  -- in range nothing is clamped
  have h1 := Int.tdiv_le_tdiv hd hlo
  have h2 := Int.tdiv_le_tdiv hd hhi
  rw [Int.mul_tdiv_cancel _ (Int.ne_of_gt hd)] at h1 h2
  have ht := (isTrunc_iff (n := scaledNum fmt v) hd).mpr ((fp_ok_inv h).trans (clamp_of_mem h1 h2))
  unfold IsTrunc at ht
  rw [Int.add_mul, Int.sub_mul, Int.one_mul] at ht
  omega

/-- `float_to_fp` is monotone in its argument -/
theorem fp_mono (fmt : Fmt) (v w : Dy) (r r' : Int) (hle : Dy.le v w)
    (h : floatToFp fmt v = .ok r) (h' : floatToFp fmt w = .ok r') : r ≤ r' := by
  rw [fp_ok_inv h, fp_ok_inv h']
  exact clamp_mono fmt (truncScaled_mono fmt.frac hle)

theorem exact53_of_small (k : Int) (h : k.natAbs ≤ 2 ^ 53) : Exact53 k := by
  have := round53Val_mul_pow k 0 h
  rwa [Int.pow_zero, Int.mul_one] at this

/-- **Inverse.** every in-range fixed-point value that a double holds exactly survives
`fp_to_float` followed by `float_to_fp` unchanged. -/
theorem fp_inverse (fmt : Fmt) (k : Int) (hf : fmt.Ok) (hlo : fmt.minV ≤ k) (hhi : k ≤ fmt.maxV)
    (hex : Exact53 k) (hdom : InverseDomain fmt k) :
    ∃ d, fpToFloat fmt.frac k = .ok (.fin d) ∧ floatToFp fmt d = .ok k := by
  obtain ⟨hfl, hk0, hkf⟩ := hdom
  have hfr : fmt.frac < 1024 := hf.2
  -- `float(k) = (q, s)` with `k = q * 2^s`
  unfold Exact53 at hex
  rw [round53Val_eq] at hex
  have hr : round53 k = ⟨rne k (ulpExp k), ulpExp k⟩ := rfl
  generalize rne k (ulpExp k) = q at hex hr
  generalize ulpExp k = s at hex hr
  subst hex
  rw [magLt_mul_pow, Int.add_zero] at hk0
  rw [magLt_mul_pow] at hkf
  have e1 : fpToFloat fmt.frac (q * 2 ^ s) = .ok (toDouble q (s + -fmt.frac)) := by
    unfold fpToFloat intToDouble
    simp only [pow2f_ok (show -1074 ≤ -fmt.frac by omega) (show -fmt.frac < 1024 by omega), hr, hk0, if_true, bind,
      Except.bind, pure, Except.pure, mulScale]
  have hc := clamp_of_mem hlo hhi
  rw [e1]
  unfold toDouble
  by_cases hm : q = 0
  · refine ⟨⟨0, 0⟩, by rw [if_pos hm], ?_⟩
    have hv : FiniteScaled fmt ⟨0, 0⟩ := magLt_of_zero _ _
    rw [hm, Int.zero_mul] at hc ⊢
    rw [fp_total fmt _ hf hv]
    show Except.ok (clamp fmt (truncScaled 0 _)) = _
    rw [truncScaled_zero, hc]
  · refine ⟨⟨q, s + -fmt.frac⟩, by rw [if_neg hm, hkf, if_neg (by decide), if_pos (by omega)], ?_⟩
    have e : (s : Int) + -fmt.frac + fmt.frac = s := by omega
    have hv : FiniteScaled fmt ⟨q, s + -fmt.frac⟩ := by
      unfold FiniteScaled; rw [e]; exact hk0
    rw [fp_total fmt _ hf hv, e, truncScaled_of_nonneg _ (Int.natCast_nonneg s), Int.toNat_natCast, hc]

example : (⟨true, 64, 32⟩ : Fmt).Ok ∧ (⟨true, 64, 32⟩ : Fmt).minV ≤ 2 ^ 40 + 1 ∧
    (2 ^ 40 + 1 : Int) ≤ (⟨true, 64, 32⟩ : Fmt).maxV ∧ Exact53 (2 ^ 40 + 1) ∧
    InverseDomain ⟨true, 64, 32⟩ (2 ^ 40 + 1) := by decide +kernel

/-- beyond 53 significant bits the round trip is impossible: `2^53 + 1` in the signed 64-bit
integer format comes back as `2^53` (known finding `inverse-beyond-2^53`) -/
theorem inverse_counterexample :
    (fpToFloat 0 (2 ^ 53 + 1) >>= fun x => match x with
      | .fin d => floatToFp ⟨true, 64, 0⟩ d
      | .inf _ => .error .overflowInt) = .ok (2 ^ 53) ∧
    (⟨true, 64, 0⟩ : Fmt).minV ≤ 2 ^ 53 + 1 ∧ (2 ^ 53 + 1 : Int) ≤ (⟨true, 64, 0⟩ : Fmt).maxV ∧
    ¬ Exact53 (2 ^ 53 + 1) := by decide +kernel

/-- **Array = scalar (8, 16 and 32 bits).** The NumPy converter (scale, clip in floating point,
cast) returns, for every element, exactly what `float_to_fp` returns. -/
theorem array_eq_scalar (fmt : Fmt) (v : Dy) (h : ArrayDomain fmt v) (hb : fmt.bits ≠ 64) :
    npFloatToFix fmt v = (floatToFp fmt v).map Cast.val := by
  rw [fp_total fmt v h.fmtOk h.finite]
  exact np_closed_of_sat h (by
    rw [satBound_false, floatMax_eq, if_pos ((width_nInt h.width).mpr hb), clamp_eq_min])

example : ArrayDomain ⟨true, 16, 5⟩ ⟨-12345, -7⟩ ∧ (⟨true, 16, 5⟩ : Fmt).bits ≠ 64 :=
  ⟨⟨by decide, by decide, by decide, by decide +kernel, by decide⟩, by decide⟩

/-- **Array = scalar, unrepaired code (stated for every width, of interest at 64 bits):** holds for every element
whose truncated scaled value does not exceed the maximum, at 64 bits i.e. strictly below the rounded clip bound
`float(2^63-1) = 2^63`. -/
theorem array64_eq_scalar_below_bound (fmt : Fmt) (v : Dy) (h : ArrayDomain fmt v)
    (hlt : truncScaled v.m (v.e + fmt.frac) ≤ fmt.maxV) :
    npFloatToFix fmt v = (floatToFp fmt v).map Cast.val := by
  rw [fp_total fmt v h.fmtOk h.finite]
  exact np_closed_of_sat h (by rw [satBound_false, sat_of_le (floatMax_bounds fmt).1 hlt])

/-- **The 64-bit saturation defect of the unrepaired code (F9):** every element whose scaled value
reaches `max + 1` is clipped to `float(max) = max + 1` and then cast out of range (observed
on x86-64: `-2^63` for int64, `0` for uint64), while `float_to_fp` saturates at `max`. -/
theorem array64_defect_all (fmt : Fmt) (v : Dy) (h : ArrayDomain fmt v) (h64 : fmt.bits = 64)
    (hgt : fmt.maxV < truncScaled v.m (v.e + fmt.frac)) :
    npFloatToFix fmt v = .ok .unspecified ∧ floatToFp fmt v = .ok fmt.maxV := by
  have hH : round53Val fmt.maxV = fmt.maxV + 1 := by
    rw [floatMax_eq, if_neg (fun c => (width_nInt h.width).mp c h64)]
  rw [fp_total fmt v h.fmtOk h.finite, npFloatToFix, np_closed false fmt v h, satBound_false,
    hH, sat_of_ge (Int.add_one_le_of_lt hgt), if_neg (Int.not_le.mpr (Int.lt_succ _)), clamp_of_ge (Int.le_of_lt hgt)]
  exact ⟨rfl, rfl⟩

example : ArrayDomain ⟨true, 64, 0⟩ ⟨1, 100⟩ ∧
    (⟨true, 64, 0⟩ : Fmt).maxV < truncScaled 1 (100 + 0) :=
  ⟨⟨by decide, by decide, by decide, by decide +kernel, by decide⟩, by decide +kernel⟩

/-- concrete instance: 1e30-like value `2^100` in the signed and unsigned 64-bit integer formats -/
theorem array64_defect :
    npFloatToFix ⟨true, 64, 0⟩ ⟨1, 100⟩ = .ok .unspecified ∧
    floatToFp ⟨true, 64, 0⟩ ⟨1, 100⟩ = .ok (2 ^ 63 - 1) ∧
    npFloatToFix ⟨false, 64, 0⟩ ⟨1, 100⟩ = .ok .unspecified ∧
    floatToFp ⟨false, 64, 0⟩ ⟨1, 100⟩ = .ok (2 ^ 64 - 1) := by decide +kernel

/-- **Array = scalar for every supported width (8, 16, 32, 64) for the repaired code**
(fixes/c16-saturate-64bit.diff). -/
theorem array_eq_scalar_repaired (fmt : Fmt) (v : Dy) (h : ArrayDomain fmt v) :
    npFloatToFixRepaired fmt v = (floatToFp fmt v).map Cast.val := by
  rw [fp_total fmt v h.fmtOk h.finite]
  exact np_closed_of_sat h (by rw [satBound_true, clamp_eq_min])

/-- **The deprecated converter never trips its assertion** and returns an unsigned word. -/
theorem deprecated_no_assert (rep : Bool) (fmt : Fmt) (v : Dy) (h : FixOk fmt) :
    ∃ w, floatToFixG rep fmt v = .ok w ∧ 0 ≤ w ∧ w < 2 ^ fmt.bits := by
  have hp : (0 : Int) < 2 ^ fmt.bits := by positivity
  exact ⟨_, fix_closed rep fmt v h, Int.emod_nonneg _ (by omega), Int.emod_lt_of_pos _ hp⟩

/-- **Deprecated = two's complement.** Whenever the float bound of `validate_fp_params` is exact
(at most 53 integer bits), `float_to_fix` returns `float_to_fp` modulo `2^n_bits`. -/
theorem deprecated_twos_complement (fmt : Fmt) (v : Dy) (h : FixOk fmt) (h53 : nInt fmt ≤ 53)
    (hv : FiniteScaled fmt v) :
    floatToFix fmt v = (floatToFp fmt v).map (· % 2 ^ fmt.bits) := by
  rw [fp_total fmt v h.fmtOk hv, floatToFix, fix_closed false fmt v h, satBound_false,
    floatMax_eq, if_pos h53, ← clamp_eq_min]
  rfl

/-- for the repaired code the same holds for every width the constructor accepts
(`FixOk`: n_int <= 1023; from n_int = 1024 on `validate_fp_params` raises OverflowError) -/
theorem deprecated_twos_complement_repaired (fmt : Fmt) (v : Dy) (h : FixOk fmt)
    (hv : FiniteScaled fmt v) :
    floatToFixRepaired fmt v = (floatToFp fmt v).map (· % 2 ^ fmt.bits) := by
  rw [fp_total fmt v h.fmtOk hv, floatToFixRepaired, fix_closed true fmt v h, satBound_true, ← clamp_eq_min]
  rfl

/-- the defect of the unrepaired deprecated converter (F9): a large value in the signed 64-bit format
comes out as the word `2^63` (= -2^63) although `float_to_fp` saturates at `2^63 - 1` -/
theorem deprecated64_defect :
    floatToFix ⟨true, 64, 0⟩ ⟨1, 100⟩ = .ok (2 ^ 63) ∧
    floatToFp ⟨true, 64, 0⟩ ⟨1, 100⟩ = .ok (2 ^ 63 - 1) ∧
    floatToFix ⟨false, 64, 0⟩ ⟨1, 100⟩ = .ok 0 ∧
    floatToFp ⟨false, 64, 0⟩ ⟨1, 100⟩ = .ok (2 ^ 64 - 1) ∧
    ¬ SpecFix ⟨true, 64, 0⟩ ⟨1, 100⟩ (2 ^ 63) := by decide +kernel

/-- the deprecated constructors beyond the accepted range: OverflowError (n_int >= 1024) -/
theorem deprecated_wide_rejected :
    validate ⟨false, 1024, 0⟩ = .error .overflowFloat ∧ validate ⟨true, 1025, 3⟩ = .error .overflowFloat ∧
    (validate ⟨true, 1024, 1023⟩).toBool = true ∧ (validate ⟨false, 1023, 0⟩).toBool = true := by
  decide +kernel

/-- wide formats satisfy the hypotheses (128-bit S63.64, 1023-bit unsigned) -/
example : FixOk ⟨true, 128, 64⟩ ∧ FixOk ⟨false, 1023, 1000⟩ ∧ FiniteScaled ⟨true, 128, 64⟩ ⟨1, 100⟩ :=
  ⟨⟨by decide, by decide, by decide, by decide⟩, ⟨by decide, by decide, by decide, by decide⟩, by decide +kernel⟩

example : FixOk ⟨true, 16, 5⟩ ∧ nInt ⟨true, 16, 5⟩ ≤ 53 ∧ FiniteScaled ⟨true, 16, 5⟩ ⟨-12345, -7⟩ :=
  ⟨⟨by decide, by decide, by decide, by decide⟩, by decide, by decide +kernel⟩

/-- **Deprecated `fix_to_float` = `fp_to_float` on the two's-complement reading of the word.** -/
theorem fix_to_float_eq (fmt : Fmt) (w : Nat) (h : FixOk fmt) (hw : w < 2 ^ fmt.bits) :
    fixToFloat fmt w = fpToFloat fmt.frac (ofWord fmt w) := by
  have ht : w.testBit (fmt.bits - 1) = decide ((2 : Int) ^ (fmt.bits - 1) ≤ w) := by
    rw [testBit_top (by rwa [Nat.sub_add_cancel h.bits1])]
    exact decide_eq_decide.mpr (by exact_mod_cast Iff.rfl)
  have a : -fmt.frac < 1024 := by have := h.frac0; omega
  have b : -1074 ≤ -fmt.frac := by
    have h1 := h.fracLe; have hb := h.bitsLe
    split at h1 <;> simp only [*, if_true, if_false, Bool.false_eq_true] at hb <;> omega
  obtain ⟨_, hv, _⟩ := validate_ok fmt h
  unfold fixToFloat fpToFloat ofWord
  rw [hv, ht, pow2f_ok b a]
  simp only [bind, Except.bind, mulScale, Bool.and_eq_true, decide_eq_true_eq, Int.sub_eq_add_neg]

example : FixOk ⟨true, 8, 4⟩ ∧ (0xf8 : Nat) < 2 ^ (⟨true, 8, 4⟩ : Fmt).bits ∧
    fixToFloat ⟨true, 8, 4⟩ 0xf8 = .ok (.fin ⟨-8, -4⟩) :=
  ⟨⟨by decide, by decide, by decide, by decide⟩, by decide, by decide +kernel⟩

/-- **The executable rule `SpecFp` read over the rationals:** with `x = v * 2^n_frac`,
`r = max` when `x >= max + 1`, `r = min` when `x <= min - 1`, otherwise `r` is `x` truncated
toward zero (`r <= x < r + 1` for `x >= 0`, `r - 1 < x <= r` for `x < 0`). -/
theorem specFp_iff_rat (fmt : Fmt) (v : Dy) (r : Int) :
    SpecFp fmt v r ↔
      (let x := scaledRat fmt v
       if ((fmt.maxV + 1 : Int) : ℚ) ≤ x then r = fmt.maxV
       else if x ≤ ((fmt.minV - 1 : Int) : ℚ) then r = fmt.minV
       else (0 ≤ x → (r : ℚ) ≤ x ∧ x < ((r + 1 : Int) : ℚ)) ∧ (x < 0 → ((r - 1 : Int) : ℚ) < x ∧ x ≤ (r : ℚ))) := by
  -- `x` is the quotient `scaledNum / scaledDen`; comparing with a quotient by a positive number is cross-multiplying
  have hd : (0 : ℚ) < scaledDen fmt v := Int.cast_pos.mpr (den_pos _)
  have hx : scaledRat fmt v = scaledNum fmt v / scaledDen fmt v :=
    eq_div_of_mul_eq hd.ne' (scaledNum_rat fmt v).symm
  unfold SpecFp IsTrunc
  simp only [hx, le_div_iff₀ hd, div_le_iff₀ hd, lt_div_iff₀ hd, div_lt_iff₀ hd, zero_mul, ← Int.cast_mul,
    Int.cast_le, Int.cast_lt, Int.cast_nonneg_iff, Int.cast_lt_zero]

/-! non-vacuity of the hypotheses of fp_sat / fp_range / fp_lsb / fp_mono: concrete conversions in
the S3.4 format (0.5 -> 8, -0.51 -> -8, 100 -> 127) that are in range resp. ordered -/
example : floatToFp ⟨true, 8, 4⟩ ⟨1, -1⟩ = .ok 8 ∧ floatToFp ⟨true, 8, 4⟩ ⟨-131, -8⟩ = .ok (-8) ∧
    floatToFp ⟨true, 8, 4⟩ ⟨25, 2⟩ = .ok 127 ∧ Dy.le ⟨-131, -8⟩ ⟨1, -1⟩ ∧
    (⟨true, 8, 4⟩ : Fmt).minV * scaledDen ⟨true, 8, 4⟩ ⟨-131, -8⟩ ≤ scaledNum ⟨true, 8, 4⟩ ⟨-131, -8⟩ ∧
    scaledNum ⟨true, 8, 4⟩ ⟨-131, -8⟩ ≤ (⟨true, 8, 4⟩ : Fmt).maxV * scaledDen ⟨true, 8, 4⟩ ⟨-131, -8⟩ ∧
    (⟨true, 8, 4⟩ : Fmt).Ok ∧ FiniteScaled ⟨true, 8, 4⟩ ⟨-131, -8⟩ := by decide +kernel

end Rig.C16
