/-
C04 - matching and intersection, first-match lookup, bit sets of sources, default-route removal.
-/
import RigModel.Model.C04
import RigModel.Lemmas.Assoc

namespace Rig.C04

/- found once here: the search through `DecidableEq` is slow to repeat at every `==` -/
instance : LawfulBEq W := inferInstance
instance : LawfulBEq KM := inferInstance

theorem matches_iff (e : Entry) (k : W) : e.matches k = true ↔ k &&& e.mask = e.key := beq_iff_eq

theorem intersect_of_matches {ka ma kb mb k : W} (ha : k &&& ma = ka) (hb : k &&& mb = kb) :
    intersect ka ma kb mb = true := by
  rw [intersect, beq_iff_eq, ← ha, ← hb, BitVec.and_assoc, BitVec.and_assoc, BitVec.and_comm ma mb]

theorem meets_of_matches {a b : Entry} {k : W} (ha : a.matches k = true) (hb : b.matches k = true) :
    a.meets b = true :=
  intersect_of_matches ((matches_iff a k).mp ha) ((matches_iff b k).mp hb)

theorem lookup_cons (e : Entry) (T : List Entry) (k : W) :
    lookup (e :: T) k = if e.matches k then some e else lookup T k := by
  simp only [lookup, List.find?_cons]
  cases e.matches k <;> rfl

theorem lookup_none_iff {T : List Entry} {k : W} :
    lookup T k = none ↔ ∀ d ∈ T, d.matches k = false := by
  simp [lookup, List.find?_eq_none]

theorem lookup_some_matches {T : List Entry} {k : W} {e : Entry} (h : lookup T k = some e) :
    e.matches k = true ∧ e ∈ T := by
  simp only [lookup] at h
  exact ⟨by simpa using List.find?_some h, List.mem_of_find?_eq_some h⟩

theorem lookup_append (a b : List Entry) (k : W) :
    lookup (a ++ b) k = (lookup a k).or (lookup b k) := List.find?_append

theorem lookup_none_of_sublist {L L' : List Entry} {k : W} (hs : L'.Sublist L)
    (h : ∀ d ∈ L, d.matches k = false) : lookup L' k = none :=
  lookup_none_iff.mpr fun d hd => h d (hs.subset hd)

/-- the alias dictionary is read by `List.lookup` -/
theorem alGet_eq_lookup (A : Aliases) (km : KM) : alGet A km = A.lookup km := (Assoc.lookup_eq_find? km A).symm

theorem orthogonal_lookup_mem {T : List Entry} (ho : Orthogonal T) {k : W} {e : Entry}
    (he : e ∈ T) (hm : e.matches k = true) : lookup T k = some e := by
  induction T with
  | nil => cases he
  | cons x r ih =>
    rw [lookup_cons]
    obtain ⟨hx, hr⟩ := List.pairwise_cons.mp ho
    rcases List.mem_cons.mp he with rfl | her
    · rw [if_pos hm]
    · have : x.matches k = false := by
        cases hxm : x.matches k with
        | false => rfl
        | true => exact absurd ⟨hxm, hm⟩ (hx e her k)
      rw [this]; exact ih hr her

theorem orthogonal_unique {T : List Entry} (ho : Orthogonal T) {k : W} {e e' : Entry}
    (he : e ∈ T) (he' : e' ∈ T) (hm : e.matches k = true) (hm' : e'.matches k = true) : e = e' :=
  Option.some.inj ((orthogonal_lookup_mem ho he hm).symm.trans (orthogonal_lookup_mem ho he' hm'))

theorem bitSubset_refl (a : Nat) : bitSubset a a = true := by
  rw [bitSubset, Nat.and_self]; exact beq_self_eq_true a

theorem bitSubset_iff {a b : Nat} : bitSubset a b = true ↔ ∀ i, a.testBit i = true → b.testBit i = true := by
  rw [bitSubset, beq_iff_eq]
  constructor
  · intro h i hi
    have : (a &&& b).testBit i = true := by rw [h, hi]
    rw [Nat.testBit_and, hi] at this
    exact this
  · intro h
    apply Nat.eq_of_testBit_eq
    intro i
    rw [Nat.testBit_and]
    cases hi : a.testBit i with
    | false => rfl
    | true => exact h i hi

theorem bitSubset_trans {a b c : Nat} (h1 : bitSubset a b = true) (h2 : bitSubset b c = true) :
    bitSubset a c = true := by
  rw [bitSubset_iff] at *
  exact fun i hi => h2 i (h1 i hi)

theorem single_some {s i : Nat} (h : single s = some i) : s = 2 ^ i := by
  simp only [single] at h
  simpa using List.find?_some h

theorem defaultableHead_sound {e : Entry} (h : defaultableHead e = true) : DefaultRouted e := by
  simp only [defaultableHead] at h
  split at h
  · rename_i source sink hs hr
    simp only [Bool.and_eq_true, decide_eq_true_eq, beq_iff_eq, bne_iff_ne] at h
    obtain ⟨⟨_, h1, h2⟩, h3⟩ := h
    exact ⟨source, h1, single_some hs, by rw [h3]; exact single_some hr⟩
  · cases h

theorem rdLoop_sublist (check : Bool) (T : List Entry) : (rdLoop check T).Sublist T := by
  fun_induction rdLoop check T with
  | case1 => exact List.Sublist.slnil
  | case2 e rest _ ih => exact ih.cons _
  | case3 e rest _ ih => exact ih.cons_cons _

theorem rdLoop_length (check : Bool) (T : List Entry) : (rdLoop check T).length ≤ T.length :=
  (rdLoop_sublist check T).length_le

theorem rdLoop_keyOk (check : Bool) (T : List Entry) (h : check = true ∨ Orthogonal T) (k : W) :
    KeyOk T (rdLoop check T) k := by
  fun_induction rdLoop check T with
  | case1 => intro e he; cases he
  | case2 e rest hd ih =>
    intro o ho
    rw [lookup_cons] at ho
    by_cases hm : e.matches k = true
    · -- dropped: nothing later matches `k`, so the default route takes over
      rw [if_pos hm] at ho
      cases ho
      rw [isDefaultable, Bool.and_eq_true] at hd
      refine Or.inr ⟨lookup_none_iff.mpr fun d hdm => Bool.eq_false_iff.mpr fun hmd => ?_,
        defaultableHead_sound hd.1⟩
      have hdr : d ∈ rest := (rdLoop_sublist check rest).subset hdm
      rcases h with rfl | horth
      · have := hd.2
        rw [Bool.not_true, Bool.false_or, Bool.not_eq_true', List.any_eq_false] at this
        exact this d hdr (meets_of_matches hm hmd)
      · exact (List.pairwise_cons.mp horth).1 d hdr k ⟨hm, hmd⟩
    · rw [if_neg hm] at ho
      exact ih (h.imp id fun h => (List.pairwise_cons.mp h).2) o ho
  | case3 e rest hd ih =>
    intro o ho
    rw [lookup_cons] at ho ⊢
    by_cases hm : e.matches k = true
    · rw [if_pos hm] at ho ⊢
      cases ho
      exact Or.inl ⟨e, rfl, rfl, bitSubset_refl _⟩
    · rw [if_neg hm] at ho ⊢
      exact ih (h.imp id fun h => (List.pairwise_cons.mp h).2) o ho

theorem allSameMask_spec {T : List Entry} (h : allSameMask T = true) :
    ∀ a ∈ T, ∀ b ∈ T, a.mask = b.mask := by
  cases T with
  | nil => cases h
  | cons e r =>
    have : ∀ a ∈ e :: r, a.mask = e.mask := fun a ha =>
      (List.mem_cons.mp ha).elim (fun h' => h' ▸ rfl) fun ha => beq_iff_eq.mp (List.all_eq_true.mp h a ha)
    intro a ha b hb
    rw [this a ha, this b hb]

theorem shortcut_orthogonal {T : List Entry} (h : noAliasShortcut T = true) : Orthogonal T := by
  simp only [noAliasShortcut, Bool.and_eq_true, keysDistinct, decide_eq_true_eq] at h
  obtain ⟨hm, hk⟩ := h
  have hm := allSameMask_spec hm
  rw [List.Nodup, List.pairwise_map] at hk
  refine List.Pairwise.imp_of_mem ?_ hk
  intro a b ha hb hne k ⟨h1, h2⟩
  rw [matches_iff] at h1 h2
  apply hne
  rw [← h1, ← h2, hm a ha b hb]

theorem removeDefaultTable_keyOk (T : List Entry) (k : W) : KeyOk T (removeDefaultTable T true) k := by
  simp only [removeDefaultTable, if_true]
  by_cases hs : noAliasShortcut T = true
  · rw [if_pos hs]; exact rdLoop_keyOk false T (Or.inr (shortcut_orthogonal hs)) k
  · rw [if_neg hs]; exact rdLoop_keyOk true T (Or.inl rfl) k

theorem routeEquiv_refl (T : List Entry) : RouteEquiv T T :=
  fun _ e he => Or.inl ⟨e, he, rfl, bitSubset_refl _⟩

end Rig.C04
