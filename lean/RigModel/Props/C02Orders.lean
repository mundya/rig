/-
C02 (companion) - the vertex / chip ORDER functions of the wrapper placers (breadth_first.py,
rcm.py, hilbert.py): every vertex order lists every vertex exactly once, every chip order lists
every working chip exactly once (the Hilbert order besides points outside the machine), for all
netlists, machines and set iteration orders; the order functions terminate and raise no Python error,
`_cuthill_mckee` diverges on a disconnected graph; models of `rcm.place` / `breadth_first.place` /
`hilbert.place` and their termination; hence the breadth-first, Hilbert and RCM placers succeed
under the unit-demand hypotheses.
-/
import RigModel.Lemmas.C02OrdersHilbert
import RigModel.Lemmas.C02OrdersCm
import RigModel.Props.C02

namespace Rig.C02Orders
open Rig.C02 (keys Chip Machine Vtx VR Constraint Placement seqPlace prepareLoop needOf total UnitDem
  NonNegCap mem_chips_iff chips_nodup needOf_perm total_perm)

section generic
variable {α : Type} [DecidableEq α]

/-- **breadth_first_vertex_order lists every vertex exactly once** - for every netlist (nets over
unknown vertices, self loops, repeated sinks, isolated vertices, disconnected graphs) and every
outcome of the set iterations and `set.pop()` calls. -/
theorem bfsOrder_perm (vs : List α) (nets : List (Net α)) (pops : List α) (iters : List (List α))
    (order : List α) (h : bfsOrder vs nets pops iters = .ok order) :
    order.Nodup ∧ (∀ v, v ∈ order ↔ v ∈ vs) ∧ (vs.Nodup → order.Perm vs) := by
  have hp : order.Perm (dedupL vs) := (bfsOrder_spec vs nets pops iters).ok h
  refine ⟨hp.nodup_iff.2 (nodup_dedupL vs), fun v => by rw [hp.mem_iff, mem_dedupL], fun hnd => ?_⟩
  rw [dedupL_of_nodup vs hnd] at hp; exact hp

/-- **breadth_first_vertex_order terminates**: the `while` loop runs at most once per vertex. -/
theorem bfsOrder_terminates (vs : List α) (nets : List (Net α)) (pops : List α) (iters : List (List α)) :
    bfsOrder vs nets pops iters ≠ .error .fuel :=
  (bfsOrder_spec vs nets pops iters).ne_fuel

/-- **rcm_vertex_order never repeats a vertex and misses none** (no hypothesis on the nets);
what it lists besides the vertices are end points of nets. -/
theorem rcmVertexOrder_covers (vs : List α) (nets : List (Net α)) (pops : List α) (iters : List (List α))
    (order : List α) (h : rcmVertexOrder vs nets pops iters = .ok order) :
    order.Nodup ∧ (∀ v ∈ vs, v ∈ order) ∧
      (∀ v ∈ order, v ∈ vs ∨ ∃ n ∈ nets, v = n.src ∨ v ∈ n.sinks) :=
  (rcmVertexOrder_spec vs nets pops iters).ok h

/-- **rcm_vertex_order lists every vertex exactly once** when the nets connect known vertices. -/
theorem rcmVertexOrder_perm (vs : List α) (nets : List (Net α)) (pops : List α) (iters : List (List α))
    (order : List α) (hnets : ∀ n ∈ nets, n.src ∈ vs ∧ ∀ s ∈ n.sinks, s ∈ vs)
    (h : rcmVertexOrder vs nets pops iters = .ok order) :
    order.Nodup ∧ (∀ v, v ∈ order ↔ v ∈ vs) ∧ (vs.Nodup → order.Perm vs) := by
  obtain ⟨h1, h2, h3⟩ := (rcmVertexOrder_spec vs nets pops iters).ok h
  have hm : ∀ v, v ∈ order ↔ v ∈ vs := by
    intro v
    refine ⟨fun hv => ?_, h2 v⟩
    rcases h3 v hv with h' | ⟨n, hn, rfl | h'⟩
    · exact h'
    · exact (hnets n hn).1
    · exact (hnets n hn).2 v h'
  exact ⟨h1, hm, fun hnd => (List.perm_ext_iff_of_nodup h1 hnd).2 hm⟩

/-- **rcm_vertex_order terminates** - for EVERY netlist (disconnected graphs, isolated vertices,
self loops, zero weights, nets over unknown vertices) and every outcome of the set iterations and
`set.pop()` calls, the fuel the model gives the three `while` loops of rcm.py is never used up:
`_dfs` gets `1 + sum of the sizes of the inner neighbour dictionaries` iterations (every iteration
pops one element; elements are pushed only when a vertex is visited for the first time),
`_get_connected_subgraphs` one iteration per distinct vertex, `_cuthill_mckee` one iteration per
vertex of the subgraph (each subgraph is the depth-first closure of a vertex in a symmetric table,
hence connected, so every layer before the last one is non-empty). -/
theorem rcmVertexOrder_terminates (vs : List α) (nets : List (Net α)) (pops : List α) (iters : List (List α)) :
    rcmVertexOrder vs nets pops iters ≠ .error .fuel :=
  (rcmVertexOrder_spec vs nets pops iters).ne_fuel

/-- **rcm_vertex_order raises no Python error**: the `KeyError` (`vertices_degrees[v]` for a vertex
outside the subgraph) and the `ValueError` (`min()` of an empty set) that `_cuthill_mckee` can
raise when called on its own are unreachable inside `rcm_vertex_order`; the model's only failure is
the rejection of an impossible oracle stream. -/
theorem rcmVertexOrder_no_python_error (vs : List α) (nets : List (Net α)) (pops : List α) (iters : List (List α))
    (e : OErr) (h : rcmVertexOrder vs nets pops iters = .error e) : e = .badOracle :=
  (rcmVertexOrder_spec vs nets pops iters).error h

/-- the loops themselves, for ANY fuel at least the stated bound (the bound is what matters, not
the particular fuel the model passes): `_dfs` ends within `len(to_visit) + sum of the sizes of the
inner dictionaries of the unvisited vertices` iterations -/
theorem dfs_terminates (vn : VN α) (fuel : Nat) (st vis : List α) (h : st.length + dfsW vn vis ≤ fuel) :
    ∃ r, dfsLoop vn fuel st vis = .ok r := dfsLoop_ok vn fuel st vis h

/-- ... `_get_connected_subgraphs`: one iteration per remaining vertex -/
theorem connectedSubgraphs_terminates (vn : VN α) (fuel : Nat) (rem pops : List α) (acc : List (List α))
    (h : rem.length ≤ fuel) : subgraphsLoop vn fuel rem pops acc ≠ .error .fuel :=
  (subgraphsLoop_spec vn (fun _ _ => True) (fun _ _ _ _ _ _ _ => trivial) fuel rem pops acc trivial h).ne_fuel

/-- ... `_cuthill_mckee` on a CONNECTED subgraph: `len(vertices) - len(cm_order)` iterations -/
theorem cuthillMckee_terminates (vn : VN α) (sg : List α) (hc : Conn vn sg) (fuel : Nat) (s : CmSt α)
    (I : CmInv2 vn sg s) (h : sg.length ≤ s.order.length + fuel) : cmLoop vn sg fuel s ≠ .error .fuel :=
  (cmLoop_spec vn sg hc fuel s I h).ne_fuel

/-- every subgraph `_get_connected_subgraphs` returns is connected (what `_cuthill_mckee` asks for
in its docstring) -/
theorem connectedSubgraphs_connected (vs : List α) (nets : List (Net α)) (pops pops' : List α)
    (sgs : List (List α))
    (h : connectedSubgraphs (getVerticesNeighbours nets) vs pops = .ok (sgs, pops')) :
    ∀ sg ∈ sgs, Conn (getVerticesNeighbours nets) sg :=
  (subgraphsLoop_conn _ (getVN_sym nets) _ _ pops [] nofun (Nat.le_refl _)).ok h

/-- the decidable check the harness runs on the implementation's vertex orders is the statement
"lists every vertex exactly once" -/
theorem isPermOf_iff (order vs : List α) :
    isPermOf order vs = true ↔ order.Nodup ∧ ∀ v, v ∈ order ↔ v ∈ vs := isOrderOf_iff order vs

end generic

/-- **rcm_chip_order lists every working chip exactly once** - for every machine (dead chips,
dead links) and every outcome of the set iterations. -/
theorem rcmChipOrder_perm (m : Machine) (deadLinks : List (Nat × Nat × Nat)) (pops : List Chip)
    (iters : List (List Chip)) (co : List Chip) (h : rcmChipOrder m deadLinks pops iters = .ok co) :
    co.Perm m.chips := by
  unfold rcmChipOrder at h
  refine (rcmVertexOrder_perm m.chips _ pops iters co ?_ h).2.2 (chips_nodup m)
  intro n hn
  obtain ⟨c, hc, rfl⟩ := List.mem_map.1 hn
  refine ⟨hc, fun s hs => ?_⟩
  simp only [chipNet, List.mem_filterMap] at hs
  obtain ⟨l, _, hs⟩ := hs
  split at hs
  · simp at hs
  · split at hs
    · rename_i hok
      injection hs with hs; subst hs
      exact (mem_chips_iff m _).2 hok
    · simp at hs

/-- **rcm_chip_order terminates** - for every machine (any size, dead chips, dead links) and every
outcome of the set iterations. -/
theorem rcmChipOrder_terminates (m : Machine) (deadLinks : List (Nat × Nat × Nat)) (pops : List Chip)
    (iters : List (List Chip)) : rcmChipOrder m deadLinks pops iters ≠ .error .fuel :=
  rcmVertexOrder_terminates _ _ _ _

/-- ... and raises no Python error -/
theorem rcmChipOrder_no_python_error (m : Machine) (deadLinks : List (Nat × Nat × Nat)) (pops : List Chip)
    (iters : List (List Chip)) (e : OErr) (h : rcmChipOrder m deadLinks pops iters = .error e) :
    e = .badOracle :=
  rcmVertexOrder_no_python_error _ _ _ _ e h

/-- the hypothesis of `cuthillMckee_terminates` is necessary (the warning in the docstring): on the
disconnected graph {1 - 2, 3}, once the component of 3 is exhausted (`previous_layer` empty) the
loop `while len(cm_order) < len(vertices)` never ends - the model runs out of ANY fuel. -/
theorem cuthillMckee_diverges_disconnected (fuel : Nat) :
    cmLoop (getVerticesNeighbours [⟨1, [2], 4⟩]) [1, 2, 3] fuel
      { visited := [3], order := [3], prev := [], iters := List.replicate (2 * fuel) ([] : List Nat) }
      = .error .fuel := by
  induction fuel with
  | zero => rfl
  | succ n ih =>
    -- an iteration over the empty layer uses up two (empty) iteration orders and leaves the state as it was
    rw [show 2 * (n + 1) = (2 * n + 1) + 1 from rfl, List.replicate_succ, List.replicate_succ]
    exact ih

/-- failure of a wrapper placer: in its order function or in the sequential placer -/
inductive PErr where
  | order (e : OErr)
  | place (e : Rig.C02.Err)
  deriving DecidableEq, Repr

/-- `rcm.place(vertices_resources, nets, machine, constraints)`:
`sequential_place(..., rcm_vertex_order(vertices_resources, nets), rcm_chip_order(machine))` -/
def rcmPlace (vr : VR) (cs : List Constraint) (m : Machine) (nets : List (Net Vtx))
    (deadLinks : List (Nat × Nat × Nat)) (pops : List Vtx) (iters : List (List Vtx)) (cpops : List Chip)
    (citers : List (List Chip)) : Except PErr Placement :=
  match rcmVertexOrder (keys vr) nets pops iters with
  | .error e => .error (.order e)
  | .ok vo =>
    match rcmChipOrder m deadLinks cpops citers with
    | .error e => .error (.order e)
    | .ok co =>
      match seqPlace vr cs m (some vo) (some co) with
      | .error e => .error (.place e)
      | .ok p => .ok p

/-- `breadth_first.place(...)`: `sequential_place(..., breadth_first_vertex_order(...), chip_order)` -/
def bfsPlace (vr : VR) (cs : List Constraint) (m : Machine) (nets : List (Net Vtx)) (pops : List Vtx)
    (iters : List (List Vtx)) (chipOrder : Option (List Chip)) : Except PErr Placement :=
  match bfsOrder (keys vr) nets pops iters with
  | .error e => .error (.order e)
  | .ok vo =>
    match seqPlace vr cs m (some vo) chipOrder with
    | .error e => .error (.place e)
    | .ok p => .ok p

/-- `hilbert.place(..., breadth_first)`: the vertex order is the breadth-first one or the
dictionary order, the chip order `hilbert_chip_order(machine)` -/
def hilbertPlace (vr : VR) (cs : List Constraint) (m : Machine) (nets : List (Net Vtx)) (pops : List Vtx)
    (iters : List (List Vtx)) (breadthFirst : Bool) : Except PErr Placement :=
  let co := toChips (hilbertChipOrder m.w m.h)
  if breadthFirst then
    match bfsOrder (keys vr) nets pops iters with
    | .error e => .error (.order e)
    | .ok vo =>
      match seqPlace vr cs m (some vo) (some co) with
      | .error e => .error (.place e)
      | .ok p => .ok p
  else
    match seqPlace vr cs m none (some co) with
    | .error e => .error (.place e)
    | .ok p => .ok p

private abbrev NoFuel (r : Except PErr Placement) : Prop :=
  r ≠ .error (.order .fuel) ∧ r ≠ .error (.place .fuel)

private theorem noFuel_order {β : Type} {o : M β} {e : OErr} (ho : o ≠ .error .fuel) (he : o = .error e) :
    NoFuel (.error (.order e)) :=
  ⟨fun h => ho (by cases h; exact he), nofun⟩

private theorem noFuel_place {x : Except Rig.C02.Err Placement} {e : Rig.C02.Err} (hx : x ≠ .error .fuel)
    (he : x = .error e) : NoFuel (.error (.place e)) :=
  ⟨nofun, fun h => hx (by cases h; exact he)⟩

/-- **The RCM placer terminates** - `rcmVertexOrder_terminates`, `rcmChipOrder_terminates` and
`seqPlace_terminates` composed: for every problem, machine and oracle no loop of `rcm.place` runs
out of its step bound. -/
theorem rcmPlace_terminates (vr : VR) (cs : List Constraint) (m : Machine) (nets : List (Net Vtx))
    (deadLinks : List (Nat × Nat × Nat)) (pops : List Vtx) (iters : List (List Vtx)) (cpops : List Chip)
    (citers : List (List Chip)) :
    rcmPlace vr cs m nets deadLinks pops iters cpops citers ≠ .error (.order .fuel) ∧
    rcmPlace vr cs m nets deadLinks pops iters cpops citers ≠ .error (.place .fuel) := by
  fun_cases rcmPlace vr cs m nets deadLinks pops iters cpops citers
  case case1 e he => exact noFuel_order (rcmVertexOrder_terminates (keys vr) nets pops iters) he
  case case2 e he => exact noFuel_order (rcmChipOrder_terminates m deadLinks cpops citers) he
  case case3 e he => exact noFuel_place (Rig.C02.seqPlace_terminates vr cs m _ _) he
  case case4 => exact ⟨nofun, nofun⟩

/-- **The breadth-first placer terminates.** -/
theorem bfsPlace_terminates (vr : VR) (cs : List Constraint) (m : Machine) (nets : List (Net Vtx))
    (pops : List Vtx) (iters : List (List Vtx)) (chipOrder : Option (List Chip)) :
    bfsPlace vr cs m nets pops iters chipOrder ≠ .error (.order .fuel) ∧
    bfsPlace vr cs m nets pops iters chipOrder ≠ .error (.place .fuel) := by
  fun_cases bfsPlace vr cs m nets pops iters chipOrder
  case case1 e he => exact noFuel_order (bfsOrder_terminates (keys vr) nets pops iters) he
  case case2 e he => exact noFuel_place (Rig.C02.seqPlace_terminates vr cs m _ _) he
  case case3 => exact ⟨nofun, nofun⟩

/-- **The Hilbert placer terminates** (both modes; `hilbert(level)` itself is a structurally
recursive generator of depth `level`). -/
theorem hilbertPlace_terminates (vr : VR) (cs : List Constraint) (m : Machine) (nets : List (Net Vtx))
    (pops : List Vtx) (iters : List (List Vtx)) (breadthFirst : Bool) :
    hilbertPlace vr cs m nets pops iters breadthFirst ≠ .error (.order .fuel) ∧
    hilbertPlace vr cs m nets pops iters breadthFirst ≠ .error (.place .fuel) := by
  fun_cases hilbertPlace vr cs m nets pops iters breadthFirst
  case case1 e he => exact noFuel_order (bfsOrder_terminates (keys vr) nets pops iters) he
  case case2 e he | case4 e he => exact noFuel_place (Rig.C02.seqPlace_terminates vr cs m _ _) he
  case case3 | case5 => exact ⟨nofun, nofun⟩

/-- **The Hilbert L-system fills its square**: started at any position with any axis heading and
either handedness, the curve of level `n` (with its starting point) visits every point of the
2^n x 2^n square spanned by the heading and the "left" direction exactly once, and ends at the far
end of the first side with the heading it started with. -/
theorem hilbert_curve_fills_square (n : Nat) (a : Int) (s : HState) (ha : a = 1 ∨ a = -1) (hd : unitDir s) :
    (hil n a s).2 = endOf s (2 ^ n) ∧ (s.pos :: (hil n a s).1).Nodup ∧
      ∀ q, q ∈ s.pos :: (hil n a s).1 ↔ inSq s a (2 ^ n) q := by
  have S := Rig.C02.hilbertGen_spec n a s.x s.y s.dx s.dy (frame_of_unit hd ha)
  rw [show hil n a s = _ from hil_ofHS n a ⟨s.x, s.y, s.dx, s.dy⟩]
  exact ⟨congrArg ofHS S.exit, S.nodup, S.mem⟩

/-- **`hilbert(level)` is a duplicate-free enumeration of the square [0, 2^level)²** -/
theorem hilbert_perm_square (k : Nat) :
    (hilbert k).Nodup ∧ ∀ q : Int × Int, q ∈ hilbert k ↔ 0 ≤ q.1 ∧ q.1 < 2 ^ k ∧ 0 ≤ q.2 ∧ q.2 < 2 ^ k := by
  rw [hilbert_eq_pts]
  exact Rig.C02.hilbertPts_spec k

theorem mem_toChips_hilbert (k : Nat) (c : Chip) : c ∈ toChips (hilbert k) ↔ c.1 < 2 ^ k ∧ c.2 < 2 ^ k := by
  rw [hilbert_eq_pts]
  exact Rig.C02.mem_chips_hilbertPts k c

theorem levels_spec (n : Nat) : n ≤ 2 ^ levels n ∧ (levels n = 0 ∨ 2 ^ (levels n - 1) < n) :=
  Rig.C02.clog2_spec n

set_option linter.unusedVariables false in
/-- **The level `hilbert_chip_order` must choose is the least `k` with `n ≤ 2^k`** (the integer
meaning of `int(ceil(log(n, 2.0)))`), for EVERY `n ≥ 1` (`hn` is not needed by the proof; it is the
guard of the Python expression, `.. if max_dimen >= 1 else 0`). -/
theorem hilbertLevel_least (n : Nat) (hn : 1 ≤ n) :
    n ≤ 2 ^ levels n ∧ ∀ k, n ≤ 2 ^ k → levels n ≤ k := by
  obtain ⟨h1, h2⟩ := levels_spec n
  refine ⟨h1, fun k hk => ?_⟩
  rcases h2 with h0 | hlt
  · omega
  · have : 2 ^ (levels n - 1) < 2 ^ k := Nat.lt_of_lt_of_le hlt hk
    have := (Nat.pow_lt_pow_iff_right (by omega : 1 < 2)).1 this
    omega

/-- ... and it is the only such number -/
theorem hilbertLevel_unique (n k : Nat) (hn : 1 ≤ n) :
    levels n = k ↔ (n ≤ 2 ^ k ∧ ∀ j, n ≤ 2 ^ j → k ≤ j) := by
  obtain ⟨h1, h2⟩ := hilbertLevel_least n hn
  constructor
  · rintro rfl; exact ⟨h1, h2⟩
  · rintro ⟨k1, k2⟩
    have a := h2 k k1
    have b := k2 _ h1
    omega

/-- the two models of the level (Model/C02Orders' `levels`, Model/C02's `clog2`) are one function -/
theorem clog2_eq_levels (n : Nat) : Rig.C02.clog2 n = levels n := rfl

/-- **`hilbert(L)` covers a `w x h` machine exactly when `max(w, h) ≤ 2^L`** - for every `L`, `w`,
`h`: any level at least `levels (max w h)` covers (a float evaluation of the level that comes out too
LARGE is harmless), every smaller level misses a chip (one that comes out too SMALL is not). -/
theorem hilbert_level_covers_iff (L w h : Nat) (hw : 1 ≤ w) (hh : 1 ≤ h) :
    (∀ x y, x < w → y < h → (x, y) ∈ toChips (hilbert L)) ↔ max w h ≤ 2 ^ L := by
  simp only [mem_toChips_hilbert]
  constructor
  · intro hall
    have a := hall (w - 1) 0 (by omega) (by omega)
    have b := hall 0 (h - 1) (by omega) (by omega)
    omega
  · intro hle x y hx hy
    omega

/-- **hilbert_chip_order with the exact level covers every machine, and no smaller level does** -/
theorem hilbert_covers_all (w h : Nat) (hw : 1 ≤ w) (hh : 1 ≤ h) :
    (∀ x y, x < w → y < h → (x, y) ∈ toChips (hilbertChipOrder w h)) ∧
    ∀ L, L < levels (max w h) → ¬ ∀ x y, x < w → y < h → (x, y) ∈ toChips (hilbert L) := by
  obtain ⟨h1, h2⟩ := hilbertLevel_least (max w h) (by omega)
  refine ⟨(hilbert_level_covers_iff _ w h hw hh).2 h1, fun L hL hall => ?_⟩
  have := h2 L ((hilbert_level_covers_iff L w h hw hh).1 hall)
  omega

/-- **hilbert_chip_order lists every working chip of the machine exactly once** (besides points
outside the machine, which the sequential placer skips). -/
theorem hilbertChipOrder_covers (m : Machine) :
    ((toChips (hilbertChipOrder m.w m.h)).filter m.ok).Perm m.chips := by
  refine (List.perm_ext_iff_of_nodup ((nodup_toChips _ (hilbert_perm_square _).1).filter _) (chips_nodup m)).2
    fun c => ?_
  rw [List.mem_filter, mem_chips_iff]
  refine ⟨fun h => h.2, fun h => ⟨(mem_toChips_hilbert _ c).2 ?_, h⟩⟩
  simp only [Machine.ok, Bool.and_eq_true, decide_eq_true_eq] at h
  have := (levels_spec (max m.w m.h)).1
  omega

/-- the decidable check the harness runs on the implementation's chip orders is the statement
"restricted to the machine, the order is a rearrangement of the machine's chips" -/
theorem coversOnce_iff (m : Machine) (co : List (Int × Int)) :
    coversOnce m co = true ↔ ((toChips co).filter m.ok).Perm m.chips := by
  rw [List.perm_iff_count]
  simp only [coversOnce, List.all_eq_true, beq_iff_eq, mem_chips_iff]
  refine forall_congr' fun c => ?_
  cases hok : m.ok c with
  | false =>
    have h1 : List.count c ((toChips co).filter m.ok) = 0 :=
      List.count_eq_zero_of_not_mem fun hm => by rw [(List.mem_filter.1 hm).2] at hok; cases hok
    have h2 : List.count c m.chips = 0 :=
      List.count_eq_zero_of_not_mem fun hm => by rw [(mem_chips_iff m c).1 hm] at hok; cases hok
    rw [h1, h2]
    exact ⟨fun _ => rfl, fun _ h => nomatch h⟩
  | true =>
    rw [List.count_filter hok, List.count_eq_one_of_mem (chips_nodup m) ((mem_chips_iff m c).2 hok)]
    exact ⟨fun h => h rfl, fun h _ => h⟩

/-- the completeness theorems of the three wrapper placers below are stated through this, on `seqPlace` with
their orders, not on `rcmPlace` / `bfsPlace` / `hilbertPlace` -/
theorem seqPlace_complete_of_perm (vr : VR) (cs : List Constraint) (m m' : Machine) (fixed : Placement)
    (vertexOrder : Option (List Vtx)) (chipOrder : Option (List Chip)) (r0 : Nat)
    (hnodup : (keys vr).Nodup) (hcap : NonNegCap m)
    (hnosame : ∀ vs, Constraint.same vs ∉ cs)
    (hunit : ∀ v d, (v, d) ∈ vr → UnitDem r0 d)
    (hprep : prepareLoop vr cs m [] = .ok (m', fixed))
    (hvo : ∀ vo, vertexOrder = some vo → vo.Perm (keys vr))
    (hco : ((chipOrder.getD m'.chips).filter m'.ok).Perm m'.chips)
    (hwork : ∃ c, m'.ok c = true)
    (hsuff : needOf fixed vr r0 (keys vr) ≤ total m' m'.chips r0) :
    ∃ p, seqPlace vr cs m vertexOrder chipOrder = .ok p := by
  have hvp : (vertexOrder.getD (keys vr)).Perm (keys vr) := by
    cases vertexOrder with
    | none => exact List.Perm.refl _
    | some vo => exact hvo vo rfl
  apply Rig.C02.seqPlace_complete_unit vr cs m m' fixed vertexOrder chipOrder r0 hnodup hcap hnosame hunit hprep
  · intro v hv; exact hvp.mem_iff.1 hv
  · exact hco.nodup_iff.2 (chips_nodup m')
  · intro e
    obtain ⟨c, hc⟩ := hwork
    have := hco.mem_iff.2 ((mem_chips_iff m' c).2 hc)
    rw [e] at this; simp at this
  · rw [needOf_perm fixed vr r0 hvp, total_perm m' r0 hco]; exact hsuff

/-- **The breadth-first placer succeeds under the unit-demand hypotheses** - for every netlist and
every outcome of the set iterations inside `breadth_first_vertex_order`; the optional chip order
must list every working chip exactly once (documented precondition; automatic for the default). -/
theorem bfsPlace_complete_unit (vr : VR) (cs : List Constraint) (m m' : Machine) (fixed : Placement)
    (nets : List (Net Vtx)) (pops : List Vtx) (iters : List (List Vtx)) (vo : List Vtx)
    (chipOrder : Option (List Chip)) (r0 : Nat)
    (hvo : bfsOrder (keys vr) nets pops iters = .ok vo)
    (hnodup : (keys vr).Nodup) (hcap : NonNegCap m)
    (hnosame : ∀ vs, Constraint.same vs ∉ cs)
    (hunit : ∀ v d, (v, d) ∈ vr → UnitDem r0 d)
    (hprep : prepareLoop vr cs m [] = .ok (m', fixed))
    (hco : ∀ co, chipOrder = some co → (co.filter m'.ok).Perm m'.chips)
    (hwork : ∃ c, m'.ok c = true)
    (hsuff : needOf fixed vr r0 (keys vr) ≤ total m' m'.chips r0) :
    ∃ p, seqPlace vr cs m (some vo) chipOrder = .ok p := by
  apply seqPlace_complete_of_perm vr cs m m' fixed (some vo) chipOrder r0 hnodup hcap hnosame hunit hprep
    _ _ hwork hsuff
  · intro vo' e; injection e with e; subst e
    exact (bfsOrder_perm _ _ _ _ _ hvo).2.2 hnodup
  · cases chipOrder with
    | some co => exact hco co rfl
    | none =>
      simp only [Option.getD_none]
      rw [List.filter_eq_self.2 (fun c hc => (mem_chips_iff m' c).1 hc)]

/-- **The Hilbert placer succeeds under the unit-demand hypotheses** - in both modes (vertices in
breadth-first order or in dictionary order), for every machine size. -/
theorem hilbertPlace_complete_unit (vr : VR) (cs : List Constraint) (m m' : Machine) (fixed : Placement)
    (vertexOrder : Option (List Vtx)) (r0 : Nat)
    (hvo : ∀ vo, vertexOrder = some vo → ∃ nets pops iters, bfsOrder (keys vr) nets pops iters = .ok vo)
    (hnodup : (keys vr).Nodup) (hcap : NonNegCap m)
    (hnosame : ∀ vs, Constraint.same vs ∉ cs)
    (hunit : ∀ v d, (v, d) ∈ vr → UnitDem r0 d)
    (hprep : prepareLoop vr cs m [] = .ok (m', fixed))
    (hwork : ∃ c, m'.ok c = true)
    (hsuff : needOf fixed vr r0 (keys vr) ≤ total m' m'.chips r0) :
    ∃ p, seqPlace vr cs m vertexOrder (some (toChips (hilbertChipOrder m.w m.h))) = .ok p := by
  obtain ⟨hw, hh, hd⟩ := Rig.C02.prepareLoop_shape hprep
  apply seqPlace_complete_of_perm vr cs m m' fixed vertexOrder _ r0 hnodup hcap hnosame hunit hprep
    _ _ hwork hsuff
  · intro vo e
    obtain ⟨nets, pops, iters, h⟩ := hvo vo e
    exact (bfsOrder_perm _ _ _ _ _ h).2.2 hnodup
  · simp only [Option.getD_some]
    rw [← hw, ← hh]
    exact hilbertChipOrder_covers m'

/-- **The RCM placer succeeds under the unit-demand hypotheses** - for every netlist over the
vertices, every machine (dead chips, dead links) and every outcome of the set iterations, whenever
the two order functions return. -/
theorem rcmPlace_complete_unit (vr : VR) (cs : List Constraint) (m m' : Machine) (fixed : Placement)
    (nets : List (Net Vtx)) (pops : List Vtx) (iters : List (List Vtx)) (vo : List Vtx)
    (deadLinks : List (Nat × Nat × Nat)) (cpops : List Chip) (citers : List (List Chip)) (co : List Chip)
    (r0 : Nat)
    (hnets : ∀ n ∈ nets, n.src ∈ keys vr ∧ ∀ s ∈ n.sinks, s ∈ keys vr)
    (hvo : rcmVertexOrder (keys vr) nets pops iters = .ok vo)
    (hcoo : rcmChipOrder m deadLinks cpops citers = .ok co)
    (hnodup : (keys vr).Nodup) (hcap : NonNegCap m)
    (hnosame : ∀ vs, Constraint.same vs ∉ cs)
    (hunit : ∀ v d, (v, d) ∈ vr → UnitDem r0 d)
    (hprep : prepareLoop vr cs m [] = .ok (m', fixed))
    (hwork : ∃ c, m'.ok c = true)
    (hsuff : needOf fixed vr r0 (keys vr) ≤ total m' m'.chips r0) :
    ∃ p, seqPlace vr cs m (some vo) (some co) = .ok p := by
  obtain ⟨hw, hh, hd⟩ := Rig.C02.prepareLoop_shape hprep
  apply seqPlace_complete_of_perm vr cs m m' fixed (some vo) (some co) r0 hnodup hcap hnosame hunit hprep
    _ _ hwork hsuff
  · intro vo' e; injection e with e; subst e
    exact (rcmVertexOrder_perm _ _ _ _ _ hnets hvo).2.2 hnodup
  · simp only [Option.getD_some]
    have hp : co.Perm m'.chips := by
      rw [chips_congr hw hh hd]; exact rcmChipOrder_perm m deadLinks cpops citers co hcoo
    rw [List.filter_eq_self.2 (fun c hc => (mem_chips_iff m' c).1 (hp.mem_iff.1 hc))]
    exact hp

section example_
open Rig.C02.Vtx

/-- two components, an isolated vertex, a self loop, a repeated sink, a net over an unknown vertex:
the oracle streams below are accepted, and the order is what the implementation computes -/
example : bfsOrder [o 3, o 1, o 2, o 7] [⟨o 1, [o 2, o 2, o 9], 4⟩, ⟨o 3, [o 3], 0⟩] [o 1, o 7, o 3]
    [[o 9, o 1, o 2], [o 2, o 1, o 9], [], [o 3]] = .ok [o 1, o 2, o 7, o 3] := by decide +kernel

example : rcmVertexOrder [o 3, o 1, o 2, o 7] [⟨o 1, [o 2, o 2], 4⟩, ⟨o 2, [o 3], 2⟩, ⟨o 7, [o 7], 0⟩] [o 7, o 2]
    [[o 7], [o 7], [o 1, o 3, o 2], [o 3, o 2, o 1], [o 3], [o 2], [o 2], [o 1]] = .ok [o 7, o 1, o 2, o 3] := by
  decide +kernel

example : rcmChipOrder { w := 2, h := 1, res := [], exc := [], dead := [] } [(0, 0, 3)] [(0, 0)]
    [[(0, 0), (1, 0)], [(1, 0), (0, 0)], [(1, 0)], [(0, 0)]] = .ok [(0, 0), (1, 0)] := by decide +kernel

example : hilbert 1 = [(0, 0), (0, 1), (1, 1), (1, 0)] := by decide +kernel
example : toChips (hilbertChipOrder 3 2) =
    [(0, 0), (1, 0), (1, 1), (0, 1), (0, 2), (0, 3), (1, 3), (1, 2), (2, 2), (2, 3), (3, 3), (3, 2), (3, 1), (2, 1),
     (2, 0), (3, 0)] := by decide +kernel

end example_

end Rig.C02Orders
