/-
C04 - `_get_insertion_index`: on a generality-sorted table it is the number of entries of
generality below `g`.
-/
import RigModel.Model.C04

namespace Rig.C04

theorem take_drop_length_takeWhile {α} (p : α → Bool) (l : List α) :
    l.take (l.takeWhile p).length = l.takeWhile p ∧ l.drop (l.takeWhile p).length = l.dropWhile p := by
  have h1 := List.take_left' (l₁ := l.takeWhile p) (l₂ := l.dropWhile p) rfl
  have h2 := List.drop_left' (l₁ := l.takeWhile p) (l₂ := l.dropWhile p) rfl
  rw [List.takeWhile_append_dropWhile] at h1 h2
  exact ⟨h1, h2⟩

theorem length_takeWhile_mono {α} {p q : α → Bool} (h : ∀ a, p a = true → q a = true) (l : List α) :
    (l.takeWhile p).length ≤ (l.takeWhile q).length := by
  induction l with
  | nil => exact Nat.le_refl _
  | cons a r ih =>
    rw [List.takeWhile_cons, List.takeWhile_cons]
    by_cases hp : p a = true
    · rw [if_pos hp, if_pos (h a hp)]; exact Nat.succ_le_succ ih
    · rw [if_neg hp]; exact Nat.zero_le _

theorem scanFwd_eq (g : Nat) (l : List Entry) (pos : Nat) :
    scanFwd g l pos = pos + (l.takeWhile (fun e => e.gen + 1 ≤ g)).length := by
  fun_induction scanFwd g l pos with
  | case1 => rfl
  | case2 e r pos h ih =>
    rw [ih, List.takeWhile_cons, if_pos (decide_eq_true h), List.length_cons, Nat.add_assoc, Nat.add_comm 1]
  | case3 e r pos h => rw [List.takeWhile_cons, if_neg (fun h' => h (of_decide_eq_true h'))]; rfl

theorem half_lt {a b : Nat} (h : a < b) : a + (b - a) / 2 < b := by omega

/-- invariant of the binary search: `bottom` is 0 or on an entry of generality below `g - 1`,
`pos` is in `[bottom, top)` unless that interval is empty -/
theorem bsLoop_spec (T : List Entry) (g : Nat) (fuel bottom top pos : Nat)
    (hB : bottom = 0 ∨ ∃ d, T[bottom]? = some d ∧ d.gen + 1 < g)
    (hbp : bottom ≤ pos) (hpt : pos < top ∨ pos = bottom) (hfuel : top ≤ bottom + fuel)
    (htop : top ≤ T.length) (hlt : pos < T.length) :
    bsLoop T g fuel bottom top pos < T.length ∧
    (bsLoop T g fuel bottom top pos = 0 ∨
      ∃ d, T[bsLoop T g fuel bottom top pos]? = some d ∧ d.gen + 1 ≤ g) := by
  have stop : ∀ {bottom pos}, (bottom = 0 ∨ ∃ d, T[bottom]? = some d ∧ d.gen + 1 < g) →
      pos < T.length → pos = bottom →
      pos < T.length ∧ (pos = 0 ∨ ∃ d, T[pos]? = some d ∧ d.gen + 1 ≤ g) := by
    rintro _ _ hB hlt rfl
    exact ⟨hlt, hB.imp id fun ⟨d, h1, h2⟩ => ⟨d, h1, Nat.le_of_lt h2⟩⟩
  fun_induction bsLoop T g fuel bottom top pos with
  | case1 bottom top pos =>
    exact stop hB hlt (hpt.resolve_left fun h => Nat.not_le_of_lt h (Nat.le_trans hfuel hbp))
  | case2 fuel bottom top pos he => rw [List.getElem?_eq_getElem hlt] at he; cases he
  | case3 fuel bottom top pos e he hc hg ih =>
    exact ih (Or.inr ⟨_, he, hg⟩) (Nat.le_add_right _ _) (Or.inl (half_lt hc.2.2))
      (Nat.le_trans hfuel (Nat.add_right_comm bottom 1 fuel ▸ Nat.add_le_add_right hc.2.1 fuel :
        bottom + fuel + 1 ≤ pos + fuel)) htop (Nat.lt_of_lt_of_le (half_lt hc.2.2) htop)
  | case4 fuel bottom top pos e he hc hg ih =>
    exact ih hB (Nat.le_add_right _ _) (Or.inl (half_lt hc.2.1))
      (Nat.le_of_succ_le_succ (Nat.le_trans hc.2.2 hfuel))
      (Nat.le_of_lt hlt) (Nat.lt_trans (half_lt hc.2.1) hlt)
  | case5 fuel bottom top pos e he hc =>
    by_cases h1 : e.gen + 1 = g
    · exact ⟨hlt, Or.inr ⟨_, he, Nat.le_of_eq h1⟩⟩
    · exact stop hB hlt
        (hpt.elim (fun h => Nat.le_antisymm (Nat.le_of_not_lt fun hb => hc ⟨h1, hb, h⟩) hbp) id)

/-- on any non-empty table, sorted or not: where the binary search stops, and the scan from there -/
theorem insertionIndex_eq {T : List Entry} (hne : T ≠ []) (g : Nat) :
    ∃ pos, pos < T.length ∧ (pos = 0 ∨ ∃ d, T[pos]? = some d ∧ d.gen + 1 ≤ g) ∧
      insertionIndex T g = pos + ((T.drop pos).takeWhile (fun e => e.gen + 1 ≤ g)).length := by
  have hT : T.length / 2 < T.length := Nat.div_lt_self (List.length_pos_iff.mpr hne) (by decide)
  obtain ⟨h1, h2⟩ := bsLoop_spec T g _ 0 _ _ (Or.inl rfl) (Nat.zero_le _) (Or.inl hT)
    (Nat.le_of_eq (Nat.zero_add _).symm) (Nat.le_refl _) hT
  exact ⟨_, h1, h2, by rw [insertionIndex, if_neg (by rw [List.isEmpty_iff]; exact hne), scanFwd_eq]⟩

theorem insertionIndex_sorted (T : List Entry) (g : Nat) (hs : SortedGen T) :
    insertionIndex T g = (T.takeWhile (fun e => e.gen + 1 ≤ g)).length := by
  by_cases hne : T = []
  · rw [hne]; rfl
  · obtain ⟨pos, hlt, hB, heq⟩ := insertionIndex_eq hne g
    have hall : ∀ a ∈ T.take pos, decide (a.gen + 1 ≤ g) = true := by
      rcases hB with rfl | ⟨d, hd, hdg⟩
      · intro a ha; cases ha
      · intro a ha
        rw [SortedGen, ← List.take_append_drop pos T, List.pairwise_append] at hs
        have hmem : d ∈ T.drop pos := List.mem_iff_getElem?.mpr ⟨0, by rw [List.getElem?_drop]; exact hd⟩
        exact decide_eq_true (Nat.le_trans (Nat.succ_le_succ (hs.2.2 a ha d hmem)) hdg)
    rw [heq]
    conv => rhs; rw [← List.take_append_drop pos T, List.takeWhile_append_of_pos hall,
      List.length_append, List.length_take_of_le (Nat.le_of_lt hlt)]

theorem insertionIndex_le (T : List Entry) (g : Nat) (hs : SortedGen T) : insertionIndex T g ≤ T.length :=
  insertionIndex_sorted T g hs ▸ (List.takeWhile_prefix _).length_le

theorem sortedGen_dropWhile {l : List Entry} (hs : SortedGen l) (g : Nat) :
    ∀ e ∈ l.dropWhile (fun e => e.gen + 1 ≤ g), g ≤ e.gen := by
  induction l with
  | nil => intro e he; cases he
  | cons x r ih =>
    obtain ⟨hx, hr⟩ := List.pairwise_cons.mp hs
    rw [List.dropWhile_cons]
    split
    · exact ih hr
    · rename_i h
      have hgx : g ≤ x.gen := Nat.le_of_lt_succ (Nat.lt_of_not_le fun h' => h (decide_eq_true h'))
      intro e he
      rcases List.mem_cons.mp he with rfl | he
      · exact hgx
      · exact Nat.le_trans hgx (hx e he)

theorem insertionIndex_spec (T : List Entry) (g : Nat) (hs : SortedGen T) :
    (∀ e ∈ T.take (insertionIndex T g), e.gen < g) ∧
    (∀ e ∈ T.drop (insertionIndex T g), g ≤ e.gen) := by
  obtain ⟨h1, h2⟩ := take_drop_length_takeWhile (fun e : Entry => decide (e.gen + 1 ≤ g)) T
  rw [insertionIndex_sorted T g hs, h1, h2]
  exact ⟨fun e he => of_decide_eq_true (List.all_eq_true.mp List.all_takeWhile e he),
    sortedGen_dropWhile hs g⟩

theorem insertionIndex_mono (T : List Entry) (g g' : Nat) (hs : SortedGen T) (h : g' ≤ g) :
    insertionIndex T g' ≤ insertionIndex T g := by
  rw [insertionIndex_sorted T g hs, insertionIndex_sorted T g' hs]
  exact length_takeWhile_mono (fun a ha => decide_eq_true (Nat.le_trans (of_decide_eq_true ha) h)) T

end Rig.C04
