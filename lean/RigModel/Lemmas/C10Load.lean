/-
C10 - controller programs against the router specification, and the vocabulary of the property statements:
`SvWord`, `Entry.InRange`, `recordsFrom`, `loadedChip`, `loadCmds`, `decRow`.

Bytes are handled as windows `Rig.C07.readMem f a n` of a memory; a table is cut into its records by `readMem_add`.
-/
import RigModel.Model.C10
import RigModel.Props.C07
import RigModel.Lemmas.C10Bits
import RigModel.Lemmas.Bits

namespace Rig.C10
open Rig.Gen.Router Rig.Gen.Scp Rig.Bits

theorem not_mem_of_disjoint {x n lo hi i : Nat} (h : x + n ≤ lo ∨ hi ≤ x) (hi' : i < n) :
    ¬ (lo ≤ x + i ∧ x + i < hi) := fun hc => h.elim
  (fun h1 => Nat.lt_irrefl _ (Nat.lt_of_lt_of_le (Nat.lt_of_le_of_lt hc.1 (Nat.add_lt_add_left hi' x)) h1))
  (fun h2 => Nat.lt_irrefl _ (Nat.lt_of_lt_of_le hc.2 (Nat.le_trans h2 (Nat.le_add_right x i))))

theorem mem_block {b n i : Nat} (hi : i < n) : b ≤ b + i ∧ b + i < b + n :=
  ⟨Nat.le_add_right b i, Nat.add_lt_add_left hi b⟩

theorem Chip.readMem_byte (s : Chip) (a n : Nat)
    (h : a + n ≤ s.copyBase ∨ s.copyBase + 16 * rtrEntries ≤ a) :
    Rig.C07.readMem s.byte a n = Rig.C07.readMem s.mem a n :=
  Rig.C07.readMem_congr fun _ hi => if_neg (not_mem_of_disjoint h hi)

theorem rowRecord_length (r : Row) : (rowRecord r).length = 16 := by
  unfold rowRecord; split <;> rfl

theorem Chip.readMem_copy (s : Chip) (j : Nat) (hj : j < rtrEntries) :
    Rig.C07.readMem s.byte (s.copyBase + 16 * j) 16 = rowRecord (s.rows j) := by
  refine Eq.trans (List.map_congr_left fun i hi => ?_)
    (rowRecord_length (s.rows j) ▸ Rig.C07.readMem_ofList (rowRecord (s.rows j)))
  have hi := List.mem_range.1 hi
  simp only [Chip.byte, Nat.add_assoc, Nat.add_sub_cancel_left, Nat.mul_add_div (by decide : 16 > 0),
    Nat.mul_add_mod, Nat.div_eq_of_lt hi, Nat.mod_eq_of_lt hi, Nat.add_zero, Nat.zero_add]
  exact if_pos ⟨Nat.le_add_right _ _, Nat.add_lt_add_left
    (Nat.lt_of_lt_of_le (Nat.add_lt_add_left hi _) (Nat.mul_le_mul_left 16 hj)) _⟩

theorem step_read (pol : Pol) (s : Chip) (x y p : Nat) (c : Rig.C07.Chunk) :
    stepChip pol s (readReq x y p c) = (s, { arg1 := 0, data := Rig.C07.readMem s.byte c.addr c.size }) := by
  simp [stepChip, readReq, cmdRead, cmdAllocFree, cmdWrite, Rig.C07.readMem]

theorem step_write (pol : Pol) (s : Chip) (x y p : Nat) (c : Rig.C07.Chunk) :
    stepChip pol s (writeReq x y p c) =
      ({ s with mem := Rig.C07.execWrite s.mem c }, { arg1 := 0, data := [] }) := by
  simp [stepChip, writeReq, cmdAllocFree, cmdWrite, Rig.C07.execWrite]

theorem step_alloc (pol : Pol) (s : Chip) (x y app n : Nat) (ha : app < 256) :
    stepChip pol s (allocReq x y app n) =
      if pol s.rows app n = 0 then (s, { arg1 := 0, data := [] })
      else ({ s with rows := claim s.rows (pol s.rows app n) n app }, { arg1 := pol s.rows app n, data := [] }) := by
  have e := shl_or (i := 8) rfl app (by decide : opAllocRtr < 256)
  simp [stepChip, allocReq, mod_radix _ e (by decide), div_radix _ e (by decide), Nat.mod_eq_of_lt ha]

theorem step_clear (pol : Pol) (s : Chip) (x y app : Nat) (ha : app < 256) :
    stepChip pol s (clearReq x y app) = ({ s with rows := freeByApp s.rows app }, { arg1 := 0, data := [] }) := by
  have e := shl_or (i := 8) rfl app (by decide : opFreeRtrByApp < 256)
  have : opFreeRtrByApp ≠ opAllocRtr := by decide
  simp [stepChip, clearReq, mod_radix _ e (by decide), div_radix _ e (by decide), Nat.mod_eq_of_lt ha, this]

theorem step_load (pol : Pol) (s : Chip) (x y app n buf base : Nat) (ha : app < 256) :
    stepChip pol s (loadReq x y app n buf base) =
      ({ s with rows := applyRecs s.rows (loadRecs s.byte buf base app n) }, { arg1 := 0, data := [] }) := by
  have e : (n <<< 16) ||| (app <<< 8) = ((n <<< 8) ||| app) <<< 8 := by
    rw [Nat.shiftLeft_or_distrib, ← Nat.shiftLeft_add]
  have e1 := shl_or (i := 8) rfl ((n <<< 8) ||| app) (by decide : opRouterLoad < 256)
  have d1 := (div_radix _ e1 (by decide)).trans (shl_or (i := 8) rfl n ha)
  simp [stepChip, loadReq, e, mod_radix _ e1 (by decide), div_div (kl := 65536) n d1 ha rfl, mod_radix n d1 ha,
    cmdAllocFree, cmdRouter, cmdWrite, cmdRead]

/-- the outcome `o` of the rest of a run, preceded by the commands `cs` -/
def after {σ α : Type} (cs : List Req) (o : σ × Except MErr α × List Req) : σ × Except MErr α × List Req :=
  (o.1, o.2.1, cs ++ o.2.2)

theorem after_after {σ α : Type} (cs ds : List Req) (o : σ × Except MErr α × List Req) :
    after cs (after ds o) = after (cs ++ ds) o := by
  simp only [after, List.append_assoc]

theorem after_run_ret {α : Type} (pol : Pol) (cs : List Req) (a : α) (s : Chip) :
    after cs (run pol (.ret a) s) = (s, .ok a, cs) := by
  simp only [after, run, List.append_nil]

/-- `p` on a chip in state `s` sends the commands `cs`, all to chip `c`, and goes on as `p'` in state `s'`; read off
for one chip by `Steps.run`, for a machine by `Steps.runM` -/
inductive Steps (pol : Pol) (c : ChipXY) {α : Type} : Prog α → Chip → List Req → Prog α → Chip → Prop
  | refl (p : Prog α) (s : Chip) : Steps pol c p s [] p s
  | send {r : Req} {k : Reply → Prog α} {s : Chip} {cs : List Req} {p' : Prog α} {s' : Chip} :
      (r.x, r.y) = c → Steps pol c (k (stepChip pol s r).2) (stepChip pol s r).1 cs p' s' →
      Steps pol c (.send r k) s (r :: cs) p' s'

theorem Steps.trans {pol : Pol} {c : ChipXY} {α : Type} {p p1 p2 : Prog α} {s s1 s2 : Chip} {cs ds : List Req}
    (h1 : Steps pol c p s cs p1 s1) (h2 : Steps pol c p1 s1 ds p2 s2) : Steps pol c p s (cs ++ ds) p2 s2 := by
  induction h1 with
  | refl => exact h2
  | send hr _ ih => exact .send hr (ih h2)

theorem Steps.run {pol : Pol} {c : ChipXY} {α : Type} {p p' : Prog α} {s s' : Chip} {cs : List Req}
    (h : Steps pol c p s cs p' s') : run pol p s = after cs (run pol p' s') := by
  induction h with
  | refl => rfl
  | send _ _ ih => rw [Rig.C10.run, ih]; rfl

theorem readProg_steps {α : Type} (pol : Pol) (s : Chip) (x y p buf : Nat) (k : List Nat → Prog α)
    (cs : List Rig.C07.Chunk) : ∀ (a n : Nat) (acc : List Nat), Rig.C07.RCovers buf a n cs →
      Steps pol (x, y) (readProg x y p cs acc k) s (cs.map (readReq x y p)) (k (acc ++ Rig.C07.readMem s.byte a n)) s := by
  induction cs with
  | nil =>
    intro a n acc h
    cases (h : n = 0)
    rw [show acc ++ Rig.C07.readMem s.byte a 0 = acc from List.append_nil acc]
    exact .refl _ _
  | cons c cs ih =>
    rintro a n acc ⟨ha, _, _, hn, _, hrest⟩
    subst ha
    refine .send rfl ?_
    rw [step_read]
    have := ih _ _ (acc ++ Rig.C07.readMem s.byte c.addr c.size) hrest
    rwa [List.append_assoc, ← Rig.C07.readMem_add, Nat.add_sub_cancel' hn] at this

theorem read_steps {α : Type} (pol : Pol) (s : Chip) (scpLen x y a n : Nat) (K : List Nat → Prog α) (p' : Prog α)
    (hb : 0 < scpLen) (hK : K (Rig.C07.readMem s.byte a n) = p') :
    Steps pol (x, y) (readProg x y 0 (Rig.C07.read scpLen a n) [] K) s
      ((Rig.C07.read scpLen a n).map (readReq x y 0)) p' s := by
  have := readProg_steps pol s x y 0 scpLen K _ _ _ [] (Rig.C07.read_partition scpLen a n hb)
  rwa [List.nil_append, hK] at this

theorem writeProg_steps {α : Type} (pol : Pol) (x y p : Nat) (k : Prog α) (cs : List Rig.C07.Chunk) :
    ∀ s : Chip, Steps pol (x, y) (writeProg x y p cs k) s (cs.map (writeReq x y p)) k
      { s with mem := cs.foldl Rig.C07.execWrite s.mem } := by
  induction cs with
  | nil => exact fun s => .refl _ _
  | cons c cs ih =>
    intro s
    refine .send rfl ?_
    rw [step_write]
    exact ih _

/-- the 32-bit `sv` field at offset `off` holds `val` (and `sv` is not inside the router copy) -/
def SvWord (s : Chip) (off val : Nat) : Prop :=
  val < 4294967296 ∧
  (svBase + off + 4 ≤ s.copyBase ∨ s.copyBase + 16 * rtrEntries ≤ svBase + off) ∧
  (List.range 4).map (fun i => s.mem (svBase + off + i)) = le32 val

theorem readSvWord_steps {α : Type} (pol : Pol) (s : Chip) (scpLen x y off val : Nat) (k : Nat → Prog α)
    (hb : 0 < scpLen) (h : SvWord s off val) :
    Steps pol (x, y) (readSvWord scpLen x y off k) s
      ((Rig.C07.read scpLen (svBase + off) 4).map (readReq x y 0)) (k val) s := by
  refine read_steps pol s scpLen x y _ 4 _ _ hb ?_
  rw [(s.readMem_byte _ _ h.2.1).trans h.2.2]
  simp only [le32, word32_le32 val h.1]

def recordOf (i : Nat) (e : Entry) : List Nat :=
  le16 i ++ le16 0 ++ le32 (routeWord e.route) ++ le32 e.key ++ le32 e.mask

/-- the router row an entry becomes -/
def entOf (app : Nat) (e : Entry) : Ent :=
  { route := routeWord e.route, key := e.key, mask := e.mask, app := app, core := 0 }

def recordsFrom : Nat → List Entry → List Nat
  | _, [] => []
  | i, e :: es => recordOf i e ++ recordsFrom (i + 1) es

/-- documented domain of a loadable entry -/
def Entry.InRange (e : Entry) : Prop :=
  (∀ r ∈ e.route, r < 24) ∧ e.key < 4294967296 ∧ e.mask < 4294967296

theorem Entry.InRange.routeWord_lt {e : Entry} (he : e.InRange) : routeWord e.route < 4294967296 :=
  Nat.lt_trans (Rig.C10.routeWord_lt e.route 24 he.1) (by decide)

theorem recordOf_length (i : Nat) (e : Entry) : (recordOf i e).length = 16 := rfl

theorem packEntry_ok (i : Nat) (e : Entry) (hi : i < 65536) (he : e.InRange) : packEntry i e = .ok (recordOf i e) :=
  if_pos ⟨hi, he.routeWord_lt, he.2.1, he.2.2⟩

theorem packAll_ok (es : List Entry) (i : Nat) (hi : i + es.length ≤ 65536) (hr : ∀ e ∈ es, e.InRange) :
    packAll i es = .ok (recordsFrom i es) := by
  fun_induction recordsFrom i es with
  | case1 => rfl
  | case2 i e es ih =>
    rw [packAll, packEntry_ok i e (Nat.lt_of_lt_of_le (Nat.lt_add_of_pos_right (Nat.succ_pos _)) hi)
        (hr e List.mem_cons_self),
      ih (by rwa [Nat.add_assoc, Nat.add_comm 1]) fun e' he' => hr e' (List.mem_cons_of_mem _ he')]

theorem recordsFrom_length (es : List Entry) (i : Nat) : (recordsFrom i es).length = 16 * es.length := by
  fun_induction recordsFrom i es with
  | case1 => rfl
  | case2 i e es ih => rw [List.length_append, recordOf_length, ih, List.length_cons, Nat.mul_succ, Nat.add_comm]

theorem readMem_recordsFrom (f : Rig.C07.Mem) (es : List Entry) (i a k : Nat) (e : Entry)
    (hm : Rig.C07.readMem f a (16 * es.length) = recordsFrom i es) (h : es[k]? = some e) :
    Rig.C07.readMem f (a + 16 * k) 16 = recordOf (i + k) e := by
  fun_induction recordsFrom i es generalizing a k with
  | case1 => simp at h
  | case2 i e0 es ih =>
    rw [List.length_cons, Nat.mul_succ, Nat.add_comm, Rig.C07.readMem_add] at hm
    obtain ⟨h0, hrest⟩ := List.append_inj hm (Rig.C07.readMem_length f a 16)
    cases k with
    | zero => cases h; exact h0
    | succ k =>
      have := ih (a + 16) k hrest h
      rwa [show a + 16 + 16 * k = a + 16 * (k + 1) by rw [Nat.mul_succ, Nat.add_assoc, Nat.add_comm 16],
        show i + 1 + k = i + (k + 1) by rw [Nat.add_assoc, Nat.add_comm 1]] at this

theorem decodeRec_recordOf (f : Rig.C07.Mem) (b app a k : Nat) (e : Entry) (hk : k < 65536) (he : e.InRange)
    (h : Rig.C07.readMem f a 16 = recordOf k e) :
    decodeRec f b app a = (b + k, entOf app e) := by
  have h : [_, _, _, _, _, _, _, _, _, _, _, _, _, _, _, _] = [_, _, _, _, _, _, _, _, _, _, _, _, _, _, _, _] := h
  simp only [List.cons.injEq, Nat.add_zero] at h
  obtain ⟨h0, h1, -, -, h4, h5, h6, h7, h8, h9, h10, h11, h12, h13, h14, h15, -⟩ := h
  simp only [decodeRec, entOf, h0, h1, h4, h5, h6, h7, h8, h9, h10, h11, h12, h13, h14, h15,
    word32_le32 _ he.routeWord_lt, word32_le32 _ he.2.1, word32_le32 _ he.2.2,
    ← Nat.mod_mul (a := 256) (b := 256), Nat.mod_eq_of_lt hk]

theorem claim_in {rows : Nat → Row} {b n app j : Nat} (h : b ≤ j ∧ j < b + n) :
    claim rows b n app j = { rows j with owner := some app } := if_pos h

theorem claim_out {rows : Nat → Row} {b n app j : Nat} (h : ¬ (b ≤ j ∧ j < b + n)) :
    claim rows b n app j = rows j := if_neg h

theorem applyRecs_other (recs : List (Nat × Ent)) (rows : Nat → Row) (j : Nat) (h : ∀ p ∈ recs, p.1 ≠ j) :
    applyRecs rows recs j = rows j := by
  fun_induction applyRecs rows recs with
  | case1 => rfl
  | case2 rows idx e rest ih =>
    rw [ih fun q hq => h q (List.mem_cons_of_mem _ hq)]
    exact if_neg fun hj => h _ List.mem_cons_self hj.symm

theorem applyRecs_hit (recs : List (Nat × Ent)) (rows : Nat → Row) (hnd : (recs.map (·.1)).Nodup) :
    ∀ p ∈ recs, applyRecs rows recs p.1 = { rows p.1 with ent := some p.2 } := by
  fun_induction applyRecs rows recs with
  | case1 => exact fun _ hp => nomatch hp
  | case2 rows idx e rest ih =>
    intro p hp
    rw [List.map_cons, List.nodup_cons] at hnd
    rcases List.mem_cons.1 hp with rfl | hp
    · rw [applyRecs_other rest _ _ fun q hq hqe => hnd.1 (List.mem_map.2 ⟨q, hq, hqe⟩)]
      simp
    · rw [ih hnd.2 p hp]
      have : p.1 ≠ idx := fun h => hnd.1 (List.mem_map.2 ⟨p, hp, h⟩)
      simp [this]

/-- `loadedChip` reads the table by index with this default; its value never matters (`getElem?_getD_dflt`) -/
def dfltEntry : Entry := { route := [], key := 0, mask := 0, sources := [] }

theorem getElem?_getD_dflt {entries : List Entry} {k : Nat} (hk : k < entries.length) :
    entries[k]? = some (entries.getD k dfltEntry) := by
  simp [List.getD_eq_getElem?_getD, List.getElem?_eq_getElem hk]

theorem getD_dflt_inRange {entries : List Entry} (hr : ∀ e ∈ entries, e.InRange) {k : Nat}
    (hk : k < entries.length) : (entries.getD k dfltEntry).InRange :=
  hr _ (List.mem_of_getElem? (getElem?_getD_dflt hk))

theorem loadRecs_written (f : Rig.C07.Mem) (buf base app : Nat) (entries : List Entry)
    (hr : ∀ e ∈ entries, e.InRange) (hlen : entries.length ≤ 65536)
    (hmem : Rig.C07.readMem f buf (16 * entries.length) = recordsFrom 0 entries) :
    loadRecs f buf base app entries.length =
      (List.range entries.length).map (fun k => (base + k, entOf app (entries.getD k dfltEntry))) := by
  refine List.map_congr_left fun k hk => ?_
  have hk := List.mem_range.1 hk
  refine decodeRec_recordOf f base app _ k _ (Nat.lt_of_lt_of_le hk hlen) (getD_dflt_inRange hr hk) ?_
  have := readMem_recordsFrom f entries 0 buf k _ hmem (getElem?_getD_dflt hk)
  rwa [Nat.zero_add] at this

theorem blockFree_of_pol {pol : Pol} (hpol : PolValid pol) {rows : Nat → Row} {app n : Nat}
    (h : pol rows app n ≠ 0) : BlockFree rows (pol rows app n) n := by
  rcases hpol rows app n with h' | h'
  · exact absurd h' h
  · exact h'

theorem BlockFree.lt {rows : Nat → Row} {b n i : Nat} (h : BlockFree rows b n) (hi : i < n) : b + i < rtrEntries :=
  Nat.lt_of_lt_of_le (Nat.add_lt_add_left hi b) h.2.1

/-- the chip after a successful `load_routing_table_entries` -/
def loadedChip (s : Chip) (buf b app : Nat) (entries : List Entry) : Chip :=
  { mem := Rig.C07.writeMem s.mem buf (recordsFrom 0 entries),
    rows := applyRecs (claim s.rows b entries.length app)
      ((List.range entries.length).map (fun k => (b + k, entOf app (entries.getD k dfltEntry)))),
    copyBase := s.copyBase }

/-- the commands of one successful `load_routing_table_entries` -/
def loadCmds (scpLen x y app buf b : Nat) (entries : List Entry) : List Req :=
  allocReq x y app entries.length ::
    ((Rig.C07.read scpLen (svBase + svSdramSys) 4).map (readReq x y 0) ++
     ((Rig.C07.write scpLen buf (recordsFrom 0 entries)).map (writeReq x y 0) ++
      [loadReq x y app entries.length buf b]))

theorem loadEntries_steps {α : Type} (pol : Pol) (s : Chip) (scpLen x y app buf : Nat) (entries : List Entry)
    (k : Prog α) (hb : 0 < scpLen) (ha : app < 256) (hbase : pol s.rows app entries.length ≠ 0)
    (hpol : PolValid pol) (hr : ∀ e ∈ entries, e.InRange) (hsv : SvWord s svSdramSys buf)
    (hdis : buf + 16 * entries.length ≤ s.copyBase ∨ s.copyBase + 16 * rtrEntries ≤ buf) :
    Steps pol (x, y) (loadEntries scpLen entries x y app k) s
      (loadCmds scpLen x y app buf (pol s.rows app entries.length) entries) k
      (loadedChip s buf (pol s.rows app entries.length) app entries) := by
  have hsv' : SvWord { s with rows := claim s.rows (pol s.rows app entries.length) entries.length app }
    svSdramSys buf := hsv
  -- a granted block lies inside the router, so its length fits 16 bits
  have hlen : entries.length ≤ 65536 :=
    Nat.le_trans (Nat.le_trans (Nat.le_add_left _ _) (blockFree_of_pol hpol hbase).2.1) (by decide)
  refine .send rfl ?_
  rw [step_alloc pol s x y app _ ha, if_neg hbase]
  simp only [if_neg hbase]
  refine (readSvWord_steps pol _ scpLen x y svSdramSys buf _ hb hsv').trans ?_
  simp only [packAll_ok entries 0 (by rwa [Nat.zero_add]) hr]
  refine (writeProg_steps pol x y 0 _ _ _).trans (.send rfl ?_)
  rw [step_load pol _ x y app entries.length buf _ ha,
    Rig.C07.write_exact_any_order scpLen buf (recordsFrom 0 entries) s.mem hb _ (fun w h => h) (fun c h => h),
    loadRecs_written _ buf _ app entries hr hlen]
  · exact .refl _ _
  · refine (Chip.readMem_byte _ _ _ (by exact hdis)).trans ?_
    rw [← recordsFrom_length entries 0]
    exact Rig.C07.readMem_writeMem_same _ _ _

theorem loadEntries_steps_refused {α : Type} (pol : Pol) (s : Chip) (scpLen x y app : Nat) (entries : List Entry)
    (k : Prog α) (ha : app < 256) (h0 : pol s.rows app entries.length = 0) :
    Steps pol (x, y) (loadEntries scpLen entries x y app k) s [allocReq x y app entries.length]
      (.fail (.routerError entries.length x y)) s := by
  refine .send rfl ?_
  rw [step_alloc pol s x y app _ ha, if_pos h0]
  exact .refl _ _

/-- what reading back a row gives -/
def decRow (r : Row) : Option Dec :=
  match r.ent with
  | none => none
  | some x => some { routes := routesValues.filter (fun b => (x.route >>> b) &&& 1 = 1),
                     key := x.key, mask := x.mask, app := x.app, core := x.core }

/-- what `get_routing_table_entries` returns from a router in state `rows` -/
def readback (rows : Nat → Row) : List (Option Dec) := (List.range rtrEntries).map fun j => decRow (rows j)

theorem length_readback (rows : Nat → Row) : (readback rows).length = rtrEntries := by
  rw [readback, List.length_map, List.length_range]

theorem getElem?_readback (rows : Nat → Row) {j : Nat} (hj : j < rtrEntries) :
    (readback rows)[j]? = some (decRow (rows j)) := by
  rw [readback, List.getElem?_map, List.getElem?_range hj]; rfl

theorem unpack_rowRecord (r : Row) (h : r.Ok) : unpackEntry (rowRecord r) = some (decRow r) := by
  unfold rowRecord decRow
  cases he : r.ent with
  | none => exact unpack_unused r.next r.free
  | some x =>
    simp only [Row.Ok, he] at h
    obtain ⟨hr, hk, hm, ha, hc⟩ := h
    have e1 : (x.app + 256 * x.core) % 256 = x.app := by
      rw [Nat.add_mul_mod_self_left, Nat.mod_eq_of_lt ha]
    have e2 : (x.app + 256 * x.core) / 256 % 16 = x.core := by
      rw [Nat.add_mul_div_left _ _ (by decide), Nat.div_eq_of_lt ha, Nat.zero_add, Nat.mod_eq_of_lt hc]
    simp only [unpack_used r.next (x.app + 256 * x.core) x.route x.key x.mask hr hk hm, e1, e2]

theorem readsAs_decRow (r : Row) : ReadsAs r (decRow r) := by
  unfold ReadsAs decRow
  cases r.ent with
  | none => trivial
  | some x =>
    exact ⟨rfl, rfl, rfl, rfl, fun b hb => (mem_routes_filter _ _).trans ⟨fun h => h.2, fun h => ⟨hb, h⟩⟩,
      fun b hb => ((mem_routes_filter _ _).1 hb).1, rfl⟩

theorem decRow_some {r : Row} {x : Ent} (h : r.ent = some x) :
    ∃ d, decRow r = some d ∧ d.key = x.key ∧ d.mask = x.mask ∧ d.app = x.app ∧ d.core = x.core ∧
      ∀ b, b ∈ d.routes ↔ b < 24 ∧ x.route.testBit b = true := by
  unfold decRow
  rw [h]
  exact ⟨_, rfl, rfl, rfl, rfl, rfl, mem_routes_filter _⟩

theorem decodeAll_readMem (f : Rig.C07.Mem) (g : Nat → Option Dec) (a n : Nat) : ∀ (j0 fuel : Nat), n ≤ fuel →
    (∀ j, j0 ≤ j → j < j0 + n → unpackEntry (Rig.C07.readMem f (a + 16 * j) 16) = some (g j)) →
    decodeAll fuel (Rig.C07.readMem f (a + 16 * j0) (16 * n)) = .ok ((List.range' j0 n).map g) := by
  induction n with
  | zero => intro _ fuel _ _; cases fuel <;> simp [decodeAll, Rig.C07.readMem]
  | succ n ih =>
    intro j0 fuel h hu
    cases fuel with
    | zero => exact absurd h (Nat.not_succ_le_zero n)
    | succ fuel =>
      have hlen := Rig.C07.readMem_length f (a + 16 * j0) 16
      rw [Nat.mul_succ, Nat.add_comm (16 * n), Rig.C07.readMem_add, decodeAll,
        if_pos (by rw [List.length_append, hlen]; exact Nat.lt_of_lt_of_le (by decide) (Nat.le_add_right 16 _)),
        List.take_left' hlen, List.drop_left' hlen, hu j0 (Nat.le_refl _) (Nat.lt_add_of_pos_right (Nat.succ_pos n))]
      simp only
      rw [show a + 16 * j0 + 16 = a + 16 * (j0 + 1) by rw [Nat.mul_succ, Nat.add_assoc],
        ih (j0 + 1) fuel (Nat.le_of_succ_le_succ h) fun j h1 h2 =>
          hu j (Nat.le_of_succ_le h1) (by rwa [Nat.add_assoc, Nat.add_comm 1] at h2)]
      rfl

theorem getEntries_steps (pol : Pol) (s : Chip) (scpLen x y : Nat) (hb : 0 < scpLen)
    (hsv : SvWord s svRtrCopy s.copyBase) (hrows : ∀ j, j < rtrEntries → (s.rows j).Ok) :
    Steps pol (x, y) (getEntries scpLen x y) s
      ((Rig.C07.read scpLen (svBase + svRtrCopy) 4).map (readReq x y 0) ++
        (Rig.C07.read scpLen s.copyBase (rtrEntries * 16)).map (readReq x y 0))
      (.ret (readback s.rows)) s := by
  have hd := decodeAll_readMem s.byte (fun j => decRow (s.rows j)) s.copyBase rtrEntries 0 (rtrEntries * 16)
    (Nat.le_mul_of_pos_right _ (by decide)) fun j _ hj => by
      rw [Nat.zero_add] at hj
      rw [s.readMem_copy j hj, unpack_rowRecord _ (hrows j hj)]
  rw [Nat.mul_zero, Nat.add_zero, Nat.mul_comm 16, ← List.range_eq_range'] at hd
  refine (readSvWord_steps pol s scpLen x y svRtrCopy s.copyBase _ hb hsv).trans ?_
  refine read_steps pol s scpLen x y _ _ _ _ hb ?_
  simp only [Rig.C07.readMem_length, hd, readback]

section
variable (s : Chip) (buf b app : Nat) (entries : List Entry)

theorem loaded_rows_in (i : Nat) (hi : i < entries.length) :
    (loadedChip s buf b app entries).rows (b + i) =
      { s.rows (b + i) with owner := some app, ent := some (entOf app (entries.getD i dfltEntry)) } := by
  have hnd : (((List.range entries.length).map (fun k => (b + k, entOf app (entries.getD k dfltEntry)))).map (·.1)).Nodup := by
    rw [List.map_map, List.Nodup, List.pairwise_map]
    exact List.nodup_range.imp fun h heq => h (Nat.add_left_cancel heq)
  refine (applyRecs_hit _ _ hnd (b + i, _) (List.mem_map.2 ⟨i, List.mem_range.2 hi, rfl⟩)).trans ?_
  rw [claim_in (mem_block hi)]

theorem loaded_rows_out (j : Nat) (hj : ¬ (b ≤ j ∧ j < b + entries.length)) :
    (loadedChip s buf b app entries).rows j = s.rows j := by
  refine (applyRecs_other _ _ j fun p hp => ?_).trans (claim_out hj)
  obtain ⟨k, hk, rfl⟩ := List.mem_map.1 hp
  exact fun h => hj (h ▸ mem_block (List.mem_range.1 hk))

theorem loadedChip_spec (hb : b ≠ 0) :
    LoadSpec s.rows (loadedChip s buf b app entries).rows entries app b false true := by
  simp only [LoadSpec, hb, if_false, true_and]
  refine ⟨fun i hi => ⟨_, getElem?_getD_dflt hi, ?_⟩, fun j _ hj => loaded_rows_out s buf _ app entries j hj⟩
  rw [loaded_rows_in s buf _ app entries i hi]
  exact ⟨⟨rfl, rfl, rfl, fun b _ => routeWord_testBit _ b⟩, rfl⟩

theorem loadedChip_svRtrCopy (hsv2 : SvWord s svRtrCopy s.copyBase)
    (hdis2 : buf + 16 * entries.length ≤ svBase + svRtrCopy ∨ svBase + svRtrCopy + 4 ≤ buf) :
    SvWord (loadedChip s buf b app entries) svRtrCopy (loadedChip s buf b app entries).copyBase := by
  refine ⟨hsv2.1, hsv2.2.1, Eq.trans (Rig.C07.readMem_congr fun i hi => ?_) hsv2.2.2⟩
  simp only [loadedChip, Rig.C07.writeMem, recordsFrom_length]
  exact if_neg (not_mem_of_disjoint hdis2.symm hi)

theorem loadedChip_rows_ok (ha : app < 256)
    (hr : ∀ e ∈ entries, e.InRange) (hrows : ∀ j, j < rtrEntries → (s.rows j).Ok) :
    ∀ j, j < rtrEntries → ((loadedChip s buf b app entries).rows j).Ok := by
  intro j hj
  by_cases hjb : b ≤ j ∧ j < b + entries.length
  · have hi : j - b < entries.length := Nat.sub_lt_left_of_lt_add hjb.1 hjb.2
    have he := getD_dflt_inRange hr hi
    rw [← Nat.add_sub_cancel' hjb.1, loaded_rows_in s buf _ app entries _ hi]
    exact ⟨routeWord_lt _ 24 he.1, he.2.1, he.2.2, ha, Nat.zero_lt_succ _⟩
  · rw [loaded_rows_out s buf _ app entries j hjb]
    exact hrows j hj

theorem readback_loaded_in (i : Nat) (hi : i < entries.length) (hbi : b + i < rtrEntries) (hr : ∀ e ∈ entries, e.InRange) :
    ∃ e d, entries[i]? = some e ∧
      (readback (loadedChip s buf b app entries).rows)[b + i]? = some (some d) ∧
      d.key = e.key ∧ d.mask = e.mask ∧ d.app = app ∧ d.core = 0 ∧ (∀ r, r ∈ d.routes ↔ r ∈ e.route) := by
  obtain ⟨d, hd, h1, h2, h3, h4, h5⟩ :=
    decRow_some (congrArg Row.ent (loaded_rows_in s buf b app entries i hi))
  refine ⟨_, d, getElem?_getD_dflt hi, ?_, h1, h2, h3, h4, fun r => ?_⟩
  · rw [getElem?_readback _ hbi, hd]
  · rw [h5, show (entOf app _).route = routeWord _ from rfl, routeWord_testBit]
    exact ⟨fun h => h.2, fun h => ⟨(getD_dflt_inRange hr hi).1 r h, h⟩⟩

theorem readback_loaded_out (j : Nat) (hj : j < rtrEntries) (hjb : ¬ (b ≤ j ∧ j < b + entries.length)) :
    (readback (loadedChip s buf b app entries).rows)[j]? = some (decRow (s.rows j)) := by
  rw [getElem?_readback _ hj, loaded_rows_out s buf _ app entries j hjb]

end

end Rig.C10
