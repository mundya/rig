/-
C02 - the three placement loops (sequential scan, random placer, the annealer's initial placement) as runs of one
greedy procedure (`Greedy`): each loop is shown once to be such a run; the resource invariant, the documented errors
and completeness under unit demands are proved of the runs.
-/
import RigModel.Lemmas.C02Complete
import RigModel.Lemmas.C02Scan

namespace Rig.C02

/-- runs over the vertices `vs` with candidate chips `L`: each vertex in turn goes on a candidate on which it fits; a
candidate on which it does not fit may leave the candidates; a vertex of `fixed` is never placed -/
inductive Greedy {α : Type} (out : Machine → Placement → α) (vr : VR) (fixed : Placement) :
    List Chip → Machine → Placement → List Vtx → M α → Prop
  | done {L m p} : Greedy out vr fixed L m p [] (.ok (out m p))
  | skip {L m p v vs r} : (aget p v).isSome → Greedy out vr fixed L m p vs r → Greedy out vr fixed L m p (v :: vs) r
  | place {L m m' p v vs d c cur r} : aget fixed v = none → aget vr v = some d → c ∈ L → m.get c = some cur →
      over (sub cur d) = false → m.set c (sub cur d) = some m' →
      Greedy out vr fixed L m' (aset p v c) vs r → Greedy out vr fixed L m p (v :: vs) r
  | drop {L m p v vs d c cur r} : aget fixed v = none → aget vr v = some d → c ∈ L → m.get c = some cur →
      over (sub cur d) = true → Greedy out vr fixed (L.erase c) m p (v :: vs) r →
      Greedy out vr fixed L m p (v :: vs) r
  /-- the stop rule of the sequential scan is a full round only when no chip is listed twice -/
  | full {L m p v vs} : aget fixed v = none →
      (L.Nodup → ∀ c ∈ L, ∃ d cur, aget vr v = some d ∧ m.get c = some cur ∧ over (sub cur d) = true) →
      Greedy out vr fixed L m p (v :: vs) (.error .insufficient)
  | unknown {L m p v vs} : aget vr v = none → Greedy out vr fixed L m p (v :: vs) (.error .keyError)
  | offChip {L m p v vs c} : c ∈ L → m.get c = none → Greedy out vr fixed L m p (v :: vs) (.error .indexError)

section runs
variable {α : Type} {out : Machine → Placement → α} {vr : VR} {fixed : Placement}

theorem Greedy.inv {m0 : Machine} {rsv : Chip → Nat → Int} (hn : (keys vr).Nodup) (hnn : NonNegVR vr)
    {L m p vs} {a : α} (G : Greedy out vr fixed L m p vs (.ok a)) (I : Inv vr m0 rsv m p) :
    ∃ mf pf, a = out mf pf ∧ Inv vr m0 rsv mf pf ∧ (∀ u, (aget fixed u).isSome → aget pf u = aget p u) ∧
      (∀ v ∈ vs, (aget pf v).isSome) ∧ ∀ u, (aget p u).isSome → (aget pf u).isSome := by
  generalize hr : (Except.ok a : M α) = r at G
  induction G with
  | done => exact ⟨_, _, Except.ok.inj hr, I, fun _ _ => rfl, nofun, fun _ h => h⟩
  | skip hs _ ih =>
    obtain ⟨mf, pf, e, If, keep, all, sm⟩ := ih I hr
    exact ⟨mf, pf, e, If, keep, List.forall_mem_cons.2 ⟨sm _ hs, all⟩, sm⟩
  | @place L m m' p v vs d c cur r hf hv _ hg ho hs _ ih =>
    obtain ⟨mf, pf, e, If, keep, all, sm⟩ := ih (I.place hn hnn hv hg ho hs) hr
    refine ⟨mf, pf, e, If, fun u hu => (keep u hu).trans (aget_aset_ne p c ?_),
      List.forall_mem_cons.2 ⟨sm v ?_, all⟩, fun u hu => sm u ?_⟩
    · rintro rfl; rw [hf] at hu; cases hu
    · rw [aget_aset_self]; rfl
    · rw [aget_aset]; split
      · rfl
      · exact hu
  | drop _ _ _ _ _ _ ih => exact ih I hr
  | full | unknown | offChip => cases hr

theorem Greedy.doc {L m p vs e} (G : Greedy out vr fixed L m p vs (.error e))
    (hin : ∀ v ∈ vs, v ∈ keys vr) (hok : ∀ c ∈ L, m.ok c = true) : e = .insufficient := by
  generalize hr : (Except.error e : M α) = r at G
  induction G with
  | done => cases hr
  | skip _ _ ih => exact ih (List.forall_mem_cons.1 hin).2 hok hr
  | place _ _ _ _ _ hs _ ih =>
    exact ih (List.forall_mem_cons.1 hin).2 (fun c hc => ok_of_set hs c ▸ hok c hc) hr
  | drop _ _ _ _ _ _ ih => exact ih hin (fun c hc => hok c (List.mem_of_mem_erase hc)) hr
  | full => cases hr; rfl
  | unknown hv => exact absurd (hin _ List.mem_cons_self) (aget_none_iff.1 hv)
  | offChip hc hg => exact absurd hg (get_ne_none (hok _ hc))

theorem Greedy.ne_fuel {L m p vs} (G : Greedy out vr fixed L m p vs (.error .fuel)) : False := by
  generalize hr : (Except.error .fuel : M α) = r at G
  induction G with
  | skip _ _ ih | place _ _ _ _ _ _ _ ih | drop _ _ _ _ _ _ ih => exact ih hr
  | _ => cases hr

/-- the counting argument: the candidates keep at least as many free units of `r0` as the vertices still need -/
theorem Greedy.complete {r0 : Nat} {L m p vs r} (G : Greedy out vr fixed L m p vs r)
    (hnd : L.Nodup) (hne : L ≠ []) (hok : ∀ c ∈ L, m.ok c = true) (hnn : NonNegCap m)
    (hunit : ∀ v ∈ vs, ∃ d, aget vr v = some d ∧ UnitDem r0 d)
    (hneed : needOf fixed vr r0 vs ≤ total m L r0) : ∃ a, r = .ok a := by
  have need_cons {v vs d} (hf : aget fixed v = none) (hd : aget vr v = some d) :
      needOf fixed vr r0 (v :: vs) = dem d r0 + needOf fixed vr r0 vs := by
    rw [needOf_cons vs hd, hf]; rfl
  induction G with
  | done => exact ⟨_, rfl⟩
  | @skip L m p v vs r _ _ ih =>
    obtain ⟨d, hd, hu⟩ := hunit v List.mem_cons_self
    rw [needOf_cons vs hd] at hneed
    refine ih hnd hne hok hnn (List.forall_mem_cons.1 hunit).2 (Int.le_trans (Int.le_add_of_nonneg_left ?_) hneed)
    split
    · exact Int.le_refl 0
    · exact hu.nonneg r0
  | @place L m m' p v vs d c cur r hf hv hc hg ho hs _ ih =>
    obtain ⟨_, rfl⟩ := Machine.get_some hg
    have := total_set hs ((unitDem_of hunit hv).nonneg r0) hc hnd
    rw [need_cons hf hv] at hneed
    exact ih hnd hne (fun c hc => ok_of_set hs c ▸ hok c hc) (hnn.set hs ho) (List.forall_mem_cons.1 hunit).2
      (Int.le_trans (Int.le_sub_left_of_add_le hneed) this)
  | @drop L m p v vs d c cur r hf hv hc hg ho _ ih =>
    obtain ⟨hokc, rfl⟩ := Machine.get_some hg
    obtain ⟨h1, h2⟩ := unit_over hokc hnn (unitDem_of hunit hv) ho
    have ht := total_perm m r0 (List.perm_cons_erase hc)
    rw [total_cons, h2, Int.zero_add] at ht
    rw [ht] at hneed
    refine ih (hnd.erase c) (fun hnil => ?_) (fun c hc => hok c (List.mem_of_mem_erase hc)) hnn hunit hneed
    have := needOf_nonneg fixed vr r0 vs (List.forall_mem_cons.1 hunit).2
    rw [hnil, need_cons hf hv, h1] at hneed
    exact absurd (Int.le_trans (Int.add_le_add_left this 1) hneed) (by decide : ¬(1 : Int) + 0 ≤ 0)
  | @full L m p v vs hf hall =>
    exfalso
    obtain ⟨d, hd, hu⟩ := hunit v List.mem_cons_self
    have hz : ∀ c ∈ L, dem d r0 = 1 ∧ dem (cap m c) r0 = 0 := fun c hc => by
      obtain ⟨d', cur, hd', hg, hov⟩ := hall hnd c hc
      cases hd.symm.trans hd'
      obtain ⟨hokc, rfl⟩ := Machine.get_some hg
      exact unit_over hokc hnn hu hov
    obtain ⟨c, hc⟩ := List.exists_mem_of_ne_nil L hne
    have := (hz c hc).1
    have := needOf_nonneg fixed vr r0 vs (List.forall_mem_cons.1 hunit).2
    have htot : total m L r0 = 0 := sum_zero _ L fun c hc => (hz c hc).2
    rw [need_cons hf hd, htot] at hneed
    omega
  | unknown hv =>
    obtain ⟨d, hd, _⟩ := hunit _ List.mem_cons_self
    cases hv.symm.trans hd
  | offChip hc hg => exact absurd hg (get_ne_none (hok _ hc))

end runs

theorem seqLoop_greedy {vr : VR} {fixed : Placement} {chips : List Chip} (hne : chips ≠ [])
    (vs : List Vtx) (pos : Nat) (m : Machine) (p : Placement)
    (hk : ∀ u, (aget fixed u).isSome → (aget p u).isSome) :
    Greedy (fun _ p => p) vr fixed chips m p vs (seqLoop vr chips vs pos m p) := by
  have hn : 0 < chips.length := List.length_pos_iff.2 hne
  have fresh {p : Placement} {v} (hk : ∀ u, (aget fixed u).isSome → (aget p u).isSome)
      (hs : ¬(aget p v).isSome = true) : aget fixed v = none :=
    Option.not_isSome_iff_eq_none.1 (mt (hk v) hs)
  fun_induction seqLoop vr chips vs pos m p
  case case1 => exact .done
  case case2 hs ih => exact .skip hs (ih hk)
  case case3 hv => exact .unknown hv
  case case4 v vs pos m p hs d hv e hsc =>
    rcases scan_failed chips m d _ _ _ _ hsc with rfl | rfl | ⟨rfl, q, hq⟩
    · exact absurd hsc (scan_terminates chips hne m d pos)
    · exact .full (fresh hk hs) fun hnd c hc =>
        have ⟨cur, hg, ho⟩ := scan_fail_all chips hnd m d pos hsc c hc
        ⟨d, cur, hv, hg, ho⟩
    · exact .offChip (chipAt_mem chips q hn) hq
  case case5 hsc hset =>
    obtain ⟨_, cur, hg, _⟩ := scan_placed _ _ hsc
    exact absurd hset (set_ne_none (Machine.get_some hg).1)
  case case6 v vs _ m p hs d hv _ c r hsc m' hset ih =>
    obtain ⟨rfl, cur, hg, rfl, ho⟩ := scan_placed _ _ hsc
    refine .place (fresh hk hs) hv (chipAt_mem chips _ hn) hg ho hset (ih fun u hu => ?_)
    rw [aget_aset]; split
    · rfl
    · exact hk u hu

theorem randLoop_greedy {vr : VR} {fixed : Placement} (picks : List Chip) (vs : List Vtx) (locs : List Chip)
    (m : Machine) (p : Placement) (hfree : ∀ v ∈ vs, aget fixed v = none) :
    randLoop vr picks vs locs m p = .error .badOracle ∨
    Greedy (fun _ p => p) vr fixed locs m p vs (randLoop vr picks vs locs m p) := by
  fun_induction randLoop vr picks vs locs m p
  case case1 => exact .inr .done
  case case2 => exact .inr (.full (hfree _ List.mem_cons_self) fun _ => nofun)
  case case3 | case5 => exact .inl rfl
  case case4 hemp =>
    refine .inr (.full (hfree _ List.mem_cons_self) fun _ c hc => ?_)
    rw [List.isEmpty_iff.1 hemp] at hc; cases hc
  case case6 hv => exact .inr (.unknown hv)
  case case7 hpick _ _ hg => exact .inr (.offChip (by simpa using hpick) hg)
  case case8 hpick d hv cur hg _ hov ih =>
    exact (ih hfree).imp id (.drop (hfree _ List.mem_cons_self) hv (by simpa using hpick) hg hov)
  case case9 hg _ _ hset => exact absurd hset (set_ne_none (Machine.get_some hg).1)
  case case10 hpick d hv cur hg _ hov _ hset ih =>
    exact (ih (List.forall_mem_cons.1 hfree).2).imp id
      (.place (hfree _ List.mem_cons_self) hv (by simpa using hpick) hg (by simpa using hov) hset)

theorem advance_greedy {α : Type} {out : Machine → Placement → α} {vr : VR} {fixed : Placement} {m : Machine}
    {d : Res} {p : Placement} {v : Vtx} {vs : List Vtx} (hf : aget fixed v = none) (hv : aget vr v = some d)
    (cur : Chip) (locs : List Chip) :
    match advance m d cur locs with
    | .found c rest r => ∃ free, m.get c = some free ∧ r = sub free d ∧ over r = false ∧
        ∀ R, Greedy out vr fixed (c :: rest) m p (v :: vs) R → Greedy out vr fixed (cur :: locs) m p (v :: vs) R
    | .exhausted => Greedy out vr fixed (cur :: locs) m p (v :: vs) (.error .insufficient)
    | .fail e => Greedy out vr fixed (cur :: locs) m p (v :: vs) (.error e) := by
  fun_induction advance m d cur locs
  case case1 hg | case4 hg => exact .offChip List.mem_cons_self hg
  case case2 cur free hg hov =>
    exact .full hf fun _ c hc => by cases List.mem_singleton.1 hc; exact ⟨d, free, hv, hg, hov⟩
  case case3 free hg ho | case6 free hg ho => exact ⟨free, hg, rfl, Bool.eq_false_iff.2 ho, fun _ G => G⟩
  case case5 cur c rest free hg hov ih =>
    have step {R} (G : Greedy out vr fixed (c :: rest) m p (v :: vs) R) :
        Greedy out vr fixed (cur :: c :: rest) m p (v :: vs) R :=
      .drop hf hv List.mem_cons_self hg hov (by rwa [List.erase_cons_head])
    revert ih
    cases advance m d c rest with
    | found c' rest' r => exact fun ⟨fr, a, b, e, k⟩ => ⟨fr, a, b, e, fun R G => step (k R G)⟩
    | exhausted => exact step
    | fail e => exact step

theorem initLoop_greedy {vr : VR} {fixed : Placement} (vs : List Vtx) (cur : Chip) (locs : List Chip)
    (m : Machine) (p : Placement) (hfree : ∀ v ∈ vs, aget fixed v = none) :
    Greedy Prod.mk vr fixed (cur :: locs) m p vs (initLoop vr vs cur locs m p) := by
  fun_induction initLoop vr vs cur locs m p
  case case1 => exact .done
  case case2 hv => exact .unknown hv
  case case3 v vs cur locs m p d hv e hadv | case4 v vs cur locs m p d hv hadv =>
    have := advance_greedy (out := Prod.mk) (m := m) (p := p) (vs := vs) (hfree v List.mem_cons_self) hv cur locs
    rw [hadv] at this
    exact this
  case case5 v vs cur locs m p d hv c locs' r hadv hset =>
    have := advance_greedy (out := Prod.mk) (m := m) (p := p) (vs := vs) (hfree v List.mem_cons_self) hv cur locs
    rw [hadv] at this
    obtain ⟨free, hg, rfl, _⟩ := this
    exact absurd hset (set_ne_none (Machine.get_some hg).1)
  case case6 v vs cur locs m p d hv c locs' r hadv m' hset ih =>
    have := advance_greedy (out := Prod.mk) (m := m) (p := p) (vs := vs) (hfree v List.mem_cons_self) hv cur locs
    rw [hadv] at this
    obtain ⟨free, hg, rfl, ho, k⟩ := this
    exact k _ (.place (hfree v List.mem_cons_self) hv List.mem_cons_self hg ho hset
      (ih (List.forall_mem_cons.1 hfree).2))

end Rig.C02
