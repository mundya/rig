/-
C03 - forests (chip ↦ children association lists): edges, descendants, well-formedness, what `insertNew` and
`addChild` do to them; `ForestLive` in terms of keys and edges.
-/
import RigModel.Model.C03
import RigModel.Lemmas.Lists
import RigModel.Lemmas.Assoc
namespace Rig.C03.L

/-- `k = (direction, child chip)` is a child entry of the node of chip `p` -/
def Edge (f : Forest) (p : Chip) (k : Nat × Chip) : Prop := ∃ n, n ∈ f ∧ n.1 = p ∧ k ∈ n.2

/-- `Below f a c`: `c` is `a` itself or is reached from `a` along edges of `f` -/
inductive Below (f : Forest) (a : Chip) : Chip → Prop
  | refl : Below f a a
  | step {p : Chip} {k : Nat × Chip} : Below f a p → Edge f p k → Below f a k.2

/-- the rank, strictly decreasing along every edge, is what excludes cycles -/
structure WF (f : Forest) (rank : Chip → Nat) : Prop where
  keys : f.keys.Nodup
  kidsNodup : ∀ n, n ∈ f → (n.2.map (·.2)).Nodup
  oneParent : ∀ n n' k k', n ∈ f → n' ∈ f → k ∈ n.2 → k' ∈ n'.2 → k.2 = k'.2 → n.1 = n'.1
  rank : ∀ n k, n ∈ f → k ∈ n.2 → rank k.2 < rank n.1

/-- no edge of `f` leads to `c` -/
def NoParent (f : Forest) (c : Chip) : Prop := ∀ p k, Edge f p k → k.2 ≠ c

/-- the child of every edge is the chip of a node of `f` -/
def ClosedF (f : Forest) : Prop := ∀ p k, Edge f p k → k.2 ∈ f.keys

theorem has_iff (f : Forest) (c : Chip) : f.has c = true ↔ c ∈ f.keys := by
  simp only [Forest.has, Forest.keys, List.any_eq_true, List.mem_map, beq_iff_eq]

theorem mem_keys_of_mem {f : Forest} {n : Chip × List (Nat × Chip)} (h : n ∈ f) : n.1 ∈ f.keys :=
  List.mem_map_of_mem h

theorem edge_key {f : Forest} {p : Chip} {k : Nat × Chip} (h : Edge f p k) : p ∈ f.keys := by
  obtain ⟨n, hn, rfl, _⟩ := h
  exact mem_keys_of_mem hn

theorem kids_eq_lookup (f : Forest) (c : Chip) : f.kids c = (f.lookup c).getD [] := by
  rw [Forest.kids, Assoc.lookup_eq_find?]; cases f.find? (fun e => e.1 == c) <;> rfl

theorem kids_eq (f : Forest) (c : Chip) : f.kids c = [] ∨ ∃ n, n ∈ f ∧ n.1 = c ∧ f.kids c = n.2 := by
  rw [kids_eq_lookup]
  cases h : f.lookup c with
  | none => exact .inl rfl
  | some v => exact .inr ⟨(c, v), Assoc.mem_of_lookup h, rfl, rfl⟩

theorem kids_of_mem (f : Forest) (n : Chip × List (Nat × Chip)) (hnd : f.keys.Nodup) (hn : n ∈ f) :
    f.kids n.1 = n.2 := by
  rw [kids_eq_lookup, (Assoc.mem_iff_lookup hnd).1 hn]; rfl

theorem edge_kids {f : Forest} (hk : f.keys.Nodup) {p : Chip} {k : Nat × Chip} (h : Edge f p k) :
    k ∈ f.kids p := by
  obtain ⟨n, hn, rfl, hk'⟩ := h
  rw [kids_of_mem f n hk hn]; exact hk'

theorem kids_edge {f : Forest} {p : Chip} {k : Nat × Chip} (h : k ∈ f.kids p) : Edge f p k := by
  rcases kids_eq f p with h0 | ⟨n, hn, hp, h0⟩
  · rw [h0] at h; cases h
  · exact ⟨n, hn, hp, h0 ▸ h⟩

theorem WF.ofEdges {f : Forest} {rank : Chip → Nat} (hk : f.keys.Nodup)
    (hkn : ∀ n, n ∈ f → (n.2.map (·.2)).Nodup)
    (h1 : ∀ p p' k k', Edge f p k → Edge f p' k' → k.2 = k'.2 → p = p')
    (hr : ∀ p k, Edge f p k → rank k.2 < rank p) : WF f rank :=
  ⟨hk, hkn, fun n n' k k' hn hn' hk hk' he => h1 n.1 n'.1 k k' ⟨n, hn, rfl, hk⟩ ⟨n', hn', rfl, hk'⟩ he,
   fun n k hn hk => hr n.1 k ⟨n, hn, rfl, hk⟩⟩

theorem rank_edge {f : Forest} {rank : Chip → Nat} (hw : WF f rank) {p : Chip} {k : Nat × Chip}
    (he : Edge f p k) : rank k.2 < rank p := by
  obtain ⟨n, hn, rfl, hk⟩ := he
  exact hw.rank n _ hn hk

theorem parent_unique {f : Forest} {rank : Chip → Nat} (hw : WF f rank) {p p' : Chip} {k k' : Nat × Chip}
    (h1 : Edge f p k) (h2 : Edge f p' k') (he : k.2 = k'.2) : p = p' := by
  obtain ⟨n, hn, rfl, hk⟩ := h1
  obtain ⟨n', hn', rfl, hk'⟩ := h2
  exact hw.oneParent n n' k k' hn hn' hk hk' he

theorem below_mono {f g : Forest} (h : ∀ q k, Edge f q k → Edge g q k) {a x : Chip} (hb : Below f a x) :
    Below g a x := by
  induction hb with
  | refl => exact Below.refl
  | step _ he ih => exact Below.step ih (h _ _ he)

theorem below_trans {f : Forest} {a b c : Chip} (h1 : Below f a b) (h2 : Below f b c) : Below f a c := by
  induction h2 with
  | refl => exact h1
  | step _ he ih => exact Below.step ih he

theorem below_tail {f : Forest} {a x : Chip} (h : Below f a x) :
    a = x ∨ ∃ p k, Below f a p ∧ Edge f p k ∧ k.2 = x := by
  cases h with
  | refl => exact Or.inl rfl
  | step hb he => exact Or.inr ⟨_, _, hb, he, rfl⟩

theorem below_head {f : Forest} {a x : Chip} (h : Below f a x) :
    a = x ∨ ∃ k, Edge f a k ∧ Below f k.2 x := by
  induction h with
  | refl => exact Or.inl rfl
  | step hb he ih =>
    rcases ih with rfl | ⟨k0, hk0, hb0⟩
    · exact Or.inr ⟨_, he, Below.refl⟩
    · exact Or.inr ⟨k0, hk0, Below.step hb0 he⟩

theorem rank_below {f : Forest} {rank : Chip → Nat} (hw : WF f rank) {a x : Chip} (h : Below f a x) :
    rank x ≤ rank a := by
  induction h with
  | refl => exact Nat.le_refl _
  | step _ he ih => exact Nat.le_trans (Nat.le_of_lt (rank_edge hw he)) ih

theorem siblings_disjoint {f : Forest} {rank : Chip → Nat} (hw : WF f rank) {c : Chip} {ka kb : Nat × Chip}
    (ha : Edge f c ka) (hb : Edge f c kb) (hne : ka.2 ≠ kb.2) {x : Chip}
    (h2 : Below f kb.2 x) : Below f ka.2 x → False := by
  induction h2 with
  | refl =>
    intro h1
    rcases below_tail h1 with h | ⟨p, k, hp, hk, hkx⟩
    · exact hne h
    · cases parent_unique hw hk hb hkx
      have r1 := rank_below hw hp
      have r2 := rank_edge hw ha
      omega
  | step hbp he ih =>
    intro h1
    rcases below_tail h1 with h | ⟨p, k'', hp, hk, hkx⟩
    · cases parent_unique hw he ha h.symm
      have r1 := rank_below hw hbp
      have r2 := rank_edge hw hb
      omega
    · cases parent_unique hw hk he hkx
      exact ih hp

theorem keys_insertNew (f : Forest) (c : Chip) : (f.insertNew c).keys = f.keys ++ [c] := by
  simp [Forest.insertNew, Forest.keys]

theorem mem_keys_insertNew {f : Forest} {c x : Chip} : x ∈ (f.insertNew c).keys ↔ x ∈ f.keys ∨ x = c := by
  rw [keys_insertNew, List.mem_append, List.mem_singleton]

theorem edge_insertNew {f : Forest} {c : Chip} {p : Chip} {k : Nat × Chip} :
    Edge (f.insertNew c) p k ↔ Edge f p k := by
  constructor
  · rintro ⟨n, hn, hp, hk⟩
    rcases List.mem_append.1 hn with hn | hn
    · exact ⟨n, hn, hp, hk⟩
    · cases List.mem_singleton.1 hn; cases hk
  · rintro ⟨n, hn, hp, hk⟩
    exact ⟨n, List.mem_append_left _ hn, hp, hk⟩

theorem below_insertNew {f : Forest} {c a x : Chip} : Below (f.insertNew c) a x ↔ Below f a x :=
  ⟨below_mono (fun _ _ h => edge_insertNew.1 h), below_mono (fun _ _ h => edge_insertNew.2 h)⟩

theorem wf_insertNew {f : Forest} {rank : Chip → Nat} (hw : WF f rank) {c : Chip} (hc : c ∉ f.keys) :
    WF (f.insertNew c) rank := by
  refine WF.ofEdges (keys_insertNew f c ▸ Lists.nodup_snoc hw.keys hc) ?_
    (fun p p' k k' h h' he => parent_unique hw (edge_insertNew.1 h) (edge_insertNew.1 h') he)
    (fun p k h => rank_edge hw (edge_insertNew.1 h))
  intro n hn
  rcases List.mem_append.1 hn with hn | hn
  · exact hw.kidsNodup n hn
  · cases List.mem_singleton.1 hn; exact List.nodup_nil

theorem keys_addChild (f : Forest) (p : Chip) (e : Nat × Chip) : (f.addChild p e).keys = f.keys := by
  simp only [Forest.addChild, Forest.keys, List.map_map]
  apply List.map_congr_left
  intro n _
  simp only [Function.comp]
  split <;> rfl

theorem mem_addChild {f : Forest} {p : Chip} {e : Nat × Chip} {n' : Chip × List (Nat × Chip)} :
    n' ∈ f.addChild p e ↔ ∃ n, n ∈ f ∧ n' = if n.1 == p then (n.1, n.2 ++ [e]) else n := by
  simp only [Forest.addChild, List.mem_map, eq_comm]

theorem edge_addChild_old {f : Forest} {p : Chip} {e : Nat × Chip} {q : Chip} {k : Nat × Chip}
    (h : Edge f q k) : Edge (f.addChild p e) q k := by
  obtain ⟨n, hn, rfl, hk⟩ := h
  refine ⟨_, mem_addChild.2 ⟨n, hn, rfl⟩, ?_, ?_⟩ <;> split
  · rfl
  · rfl
  · exact List.mem_append_left _ hk
  · exact hk

theorem edge_addChild_new {f : Forest} {p : Chip} {e : Nat × Chip} (hp : p ∈ f.keys) :
    Edge (f.addChild p e) p e := by
  obtain ⟨n, hn, rfl⟩ := List.mem_map.1 hp
  exact ⟨(n.1, n.2 ++ [e]), mem_addChild.2 ⟨n, hn, by simp⟩, rfl, by simp⟩

theorem edge_addChild_inv {f : Forest} {p : Chip} {e : Nat × Chip} {q : Chip} {k : Nat × Chip}
    (h : Edge (f.addChild p e) q k) : Edge f q k ∨ (q = p ∧ k = e) := by
  obtain ⟨n', hn', rfl, hk⟩ := h
  obtain ⟨n, hn, rfl⟩ := mem_addChild.1 hn'
  split at hk
  · rename_i heq
    rw [if_pos heq]
    rcases List.mem_append.1 hk with hk | hk
    · exact Or.inl ⟨n, hn, rfl, hk⟩
    · exact Or.inr ⟨by simpa using heq, List.mem_singleton.1 hk⟩
  · rename_i heq
    rw [if_neg heq]
    exact Or.inl ⟨n, hn, rfl, hk⟩

/-- one step of `attachChain`: the new chip `c` hung below `p` -/
abbrev attach1 (f : Forest) (p : Chip) (l : Nat) (c : Chip) : Forest := (f.insertNew c).addChild p (l, c)

theorem mem_keys_attach1 {f : Forest} {p : Chip} {l : Nat} {c x : Chip} :
    x ∈ (attach1 f p l c).keys ↔ x ∈ f.keys ∨ x = c := by
  rw [keys_addChild]
  exact mem_keys_insertNew

theorem edge_attach1_inv {f : Forest} {p c : Chip} {l : Nat} {q : Chip} {k : Nat × Chip}
    (h : Edge (attach1 f p l c) q k) : Edge f q k ∨ (q = p ∧ k = (l, c)) :=
  (edge_addChild_inv h).imp_left edge_insertNew.1

/-- adding the edge `p → c` to a parentless `c` keeps `WF`, for a supplied rank `rank'` that decreases
along the edges of `f` and from `p` to `c` -/
theorem wf_addChild {f : Forest} {rank rank' : Chip → Nat} (hw : WF f rank) {p c : Chip} (d : Nat)
    (hnp : NoParent f c) (hr : ∀ q k, Edge f q k → rank' k.2 < rank' q) (hpc : rank' c < rank' p) :
    WF (f.addChild p (d, c)) rank' := by
  refine WF.ofEdges (keys_addChild f p _ ▸ hw.keys) ?_ ?_ ?_
  · intro n' hn'
    obtain ⟨n, hn, rfl⟩ := mem_addChild.1 hn'
    split
    · rw [List.map_append]
      refine Lists.nodup_snoc (hw.kidsNodup n hn) fun ha => ?_
      obtain ⟨k, hk, hkc⟩ := List.mem_map.1 ha
      exact hnp n.1 k ⟨n, hn, rfl, hk⟩ hkc
    · exact hw.kidsNodup n hn
  · intro q q' k k' h h' he
    rcases edge_addChild_inv h with g | ⟨rfl, rfl⟩ <;> rcases edge_addChild_inv h' with g' | ⟨rfl, rfl⟩
    · exact parent_unique hw g g' he
    · exact absurd he (hnp _ _ g)
    · exact absurd he.symm (hnp _ _ g')
    · rfl
  · intro q k h
    rcases edge_addChild_inv h with g | ⟨rfl, rfl⟩
    · exact hr q k g
    · exact hpc

open Classical in
/-- the repair's case, where `c` brings a subtree: everything outside it has its rank lifted above that of `c` -/
theorem wf_addEdge {f : Forest} {rank : Chip → Nat} (hw : WF f rank) {p c : Chip} (d : Nat)
    (hnp : NoParent f c) (hnb : ¬ Below f c p) :
    ∃ rank', WF (f.addChild p (d, c)) rank' := by
  refine ⟨fun x => if Below f c x then rank x else rank x + rank c + 1, wf_addChild hw d hnp ?_ ?_⟩
  · intro q k h
    have hr := rank_edge hw h
    by_cases hb : Below f c k.2
    · have hq : Below f c q := by
        rcases below_tail hb with hck | ⟨p0, k0, hp0, hk0, hk0x⟩
        · exact absurd hck.symm (hnp _ _ h)
        · exact parent_unique hw hk0 h hk0x ▸ hp0
      simp only [if_pos hb, if_pos hq]; exact hr
    · have hq : ¬ Below f c q := fun hq => hb (Below.step hq h)
      simp only [if_neg hb, if_neg hq]; omega
  · simp only [if_pos (Below.refl : Below f c c), if_neg hnb]; omega

theorem below_key {f : Forest} (hc : ClosedF f) {a x : Chip} (ha : a ∈ f.keys) (h : Below f a x) :
    x ∈ f.keys := by
  induction h with
  | refl => exact ha
  | step _ he _ => exact hc _ _ he

theorem below_detach_split {f g : Forest} {c : Chip} (hkeep : ∀ q k, Edge f q k → k.2 ≠ c → Edge g q k)
    {r x : Chip} (h : Below f r x) : Below g r x ∨ Below g c x := by
  induction h with
  | refl => exact Or.inl Below.refl
  | @step p k _ he ih =>
    by_cases hkc : k.2 = c
    · rw [hkc]; exact Or.inr Below.refl
    · exact ih.imp (Below.step · (hkeep _ _ he hkc)) (Below.step · (hkeep _ _ he hkc))

theorem below_addChild_split {g : Forest} {p : Chip} {e : Nat × Chip} {x y : Chip}
    (h : Below (g.addChild p e) x y) : Below g x y ∨ (Below g x p ∧ Below g e.2 y) := by
  induction h with
  | refl => exact Or.inl Below.refl
  | @step p0 k _ he ih =>
    rcases edge_addChild_inv he with he | ⟨rfl, rfl⟩
    · exact ih.imp (Below.step · he) (fun ⟨i1, i2⟩ => ⟨i1, Below.step i2 he⟩)
    · exact Or.inr ⟨ih.elim id (·.1), Below.refl⟩

theorem below_addChild_mono {g : Forest} {p : Chip} {e : Nat × Chip} {x y : Chip} (h : Below g x y) :
    Below (g.addChild p e) x y :=
  below_mono (fun _ _ he => edge_addChild_old he) h

theorem forestLive_iff {m : Machine} {f : Forest} :
    ForestLive m f ↔ (∀ c, c ∈ f.keys → chipOk m c = true) ∧ ∀ p k, Edge f p k → HopOk m (p, k.1, k.2) :=
  ⟨fun h => ⟨fun _ hc => let ⟨n, hn, e⟩ := List.mem_map.1 hc; e ▸ (h n hn).1,
      fun _ k ⟨n, hn, e, hk⟩ => e ▸ (h n hn).2 k hk⟩,
    fun h n hn => ⟨h.1 _ (mem_keys_of_mem hn), fun k hk => h.2 _ k ⟨n, hn, rfl, hk⟩⟩⟩

theorem forestLive_sub {m : Machine} {f g : Forest} (hf : ForestLive m f) (hk : g.keys = f.keys)
    (he : ∀ p k, Edge g p k → Edge f p k) : ForestLive m g :=
  forestLive_iff.2 ⟨hk ▸ (forestLive_iff.1 hf).1, fun p k h => (forestLive_iff.1 hf).2 p k (he p k h)⟩

theorem forestLive_insertNew {m : Machine} {f : Forest} {c : Chip} (hf : ForestLive m f)
    (hc : chipOk m c = true) : ForestLive m (f.insertNew c) :=
  forestLive_iff.2 ⟨fun x hx => (mem_keys_insertNew.1 hx).elim ((forestLive_iff.1 hf).1 x) (· ▸ hc),
    fun p k h => (forestLive_iff.1 hf).2 p k (edge_insertNew.1 h)⟩

theorem forestLive_addChild {m : Machine} {f : Forest} {p : Chip} {e : Nat × Chip} (hf : ForestLive m f)
    (he : HopOk m (p, e.1, e.2)) : ForestLive m (f.addChild p e) :=
  forestLive_iff.2 ⟨keys_addChild f p e ▸ (forestLive_iff.1 hf).1, fun q k h => by
    rcases edge_addChild_inv h with h | ⟨rfl, rfl⟩
    · exact (forestLive_iff.1 hf).2 q k h
    · exact he⟩

end Rig.C03.L
