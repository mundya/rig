/-
C03 - the dead-link repair loop `avoid_dead_links`.  With or without fixes/c03-avoid-dead-links-parent.diff it keeps
every node and edge on live hardware (no invariant needed).  With `legacy = false` (the fixed code: the parent of an
overlapped node is searched in the whole lookup) it keeps `RInv`: every step along the A* path makes the path chip a
component root and hangs it below the previous one (`sinv_hang`); reconnecting one broken link (`repairOne_spec`)
fails only if A* reports the machine disconnected.
-/
import RigModel.Lemmas.C03RInv
import RigModel.Lemmas.C03AStar
import RigModel.Lemmas.C03Surgery
import RigModel.Lemmas.ExceptSat
namespace Rig.C03.L

theorem chainTo_head {m : Machine} {s : Chip} {d : Nat} {n : Chip} {r : List (Nat × Chip)}
    (h : chainTo m s ((d, n) :: r) = true) : d < 6 ∧ linkOk m n d = true := by
  cases r with
  | nil =>
    simp only [chainTo, Bool.and_eq_true, decide_eq_true_eq] at h
    exact h.1
  | cons e r =>
    simp only [chainTo, Bool.and_eq_true, decide_eq_true_eq] at h
    exact h.1.1

theorem repairStep_live {m : Machine} {legacy : Bool} {child : Chip} {childChips : List Chip}
    {st : RepairState} {e : Nat × Chip} (hf : ForestLive m st.f) (hc : chipOk m e.2 = true)
    (hop : HopOk m (st.last, st.lastDir, e.2)) :
    Except.Sat (fun _ => True) (fun st' => ForestLive m st'.f ∧ st'.last = e.2 ∧ st'.lastDir = e.1)
      (repairStep legacy child childChips st e) := by
  have hd := fun order => forestLive_addChild (e := (st.lastDir, e.2))
    (forestLive_sub hf (keys_detachIn _ e.2 order) fun _ _ => edge_detachIn_sub order) hop
  unfold repairStep
  dsimp only
  split
  · split
    · trivial
    · exact Except.Sat.pure ⟨forestLive_addChild (forestLive_insertNew hf hc) hop, rfl, rfl⟩
  · split
    · exact (Except.Sat.of_forall (fun _ _ => trivial) fun _ _ => trivial).bind
        fun _ _ _ => Except.Sat.pure ⟨hd _, rfl, rfl⟩
    · exact Except.Sat.pure ⟨hd _, rfl, rfl⟩

theorem repairFold_live {m : Machine} {legacy : Bool} {child : Chip} {childChips : List Chip}
    (hchild : chipOk m child = true) (rest : List (Nat × Chip)) (st : RepairState) (hf : ForestLive m st.f)
    (hch : chainTo m child ((st.lastDir, st.last) :: rest) = true) :
    Except.Sat (fun _ => True) (fun st' => ForestLive m (st'.f.addChild st'.last (st'.lastDir, child)))
      (rest.foldlM (repairStep legacy child childChips) st) := by
  refine (Except.Sat.foldlM
    (fun rest st => ForestLive m st.f ∧ chainTo m child ((st.lastDir, st.last) :: rest) = true)
    (fun e r st ⟨hf, hch⟩ => ?step) rest st ⟨hf, hch⟩).imp fun st' ⟨hf, hch⟩ => ?last
  case step =>
    simp only [chainTo, Bool.and_eq_true, decide_eq_true_eq, beq_iff_eq] at hch
    have hc : chipOk m e.2 = true := linkOk_chipOk (chainTo_head hch.2).2
    exact (repairStep_live hf hc ⟨hch.1.1.1, hch.1.1.2, hc, hch.1.2.symm⟩).imp
      fun st1 ⟨hl, h2, h3⟩ => ⟨hl, by rw [h2, h3]; exact hch.2⟩
  case last =>
    simp only [chainTo, Bool.and_eq_true, decide_eq_true_eq, beq_iff_eq] at hch
    exact forestLive_addChild hf ⟨hch.1.1, hch.1.2, hchild, hch.2.symm⟩

theorem repairOne_live {m : Machine} {wrap legacy : Bool} {f : Forest} {pc : Chip × Chip}
    (hf : ForestLive m f) (hchild : chipOk m pc.2 = true) :
    Except.Sat (fun _ => True) (fun r => ForestLive m r.1) (repairOne m wrap legacy f pc) := by
  unfold repairOne
  refine (Except.Sat.of_forall (fun _ _ => trivial) fun _ _ => trivial).bind fun cc _ _ => ?_
  refine (Except.Sat.of_forall (fun _ _ => trivial)
    fun p hp => aStar_path _ _ _ _ _ _ (chipOk_inRange hchild) hp).bind fun p _ hpok => ?_
  simp only [pathOk, Bool.and_eq_true] at hpok
  split
  · trivial
  · exact (repairFold_live hchild _ _ hf hpok.1).bind fun st' _ h => Except.Sat.pure h

theorem repairAll_live {m : Machine} {wrap legacy : Bool} (order : List (Chip × Chip)) (f : Forest)
    (ps : List (List (Nat × Chip))) (hf : ForestLive m f) (ho : ∀ pc, pc ∈ order → chipOk m pc.2 = true) :
    Except.Sat (fun _ => True) (fun r => ForestLive m r.1) (repairAll m wrap legacy order f ps) := by
  fun_induction repairAll m wrap legacy order f ps with
  | case1 f ps => exact hf
  | case2 pc r f ps ih =>
    exact (repairOne_live hf (ho pc List.mem_cons_self)).bind fun ⟨f1, p⟩ _ h1 =>
      ih f1 p h1 fun pc' h' => ho pc' (List.mem_cons_of_mem _ h')

/-- invariant of the loop over the A* path (`rem` = the part of the path still to be merged).  `anc`: no ancestor of the
cursor `last` is the orphan or a chip still to come, so hanging the next path chip, and at the end the orphan, below
`last` closes no cycle -/
structure SInv (R : List Chip) (child : Chip) (childChips : List Chip) (st : RepairState)
    (rem : List (Nat × Chip)) : Prop where
  wf : ∃ rank, WF st.f rank
  closed : ClosedF st.f
  roots : ∀ r, r ∈ R → r ∈ st.f.keys ∧ NoParent st.f r
  conn : ∀ x, x ∈ st.f.keys → ∃ r, r ∈ R ∧ Below st.f r x
  lastKey : st.last ∈ st.f.keys
  anc : ∀ x, Below st.f x st.last → x ≠ child ∧ x ∉ rem.map (·.2)
  memKeys : ∀ e, e ∈ rem → childChips.contains e.2 = true → e.2 ∈ st.f.keys
  fresh : ∀ e, e ∈ rem → childChips.contains e.2 = false → e.2 ∉ st.f.keys

theorem repairStep_fixed (child : Chip) (childChips : List Chip) (st : RepairState) (e : Nat × Chip) :
    repairStep false child childChips st e =
      if !childChips.contains e.2 then
        (if st.f.has e.2 then .error .assertFail
         else .ok { f := (st.f.insertNew e.2).addChild st.last (st.lastDir, e.2), last := e.2, lastDir := e.1 })
      else .ok { f := (detachIn st.f e.2 st.f.keys).addChild st.last (st.lastDir, e.2), last := e.2,
                 lastDir := e.1 } := by
  unfold repairStep
  simp only [bind, Except.bind, pure, Except.pure, Bool.false_eq_true, if_false]

/-- both branches of `repairStep`: the path chip `c`, made a component root in `g`, is hung below `last` -/
theorem sinv_hang {R : List Chip} {child : Chip} {childChips : List Chip} {st : RepairState}
    {d : Nat} {c : Chip} {rest : List (Nat × Chip)} {g : Forest} (hRn : R.Nodup)
    (hs : SInv R child childChips st ((d, c) :: rest))
    (hnd : (((d, c) :: rest).map (·.2)).Nodup) (hR : c ∉ R) (hchild : child ∈ R)
    (gwf : ∃ rank, WF g rank) (gnp : NoParent g c) (gkeys : ∀ x, x ∈ g.keys ↔ x ∈ st.f.keys ∨ x = c)
    (gsub : ∀ q k, Edge g q k → Edge st.f q k)
    (gsplit : ∀ r x, Below st.f r x → Below g r x ∨ Below g c x) :
    SInv R child childChips { f := g.addChild st.last (st.lastDir, c), last := c, lastDir := d } rest ∧
      ∀ x, x ∈ st.f.keys → x ∈ (g.addChild st.last (st.lastDir, c)).keys := by
  have hanc : ∀ x, Below g x st.last → x ≠ child ∧ x ∉ ((d, c) :: rest).map (·.2) :=
    fun x h => hs.anc x (below_mono gsub h)
  have hi := rinv_graft st.lastDir
    (rinv_root ⟨hs.wf, hs.closed, hRn, hs.roots, hs.conn⟩ hR gwf gnp gkeys gsub gsplit)
    ((gkeys _).2 (Or.inl hs.lastKey)) (fun h => (hanc c h).2 (by simp)) hRn hR (fun r => by simp)
  have hk : ∀ x, x ∈ (g.addChild st.last (st.lastDir, c)).keys ↔ x ∈ st.f.keys ∨ x = c := fun x => by
    rw [keys_addChild]; exact gkeys x
  simp only [List.map_cons, List.nodup_cons] at hnd
  refine ⟨⟨hi.wf, hi.closed, hi.roots, hi.conn, (hk c).2 (Or.inr rfl), fun x hx => ?_,
    fun e he hc => (hk _).2 (Or.inl (hs.memKeys e (List.mem_cons_of_mem _ he) hc)), fun e he hc hke => ?_⟩,
    fun x hx => (hk x).2 (Or.inl hx)⟩
  · have hlast : Below g x st.last → x ≠ child ∧ x ∉ rest.map (·.2) := fun h =>
      ⟨(hanc x h).1, fun hm => (hanc x h).2 (List.mem_cons_of_mem _ hm)⟩
    rcases below_tail hx with heq | ⟨p0, k0, hp0, hk0, hk0c⟩
    · subst heq
      exact ⟨fun h => hR (h ▸ hchild), hnd.1⟩
    · rcases edge_addChild_inv hk0 with hk0 | ⟨rfl, rfl⟩
      · exact absurd hk0c (gnp _ _ hk0)
      · exact (below_addChild_split hp0).elim hlast (fun h => hlast h.1)
  · rcases (hk _).1 hke with h | h
    · exact hs.fresh e (List.mem_cons_of_mem _ he) hc h
    · exact hnd.1 (h ▸ List.mem_map_of_mem he)

theorem repairStep_spec {R : List Chip} {child : Chip} {cc : List Chip} {st : RepairState}
    {d : Nat} {c : Chip} {rest : List (Nat × Chip)} (hRn : R.Nodup) (hs : SInv R child cc st ((d, c) :: rest))
    (hnd : (((d, c) :: rest).map (·.2)).Nodup) (hR : c ∉ R) (hchild : child ∈ R) :
    ∃ st', repairStep false child cc st (d, c) = .ok st' ∧ SInv R child cc st' rest ∧
      ∀ x, x ∈ st.f.keys → x ∈ st'.f.keys := by
  obtain ⟨rank, hw⟩ := hs.wf
  rw [repairStep_fixed]
  cases hcc : cc.contains c with
  | false =>
    have hck : c ∉ st.f.keys := hs.fresh (d, c) List.mem_cons_self hcc
    have hh : st.f.has c = false := Bool.eq_false_iff.2 fun h => hck ((has_iff _ _).1 h)
    simp only [Bool.not_false, if_true, hh, Bool.false_eq_true, if_false]
    refine ⟨_, rfl, sinv_hang hRn hs hnd hR hchild ⟨rank, wf_insertNew hw hck⟩ ?_ (fun x => ?_)
      (fun _ _ => edge_insertNew.1) (fun _ _ hb => Or.inl (below_insertNew.2 hb))⟩
    · intro q k he hk
      exact hck (hk ▸ hs.closed _ _ (edge_insertNew.1 he))
    · exact mem_keys_insertNew
  | true =>
    obtain ⟨d1, d2, d3, d4, d5⟩ := detach_spec hw c
    have hck : c ∈ st.f.keys := hs.memKeys (d, c) List.mem_cons_self hcc
    simp only [Bool.not_true, Bool.false_eq_true, if_false]
    refine ⟨_, rfl, sinv_hang hRn hs hnd hR hchild ⟨rank, d1⟩ d2 (fun x => ?_) d4
      (fun _ _ => below_detach_split d5)⟩
    rw [d3]; exact ⟨Or.inl, fun h => h.elim id (· ▸ hck)⟩

theorem repairFold_spec {R : List Chip} {child : Chip} {cc : List Chip} (hRn : R.Nodup) (hchild : child ∈ R) :
    ∀ (rest : List (Nat × Chip)) (st : RepairState), SInv R child cc st rest →
      (rest.map (·.2)).Nodup → (∀ e, e ∈ rest → e.2 ∉ R) →
      ∃ st', rest.foldlM (repairStep false child cc) st = .ok st' ∧ SInv R child cc st' [] ∧
        ∀ x, x ∈ st.f.keys → x ∈ st'.f.keys := by
  intro rest
  induction rest with
  | nil => intro st hs _ _; exact ⟨st, rfl, hs, fun _ h => h⟩
  | cons e r ih =>
    intro st hs hnd hR
    obtain ⟨d, c⟩ := e
    obtain ⟨st1, h1, hs1, hk1⟩ := repairStep_spec hRn hs hnd (hR _ List.mem_cons_self) hchild
    obtain ⟨st', h', hs', hk'⟩ := ih st1 hs1 (List.nodup_cons.1 hnd).2
      (fun e he => hR e (List.mem_cons_of_mem _ he))
    exact ⟨st', by simp only [List.foldlM, h1, bind, Except.bind]; exact h', hs',
      fun x hx => hk' x (hk1 x hx)⟩

theorem repair_init {m : Machine} {f : Forest} {pc : Chip × Chip} {R : List Chip}
    {cc sources : List Chip} {d0 : Nat} {c0 : Chip} {rest : List (Nat × Chip)}
    (hi : RInv f R) (hchild : pc.2 ∈ R) (hcc : ∀ x, x ∈ cc ↔ Below f pc.2 x)
    (hsrc : ∀ x, x ∈ sources ↔ x ∈ f.keys ∧ ¬ Below f pc.2 x)
    (hpok : pathOk m sources pc.2 ((d0, c0) :: rest) = true)
    (hpnd : (((d0, c0) :: rest).map (·.2)).Nodup) (hpsink : pc.2 ∉ ((d0, c0) :: rest).map (·.2)) :
    SInv R pc.2 cc { f := f, last := c0, lastDir := d0 } rest ∧ (rest.map (·.2)).Nodup ∧
      ∀ e, e ∈ rest → e.2 ∉ R := by
  simp only [pathOk, Bool.and_eq_true, List.contains_iff_mem, List.all_eq_true, Bool.not_eq_true',
    Bool.eq_false_iff] at hpok
  obtain ⟨hc0, hrest⟩ := hpok.2
  have hc0' := (hsrc c0).1 hc0
  simp only [List.map_cons, List.nodup_cons, List.mem_cons, not_or] at hpnd hpsink
  have hrestB : ∀ e, e ∈ rest → e.2 ∈ f.keys → Below f pc.2 e.2 := fun e he hk =>
    Classical.byContradiction fun hnb => hrest e he (List.contains_iff_mem.2 ((hsrc e.2).2 ⟨hk, hnb⟩))
  refine ⟨⟨hi.wf, hi.closed, hi.roots, hi.conn, hc0'.1, ?_, ?_, ?_⟩, hpnd.2, ?_⟩
  · intro x hx
    refine ⟨fun heq => hc0'.2 (heq ▸ hx), fun hm => ?_⟩
    obtain ⟨e, he, rfl⟩ := List.mem_map.1 hm
    rcases below_head hx with heq | ⟨k, hk, _⟩
    · exact hpnd.1 ((show e.2 = c0 from heq) ▸ List.mem_map_of_mem he)
    · exact hc0'.2 (below_trans (hrestB e he (edge_key hk)) hx)
  · intro e he hc
    exact below_key hi.closed (hi.roots _ hchild).1 ((hcc _).1 (List.contains_iff_mem.1 hc))
  · intro e he hc hk
    rw [List.contains_iff_mem.2 ((hcc _).2 (hrestB e he hk))] at hc
    cases hc
  · intro e he hr
    rcases below_tail (hrestB e he (hi.roots _ hr).1) with heq | ⟨p0, k0, _, hk0, hk0e⟩
    · exact hpsink.2 (heq ▸ List.mem_map_of_mem he)
    · exact (hi.roots _ hr).2 _ _ hk0 hk0e

theorem repairOne_spec {m : Machine} {wrap : Bool} {f : Forest} {pc : Chip × Chip} {R : List Chip}
    (hi : RInv f R) (hchild : pc.2 ∈ R) (hlive : chipOk m pc.2 = true) :
    ∃ sources, sources.contains pc.2 = false ∧ (∀ r, r ∈ R → r ≠ pc.2 → r ∈ sources) ∧
      ((∃ f' path, repairOne m wrap false f pc = .ok (f', path) ∧ (∀ x, x ∈ f.keys → x ∈ f'.keys) ∧
          ∀ R', R'.Nodup → pc.2 ∉ R' → (∀ r, r ∈ R ↔ r ∈ R' ∨ r = pc.2) → RInv f' R') ∨
       (repairOne m wrap false f pc = .error .disconnected ∧
        aStar pc.2 pc.1 sources m wrap = .error .disconnected)) := by
  obtain ⟨rank, hw⟩ := hi.wf
  obtain ⟨cc, hcc, hccB⟩ := dfs_spec hw hi.closed (hi.roots _ hchild).1
  have hsrc : ∀ x, x ∈ f.keys.filter (fun c => !cc.contains c) ↔ x ∈ f.keys ∧ ¬ Below f pc.2 x := by
    intro x; simp [hccB]
  have hns : (f.keys.filter fun c => !cc.contains c).contains pc.2 = false :=
    Bool.eq_false_iff.2 fun hc => ((hsrc _).1 (List.contains_iff_mem.1 hc)).2 Below.refl
  refine ⟨_, hns, fun r hr hne => (hsrc r).2 ⟨(hi.roots r hr).1, fun hb => ?_⟩, ?_⟩
  · rcases below_tail hb with heq | ⟨p0, k0, _, hk0, hk0e⟩
    · exact hne heq.symm
    · exact (hi.roots r hr).2 _ _ hk0 hk0e
  · rcases aStar_spec m pc.2 pc.1 (f.keys.filter fun c => !cc.contains c) wrap (chipOk_inRange hlive)
      with ⟨hp, _⟩ | ⟨hc, _⟩ | ⟨p, hp, hpok, hpnd, hpsink⟩
    · exact Or.inr ⟨by simp only [repairOne, bind, Except.bind, hcc, hp], hp⟩
    · rw [hns] at hc; cases hc
    · left
      cases p with
      | nil => simp [pathOk, chainTo] at hpok
      | cons e0 rest =>
        obtain ⟨d0, c0⟩ := e0
        obtain ⟨hinit, hnd, hrestR⟩ := repair_init hi hchild hccB hsrc hpok hpnd hpsink
        obtain ⟨st', hfold, hfin, hkeys⟩ := repairFold_spec hi.rootsNodup hchild rest _ hinit hnd hrestR
        refine ⟨st'.f.addChild st'.last (st'.lastDir, pc.2), (d0, c0) :: rest, ?_, fun x hx => ?_,
          fun R' hn hc hR => ?_⟩
        · simp only [repairOne, bind, Except.bind, hcc, hp, hfold, pure, Except.pure]
        · rw [keys_addChild]; exact hkeys x hx
        · exact rinv_graft _ ⟨hfin.wf, hfin.closed, hi.rootsNodup, hfin.roots, hfin.conn⟩ hfin.lastKey
            (fun hb => (hfin.anc _ hb).1 rfl) hn hc hR

end Rig.C03.L
