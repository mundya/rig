/-
C15 - SDP and SCP packets encode to the wire layout and decode back unchanged.
-/
import RigModel.Model.C15
import RigModel.Lemmas.LE
import RigModel.Lemmas.Bits
import RigModel.Lemmas.Lists

namespace Rig.C15
open Rig.Gen.Packets

def SCP.nArgs (p : SCP) : Nat := (argList p).length

/-- generated constants are the documented flag bytes -/
theorem flags_documented : FLAG_REPLY = 0x87 ∧ FLAG_NO_REPLY = 0x07 ∧ FLAG_REPLY ≠ FLAG_NO_REPLY := by
  decide

private theorem portCpu_spec (p : Nat) (hp : p < 8) (c : Nat) (hc : c < 32) :
    portCpu p c = p * 32 + c ∧ (portCpu p c) &&& 0x1f = c ∧ (portCpu p c) >>> 5 = p := by
  have e : portCpu p c = p * 32 + c := by
    rw [portCpu, Nat.and_two_pow_sub_one_eq_mod p 3, Nat.and_two_pow_sub_one_eq_mod c 5, Nat.mod_eq_of_lt hp,
      Nat.mod_eq_of_lt hc, Bits.shl_or rfl p hc]
  exact ⟨e, (Nat.and_two_pow_sub_one_eq_mod _ 5).trans (Bits.mod_radix p e hc),
    (Nat.shiftRight_eq_div_pow ..).trans (Bits.div_radix p e hc)⟩

private theorem flag_lt (b : Bool) : (if b then FLAG_REPLY else FLAG_NO_REPLY) < 256 := by
  cases b <;> decide
private theorem flag_dec (b : Bool) : ((if b then FLAG_REPLY else FLAG_NO_REPLY) == FLAG_REPLY) = b := by
  cases b <;> decide
private theorem flag_doc (b : Bool) :
    (if b then FLAG_REPLY else FLAG_NO_REPLY) = (if b then 0x87 else 0x07) := by
  cases b <;> decide

private theorem encodeHeader_ok (p : SDP) (h : p.InRange) (packed : List Nat) :
    encodeHeader p packed = .ok (sdpLayout p packed) := by
  obtain ⟨ht, hdp, hdc, hsp, hsc, hdx, hdy, hsx, hsy⟩ := h
  have h1 : p.destPort * 32 + p.destCpu < 256 := by omega
  have h2 : p.srcPort * 32 + p.srcCpu < 256 := by omega
  have hf : (if p.reply = true then 135 else 7) < 256 := by split <;> decide
  simp only [encodeHeader, packB, hf, ht, h1, h2, hdx, hdy, hsx, hsy, if_true,
    bind, Except.bind, pure, Except.pure, sdpLayout, (portCpu_spec _ hdp _ hdc).1,
    (portCpu_spec _ hsp _ hsc).1, flag_doc]

/-- **Layout (SDP).** In-range packets encode to exactly the documented bytes. -/
theorem sdp_layout (p : SDP) (h : p.InRange) : encodeSDP p = .ok (sdpLayout p p.data) :=
  encodeHeader_ok p h p.data

private theorem packArg_ok (a : Option Nat) (h : ArgOk a) : packArg a = .ok (a.toList.flatMap le32) := by
  cases a with
  | none => rfl
  | some v => simp only [ArgOk] at h; simp [packArg, packI, h]

/-- **Layout (SCP).** cmd, seq (LE16), the present arguments (LE32), then the payload. -/
theorem scp_layout (p : SCP) (h : p.InRange) : encodeSCP p = .ok (scpLayout p) := by
  obtain ⟨hh, hc, hs, h1, h2, h3⟩ := h
  simp only [encodeSCP, packedData, packH, hc, hs, if_true, packArg_ok _ h1, packArg_ok _ h2,
    packArg_ok _ h3, bind, Except.bind, pure, Except.pure, encodeHeader_ok _ hh, scpLayout, argList,
    List.flatMap_append, List.append_assoc]

/-- an out-of-range tag is rejected (struct.error), never silently truncated -/
theorem sdp_reject_wide_tag (p : SDP) (h : 256 ≤ p.tag) : encodeSDP p = .error .structError := by
  have : ¬ p.tag < 256 := by omega
  simp [encodeSDP, encodeHeader, packB, flag_lt, this, bind, Except.bind]

private theorem word32_eq_val (a b c d : Nat) : word32 [a, b, c, d] = LE.val [a, b, c, d] := by
  simp only [word32, LE.val]; omega

private theorem word32_le32 (a : Nat) (h : a < 4294967296) : word32 (le32 a) = a := by
  rw [le32, word32_eq_val, ← LE.bytes_four]; exact LE.val_bytes_of_lt h

private theorem word16_le16 (a : Nat) (h : a < 65536) : a % 256 + 256 * (a / 256 % 256) = a := by
  have := LE.val_bytes_of_lt (w := 2) h
  rwa [LE.bytes_two, LE.val, LE.val, LE.val, Nat.mul_zero, Nat.add_zero] at this

private theorem decodeSDP_layout (p : SDP) (h : p.InRange) (pl : List Nat) :
    decodeSDP (sdpLayout p pl) = .ok { p with data := pl } := by
  obtain ⟨ht, hdp, hdc, hsp, hsc, hdx, hdy, hsx, hsy⟩ := h
  simp only [sdpLayout, List.cons_append, List.nil_append, decodeSDP]
  obtain ⟨d1, d2, d3⟩ := portCpu_spec _ hdp _ hdc
  obtain ⟨s1, s2, s3⟩ := portCpu_spec _ hsp _ hsc
  rw [← d1, ← s1, d2, d3, s2, s3, ← flag_doc, flag_dec]

theorem sdp_decode_encode (p : SDP) (h : p.InRange) :
    (encodeSDP p >>= decodeSDP) = .ok p := by
  rw [sdp_layout p h]
  exact decodeSDP_layout p h p.data

private def words : Nat → List Nat → List Nat
  | 0, _ => []
  | k + 1, data => word32 (data.take 4) :: words k (data.drop 4)

/-- the packet `from_bytestring` builds when it takes `k ≤ 3` arguments -/
private def scpOf (p : SDP) (cmd seq : Nat) (data : List Nat) (k : Nat) : SCP :=
  { hdr := { p with data := data.drop (4 * k) }, cmd, seq,
    arg1 := (words k data)[0]?, arg2 := (words k data)[1]?, arg3 := (words k data)[2]? }

private theorem decodeSCP_eq {bs : List Nat} {p : SDP} {c0 c1 s0 s1 : Nat} {data : List Nat}
    (hp : decodeSDP bs = .ok p) (hd : p.data = c0 :: c1 :: s0 :: s1 :: data) {n k : Nat}
    (h3 : k ≤ 3) (hn : k ≤ n) (hl : 4 * k ≤ data.length) (hmax : k = 3 ∨ k = n ∨ data.length < 4 * k + 4) :
    decodeSCP bs n = .ok (scpOf p (c0 + 256 * c1) (s0 + 256 * s1) data k) := by
  simp only [decodeSCP, hp, hd, bind, Except.bind, pure, Except.pure]
  split
  · split
    · split
      · obtain rfl : k = 3 := by omega
        simp only [scpOf, words, List.drop_drop]
        rfl
      · obtain rfl : k = 2 := by omega
        rfl
    · obtain rfl : k = 1 := by omega
      rfl
  · obtain rfl : k = 0 := by omega
    rfl

private theorem le32_length (a : Nat) : (le32 a).length = 4 := rfl

private theorem le32_word32 (w : List Nat) (hw : w.length = 4) (hb : Bytes w) : le32 (word32 w) = w := by
  obtain ⟨a, b, c, d, rfl⟩ : ∃ a b c d, w = [a, b, c, d] := ⟨_, _, _, _, Lists.eq_ofFn_of_length hw⟩
  rw [le32, word32_eq_val, ← LE.bytes_four]
  exact LE.bytes_val [a, b, c, d] hb

private theorem bytes_drop (l : List Nat) (n : Nat) (hl : Bytes l) : Bytes (l.drop n) :=
  fun b hb => hl b (List.mem_of_mem_drop hb)

private theorem words_flatMap (k : Nat) (data : List Nat) (hb : Bytes data) (hk : 4 * k ≤ data.length) :
    (words k data).flatMap le32 ++ data.drop (4 * k) = data := by
  fun_induction words k data with
  | case1 => rfl
  | case2 k data ih =>
    have := ih (bytes_drop _ 4 hb) (by rw [List.length_drop]; omega)
    rw [List.drop_drop] at this
    rw [List.flatMap_cons, List.append_assoc, show 4 * (k + 1) = 4 + 4 * k by omega, this,
      le32_word32 _ (List.length_take_of_le (by omega)) fun b h => hb b (List.mem_of_mem_take h), List.take_append_drop]

private theorem words_pack (args : List Nat) (h : ∀ a ∈ args, a < 4294967296) (r : List Nat) :
    words args.length (args.flatMap le32 ++ r) = args ∧
      (args.flatMap le32 ++ r).drop (4 * args.length) = r ∧
      (args.flatMap le32 ++ r).length = 4 * args.length + r.length := by
  induction args with
  | nil => exact ⟨rfl, rfl, (Nat.zero_add _).symm⟩
  | cons a as ih =>
    obtain ⟨i1, i2, i3⟩ := ih fun b hb => h b (List.mem_cons_of_mem _ hb)
    rw [List.flatMap_cons, List.append_assoc, List.length_cons, words,
      List.take_left' (le32_length a), List.drop_left' (le32_length a), i1,
      word32_le32 a (h a List.mem_cons_self), show 4 * (as.length + 1) = 4 + 4 * as.length by omega,
      ← List.drop_drop, List.drop_left' (le32_length a), i2, List.length_append, i3, le32_length]
    exact ⟨rfl, rfl, (Nat.add_assoc ..).symm⟩

/-- **Round trip (SCP).** Decoding the encoding with the same argument count
returns an equal packet (arguments present as a prefix, all fields in range). -/
theorem scp_decode_encode (p : SCP) (h : p.InRange) (hp : p.Prefix) :
    (encodeSCP p >>= fun b => decodeSCP b p.nArgs) = .ok p := by
  rw [scp_layout p h]
  -- with the prefix property the three argument fields are the first entries of `argList`
  have key : (∀ a ∈ argList p, a < 4294967296) ∧ (argList p).length ≤ 3 ∧
      p.arg1 = (argList p)[0]? ∧ p.arg2 = (argList p)[1]? ∧ p.arg3 = (argList p)[2]? := by
    obtain ⟨hdr, cmd, seq, a1, a2, a3⟩ := p
    cases a1 <;> cases a2 <;> cases a3 <;> simp_all [SCP.InRange, SCP.Prefix, argList, ArgOk]
  obtain ⟨hargs, hlen, hpre⟩ := key
  obtain ⟨w1, w2, w3⟩ := words_pack (argList p) hargs p.hdr.data
  refine (decodeSCP_eq (data := (argList p).flatMap le32 ++ p.hdr.data) (decodeSDP_layout p.hdr h.1 _) rfl hlen
    (Nat.le_refl _) (by omega) (.inr (.inl rfl))).trans ?_
  rw [scpOf, w1, w2, word16_le16 _ h.2.1, word16_le16 _ h.2.2.1, ← hpre.1, ← hpre.2.1, ← hpre.2.2]

/-- **Argument rule.** Decoding takes exactly `min n_args (len/4) 3` arguments, where `len`
is the number of bytes after command and sequence number, and the arguments re-packed
followed by the payload are exactly those bytes: nothing is lost or invented.
(14 = 10 header bytes + cmd + seq) -/
theorem arg_rule (bs : List Nat) (n : Nat) (p : SCP) (hb : Bytes bs)
    (h : decodeSCP bs n = .ok p) :
    p.nArgs = min n (min ((bs.length - 14) / 4) 3) ∧
    (argList p).flatMap le32 ++ p.hdr.data = bs.drop 14 := by
  cases hp : decodeSDP bs with
  | error e => simp [decodeSCP, hp, bind, Except.bind] at h
  | ok p0 =>
    match hd : p0.data with
    | [] | [_] | [_, _] | [_, _, _] => simp [decodeSCP, hp, hd, bind, Except.bind] at h
    | c0 :: c1 :: s0 :: s1 :: data =>
      have hbs : bs.drop 14 = data := by
        unfold decodeSDP at hp
        split at hp
        · cases hp; cases hd; rfl
        · cases hp
      rw [show bs.length - 14 = data.length by rw [← hbs, List.length_drop], hbs]
      generalize hk : min n (min (data.length / 4) 3) = k
      obtain ⟨h3, hn, hl, hmax⟩ : k ≤ 3 ∧ k ≤ n ∧ 4 * k ≤ data.length ∧ (k = 3 ∨ k = n ∨ data.length < 4 * k + 4) := by
        omega
      rw [decodeSCP_eq hp hd h3 hn hl hmax, Except.ok.injEq] at h
      subst h
      have hw := words_flatMap k data (hbs ▸ bytes_drop bs 14 hb) hl
      -- for each of the four argument counts both sides compute
      obtain rfl | rfl | rfl | rfl : k = 0 ∨ k = 1 ∨ k = 2 ∨ k = 3 := by omega
      all_goals exact ⟨rfl, hw⟩

/-- **Field isolation.** Each header field occupies its own byte(s): changing one field of an
in-range packet changes the encoding only at that field's documented position (stated for the
tag; the layout theorem gives the same for every field). -/
theorem tag_isolated (p : SDP) (t' : Nat) (h : p.InRange) (ht : t' < 256) :
    ∃ b b', encodeSDP p = .ok b ∧ encodeSDP { p with tag := t' } = .ok b' ∧
      b' = b.set 3 t' := by
  refine ⟨_, _, sdp_layout p h, sdp_layout _ ?_, ?_⟩
  · obtain ⟨_, h2⟩ := h; exact ⟨ht, h2⟩
  · simp [sdpLayout]

def exHdr : SDP :=
  { reply := true, tag := 255, destPort := 7, destCpu := 31, srcPort := 7, srcCpu := 31,
    destX := 255, destY := 255, srcX := 255, srcY := 255, data := [1, 2, 3] }
def exPkt : SCP :=
  { hdr := exHdr, cmd := 65535, seq := 65535, arg1 := some 4294967295, arg2 := some 0,
    arg3 := some 7 }
/-- non-vacuity: a full-width packet with three arguments meets every hypothesis -/
example : exPkt.InRange ∧ exPkt.Prefix ∧ (encodeSCP exPkt >>= fun b => decodeSCP b 3) = .ok exPkt := by
  have hr : exPkt.InRange := by simp [SCP.InRange, SDP.InRange, ArgOk, exPkt, exHdr]
  have hp : exPkt.Prefix := by simp [SCP.Prefix, exPkt]
  exact ⟨hr, hp, scp_decode_encode exPkt hr hp⟩

end Rig.C15
