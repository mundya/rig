/-
C02 - the constraint loop of the placers.  `reserveExc` and `applyReserve` have one statement each (what they return,
what they may raise); `prepareLoop` a lemma per fact: its state changes at every step, and a joint statement has to
re-establish every guard in every recursive case.
-/
import RigModel.Lemmas.C02Flat

namespace Rig.C02

/-- every chip description (also one recorded for a dead chip) lists the machine's `n` resources -/
structure MDom (m : Machine) (n : Nat) : Prop where
  res : m.res.length = n
  exc : ∀ e ∈ m.exc, e.2.length = n

theorem cap_length {m : Machine} {n : Nat} (D : MDom m n) (c : Chip) : (cap m c).length = n := by
  unfold cap
  cases hx : aget m.exc c with
  | none => exact D.res
  | some r => exact D.exc _ (aget_some_mem hx)

theorem MDom.set {m m' : Machine} {n : Nat} {c : Chip} {r : Res} (D : MDom m n) (hr : r.length = n)
    (h : m.set c r = some m') : MDom m' n := by
  unfold Machine.set at h
  split at h <;> cases h
  exact ⟨D.res, fun e he => (mem_aset _ _ _ e he).elim (· ▸ hr) (D.exc e)⟩

theorem decr_ne_none : ∀ {a : Res} {r : Nat} (x : Int), r < a.length → decr a r x ≠ none
  | _ :: _, 0, _, _ => nofun
  | _ :: ys, _ + 1, x, h => fun e =>
    decr_ne_none (a := ys) x (Nat.lt_of_succ_lt_succ h) (Option.map_eq_none_iff.1 e)

theorem reserveExc_sat (m : Machine) (r : Nat) (amt : Int) : ∀ (rest done : List (Chip × Res)),
    (reserveExc m r amt done rest).Sat
      (fun e => e ≠ .fuel ∧ ((∀ x ∈ rest, r < x.2.length) → e = .insufficient))
      fun out => out = done ++ rest.map (fun e => (e.1, (decr e.2 r amt).getD [])) ∧
        ∀ e ∈ rest, ∃ res', decr e.2 r amt = some res' ∧ (m.ok e.1 = true → over res' = false) := by
  intro rest done
  fun_induction reserveExc m r amt done rest
  case case1 => exact Except.Sat.of_ok ⟨(List.append_nil _).symm, nofun⟩
  case case2 hd => exact Except.Sat.of_error ⟨nofun, fun hx => absurd hd (decr_ne_none amt (hx _ List.mem_cons_self))⟩
  case case3 => exact Except.Sat.of_error ⟨nofun, fun _ => rfl⟩
  case case4 done c res rest res' hd ho ih =>
    refine (ih.imp_error fun e he => ⟨he.1, fun hx => he.2 (List.forall_mem_cons.1 hx).2⟩).imp
      fun out ⟨e, f⟩ => ⟨by rw [e, List.append_assoc, List.map_cons, hd]; rfl,
        List.forall_mem_cons.2 ⟨⟨res', hd, fun hk => ?_⟩, f⟩⟩
    simpa [show m.ok c = true from hk] using ho

theorem applyReserve_sat (m : Machine) (r : Nat) (amt : Int) (at_ : Option Chip) :
    (applyReserve m r amt at_).Sat
      (fun e => e ≠ .fuel ∧
        ∀ n, MDom m n → r < n → (∀ c, at_ = some c → m.ok c = true) → e = .insufficient)
      fun m' => (m'.w = m.w ∧ m'.h = m.h ∧ m'.dead = m.dead ∧
        ∀ c, if at_ = none ∨ at_ = some c then
            decr (cap m c) r amt = some (cap m' c) ∧ (m.ok c = true → over (cap m' c) = false)
          else cap m' c = cap m c) ∧ ∀ n, MDom m n → MDom m' n := by
  fun_cases applyReserve m r amt at_
  case case1 hd => exact Except.Sat.of_error ⟨nofun, fun n D hr _ => absurd hd (decr_ne_none amt (D.res ▸ hr))⟩
  case case2 | case7 => exact Except.Sat.of_error ⟨nofun, fun _ _ _ _ => rfl⟩
  case case3 res' hres hover =>
    refine ((reserveExc_sat m r amt m.exc []).imp_error fun e he =>
      ⟨he.1, fun n D hr _ => he.2 fun x hx => (D.exc x hx).symm ▸ hr⟩).bind fun exc' _ ⟨e, f⟩ => ?_
    cases e
    refine Except.Sat.of_ok ⟨⟨rfl, rfl, rfl, fun c => ?_⟩, fun n D => ⟨(decr_some hres).1.trans D.res, fun b hb => ?_⟩⟩
    · rw [if_pos (.inl rfl)]
      have hl : aget (m.exc.map fun e => (e.1, (decr e.2 r amt).getD [])) c =
          (aget m.exc c).map fun res => (decr res r amt).getD [] := by
        rw [aget_eq_lookup, aget_eq_lookup]; exact Assoc.lookup_map (f := id) (fun _ _ h => h) (fun res => (decr res r amt).getD []) c m.exc
      simp only [cap, List.nil_append, hl]
      cases h1 : aget m.exc c with
      | none => exact ⟨hres, fun _ => Bool.eq_false_iff.2 hover⟩
      | some e =>
        obtain ⟨res', h3, h4⟩ := f _ (aget_some_mem h1)
        simp only [Option.map_some, Option.getD_some, h3]
        exact ⟨trivial, h4⟩
    · obtain ⟨a, ha, rfl⟩ := List.mem_map.1 hb
      obtain ⟨res', h3, _⟩ := f a ha
      rw [h3]
      exact (decr_some h3).1.trans (D.exc a ha)
  case case4 hg => exact Except.Sat.of_error ⟨nofun, fun n D hr hat => absurd hg (get_ne_none (hat _ rfl))⟩
  case case5 hg hd =>
    obtain ⟨_, rfl⟩ := Machine.get_some hg
    exact Except.Sat.of_error ⟨nofun, fun n D hr hat => absurd hd (decr_ne_none amt ((cap_length D _).symm ▸ hr))⟩
  case case6 hs => exact Except.Sat.of_error ⟨nofun, fun n D hr hat => absurd hs (set_ne_none (hat _ rfl))⟩
  case case8 c0 cur hg res' hd m1 hs hover =>
    obtain ⟨hok, rfl⟩ := Machine.get_some hg
    obtain ⟨_, hw, hh, hdd, _, hcap⟩ := Machine.set_some hs
    refine Except.Sat.of_ok ⟨⟨hw, hh, hdd, fun c => ?_⟩, fun n D => D.set ((decr_some hd).1.trans (cap_length D _)) hs⟩
    rw [hcap c]
    by_cases e : c0 = c
    · subst e
      rw [if_pos (.inr rfl), if_pos rfl]
      exact ⟨hd, fun _ => Bool.eq_false_iff.2 hover⟩
    · rw [if_neg (by simpa using e), if_neg e]

/-- the summand of `reserved` for one `reserve` constraint -/
def resvTerm (r : Nat) (amt : Int) (at_ : Option Chip) (c : Chip) (i : Nat) : Int :=
  if r = i ∧ (at_ = none ∨ at_ = some c) then amt else 0

theorem Inv.reserve {vr m0 rsv m p} (I : Inv vr m0 rsv m p) {r : Nat} {amt : Int} {at_ : Option Chip}
    {m' : Machine} (h : applyReserve m r amt at_ = .ok m') :
    Inv vr m0 (fun c i => rsv c i + resvTerm r amt at_ c i) m' p := by
  obtain ⟨hw, hh, hd, hc⟩ := ((applyReserve_sat m r amt at_).ok h).1
  refine I.update hw hh hd (fun c h0 => ?_) I.pok I.pvr I.pnodup
  have hc := hc c
  unfold resvTerm
  by_cases hat : at_ = none ∨ at_ = some c
  · rw [if_pos hat] at hc
    obtain ⟨hl, hv⟩ := decr_some hc.1
    refine ⟨hl, dem_nonneg_of_over (hc.2 (I.ok_eq c ▸ h0)), fun i _ => ?_⟩
    rw [hv i]
    simp only [hat, and_true]
    exact add_sub_le (Int.le_of_eq (Int.add_assoc ..).symm)
  · rw [if_neg hat] at hc
    rw [hc]
    exact ⟨rfl, I.nonneg c h0, fun i _ => by simp only [hat, and_false, if_false, Int.add_zero]; exact Int.le_refl _⟩

theorem Inv.prepare {vr m0} (hn : (keys vr).Nodup) (hnn : NonNegVR vr) :
    ∀ (cs : List Constraint) (rsv : Chip → Nat → Int) (m : Machine) (p : Placement) (m' : Machine) (p' : Placement),
      Inv vr m0 rsv m p → prepareLoop vr cs m p = .ok (m', p') →
      Inv vr m0 (fun c i => rsv c i + reserved cs c i) m' p' := by
  intro cs rsv m p m' p' I h
  fun_induction prepareLoop vr cs m p generalizing rsv
  case case1 => cases h; exact I.congr_rsv fun c i => (Int.add_zero _).symm
  case case7 hv _ hg _ _ hs ho ih => exact ih rsv (I.place hn hnn hv hg (Bool.eq_false_iff.2 ho) hs) h
  case case8 ih =>
    obtain ⟨m1, hr, h⟩ := Except.bind_eq_ok h
    exact (ih m1 _ (I.reserve hr) h).congr_rsv fun c i => Int.add_assoc ..
  case case9 k _ _ _ hloc hres ih =>
    cases k with
    | loc v c => exact (hloc v c rfl).elim
    | reserve r amt at_ => exact (hres r amt at_ rfl).elim
    | _ => exact ih rsv I h
  all_goals cases h

theorem prepare_p (vr : VR) (cs : List Constraint) (m : Machine) (p : Placement) (m' : Machine) (p' : Placement)
    (h : prepareLoop vr cs m p = .ok (m', p')) (v : Vtx) :
    (aget p' v = aget p v ∧ ∀ c, Constraint.loc v c ∉ cs) ∨
      ∃ c, Constraint.loc v c ∈ cs ∧ aget p' v = some c := by
  fun_induction prepareLoop vr cs m p
  case case1 => cases h; exact .inl ⟨rfl, fun _ => List.not_mem_nil⟩
  case case7 u c _ _ _ _ _ _ _ _ _ _ _ _ ih =>
    rcases ih h with ⟨e, hno⟩ | ⟨c', hc', e⟩
    · by_cases huv : u = v
      · subst huv; exact .inr ⟨c, List.mem_cons_self, by rw [e, aget_aset_self]⟩
      · refine .inl ⟨by rw [e, aget_aset_ne _ _ huv], fun c' hc' => ?_⟩
        rcases List.mem_cons.1 hc' with hc' | hc'
        · cases hc'; exact huv rfl
        · exact hno c' hc'
    · exact .inr ⟨c', List.mem_cons_of_mem _ hc', e⟩
  case case8 ih =>
    obtain ⟨m1, -, h⟩ := Except.bind_eq_ok h
    exact (ih m1 h).imp (.imp_right fun hno c hc => hno c ((List.mem_cons.1 hc).resolve_left nofun))
      fun ⟨c, hc, e⟩ => ⟨c, List.mem_cons_of_mem _ hc, e⟩
  case case9 hloc _ ih =>
    exact (ih h).imp
      (.imp_right fun hno c hc => hno c ((List.mem_cons.1 hc).resolve_left fun e => hloc v c e.symm))
      fun ⟨c, hc, e⟩ => ⟨c, List.mem_cons_of_mem _ hc, e⟩
  all_goals cases h

/-- no vertex (after merging: no same-chip group) is constrained to two different chips -/
def LocConsistent (cs : List Constraint) : Prop :=
  ∀ v c c', Constraint.loc v c ∈ cs → Constraint.loc v c' ∈ cs → c = c'

theorem prepare_loc {vr : VR} {cs : List Constraint} {m m' : Machine} {p' : Placement}
    (h : prepareLoop vr cs m [] = .ok (m', p')) (hc : LocConsistent cs) :
    ∀ v c, Constraint.loc v c ∈ cs → aget p' v = some c := by
  intro v c hv
  rcases prepare_p vr cs m [] m' p' h v with ⟨_, hno⟩ | ⟨c', hc', e⟩
  · exact absurd hv (hno c)
  · rw [e, hc v c c' hv hc']

theorem prepareLoop_doc {vr : VR} {n : Nat} : ∀ (cs : List Constraint) (m : Machine) (p : Placement),
    Known vr cs → MDom m n →
    (∀ r a at_, Constraint.reserve r a at_ ∈ cs → r < n ∧ ∀ c, at_ = some c → m.ok c = true) →
    ∀ e, prepareLoop vr cs m p = .error e → e = .insufficient ∨ e = .invalidConstraint := by
  intro cs m p hk D hres e h
  fun_induction prepareLoop vr cs m p
  case case1 => cases h
  case case2 => cases h; exact .inr rfl
  case case3 hv => exact absurd (hk _ List.mem_cons_self) (aget_none_iff.1 hv)
  case case4 hok _ _ hg => exact absurd hg (get_ne_none (by simpa using hok))
  case case5 hg _ hs => exact absurd hs (set_ne_none (Machine.get_some hg).1)
  case case6 => cases h; exact .inl rfl
  case case7 hg _ _ hs _ ih =>
    obtain ⟨_, rfl⟩ := Machine.get_some hg
    exact ih (List.forall_mem_cons.1 hk).2 (D.set ((sub_length ..).trans (cap_length D _)) hs)
      (fun r a at_ hm => (hres r a at_ (List.mem_cons_of_mem _ hm)).imp_right fun h2 c hc =>
        ok_of_set hs c ▸ h2 c hc) h
  case case8 r amt at_ _ m _ ih =>
    obtain ⟨h1, h2⟩ := hres r amt at_ List.mem_cons_self
    rcases Except.bind_eq_error h with h | ⟨m1, hm1, h⟩
    · exact .inl (((applyReserve_sat _ _ _ _).error h).2 n D h1 h2)
    · have ⟨⟨hw, hh, hd, _⟩, hD⟩ := (applyReserve_sat _ _ _ _).ok hm1
      exact ih m1 (List.forall_mem_cons.1 hk).2 (hD n D) (fun r a at_ hm =>
        (hres r a at_ (List.mem_cons_of_mem _ hm)).imp_right fun h2 c hc => Machine.ok_congr hw hh hd c ▸ h2 c hc) h
  case case9 ih =>
    exact ih (List.forall_mem_cons.1 hk).2 D (fun r a at_ hm => hres r a at_ (List.mem_cons_of_mem _ hm)) h

theorem prepareLoop_no_fuel (vr : VR) (cs : List Constraint) (m : Machine) (p : Placement) :
    prepareLoop vr cs m p ≠ .error .fuel := by
  fun_induction prepareLoop vr cs m p
  case case7 ih => exact ih
  case case8 ih => exact Except.bind_ne_error (fun h => ((applyReserve_sat _ _ _ _).error h).1 rfl) ih
  case case9 ih => exact ih
  all_goals nofun

theorem prepareLoop_shape {vr : VR} {cs : List Constraint} {m m' : Machine} {p p' : Placement}
    (h : prepareLoop vr cs m p = .ok (m', p')) : m'.w = m.w ∧ m'.h = m.h ∧ m'.dead = m.dead := by
  fun_induction prepareLoop vr cs m p
  case case1 => cases h; exact ⟨rfl, rfl, rfl⟩
  case case7 hs _ ih =>
    have ⟨_, hw, hh, hd, _⟩ := Machine.set_some hs
    have ⟨a, b, c⟩ := ih h
    exact ⟨a.trans hw, b.trans hh, c.trans hd⟩
  case case8 ih =>
    obtain ⟨m1, hr, h⟩ := Except.bind_eq_ok h
    have ⟨⟨hw, hh, hd, _⟩, _⟩ := (applyReserve_sat _ _ _ _).ok hr
    have ⟨a, b, c⟩ := ih m1 h
    exact ⟨a.trans hw, b.trans hh, c.trans hd⟩
  case case9 ih => exact ih h
  all_goals cases h

end Rig.C02
