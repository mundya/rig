/-
List facts that the towers need and core does not have: `Nodup` and first occurrences (`eraseDups`; the models' two-equation
`dedup` / `nodupB` are these: `eq_eraseDups`, `nodupB_iff`); sums over `Int`; a list of known length as `List.ofFn`;
`l.foldl max 0`.
-/

namespace Rig.Lists
variable {α : Type}

theorem nodup_snoc {a : α} {l : List α} (hl : l.Nodup) (ha : a ∉ l) : (l ++ [a]).Nodup :=
  (List.perm_append_singleton a l).nodup_iff.2 (List.nodup_cons.2 ⟨ha, hl⟩)

section eraseDups
variable [BEq α] [LawfulBEq α]

theorem nodup_eraseDups : ∀ l : List α, l.eraseDups.Nodup
  | [] => List.nodup_nil
  | a :: as => by
    rw [List.eraseDups_cons, List.nodup_cons]
    exact ⟨by simp [List.mem_eraseDups], nodup_eraseDups _⟩
termination_by l => l.length
decreasing_by exact Nat.lt_succ_of_le (List.length_filter_le _ _)

theorem filter_eraseDups (p : α → Bool) : ∀ l : List α, l.eraseDups.filter p = (l.filter p).eraseDups
  | [] => rfl
  | a :: l => by
    have ih := filter_eraseDups p (l.filter fun b => !b == a)
    rw [List.eraseDups_cons, List.filter_cons, ih, List.filter_filter, List.filter_cons]
    cases hp : p a
    · rw [if_neg Bool.false_ne_true, if_neg Bool.false_ne_true]
      exact congrArg List.eraseDups (List.filter_congr fun x _ => by
        cases hx : x == a
        · exact Bool.and_true _
        · rw [eq_of_beq hx, hp]; rfl)
    · rw [if_pos rfl, if_pos rfl, List.eraseDups_cons, List.filter_filter]
      exact congrArg (a :: List.eraseDups ·) (List.filter_congr fun x _ => Bool.and_comm _ _)
termination_by l => l.length
decreasing_by exact Nat.lt_succ_of_le (List.length_filter_le _ _)

/-- "first occurrences" written with the filter outside the recursive call, as the models write it -/
theorem eq_eraseDups {d : List α → List α} (h0 : d [] = [])
    (h1 : ∀ a l, d (a :: l) = a :: (d l).filter (· != a)) : ∀ l, d l = l.eraseDups
  | [] => h0
  | a :: l => by rw [h1, eq_eraseDups h0 h1 l, filter_eraseDups, List.eraseDups_cons]; rfl

theorem eraseDups_snoc (l : List α) (a : α) :
    (l ++ [a]).eraseDups = if a ∈ l then l.eraseDups else l.eraseDups ++ [a] := by
  rw [List.eraseDups_append]
  split
  · next h => rw [List.removeAll, List.filter_cons_of_neg (by simpa using h)]; exact List.append_nil _
  · next h => rw [List.removeAll, List.filter_cons_of_pos (by simpa using h)]; rfl

/-- the models' executable `Nodup`: `!(l.contains a) && d l` at `a :: l` -/
theorem nodupB_iff {d : List α → Bool} (h0 : d [] = true)
    (h1 : ∀ a l, d (a :: l) = (!l.contains a && d l)) : ∀ l, d l = true ↔ l.Nodup
  | [] => ⟨fun _ => List.nodup_nil, fun _ => h0⟩
  | a :: l => by
    rw [h1, List.nodup_cons, Bool.and_eq_true, nodupB_iff h0 h1 l, Bool.not_eq_true', List.contains_eq_mem,
      decide_eq_false_iff_not]

end eraseDups

/-- a comprehension `[f a b for a in l for b in g a]` repeats nothing when `f a b` determines `b` and a key of `a` -/
theorem nodup_flatMap_map {β γ κ : Type} (k : α → κ) (g : α → List β) (f : α → β → γ) (l : List α)
    (hl : (l.map k).Nodup) (hg : ∀ a ∈ l, (g a).Nodup)
    (hf : ∀ a b a' b', f a b = f a' b' → k a = k a' ∧ b = b') :
    (l.flatMap fun a => (g a).map (f a)).Nodup := by
  induction l with
  | nil => exact List.nodup_nil
  | cons a t ih =>
    rw [List.map_cons, List.nodup_cons] at hl
    rw [List.flatMap_cons, List.nodup_append]
    refine ⟨List.Pairwise.map _ (fun _ _ hab heq => hab (hf _ _ _ _ heq).2) (hg a List.mem_cons_self),
      ih hl.2 fun a' ha' => hg a' (List.mem_cons_of_mem _ ha'), ?_⟩
    rintro _ hx _ hy rfl
    obtain ⟨b, _, rfl⟩ := List.mem_map.1 hx
    obtain ⟨a', ha', hy'⟩ := List.mem_flatMap.1 hy
    obtain ⟨b', _, heq⟩ := List.mem_map.1 hy'
    exact hl.1 (List.mem_map.2 ⟨a', ha', (hf _ _ _ _ heq).1⟩)

theorem pairwise_mem {R : α → α → Prop} {l : List α} (hp : l.Pairwise R) {a b : α} (ha : a ∈ l) (hb : b ∈ l) :
    a = b ∨ R a b ∨ R b a := by
  induction l with
  | nil => simp at ha
  | cons e es ih =>
    rw [List.pairwise_cons] at hp
    grind

theorem perm_sum {l₁ l₂ : List α} (f : α → Int) (p : l₁.Perm l₂) : (l₁.map f).sum = (l₂.map f).sum := by
  induction p with
  | nil => rfl
  | cons _ _ ih => simp only [List.map_cons, List.sum_cons, ih]
  | swap => simp only [List.map_cons, List.sum_cons]; omega
  | trans _ _ ih1 ih2 => exact ih1.trans ih2

theorem sum_nonneg : ∀ {l : List Int}, (∀ x ∈ l, 0 ≤ x) → 0 ≤ l.sum
  | [], _ => Int.le_refl 0
  | a :: l, h => by
    rw [List.sum_cons]
    exact Int.add_nonneg (h a List.mem_cons_self) (sum_nonneg fun x hx => h x (List.mem_cons_of_mem _ hx))

/-! A list of known length is the list of its entries, and one of known least length begins with them: where a literal
`[a0, .., ak]` with unknown entries is wanted, unification unfolds `List.ofFn` at the numeral `n`. -/

theorem eq_ofFn_append_drop {l : List α} {n : Nat} (h : n ≤ l.length) :
    l = List.ofFn (fun i : Fin n => l[i.1]'(Nat.lt_of_lt_of_le i.2 h)) ++ l.drop n := by
  refine (List.take_append_drop n l).symm.trans (congrArg (· ++ l.drop n) ?_)
  apply List.ext_getElem
  · rw [List.length_take, List.length_ofFn, Nat.min_eq_left h]
  · intro i h1 h2
    rw [List.getElem_take, List.getElem_ofFn]

theorem eq_ofFn_of_length {l : List α} {n : Nat} (h : l.length = n) :
    l = List.ofFn (fun i : Fin n => l[i.1]'(h ▸ i.2)) := by
  subst h
  exact (List.ofFn_getElem (xs := l)).symm

theorem drop_length_take (l : List α) (n : Nat) : l.drop (l.take n).length = l.drop n := by
  rw [List.length_take]
  by_cases h : n ≤ l.length
  · rw [Nat.min_eq_left h]
  · rw [Nat.min_eq_right (by omega), List.drop_length, List.drop_eq_nil_of_le (by omega)]

/-- `l.foldl max 0`, the models' maximum of a list of naturals (0 for the empty one) -/
theorem foldl_max_spec (l : List Nat) : l.foldl max 0 ∈ 0 :: l ∧ ∀ b ∈ 0 :: l, b ≤ l.foldl max 0 :=
  (List.max?_eq_some_iff (xs := 0 :: l)).1 rfl

theorem le_foldl_max {l : List Nat} {x : Nat} (h : x ∈ l) : x ≤ l.foldl max 0 :=
  (foldl_max_spec l).2 x (List.mem_cons_of_mem _ h)

theorem foldl_max_le_iff {l : List Nat} {B : Nat} : l.foldl max 0 ≤ B ↔ ∀ x ∈ l, x ≤ B :=
  ⟨fun h _ hx => Nat.le_trans (le_foldl_max hx) h,
    fun h => (List.mem_cons.1 (foldl_max_spec l).1).elim (fun e => e.symm ▸ Nat.zero_le B) (h _)⟩

theorem foldl_max_mem {l : List Nat} (hl : l ≠ []) : l.foldl max 0 ∈ l := by
  obtain ⟨b, hb⟩ := List.exists_mem_of_ne_nil l hl
  refine (List.mem_cons.1 (foldl_max_spec l).1).elim (fun h => ?_) id
  have := le_foldl_max hb
  rw [h] at this ⊢
  exact Nat.le_zero.1 this ▸ hb

/-- the same maximum written as a right fold -/
theorem foldl_max_cons (a : Nat) (l : List Nat) : (a :: l).foldl max 0 = max a (l.foldl max 0) := by
  rw [List.foldl_cons, List.foldl_max, List.foldl_max (a := 0)]
  cases l.max? <;> simp

end Rig.Lists
