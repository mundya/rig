/-
Facts about the dict support of the translated Python functions (`Gen/PyFun.lean`: `pyDictGet`, `pyDictGetD`,
`pyDictSet`, `pyDictMod` on association lists); a dict built by a comprehension over distinct keys (`pyDictSet_keyed`);
`groupBy`: what `for x in l: d[key x].append(val x)` leaves in a `defaultdict(list)`.
-/
import RigModel.Gen.PyFun
import RigModel.Lemmas.Assoc
import RigModel.Lemmas.Lists

namespace Rig.PyDict
open Rig.Gen.PyFun

variable {κ α : Type} [BEq κ] [LawfulBEq κ]

omit [LawfulBEq κ] in
theorem pyDictSet_eq_upsert (d : List (κ × α)) (k : κ) (v : α) : pyDictSet d k v = Assoc.upsert d k fun _ => v := by
  induction d with
  | nil => rfl
  | cons hd t ih => obtain ⟨a, w⟩ := hd; rw [pyDictSet, Assoc.upsert, ih]

theorem lookup_pyDictSet (d : List (κ × α)) (k k' : κ) (v : α) :
    (pyDictSet d k v).lookup k' = if k' == k then some v else d.lookup k' := by
  rw [pyDictSet_eq_upsert, Assoc.lookup_upsert, BEq.comm]

theorem lookup_pyDictSet_self (d : List (κ × α)) (k : κ) (v : α) : (pyDictSet d k v).lookup k = some v := by
  rw [lookup_pyDictSet, if_pos (beq_self_eq_true k)]

theorem lookup_pyDictSet_ne (d : List (κ × α)) {k k' : κ} (v : α) (h : k' ≠ k) :
    (pyDictSet d k v).lookup k' = d.lookup k' := by
  rw [lookup_pyDictSet, if_neg (fun e => h (eq_of_beq e))]

/-- a new key goes to the end -/
theorem pyDictSet_of_lookup_none {d : List (κ × α)} {k : κ} {v : α} (h : d.lookup k = none) :
    pyDictSet d k v = d ++ [(k, v)] := by
  rw [pyDictSet_eq_upsert]; exact Assoc.upsert_of_lookup_none d k _ h

theorem keys_pyDictSet (d : List (κ × α)) (k : κ) (v : α) :
    (pyDictSet d k v).map (·.1) = if k ∈ d.map (·.1) then d.map (·.1) else d.map (·.1) ++ [k] := by
  rw [pyDictSet_eq_upsert]; exact Assoc.keys_upsert d k _

theorem getD_pyDictSet [DecidableEq κ] (d : List (κ × α)) (k k' : κ) (dflt v : α) :
    pyDictGetD (pyDictSet d k v) k' dflt = if k' = k then v else pyDictGetD d k' dflt := by
  unfold pyDictGetD
  rw [lookup_pyDictSet]
  by_cases h : k' = k
  · rw [if_pos (beq_iff_eq.2 h), if_pos h]; rfl
  · rw [if_neg (fun e => h (eq_of_beq e)), if_neg h]

theorem lookup_pyDictMod (d : List (κ × α)) (k k' : κ) (dflt : α) (f : α → α) :
    (pyDictMod d k dflt f).lookup k' = if k' == k then some (f ((d.lookup k).getD dflt)) else d.lookup k' :=
  lookup_pyDictSet ..

theorem pyDictGet_eq (d : List (κ × α)) (k : κ) :
    pyDictGet d k = match d.lookup k with | some v => Except.ok v | none => Except.error "KeyError" := rfl

theorem pyDictSet_keyed {β : Type} (f : κ → β) (c : κ) (v : β) : ∀ l : List κ, l.Nodup → c ∈ l →
    pyDictSet (l.map fun c' => (c', f c')) c v = l.map fun c' => (c', if c' == c then v else f c')
  | a :: t, hn, hc => by
    rw [List.map_cons, List.map_cons, pyDictSet]
    by_cases h : a = c
    · subst h
      rw [if_pos (beq_self_eq_true a), if_pos (beq_self_eq_true a)]
      exact congrArg _ (List.map_congr_left fun x hx => by
        rw [if_neg (fun e => (List.nodup_cons.1 hn).1 ((eq_of_beq e : x = a) ▸ hx))])
    · rw [if_neg (fun e => h (eq_of_beq e)), if_neg (fun e => h (eq_of_beq e)),
        pyDictSet_keyed f c v t (List.nodup_cons.1 hn).2 ((List.mem_cons.1 hc).resolve_left (Ne.symm h))]

/-- the dict of lists that `for x in l: d[key x].append(val x)` builds on a `defaultdict(list)`: keys in the order
of their first occurrence -/
def groupBy {ι β : Type} (key : ι → κ) (val : ι → β) (l : List ι) : List (κ × List β) :=
  (l.map key).eraseDups.map fun k => (k, (l.filter fun x => key x == k).map val)

theorem groupBy_snoc {ι β : Type} (key : ι → κ) (val : ι → β) (l : List ι) (x : ι) :
    groupBy key val (l ++ [x]) = pyDictMod (groupBy key val l) (key x) [] (· ++ [val x]) := by
  have hv : ∀ k, ((l ++ [x]).filter fun y => key y == k).map val =
      (l.filter fun y => key y == k).map val ++ if key x == k then [val x] else [] := fun k => by
    rw [List.filter_append, List.map_append, List.filter_cons]
    split <;> rfl
  unfold groupBy pyDictMod pyDictGetD
  rw [List.map_append, List.map_singleton, Lists.eraseDups_snoc, Assoc.lookup_map_self]
  simp only [List.mem_eraseDups]
  by_cases hx : key x ∈ l.map key
  · rw [if_pos hx, if_pos hx]
    rw [pyDictSet_keyed _ _ _ _ (Lists.nodup_eraseDups _) (List.mem_eraseDups.2 hx)]
    refine List.map_congr_left fun k _ => ?_
    rw [hv, BEq.comm]
    cases h : k == key x
    · exact congrArg _ (List.append_nil _)
    · rw [eq_of_beq h]; rfl
  · rw [if_neg hx, if_neg hx, pyDictSet_of_lookup_none (by rw [Assoc.lookup_map_self, if_neg (by rwa [List.mem_eraseDups])]),
      List.map_append, List.map_singleton, hv, if_pos (beq_self_eq_true _)]
    have e : (l.filter fun y => key y == key x) = [] :=
      List.filter_eq_nil_iff.2 fun y hy h => hx ((eq_of_beq h : key y = key x) ▸ List.mem_map_of_mem hy)
    rw [e]
    refine congrArg (· ++ _) (List.map_congr_left fun k hk => ?_)
    rw [hv, if_neg fun h => hx ((eq_of_beq h : key x = k) ▸ List.mem_eraseDups.1 hk), List.append_nil]

/-- the loop itself: `step` is the generated body -/
theorem foldl_groupBy {ι β : Type} (key : ι → κ) (val : ι → β) {step : List (κ × List β) → ι → List (κ × List β)}
    (h : ∀ d x, step d x = pyDictMod d (key x) [] (· ++ [val x])) :
    ∀ (l pre : List ι), l.foldl step (groupBy key val pre) = groupBy key val (pre ++ l)
  | [], pre => by rw [List.append_nil]; rfl
  | x :: t, pre => by
    rw [List.foldl_cons, h, ← groupBy_snoc, foldl_groupBy key val h t, List.append_assoc]; rfl

end Rig.PyDict
