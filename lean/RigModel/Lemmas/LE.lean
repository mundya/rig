/-
Little-endian byte strings, once for all towers: each model's own copy of the two functions is proved equal to `val` /
`bytes` where it is used.
-/

namespace Rig.LE

/-- the number a byte string stands for, lowest byte first -/
def val : List Nat → Nat
  | [] => 0
  | b :: l => b + 256 * val l

/-- the `w` lowest bytes of `v`, lowest first -/
def bytes : Nat → Nat → List Nat
  | 0, _ => []
  | w + 1, v => v % 256 :: bytes w (v / 256)

theorem length_bytes : ∀ (w v : Nat), (bytes w v).length = w
  | 0, _ => rfl
  | w + 1, v => congrArg (· + 1) (length_bytes w (v / 256))

theorem bytes_eq_map : ∀ (w v : Nat), bytes w v = (List.range w).map fun j => v / 256 ^ j % 256
  | 0, _ => rfl
  | w + 1, v => by
    rw [bytes, bytes_eq_map w, List.range_succ_eq_map, List.map_cons, List.map_map, Nat.pow_zero, Nat.div_one]
    exact congrArg _ (List.map_congr_left fun j _ => by
      rw [Function.comp_apply, Nat.pow_succ', Nat.div_div_eq_div_mul])

theorem bytes_two (v : Nat) : bytes 2 v = [v % 256, v / 256 % 256] := rfl

theorem bytes_four (v : Nat) : bytes 4 v = [v % 256, v / 256 % 256, v / 65536 % 256, v / 16777216 % 256] := by
  simp only [bytes, Nat.div_div_eq_div_mul]

theorem val_bytes : ∀ (w v : Nat), val (bytes w v) = v % 256 ^ w
  | 0, v => (Nat.mod_one v).symm
  | w + 1, v => by rw [bytes, val, val_bytes w, Nat.pow_succ', Nat.mod_mul]

theorem val_bytes_of_lt {w v : Nat} (h : v < 256 ^ w) : val (bytes w v) = v := by
  rw [val_bytes, Nat.mod_eq_of_lt h]

theorem bytes_val : ∀ (l : List Nat), (∀ b ∈ l, b < 256) → bytes l.length (val l) = l
  | [], _ => rfl
  | b :: l, h => by
    have hb := h b List.mem_cons_self
    rw [val, List.length_cons, bytes, Nat.add_mul_mod_self_left, Nat.mod_eq_of_lt hb, Nat.add_mul_div_left _ _ (by decide),
      Nat.div_eq_of_lt hb, Nat.zero_add, bytes_val l fun x hx => h x (List.mem_cons_of_mem _ hx)]

end Rig.LE
