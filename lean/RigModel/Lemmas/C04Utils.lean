/-
C04 - `utils.table_is_subset_of` / `expand_entries` / `get_common_xs` versus the
first-match semantics.
-/
import RigModel.Model.C04U
import RigModel.Lemmas.C04Brute

namespace Rig.C04

theorem getLsbD_ge (x : W) (i : Nat) (hi : ¬ i < 32) : x.getLsbD i = false :=
  BitVec.getLsbD_of_ge x i (Nat.le_of_not_lt hi)

theorem getLsbD_or_bitW (x : W) (b : Nat) {i : Nat} (hi : i < 32) :
    (x ||| bitW b).getLsbD i = (x.getLsbD i || decide (i = b)) := by
  rw [BitVec.getLsbD_or, bitW, getLsbD_bit b hi]

/-- key of the half of a split entry that fixes position `b` to `v` -/
theorem getLsbD_half (x : W) (b : Nat) (v : Bool) {i : Nat} (hi : i < 32) :
    (if v then x ||| bitW b else x).getLsbD i = (x.getLsbD i || (v && decide (i = b))) := by
  cases v
  · rw [Bool.false_and, Bool.or_false]; rfl
  · rw [if_pos rfl, getLsbD_or_bitW x b hi, Bool.true_and]

theorem xsOf_bit (I : W) (e : Entry) (i : Nat) :
    (xsOf I e).getLsbD i = (decide (i < 32) && !e.key.getLsbD i && !e.mask.getLsbD i && !I.getLsbD i) := by
  simp only [xsOf, BitVec.getLsbD_and, BitVec.getLsbD_not]
  by_cases hi : i < 32 <;> simp [hi]

theorem xsOf_true {I : W} {e : Entry} {i : Nat} (h : (xsOf I e).getLsbD i = true) :
    i < 32 ∧ e.key.getLsbD i = false ∧ e.mask.getLsbD i = false := by
  simp only [xsOf_bit, Bool.and_eq_true, decide_eq_true_eq, Bool.not_eq_true'] at h
  exact ⟨h.1.1.1, h.1.1.2, h.1.2⟩

theorem wf_bit {e : Entry} (h : e.key &&& ~~~e.mask = 0) {i : Nat} (hi : i < 32) :
    (e.key.getLsbD i && e.mask.getLsbD i) = e.key.getLsbD i := by
  have : (e.key &&& ~~~e.mask).getLsbD i = false := h ▸ BitVec.getLsbD_zero
  rw [BitVec.getLsbD_and, BitVec.getLsbD_not, decide_eq_true hi, Bool.true_and] at this
  revert this
  cases e.key.getLsbD i <;> cases e.mask.getLsbD i <;> decide

theorem commonXs_bit (T : List Entry) (i : Nat) (hi : i < 32) :
    (commonXs T).getLsbD i = !(T.any (fun e => e.key.getLsbD i) || T.any (fun e => e.mask.getLsbD i)) := by
  simp only [commonXs, BitVec.getLsbD_not, BitVec.getLsbD_or, foldl_or_bit, hi, decide_true, Bool.true_and,
    show (0 : W) = 0#32 from rfl, BitVec.getLsbD_zero, Bool.false_or]

theorem commonXs_mask {T : List Entry} {o : Entry} (ho : o ∈ T) {i : Nat} (hi : i < 32)
    (h : o.mask.getLsbD i = true) : (commonXs T).getLsbD i = false := by
  simp only [commonXs_bit T i hi, Bool.not_eq_false', Bool.or_eq_true, List.any_eq_true]
  exact Or.inr ⟨o, ho, h⟩

/-- where `expand_entry` visits an X that is not ignored it sets the mask bit (the key bit takes
both values); everything else is left alone -/
theorem expandGo_spec {I : W} {bs : List Nat} {e ee : Entry} (h : ee ∈ expandGo I bs e) :
    ee.route = e.route ∧ ee.sources = e.sources ∧ ∀ j, j < 32 →
      if (xsOf I e).getLsbD j = true ∧ j ∈ bs then ee.mask.getLsbD j = true
      else ee.key.getLsbD j = e.key.getLsbD j ∧ ee.mask.getLsbD j = e.mask.getLsbD j := by
  induction bs generalizing e with
  | nil =>
    cases List.mem_singleton.mp h
    exact ⟨rfl, rfl, fun j _ => by rw [if_neg fun h => nomatch h.2]; exact ⟨rfl, rfl⟩⟩
  | cons i rest ih =>
    rw [expandGo] at h
    by_cases hx : (xsOf I e).getLsbD i = true
    · rw [if_pos hx] at h
      obtain ⟨v, h⟩ : ∃ v : Bool, ee ∈ expandGo I rest
          ⟨e.route, if v then e.key ||| bitW i else e.key, e.mask ||| bitW i, e.sources⟩ :=
        (List.mem_append.mp h).elim (fun h => ⟨false, h⟩) fun h => ⟨true, h⟩
      obtain ⟨hr, hs, hb⟩ := ih h
      refine ⟨hr, hs, fun j hj => ?_⟩
      have hm := getLsbD_or_bitW e.mask i hj
      have hk := getLsbD_half e.key i v hj
      have hj := hb j hj
      by_cases hji : j = i
      · subst hji
        rw [decide_eq_true rfl, Bool.or_true] at hm
        rw [if_neg (by rw [xsOf_bit, hm]; simp)] at hj
        rw [if_pos ⟨hx, List.mem_cons_self⟩, hj.2, hm]
      · rw [decide_eq_false hji, Bool.or_false] at hm
        rw [decide_eq_false hji, Bool.and_false, Bool.or_false] at hk
        simpa only [xsOf_bit, hk, hm, List.mem_cons, hji, false_or] using hj
    · rw [if_neg hx] at h
      obtain ⟨hr, hs, hb⟩ := ih h
      refine ⟨hr, hs, fun j hj => ?_⟩
      by_cases hji : j = i
      · subst hji
        have hj := hb j hj
        rw [if_neg fun h => hx h.1] at hj ⊢
        exact hj
      · simpa only [List.mem_cons, hji, false_or] using hb j hj

theorem mem_bitsDown (j : Nat) (hj : j < 32) : j ∈ bitsDown := by
  simp [bitsDown, hj]

theorem expandEntry_noX (I : W) {e ee : Entry} (h : ee ∈ expandEntry I e) {j : Nat} (hj : j < 32) :
    (xsOf I ee).getLsbD j = false := by
  have := (expandGo_spec h).2.2 j hj
  split at this
  · rw [xsOf_bit, this]; simp
  · rename_i hc
    rw [xsOf_bit, this.1, this.2, ← xsOf_bit]
    exact Bool.eq_false_iff.mpr fun hx => hc ⟨hx, mem_bitsDown j hj⟩

theorem expandGo_matches_key {I : W} {bs : List Nat} {e ee : Entry} (h : ee ∈ expandGo I bs e)
    (hw : e.key &&& ~~~e.mask = 0) : e.matches ee.key = true := by
  refine matches_iff_bits.mpr fun j hj => ?_
  have := (expandGo_spec h).2.2 j hj
  split at this
  · rename_i hc
    obtain ⟨_, hk, hm⟩ := xsOf_true hc.1
    rw [hk, hm, Bool.and_false]
  · rw [this.1, wf_bit hw hj]

theorem expandGo_covers (I : W) (bs : List Nat) (e : Entry) (k : W) (hm : e.matches k = true) :
    ∃ ee ∈ expandGo I bs e, ee.matches k = true := by
  induction bs generalizing e with
  | nil => exact ⟨e, List.mem_singleton.mpr rfl, hm⟩
  | cons i rest ih =>
    rw [expandGo]
    by_cases hx : (xsOf I e).getLsbD i = true
    · obtain ⟨_, hk, hmk⟩ := xsOf_true hx
      -- the half that fixes position `i` to the key's bit there
      obtain ⟨ee, h1, h2⟩ := ih ⟨e.route, if k.getLsbD i then e.key ||| bitW i else e.key, e.mask ||| bitW i,
        e.sources⟩ (matches_iff_bits.mpr fun j hj => by
          have := matches_iff_bits.mp hm j hj
          show (_ && (e.mask ||| bitW i).getLsbD j) = (if k.getLsbD i then e.key ||| bitW i else e.key).getLsbD j
          rw [getLsbD_or_bitW _ _ hj, getLsbD_half _ _ _ hj]
          by_cases hji : j = i
          · subst hji; simp [hk, hmk]
          · simp [hji, this])
      rw [if_pos hx]
      cases hb : k.getLsbD i <;> rw [hb] at h1
      · exact ⟨ee, List.mem_append_left _ h1, h2⟩
      · exact ⟨ee, List.mem_append_right _ h1, h2⟩
    · rw [if_neg hx]; exact ih e hm

theorem dedupKeys_subset (L : List Entry) (seen : List W) : ∀ e ∈ dedupKeys L seen, e ∈ L := by
  induction L generalizing seen with
  | nil => exact fun _ he => he
  | cons x r ih =>
    intro e he
    rw [dedupKeys] at he
    split at he
    · exact List.mem_cons_of_mem _ (ih _ e he)
    · exact (List.mem_cons.mp he).elim (· ▸ List.mem_cons_self) fun he => List.mem_cons_of_mem _ (ih _ e he)

theorem dedupKeys_keeps (L : List Entry) (seen : List W) (e : Entry) (he : e ∈ L) :
    e.key ∈ seen ∨ ∃ e' ∈ dedupKeys L seen, e'.key = e.key := by
  fun_induction dedupKeys L seen with
  | case1 => cases he
  | case2 x r seen hs ih =>
    rcases List.mem_cons.mp he with rfl | her
    · left; simpa using hs
    · exact ih her
  | case3 x r seen hs ih =>
    rcases List.mem_cons.mp he with rfl | her
    · right; exact ⟨e, by simp, rfl⟩
    · rcases ih her with h | ⟨e', h1, h2⟩
      · rcases List.mem_cons.mp h with h | h
        · right; exact ⟨x, by simp, h.symm⟩
        · left; exact h
      · right; exact ⟨e', List.mem_cons_of_mem _ h1, h2⟩

/-! ### the inner loop is a first-match lookup of the representative key -/

theorem subsetDefaultRouted_congr {e e' : Entry} (h1 : e'.route = e.route) (h2 : e'.sources = e.sources) :
    subsetDefaultRouted e' = subsetDefaultRouted e := by
  simp only [subsetDefaultRouted, h1, h2]

theorem subsetDefaultRouted_iff (e : Entry) : subsetDefaultRouted e = true ↔ DefaultRouted e := by
  constructor
  · intro h
    rw [subsetDefaultRouted] at h
    split at h
    · rename_i sink source hr hs
      simp only [Bool.and_eq_true, decide_eq_true_eq, beq_iff_eq] at h
      obtain ⟨⟨_, h1⟩, rfl⟩ := h
      have : ∀ s, s < 6 → s = ((s + 3) % 6 + 3) % 6 := by decide
      exact ⟨_, Nat.mod_lt _ (by decide), single_some hs, (single_some hr).trans (congrArg _ (this sink h1))⟩
    · cases h
  · rintro ⟨l, hl, hs, hr⟩
    -- only route and sources are read: evaluate the six default routes on a dummy entry
    have : ∀ l, l < 6 → subsetDefaultRouted ⟨2 ^ ((l + 3) % 6), 0, 0, 2 ^ l⟩ = true := by decide +kernel
    refine Eq.trans ?_ (this l hl)
    exact subsetDefaultRouted_congr hr hs

/-- what the inner loop establishes for one expanded entry, on its representative key (its own
`key`) -/
def RepOk (b : List Entry) (ee : Entry) : Prop :=
  (∃ o, lookup b ee.key = some o ∧ o.route = ee.route) ∨ (lookup b ee.key = none ∧ DefaultRouted ee)

theorem subsetCheckOne_iff (ee : Entry) (b : List Entry) : subsetCheckOne ee b = true ↔ RepOk b ee := by
  induction b with
  | nil =>
    exact (subsetDefaultRouted_iff ee).trans
      ⟨fun h => Or.inr ⟨rfl, h⟩, fun h => h.elim (fun ⟨_, h, _⟩ => nomatch h) (·.2)⟩
  | cons o rest ih =>
    rw [subsetCheckOne, BitVec.and_comm, RepOk, lookup_cons]
    change (if o.matches ee.key = true then _ else _) = true ↔ _
    by_cases h : o.matches ee.key = true
    · rw [if_pos h, if_pos h, beq_iff_eq]
      exact ⟨fun hr => Or.inl ⟨o, rfl, hr⟩,
        fun hr => hr.elim (fun ⟨_, h1, h2⟩ => Option.some.inj h1 ▸ h2) fun h => nomatch h.1⟩
    · rw [if_neg h, if_neg h]; exact ih

theorem repOk_congr {b : List Entry} {ee e : Entry} {k : W} (hr : ee.route = e.route)
    (hs : ee.sources = e.sources) (hk : lookup b ee.key = lookup b k) :
    RepOk b ee ↔ (∃ o, lookup b k = some o ∧ o.route = e.route) ∨ (lookup b k = none ∧ DefaultRouted e) := by
  rw [RepOk, DefaultRouted, DefaultRouted, hk, hr, hs]

theorem mem_expandEntries {a : List Entry} {I : W} {ee : Entry} (h : ee ∈ expandEntries a (some I)) :
    ∃ e ∈ a, ee ∈ expandEntry I e :=
  List.mem_flatMap.mp (dedupKeys_subset _ _ ee h)

/-- `k` and `ee.key` can differ only at common Xs of `b` -/
theorem lookup_rep {b : List Entry} {ee : Entry} {k : W}
    (hx : ∀ j, j < 32 → (xsOf (commonXs b) ee).getLsbD j = false) (hm : ee.matches k = true) :
    lookup b ee.key = lookup b k := by
  refine lookup_congr fun o ho => matches_congr fun j hom => ?_
  have hj := BitVec.lt_of_getLsbD hom
  have hxj := hx j hj
  have hkj := matches_iff_bits.mp hm j hj
  rw [xsOf_bit, commonXs_mask ho hj hom, decide_eq_true hj] at hxj
  revert hxj hkj
  cases ee.key.getLsbD j <;> cases ee.mask.getLsbD j <;> cases k.getLsbD j <;> decide

theorem routeEquiv_routeSame {T T' : List Entry} (h : RouteEquiv T T') : RouteSame T T' :=
  fun k e he => (h k e he).imp (fun ⟨e', h1, h2, _⟩ => ⟨e', h1, h2⟩) id

/-- every source direction listed: 24 `Routes` and `None` -/
def fullSources (b : List Entry) : List Entry := b.map (fun e => { e with sources := 2 ^ 25 - 1 })

theorem lookup_fullSources (b : List Entry) (k : W) :
    lookup (fullSources b) k = (lookup b k).map (fun e => { e with sources := 2 ^ 25 - 1 }) :=
  List.find?_map

theorem bitSubset_full {s : Nat} (h : s < 2 ^ 25) : bitSubset s (2 ^ 25 - 1) = true := by
  rw [bitSubset, beq_iff_eq, Nat.and_two_pow_sub_one_eq_mod, Nat.mod_eq_of_lt h]

end Rig.C04
