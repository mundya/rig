/-
`send_signal` / `count_cores_in_state` / `wait_for_cores_to_reach_state` (Model/C09Sig.lean) against the
machine specification.
-/
import RigModel.Lemmas.C09Loop
import RigModel.Lemmas.ExceptSat

namespace Rig.C09Sig
open Rig.C09 Rig.Gen.LoadSig

theorem resolve_sat (enum : List (String × Nat)) (a : Arg) :
    Except.Sat (· = .valueError) (fun v => ∃ s, (s, v) ∈ enum ∧ (a = .name s ∨ a = .val v)) (resolve enum a) := by
  fun_cases resolve enum a with
  | case1 s e he =>
    exact ⟨e.1, List.mem_of_find?_eq_some he, .inl (congrArg Arg.name (eq_of_beq (List.find?_some (p := fun e : String × Nat => e.1 == s) he)).symm)⟩
  | case2 => rfl
  | case3 n hany =>
    obtain ⟨e, he, hv⟩ := List.any_eq_true.mp hany
    exact ⟨e.1, eq_of_beq hv ▸ he, .inr rfl⟩
  | case4 => rfl

/-- every state of the enumeration fits the 4-bit state field of the count request -/
theorem appStates_lt : ∀ e ∈ appStates, e.2 < 16 := by decide

theorem resolve_states_lt {a : Arg} {st : Nat} (h : resolve appStates a = .ok st) : st < 16 :=
  ((resolve_sat ..).ok h).elim fun _ hs => appStates_lt _ hs.1

theorem cnt_cons (mc : MCfg) (core : Nat → Nat → Nat → Core) (st : Nat) (sts : List Nat) (appId : Nat) :
    cnt mc core (st :: sts) appId = cnt1 mc core st appId + cnt mc core sts appId := rfl

theorem countOne_ok (mc : MCfg) (s : Sim) (a : Arg) (st appId : Nat) (ha : appId < 256)
    (hr : resolve appStates a = .ok st) :
    countOne mc s a appId =
      ({ s with trace := (countReq st appId, Reply.count (cnt1 mc s.m.core st appId)) :: s.trace },
       .ok (cnt1 mc s.m.core st appId)) := by
  simp only [countOne, hr, send_countReq mc s st appId (resolve_states_lt hr) ha]

theorem countOne_err (mc : MCfg) (s : Sim) (a : Arg) (appId : Nat) (e : Err)
    (hr : resolve appStates a = .error e) : countOne mc s a appId = (s, .error e) := by
  simp only [countOne, hr]

/-- the trace entries the polls of the states `sts` add (newest first) -/
def countEntries (mc : MCfg) (core : Nat → Nat → Nat → Core) (sts : List Nat) (appId : Nat) : List (Req × Reply) :=
  (sts.map fun st => (countReq st appId, Reply.count (cnt1 mc core st appId))).reverse

theorem countMany_append (mc : MCfg) (appId : Nat) (ha : appId < 256) {pre : List Arg} {sts : List Nat}
    (h : List.Forall₂ (fun a st => resolve appStates a = .ok st) pre sts) (rest : List Arg) :
    ∀ (s : Sim) (acc : Nat), countMany mc appId s (pre ++ rest) acc =
      countMany mc appId { s with trace := countEntries mc s.m.core sts appId ++ s.trace } rest
        (acc + cnt mc s.m.core sts appId) := by
  induction h with
  | nil => exact fun _ _ => rfl
  | @cons a st l sts' hr _ ih =>
    intro s acc
    simp only [List.cons_append, countMany, countOne_ok mc s a st appId ha hr]
    rw [ih]
    simp only [cnt_cons, countEntries, List.map_cons, List.reverse_cons, List.append_assoc,
      List.singleton_append, Nat.add_assoc]

/-- the state argument resolves to the states `sts` (every listed state is a member of `AppState`) -/
inductive Resolved : StateArg → List Nat → Prop where
  | one (a : Arg) (st : Nat) : resolve appStates a = .ok st → Resolved (.one a) [st]
  | many (l : List Arg) (sts : List Nat) :
      List.Forall₂ (fun a st => resolve appStates a = .ok st) l sts → Resolved (.many l) sts

theorem countCores_ok (mc : MCfg) (s : Sim) (st : StateArg) (sts : List Nat) (appId : Nat) (ha : appId < 256)
    (hr : Resolved st sts) :
    countCores mc s st appId =
      ({ s with trace := countEntries mc s.m.core sts appId ++ s.trace }, .ok (cnt mc s.m.core sts appId)) := by
  cases hr with
  | one a st h => exact countOne_ok mc s a st appId ha h
  | many l sts h =>
    have := countMany_append mc appId ha h [] s 0
    rw [List.append_nil, Nat.zero_add] at this
    exact this

theorem coresAt_succ (env : Env) (core : Nat → Nat → Nat → Core) (k : Nat) :
    coresAt env core (k + 1) = env.evolve k (coresAt env core k) := rfl

theorem waitLoop_succ (mc : MCfg) (env : Env) {st : StateArg} {sts : List Nat} (target appId : Nat)
    (timeout : Option Nat) (ha : appId < 256) (hr : Resolved st sts) (fuel k : Nat) (s : Sim) :
    waitLoop mc env st target appId (timeout.map fun t => env.clock 0 + t) (fuel + 1) k s =
      if stops env.clock timeout target k (cnt mc s.m.core sts appId) then
        ({ s with trace := countEntries mc s.m.core sts appId ++ s.trace }, .done (cnt mc s.m.core sts appId), k)
      else waitLoop mc env st target appId (timeout.map fun t => env.clock 0 + t) fuel (k + 1)
        (sleep env k { s with trace := countEntries mc s.m.core sts appId ++ s.trace }) := by
  rw [waitLoop, countCores_ok mc s st sts appId ha hr]
  by_cases hge : target ≤ cnt mc s.m.core sts appId
  · simp only [stops, ge_iff_le, hge, if_true, decide_true, Bool.true_or]
  · cases timeout with
    | none => simp only [stops, ge_iff_le, hge, if_false, Option.map_none, decide_false, Bool.or_false, Bool.false_eq_true]
    | some t => simp only [stops, ge_iff_le, hge, if_false, Option.map_some, decide_false, Bool.false_or, decide_eq_true_eq]

/-- the stopping condition at poll `i` of the run that starts from the cores `core0` -/
abbrev stopsAt (mc : MCfg) (env : Env) (sts : List Nat) (target appId : Nat) (timeout : Option Nat)
    (core0 : Nat → Nat → Nat → Core) (i : Nat) : Bool :=
  stops env.clock timeout target i (cnt mc (coresAt env core0 i) sts appId)

/-- from poll `k` with `fuel` polls left: the loop returns at the first poll that stops, in the machine state of that
poll; or no poll within the fuel stops -/
theorem waitLoop_spec (mc : MCfg) (env : Env) {st : StateArg} {sts : List Nat} (target appId : Nat)
    (timeout : Option Nat) (ha : appId < 256) (hr : Resolved st sts) (core0 : Nat → Nat → Nat → Core) :
    ∀ (fuel k : Nat) (s : Sim), s.m.core = coresAt env core0 k →
      (∃ j, j < k + fuel ∧ stopsAt mc env sts target appId timeout core0 j = true ∧
        (∀ i, k ≤ i → i < j → stopsAt mc env sts target appId timeout core0 i = false) ∧
        (waitLoop mc env st target appId (timeout.map fun t => env.clock 0 + t) fuel k s).2 =
          (.done (cnt mc (coresAt env core0 j) sts appId), j) ∧
        (waitLoop mc env st target appId (timeout.map fun t => env.clock 0 + t) fuel k s).1.m.core =
          coresAt env core0 j) ∨
      (∀ i, k ≤ i → i < k + fuel → stopsAt mc env sts target appId timeout core0 i = false) ∧
        (waitLoop mc env st target appId (timeout.map fun t => env.clock 0 + t) fuel k s).2 = (.outOfFuel, k + fuel) := by
  intro fuel
  induction fuel with
  | zero => exact fun k s _ => .inr ⟨fun i h1 h2 => absurd h2 (Nat.not_lt.mpr h1), rfl⟩
  | succ fuel ih =>
    intro k s hs
    rw [waitLoop_succ mc env target appId timeout ha hr, hs]
    split
    · next h => exact .inl ⟨k, Nat.lt_add_of_pos_right (Nat.succ_pos fuel), h,
        fun i h1 h2 => absurd h2 (Nat.not_lt.mpr h1), rfl, hs⟩
    · next h =>
      have hk : ∀ i, k ≤ i → (k + 1 ≤ i → stopsAt mc env sts target appId timeout core0 i = false) →
          stopsAt mc env sts target appId timeout core0 i = false := fun i h1 h2 =>
        (Nat.eq_or_lt_of_le h1).elim (fun e => e ▸ Bool.eq_false_iff.mpr h) h2
      rcases ih (k + 1) (sleep env k { s with trace := countEntries mc (coresAt env core0 k) sts appId ++ s.trace })
        (by rw [sleep, hs]; rfl) with ⟨j, h2, hp, hb, ho⟩ | ⟨hno, ho⟩
      · exact .inl ⟨j, Nat.add_right_comm k 1 fuel ▸ h2, hp,
          fun i hi hij => hk i hi fun h => hb i h hij, ho⟩
      · exact .inr ⟨fun i hi hij => hk i hi fun h => hno i h (Nat.add_right_comm k 1 fuel ▸ hij),
          by rw [ho, Nat.add_right_comm]; rfl⟩

end Rig.C09Sig
