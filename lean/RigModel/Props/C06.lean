/-
C06 - SCP bursts complete each command exactly once despite loss and reordering.

Property theorems about the model `RigModel.Model.C06` of `SCPConnection.send_scp_burst`.
All theorems hold for EVERY clock function and EVERY list of batches (the environment);
`l : List Int` are the per-command extra timeouts, the burst has `l.length` commands.
`window_bound`, `window_bound_fill`, `seqs_distinct` are about `Reach`, the others about `run`; no lemma ties the two.
Termination is proved under explicit hypotheses about the operating system (`Progress`, `ProgressWeak`).
`read_through_burst` / `write_through_burst` compose with C07: `SCPConnection.read` / `write` as bursts of C07's
chunks.
-/
import RigModel.Lemmas.C06Term
import RigModel.Props.C07

namespace Rig.C06
open Rig.Gen.Scp

/-- the generated protocol constants are the documented ones: ok = 0x80, retryable =
{checksum 0x82, p2p busy 0x8d}, every other known code is fatal, 16-bit sequence numbers -/
theorem consts_documented :
    rcOk = 0x80 ∧ retryable = [0x82, 0x8d] ∧ seqMask = 0xffff ∧
    (∀ c ∈ allCodes, c = rcOk ∨ c ∈ retryable ∨ c ∈ fatalCodes) ∧
    (∀ c ∈ fatalCodes, c ≠ rcOk ∧ c ∉ retryable) := by
  decide +kernel

variable {cfg : Cfg} {l : List Int} {clock : Nat → Int}

/-- **Window.** At the start of every loop iteration at most `window` packets are outstanding. -/
theorem window_bound {st : St} (h : WF cfg) (hr : Reach cfg l clock st) :
    st.outs.length ≤ cfg.window := by
  obtain ⟨s0, H, hH⟩ := reach_inv h hr
  exact hH.win

/-- **Window, fullest point.** Also right after the transmit loop (the fullest point inside an
iteration) at most `window` packets are outstanding. -/
theorem window_bound_fill {st : St} (h : WF cfg) (hr : Reach cfg l clock st) :
    (fill cfg (ext l) clock (cfg.window + 1) st).1.outs.length ≤ cfg.window := by
  obtain ⟨s0, H, hH⟩ := reach_inv h hr
  exact (fill_inv h (cfg.window + 1) st H hH).win

/-- **Distinct sequence numbers.** No two unanswered commands share a sequence number. -/
theorem seqs_distinct {st : St} (h : WF cfg) (hr : Reach cfg l clock st) :
    (st.outs.map (·.1)).Nodup := by
  obtain ⟨s0, H, hH⟩ := reach_inv h hr
  exact hH.keys

section run
variable {s0 : Nat} {batches : List (List Dgram)} {st : St} {evs : List Ev} {res : Res}

/-- **At most once.** No command's callback is called twice. -/
theorem callback_at_most_once (h : WF cfg)
    (hrun : run cfg (ext l) clock (St.init s0) batches = (st, evs, res)) :
    (calledOf evs).Nodup :=
  (List.nodup_append.mp (List.nodup_append.mp (run_top h hrun).1.nodup).1).1

/-- **At least once on success.** If the burst returns normally, the callback of every command
was called (with `callback_at_most_once`: exactly once). -/
theorem done_all_called (h : WF cfg)
    (hrun : run cfg (ext l) clock (St.init s0) batches = (st, evs, res)) :
    res = .done → ∀ c, c < l.length → c ∈ calledOf evs := by
  intro hd c hc
  subst hd
  obtain ⟨hI, hact⟩ := run_top h hrun
  obtain ⟨hq, ho, hp⟩ := (not_active_iff st).mp hact
  have := (hI.cover c).mpr (by rw [hI.drained hq]; exact hc)
  simpa [cmds, ho, hp] using this

/-- **Own sequence number, OK reply.** A callback is only called with a datagram that occurs
in one of the given batches (`batches.flatten`, read or not), has return code OK, and carries the sequence number the command was
(first) sent with. -/
theorem callback_own_seq (h : WF cfg)
    (hrun : run cfg (ext l) clock (St.init s0) batches = (st, evs, res)) {c i : Nat} :
    Ev.callback c i ∈ evs →
    ∃ d ∈ batches.flatten, d.id = i ∧ d.rc = rcOk ∧ ∃ t, Ev.send d.seq c 1 t ∈ evs :=
  (run_top h hrun).1.cb_ok c i

/-- **Retransmissions reuse the sequence number.** All transmissions of one command carry the same
sequence number. -/
theorem seq_fixed (h : WF cfg)
    (hrun : run cfg (ext l) clock (St.init s0) batches = (st, evs, res))
    {s s' c k k' : Nat} {t t' : Int} :
    Ev.send s c k t ∈ evs → Ev.send s' c k' t' ∈ evs → s = s' :=
  fun h1 h2 => (run_top h hrun).1.seq_fix _ _ _ _ _ _ _ h1 h2

/-- **Tries bound.** Every transmission is try number `1 ≤ k ≤ n_tries` of a command of the burst. -/
theorem tries_bound (h : WF cfg)
    (hrun : run cfg (ext l) clock (St.init s0) batches = (st, evs, res))
    {s c k : Nat} {t : Int} :
    Ev.send s c k t ∈ evs → 1 ≤ k ∧ k ≤ cfg.nTries ∧ c < l.length := by
  intro hm
  have hI := (run_top h hrun).1
  have := hI.send_ok _ _ _ _ hm
  exact ⟨this.1, this.2.1, Nat.lt_of_lt_of_le this.2.2 hI.next_le⟩

/-- **Tries are counted.** The (command, try) pairs of all transmissions are distinct, so the try
number really counts the transmissions of a command. -/
theorem sends_numbered (h : WF cfg)
    (hrun : run cfg (ext l) clock (St.init s0) batches = (st, evs, res)) :
    (sendKeys evs).Nodup :=
  (run_top h hrun).1.keys_nodup

/-- **Bounded work.** A burst transmits at most `n_commands * n_tries` packets (the progress half
of termination). -/
theorem send_bound (h : WF cfg)
    (hrun : run cfg (ext l) clock (St.init s0) batches = (st, evs, res)) :
    (sendKeys evs).length ≤ l.length * cfg.nTries :=
  (run_top h hrun).1.send_bound

/-- **Timeout only after all tries.** If the burst raises `TimeoutError` for command `c`, then `c`
was transmitted `n_tries` times (try number `n_tries` exists; with `sends_numbered` and
`tries_bound`: exactly `n_tries` times), its callback was not called and no reply to it was
accepted. -/
theorem timeout_only_after_all_tries (h : WF cfg)
    (hrun : run cfg (ext l) clock (St.init s0) batches = (st, evs, res)) {c : Nat} :
    res = .timeout c →
    (∃ s t, Ev.send s c cfg.nTries t ∈ evs) ∧ c ∉ calledOf evs ∧ (∀ i, (c, i) ∉ st.pend) := by
  intro hres
  subst hres
  obtain ⟨hI, s, o, hm, rfl, hge⟩ := run_top h hrun
  have ho := hI.out_ok s o hm
  obtain ⟨t, ht, _⟩ := ho.last
  rw [Nat.le_antisymm ho.tries_le hge] at ht
  exact ⟨⟨s, t, ht⟩, hI.cmd_of_out hm⟩

/-- **No early retransmission.** Try `k + 2` of a command happens strictly later than its try
`k + 1` plus the command's timeout (default timeout + per-command extra), with the same sequence
number. -/
theorem no_early_retransmit (h : WF cfg)
    (hrun : run cfg (ext l) clock (St.init s0) batches = (st, evs, res))
    {s c k : Nat} {t : Int} :
    Ev.send s c (k + 2) t ∈ evs →
    ∃ t0, Ev.send s c (k + 1) t0 ∈ evs ∧ t0 + (cfg.defaultTimeout + (l[c]?).getD 0) < t :=
  fun hm => (run_top h hrun).1.spacing _ _ _ _ hm

/-- **Fatal codes are reported (converse).** If the burst raises `FatalReturnCodeError rc`, a
datagram with that return code occurs in the given batches (`batches.flatten`), and the code is neither OK nor retryable. -/
theorem fatal_only_from_reply (h : WF cfg)
    (hrun : run cfg (ext l) clock (St.init s0) batches = (st, evs, res)) {rc : Nat} {c : Option Nat} :
    res = .fatal rc c → ∃ d ∈ batches.flatten, d.rc = rc ∧ rc ≠ rcOk ∧ rc ∉ retryable := by
  intro hres
  subst hres
  exact (run_top h hrun).2

/-- **Distinct commands, distinct sequence numbers.** In a burst of at most `modulus` commands no
two commands are ever transmitted with the same sequence number. -/
theorem seq_injective (h : WF cfg) (hlen : l.length ≤ cfg.modulus)
    (hrun : run cfg (ext l) clock (St.init s0) batches = (st, evs, res))
    {s c c' k k' : Nat} {t t' : Int} :
    Ev.send s c k t ∈ evs → Ev.send s c' k' t' ∈ evs → c = c' := by
  intro h1 h2
  have hI := (run_top h hrun).1
  have e1 := hI.seq_val hlen _ _ _ _ h1
  have e2 := hI.seq_val hlen _ _ _ _ h2
  have hn := Nat.le_trans hI.next_le hlen
  exact seqVal_inj (Nat.lt_of_lt_of_le (hI.send_ok _ _ _ _ h1).2.2 hn)
    (Nat.lt_of_lt_of_le (hI.send_ok _ _ _ _ h2).2.2 hn) (by rw [← e1, ← e2])

/-- **Own reply, under freshness.** `origin` is ghost ground truth: the command of this burst whose
request caused the datagram with that id (`none`: caused by an earlier burst).  If every reply
carries its request's sequence number (`netOK`), the burst has at most `modulus` commands and no
stale datagram carries a sequence number used in this burst (`fresh`), then every callback is
called with a reply to its own command. -/
theorem callback_own_reply (h : WF cfg)
    (hrun : run cfg (ext l) clock (St.init s0) batches = (st, evs, res))
    (origin : Nat → Option Nat)
    (netOK : ∀ d ∈ batches.flatten, ∀ j, origin d.id = some j → ∃ t, Ev.send d.seq j 1 t ∈ evs)
    (hlen : l.length ≤ cfg.modulus)
    (fresh : ∀ d ∈ batches.flatten, origin d.id = none → ∀ c t, Ev.send d.seq c 1 t ∉ evs)
    {c i : Nat} : Ev.callback c i ∈ evs → origin i = some c := by
  intro hm
  obtain ⟨d, hd, rfl, _, t, ht⟩ := callback_own_seq h hrun hm
  cases ho : origin d.id with
  | none => exact absurd ht (fresh d hd ho c t)
  | some j =>
    obtain ⟨t', ht'⟩ := netOK d hd j ho
    rw [seq_injective h hlen hrun ht' ht]

end run

/-- **Retryable codes are ignored.** A datagram with a retryable return code changes nothing
(`rcOk ∉ retryable` by `consts_documented`). -/
theorem retryable_ignored (d : Dgram) (ds : List Dgram) (outs : List (Nat × Out)) (pend : List (Nat × Nat)) :
    d.rc ∈ retryable → recvAll (d :: ds) outs pend = recvAll ds outs pend := by
  intro hx
  have e1 : (d.rc != rcOk) = true := bne_iff_ne.mpr fun e => absurd (e ▸ hx) (by decide)
  simp only [recvAll, e1, List.contains_iff_mem.mpr hx, if_true]

/-- **Fatal codes raise.** If a batch contains a datagram `d` whose code is neither OK nor retryable and
every datagram before it is OK or retryable, the receive loop stops at `d` with
`FatalReturnCodeError d.rc`, reporting the command outstanding under `d.seq` at that point
(`outs'` is the outstanding table after the datagrams before `d`). -/
theorem fatal_raises (pre post : List Dgram) (d : Dgram) (outs : List (Nat × Out)) (pend : List (Nat × Nat))
    (hpre : ∀ x ∈ pre, x.rc = rcOk ∨ x.rc ∈ retryable) (h1 : d.rc ≠ rcOk) (h2 : d.rc ∉ retryable) :
    ∃ outs' pend', recvAll pre outs pend = .ok outs' pend' ∧
      recvAll (pre ++ d :: post) outs pend = .fatal d.rc ((lookupSeq outs' d.seq).map (·.cmd)) := by
  induction pre generalizing outs pend with
  | nil =>
    refine ⟨outs, pend, rfl, ?_⟩
    simp only [List.nil_append, recvAll, bne_iff_ne.mpr h1, mt List.contains_iff_mem.mp h2, if_true,
      Bool.false_eq_true, if_false]
  | cons x pre ih =>
    have hpre' : ∀ y ∈ pre, y.rc = rcOk ∨ y.rc ∈ retryable :=
      fun y hy => hpre y (List.mem_cons_of_mem _ hy)
    rcases hpre x (List.mem_cons_self ..) with hx | hx
    · -- an OK datagram may change the tables; the rest is the induction hypothesis
      simp only [List.cons_append, recvAll, hx, bne_self_eq_false, Bool.false_eq_true, if_false]
      split <;> exact ih _ _ hpre'
    · rw [List.cons_append, retryable_ignored _ _ _ _ hx, retryable_ignored _ _ _ _ hx]
      exact ih outs pend hpre'

/-- one iteration whose batch holds, after only OK or retryable replies, a datagram with a fatal return code ends
with `FatalReturnCodeError` of that code -/
theorem fatal_raises_iter (extra : Nat → Option Int) (st : St) (pre post : List Dgram) (d : Dgram)
    (hpre : ∀ x ∈ pre, x.rc = rcOk ∨ x.rc ∈ retryable) (h1 : d.rc ≠ rcOk) (h2 : d.rc ∉ retryable) :
    ∃ c, (iter cfg extra clock st (pre ++ d :: post)).2.2 = some (.fatal d.rc c) := by
  obtain ⟨outs', pend', _, hf⟩ := fatal_raises pre post d (atRecv cfg extra clock st).outs [] hpre h1 h2
  rw [iter_eq, hf]
  exact ⟨_, rfl⟩

/-- **Fatal codes raise (whole burst).** When such a batch is the current one and the loop is still
active, the burst ends with `FatalReturnCodeError d.rc`. -/
theorem fatal_raises_run (extra : Nat → Option Int) (st : St) (pre post : List Dgram) (d : Dgram)
    (bs : List (List Dgram)) (hact : st.active = true)
    (hpre : ∀ x ∈ pre, x.rc = rcOk ∨ x.rc ∈ retryable) (h1 : d.rc ≠ rcOk) (h2 : d.rc ∉ retryable) :
    ∃ c, (run cfg extra clock st ((pre ++ d :: post) :: bs)).2.2 = .fatal d.rc c := by
  obtain ⟨c, hc⟩ := fatal_raises_iter (cfg := cfg) (clock := clock) extra st pre post d hpre h1 h2
  rw [run, if_pos hact]
  rcases hi : iter cfg extra clock st (pre ++ d :: post) with ⟨st', evs, r⟩
  rw [hi] at hc
  cases hc
  exact ⟨c, rfl⟩

/-! `run` returns `.exhausted` when the script of batches ends before the loop does, so "the call
terminates" is: for a long enough script the result is not `.exhausted`.  This cannot hold for every
environment (a clock that stands still never lets a deadline pass); the hypotheses below say what
the operating system (`time.time`, `select`, the socket) must provide.  They are assumptions about
the OS, not facts about rig. -/

/-- **What the OS must provide**, for an environment given as a clock and a stream of batches
(`firstBatches env n` are the first `n` batches):
(a) the clock never goes backwards;
(b) whenever an iteration of the run receives no datagram, its final clock reading is strictly later
    than the earliest deadline of an outstanding packet (`select` returned by timeout), `timedOut`;
(c) the environment delivers at most `D` datagrams in total. -/
structure Progress (cfg : Cfg) (l : List Int) (clock : Nat → Int) (s0 : Nat) (env : Nat → List Dgram)
    (D : Nat) : Prop where
  mono : ∀ k, clock k ≤ clock (k + 1)
  select : ∀ n, alongRun cfg (ext l) clock (timedOut cfg (ext l) clock) (St.init s0) (firstBatches env n) = true
  finite : ∀ n, (firstBatches env n).flatten.length ≤ D

/-- the same with (b) as `select` really behaves (`timedOutWeak`): after a `select` without datagram
the final reading is not earlier than the earliest deadline, and strictly later than the reading
the timeout was computed from -/
structure ProgressWeak (cfg : Cfg) (l : List Int) (clock : Nat → Int) (s0 : Nat) (env : Nat → List Dgram)
    (D : Nat) : Prop where
  mono : ∀ k, clock k ≤ clock (k + 1)
  select : ∀ n, alongRun cfg (ext l) clock (timedOutWeak cfg (ext l) clock) (St.init s0) (firstBatches env n) = true
  finite : ∀ n, (firstBatches env n).flatten.length ≤ D

section termination
variable {s0 : Nat}

/-- **Termination, on a finite script.** If every iteration that receives no datagram ends with a
clock reading strictly later than an outstanding deadline, a script with at least
`commands * n_tries + datagrams + 1` batches is never exhausted: the burst ends with `done`,
`TimeoutError` or `FatalReturnCodeError`.  (The monotone clock is not needed for this form of (b).) -/
theorem terminates_on_script (h : WF cfg) {batches : List (List Dgram)}
    (hsel : alongRun cfg (ext l) clock (timedOut cfg (ext l) clock) (St.init s0) batches = true)
    (hlen : l.length * cfg.nTries + batches.flatten.length + 1 ≤ batches.length) :
    (run cfg (ext l) clock (St.init s0) batches).2.2 ≠ .exhausted := fun he =>
  Nat.not_succ_le_self _ (Nat.le_trans hlen
    ((run_terminates h (St.init s0) batches [] (Inv.init cfg l _ s0) hsel).2 he))

/-- **Iteration bound.** Under the same hypothesis the loop body runs at most
`commands * n_tries + datagrams + 1` times, however long the script is. -/
theorem iterations_bound (h : WF cfg) {batches : List (List Dgram)}
    (hsel : alongRun cfg (ext l) clock (timedOut cfg (ext l) clock) (St.init s0) batches = true) :
    iterations cfg (ext l) clock (St.init s0) batches ≤ l.length * cfg.nTries + batches.flatten.length + 1 :=
  (run_terminates h (St.init s0) batches [] (Inv.init cfg l _ s0) hsel).1

/-- **Termination under progress.** If the OS provides (a) a clock that never goes backwards, (b)
timed-out `select`s (strict form) and (c) at most `D` datagrams in total, then the burst of
`l.length` commands ends within `N = commands * n_tries + D + 1` loop iterations: on the first `N`
batches the result is `done`, `TimeoutError` or `FatalReturnCodeError` - never `exhausted` - and
every longer prefix of the environment gives exactly the same final state, events and result.
((a) is not used by this proof - (b) compares the final reading with the deadline directly; it is
needed by `terminates_under_select`.) -/
theorem terminates_under_progress (h : WF cfg) {env : Nat → List Dgram} {D : Nat}
    (hp : Progress cfg l clock s0 env D) :
    (let r := (run cfg (ext l) clock (St.init s0) (firstBatches env (l.length * cfg.nTries + D + 1))).2.2
     r = .done ∨ (∃ c, r = .timeout c) ∨ (∃ rc c, r = .fatal rc c)) ∧
    (∀ n, l.length * cfg.nTries + D + 1 ≤ n →
      run cfg (ext l) clock (St.init s0) (firstBatches env n) =
      run cfg (ext l) clock (St.init s0) (firstBatches env (l.length * cfg.nTries + D + 1))) ∧
    (∀ n, iterations cfg (ext l) clock (St.init s0) (firstBatches env n) ≤ l.length * cfg.nTries + D + 1) :=
  have hN := fun n => Nat.succ_le_succ (Nat.add_le_add_left (hp.finite n) (l.length * cfg.nTries))
  have ht := terminates_of (terminates_on_script h (hp.select _) (by rw [firstBatches_length]; exact hN _))
  ⟨ht.1, ht.2, fun n => Nat.le_trans (iterations_bound h (hp.select n)) (hN n)⟩

/-- **Termination, on a finite script, `select` as it really behaves.** With a clock that never goes
backwards, and every iteration without datagram ending with a reading that is not earlier than the
earliest deadline and strictly later than the reading taken before `select`, a script with at
least `2 * (commands * n_tries + datagrams + 1)` batches is never exhausted.  (A `select` that wakes
up exactly at the deadline does not retransmit - the code compares strictly - but the next
iteration does.) -/
theorem terminates_on_script_weak (h : WF cfg) (hm : ∀ k, clock k ≤ clock (k + 1))
    {batches : List (List Dgram)}
    (hsel : alongRun cfg (ext l) clock (timedOutWeak cfg (ext l) clock) (St.init s0) batches = true)
    (hlen : 2 * (l.length * cfg.nTries + batches.flatten.length + 1) ≤ batches.length) :
    (run cfg (ext l) clock (St.init s0) batches).2.2 ≠ .exhausted :=
  fun he => by
    have := Nat.le_trans (Nat.le_add_right ..)
      ((run_terminates_weak h hm (St.init s0) batches [] (Inv.init cfg l _ s0) hsel).2 he)
    rw [Nat.mul_add, Nat.mul_add] at hlen
    rw [Nat.add_right_comm] at this
    exact Nat.not_succ_le_self _ (Nat.le_trans hlen this)

/-- the iteration bound with a clock that never goes backwards and the selection hypothesis `timedOutWeak`:
twice (commands × `n_tries` + datagrams + 1) -/
theorem iterations_bound_weak (h : WF cfg) (hm : ∀ k, clock k ≤ clock (k + 1))
    {batches : List (List Dgram)}
    (hsel : alongRun cfg (ext l) clock (timedOutWeak cfg (ext l) clock) (St.init s0) batches = true) :
    iterations cfg (ext l) clock (St.init s0) batches ≤
      2 * (l.length * cfg.nTries + batches.flatten.length + 1) :=
  by
    have := Nat.le_trans (Nat.le_add_right ..)
      (run_terminates_weak h hm (St.init s0) batches [] (Inv.init cfg l _ s0) hsel).1
    rw [Nat.add_right_comm _ 1] at this
    rw [Nat.mul_add, Nat.mul_add]
    exact this

/-- **Termination under what `select` guarantees.** As `terminates_under_progress`, with (b) weakened
to `timedOutWeak`; here the monotone clock (a) is needed, and the bound doubles:
`N = 2 * (commands * n_tries + D + 1)` iterations. -/
theorem terminates_under_select (h : WF cfg) {env : Nat → List Dgram} {D : Nat}
    (hp : ProgressWeak cfg l clock s0 env D) :
    (let r := (run cfg (ext l) clock (St.init s0) (firstBatches env (2 * (l.length * cfg.nTries + D + 1)))).2.2
     r = .done ∨ (∃ c, r = .timeout c) ∨ (∃ rc c, r = .fatal rc c)) ∧
    (∀ n, 2 * (l.length * cfg.nTries + D + 1) ≤ n →
      run cfg (ext l) clock (St.init s0) (firstBatches env n) =
      run cfg (ext l) clock (St.init s0) (firstBatches env (2 * (l.length * cfg.nTries + D + 1)))) ∧
    (∀ n, iterations cfg (ext l) clock (St.init s0) (firstBatches env n) ≤
      2 * (l.length * cfg.nTries + D + 1)) :=
  have hN := fun n => Nat.mul_le_mul_left 2
    (Nat.succ_le_succ (Nat.add_le_add_left (hp.finite n) (l.length * cfg.nTries)))
  have ht := terminates_of
    (terminates_on_script_weak h hp.mono (hp.select _) (by rw [firstBatches_length]; exact hN _))
  ⟨ht.1, ht.2, fun n => Nat.le_trans (iterations_bound_weak h hp.mono (hp.select n)) (hN n)⟩

end termination

def stillCfg : Cfg := { window := 1, nTries := 1, modulus := 4, defaultTimeout := 1 }

/-- **The progress hypothesis cannot be dropped.** With a clock that stands still no deadline ever
passes: one command, no datagram, and the script is exhausted however long it is. -/
theorem no_termination_without_progress (n : Nat) :
    (run stillCfg (ext [0]) (fun _ => 0) (St.init 0) (List.replicate n [])).2.2 = .exhausted := by
  -- after the first iteration the window is full and only the count of clock readings changes
  have key : ∀ n k, (run stillCfg (ext [0]) (fun _ => 0) ⟨1, true, 1, k, [(0, ⟨0, 1, 1, 1⟩)], []⟩
      (List.replicate n [])).2.2 = .exhausted := by
    intro n
    induction n with
    | zero => exact fun _ => rfl
    | succ n ih => exact fun k => ih (k + 2)
  cases n with
  | zero => rfl
  | succ n => exact key n 3

section compose
variable {s0 : Nat} {batches : List (List Dgram)} {st : St} {evs : List Ev} {res : Res}

theorem callback_reply (h : WF cfg)
    (hrun : run cfg (ext l) clock (St.init s0) batches = (st, evs, res)) (origin : Nat → Option Nat)
    (netOK : ∀ d ∈ batches.flatten, ∀ j, origin d.id = some j → ∃ t, Ev.send d.seq j 1 t ∈ evs)
    (hlen : l.length ≤ cfg.modulus)
    (fresh : ∀ d ∈ batches.flatten, origin d.id = none → ∀ c t, Ev.send d.seq c 1 t ∉ evs)
    {c i : Nat} (hm : Ev.callback c i ∈ evs) :
    c < l.length ∧ ∃ d ∈ batches.flatten, d.id = i ∧ d.rc = rcOk ∧ origin d.id = some c := by
  obtain ⟨d, hd, hid, hrc, t, ht⟩ := callback_own_seq h hrun hm
  exact ⟨(tries_bound h hrun ht).2.2, d, hd, hid, hrc, hid ▸ callback_own_reply h hrun origin netOK hlen fresh hm⟩

/-- **Read through the burst (buffer form).** `chunks = C07.read buf addr len` are the commands of
`SCPConnection.read`.  For EVERY environment (clock, batches) and every window size: if every
callback is called with the bytes the machine holds for its chunk (`hcb`; `read_through_burst` has
this from its hypotheses about the network), then no callback's slice assignment fails - whatever
the outcome of the burst - and if the burst ends `done` the assembled receive buffer is exactly
`C07.readMem m addr len`, whatever the buffer held before. -/
theorem read_through_burst_buffer (h : WF cfg) {buf addr len : Nat} (hb : 0 < buf) (m : C07.Mem)
    (hrun : run cfg (ext (chunkTimeouts (C07.read buf addr len))) clock (St.init s0) batches = (st, evs, res))
    (payload : Nat → List Nat)
    (hcb : ∀ c i, Ev.callback c i ∈ evs →
      ∃ ch, (C07.read buf addr len)[c]? = some ch ∧ payload i = C07.readMem m ch.addr ch.size)
    (buffer0 : C07.Mem) :
    ∃ buffer, assembleRead (C07.read buf addr len) payload addr evs buffer0 = some buffer ∧
      (res = .done → C07.readMem buffer 0 len = C07.readMem m addr len) := by
  refine ⟨_, assembleRead_fold _ payload addr m evs buffer0 hcb, ?_⟩
  intro hdone
  apply C07.read_exact_any_order buf addr len m hb buffer0
  · intro ch hch
    obtain ⟨c, _, hget⟩ := List.mem_filterMap.mp hch
    exact List.mem_of_getElem? hget
  · intro ch hch
    obtain ⟨c, hc, rfl⟩ := List.getElem_of_mem hch
    exact List.mem_filterMap.mpr ⟨c, done_all_called h hrun hdone c (by rw [chunkTimeouts_length]; exact hc),
      List.getElem?_eq_getElem hc⟩

/-- **Read through the burst.** If each delivered OK datagram that answers command `j` of this burst
(`origin`, ghost ground truth as in `callback_own_reply`, with its `netOK` / `fresh` hypotheses and at
most `modulus` chunks) carries the bytes the machine holds for chunk `j` (`hpay`), `SCPConnection.read`
(`readThrough`) never fails with a callback's `ValueError`, and when the burst ends `done` it returns
exactly the bytes of memory `[addr, addr + len)` - for every environment and every window size. -/
theorem read_through_burst (h : WF cfg) {buf addr len : Nat} (hb : 0 < buf) (m : C07.Mem)
    (hrun : run cfg (ext (chunkTimeouts (C07.read buf addr len))) clock (St.init s0) batches = (st, evs, res))
    (origin : Nat → Option Nat) (payload : Nat → List Nat)
    (netOK : ∀ d ∈ batches.flatten, ∀ j, origin d.id = some j → ∃ t, Ev.send d.seq j 1 t ∈ evs)
    (hlen : (C07.read buf addr len).length ≤ cfg.modulus)
    (fresh : ∀ d ∈ batches.flatten, origin d.id = none → ∀ c t, Ev.send d.seq c 1 t ∉ evs)
    (hpay : ∀ d ∈ batches.flatten, d.rc = rcOk → ∀ j ch, origin d.id = some j →
      (C07.read buf addr len)[j]? = some ch → payload d.id = C07.readMem m ch.addr ch.size) :
    readThrough cfg clock s0 batches payload buf addr len ≠ .valueError ∧
    (res = .done → readThrough cfg clock s0 batches payload buf addr len = .ok (C07.readMem m addr len)) ∧
    (res ≠ .done → readThrough cfg clock s0 batches payload buf addr len = .burst res) := by
  obtain ⟨buffer, hasm, hdone⟩ := read_through_burst_buffer h hb m hrun payload (fun c i hm => by
    obtain ⟨hc, d, hd, rfl, hrc, ho⟩ :=
      callback_reply h hrun origin netOK (by rwa [chunkTimeouts_length]) fresh hm
    rw [chunkTimeouts_length] at hc
    exact ⟨_, List.getElem?_eq_getElem hc, hpay d hd hrc c _ ho (List.getElem?_eq_getElem hc)⟩)
    (fun _ => 0)
  unfold readThrough
  simp only [ext_chunkTimeouts, hrun, hasm]
  refine ⟨?_, ?_, ?_⟩
  · cases res <;> simp
  · intro hd; subst hd; simp only; rw [hdone rfl]
  · intro hnd; cases res <;> simp at hnd ⊢

/-- **Write through the burst.** `chunks = C07.write buf addr data` are the commands of
`SCPConnection.write`; `exec` lists (ghost) the command indexes whose request datagrams the machine
executed, in order.  For EVERY environment and every window size: if the machine executes only
requests that this burst transmitted (`hexec`; no other writer), and an OK datagram that answers
command `j` exists only if the machine executed `j` (`hreply`), then - under the `netOK` / `fresh`
hypotheses of `callback_own_reply` - when the burst ends `done` every chunk was executed at least
once, only chunks of this write were executed, and the machine's memory is exactly
`C07.writeMem m addr data`: `data` at `[addr, addr + len)`, every other byte unchanged - however
often and in whatever order the retransmitted requests were executed. -/
theorem write_through_burst (h : WF cfg) {buf addr : Nat} {data : List Nat} (hb : 0 < buf) (m : C07.Mem)
    (hrun : run cfg (ext (chunkTimeouts (C07.write buf addr data))) clock (St.init s0) batches = (st, evs, res))
    (origin : Nat → Option Nat)
    (netOK : ∀ d ∈ batches.flatten, ∀ j, origin d.id = some j → ∃ t, Ev.send d.seq j 1 t ∈ evs)
    (hlen : (C07.write buf addr data).length ≤ cfg.modulus)
    (fresh : ∀ d ∈ batches.flatten, origin d.id = none → ∀ c t, Ev.send d.seq c 1 t ∉ evs)
    (exec : List Nat)
    (hexec : ∀ j ∈ exec, ∃ s k t, Ev.send s j k t ∈ evs)
    (hreply : ∀ d ∈ batches.flatten, d.rc = rcOk → ∀ j, origin d.id = some j → j ∈ exec) :
    res = .done →
      (∀ j, j < (C07.write buf addr data).length → j ∈ exec) ∧
      (∀ j ∈ exec, j < (C07.write buf addr data).length) ∧
      memAfter (C07.write buf addr data) exec m = C07.writeMem m addr data := by
  intro hdone
  have hall : ∀ j, j < (C07.write buf addr data).length → j ∈ exec := by
    intro j hj
    obtain ⟨i, hi⟩ := mem_calledOf.mp
      (done_all_called h hrun hdone j (by rw [chunkTimeouts_length]; exact hj))
    obtain ⟨_, d, hd, rfl, hrc, ho⟩ :=
      callback_reply h hrun origin netOK (by rwa [chunkTimeouts_length]) fresh hi
    exact hreply d hd hrc j ho
  have hsub : ∀ j ∈ exec, j < (C07.write buf addr data).length := by
    intro j hj
    obtain ⟨s, k, t, hs⟩ := hexec j hj
    have := (tries_bound h hrun hs).2.2
    rwa [chunkTimeouts_length] at this
  refine ⟨hall, hsub, ?_⟩
  unfold memAfter
  apply C07.write_exact_any_order buf addr data m hb
  · intro w hw
    obtain ⟨j, _, hget⟩ := List.mem_filterMap.mp hw
    exact List.mem_of_getElem? hget
  · intro c hc
    obtain ⟨j, hj, rfl⟩ := List.getElem_of_mem hc
    exact List.mem_filterMap.mpr ⟨j, hall j hj, List.getElem?_eq_getElem hj⟩

set_option linter.unusedVariables false in
/-- **Write, whatever the outcome.** Whatever requests `exec` of this write the machine executed:
every byte of the machine's memory either still has its old value or
already has the value the complete write gives it; bytes outside `[addr, addr + len)` are unchanged. -/
theorem write_through_burst_partial (h : WF cfg) {buf addr : Nat} {data : List Nat} (hb : 0 < buf) (m : C07.Mem)
    (hrun : run cfg (ext (chunkTimeouts (C07.write buf addr data))) clock (St.init s0) batches = (st, evs, res))
    (exec : List Nat)
    (hexec : ∀ j ∈ exec, ∃ s k t, Ev.send s j k t ∈ evs) (a : Nat) :
    memAfter (C07.write buf addr data) exec m a = C07.writeMem m addr data a ∨
    memAfter (C07.write buf addr data) exec m a = m a := by
  unfold memAfter
  rw [C07.foldl_execWrite]
  have sp := C07.applyAll_tiled_part (C07.wcovers_tiled (C07.write_partition buf addr data hb)) m
    (exec.filterMap (fun j => (C07.write buf addr data)[j]?)) (fun w hw => by
      obtain ⟨j, _, hget⟩ := List.mem_filterMap.mp hw
      exact List.mem_of_getElem? hget) a
  exact (Classical.em _).imp sp.1 sp.2

end compose

/-- **`SCPConnection.read`, total.** Both results together: if the OS provides progress (`Progress`,
for the burst of the read's chunks) and the network/machine satisfy the hypotheses of
`read_through_burst` on the first `N = chunks * n_tries + D + 1` batches, then within `N` loop
iterations `read` either returns exactly the bytes of memory `[addr, addr + len)`, or raises
`TimeoutError` / `FatalReturnCodeError`; it never runs on and never fails in a callback. -/
theorem read_through_burst_total {cfg : Cfg} {clock : Nat → Int} {s0 : Nat} (h : WF cfg) {buf addr len : Nat}
    (hb : 0 < buf) (m : C07.Mem) {env : Nat → List Dgram} {D : Nat}
    (hp : Progress cfg (chunkTimeouts (C07.read buf addr len)) clock s0 env D)
    (origin : Nat → Option Nat) (payload : Nat → List Nat)
    (netOK : ∀ d ∈ (firstBatches env ((C07.read buf addr len).length * cfg.nTries + D + 1)).flatten,
      ∀ j, origin d.id = some j → ∃ t, Ev.send d.seq j 1 t ∈
        (run cfg (ext (chunkTimeouts (C07.read buf addr len))) clock (St.init s0)
          (firstBatches env ((C07.read buf addr len).length * cfg.nTries + D + 1))).2.1)
    (hlen : (C07.read buf addr len).length ≤ cfg.modulus)
    (fresh : ∀ d ∈ (firstBatches env ((C07.read buf addr len).length * cfg.nTries + D + 1)).flatten,
      origin d.id = none → ∀ c t, Ev.send d.seq c 1 t ∉
        (run cfg (ext (chunkTimeouts (C07.read buf addr len))) clock (St.init s0)
          (firstBatches env ((C07.read buf addr len).length * cfg.nTries + D + 1))).2.1)
    (hpay : ∀ d ∈ (firstBatches env ((C07.read buf addr len).length * cfg.nTries + D + 1)).flatten,
      d.rc = rcOk → ∀ j ch, origin d.id = some j →
      (C07.read buf addr len)[j]? = some ch → payload d.id = C07.readMem m ch.addr ch.size) :
    (let r := readThrough cfg clock s0
        (firstBatches env ((C07.read buf addr len).length * cfg.nTries + D + 1)) payload buf addr len
     r = .ok (C07.readMem m addr len) ∨ (∃ c, r = .burst (.timeout c)) ∨ (∃ rc c, r = .burst (.fatal rc c))) := by
  have ht := (terminates_under_progress h hp).1
  rw [chunkTimeouts_length] at ht
  have hr := read_through_burst h hb m rfl origin payload netOK hlen fresh hpay
  rcases ht with hd | ⟨c, hc⟩ | ⟨rc, c, hc⟩
  · exact Or.inl (hr.2.1 hd)
  · exact Or.inr (Or.inl ⟨c, by rw [hr.2.2 (by rw [hc]; nofun), hc]⟩)
  · exact Or.inr (Or.inr ⟨rc, c, by rw [hr.2.2 (by rw [hc]; nofun), hc]⟩)

/-- turns an evaluated `(run …).2 = (evs, res)` into the `run … = (st, evs, res)` the theorems ask for, the
state being whatever the run ends in -/
theorem eq_mk_of_snd {α β : Type} {p : α × β} {x : β} (h : p.2 = x) : p = (p.1, x) := h ▸ rfl

/-- for concrete event lists: by evaluation -/
theorem exists_send_of_any {evs : List Ev} {s c k : Nat}
    (h : evs.any (fun e => match e with
      | .send s' c' k' _ => s' == s && c' == c && k' == k | _ => false) = true) :
    ∃ t, Ev.send s c k t ∈ evs := by
  obtain ⟨e, he, h⟩ := List.any_eq_true.mp h
  cases e with
  | callback => cases h
  | send s' c' k' t =>
    simp only [Bool.and_eq_true, beq_iff_eq] at h
    obtain ⟨⟨rfl, rfl⟩, rfl⟩ := h
    exact ⟨t, he⟩

namespace Wrap
def cfgW : Cfg := { window := 1, nTries := 3, modulus := 4, defaultTimeout := 2 }
def lW : List Int := [0, 0, 0, 0, 0]
def clockW : Nat → Int := fun k => k
def okW (id seq : Nat) : Dgram := { id := id, rc := 128, seq := seq }
/-- replies to commands 0..3, then a duplicate (id 20) of the reply to command 0 -/
def batchesW : List (List Dgram) := [[okW 10 0], [okW 11 1], [okW 12 2], [okW 13 3], [okW 20 0], []]
/-- ground truth: datagram 10 + j answers command j (j < 4), datagram 20 answers command 0 -/
def originW : Nat → Option Nat := fun i => if i = 20 then some 0 else if i < 14 then some (i - 10) else none

theorem run_eq : (run cfgW (ext lW) clockW (St.init 0) batchesW).2 =
    ([.send 0 0 1 0, .send 1 1 1 3, .callback 0 10, .send 2 2 1 6, .callback 1 11, .send 3 3 1 9,
      .callback 2 12, .send 0 4 1 12, .callback 3 13, .callback 4 20], .done) := by decide +kernel
end Wrap

open Wrap in
/-- **Counterexample (sequence wrap).** Modulus 4, window 1, five commands: commands 0 and 4 both
get sequence number 0.  Every reply carries its request's sequence number (`netOK` holds), but a
duplicate of the reply to command 0 (id 20), delivered while command 4 is outstanding, is accepted
as the reply to command 4: its callback is called with a foreign reply and the burst returns
normally.  So `callback_own_reply` needs `l.length ≤ cfg.modulus`.  (With the real 16-bit sequence
numbers this takes 65,537 commands: the known finding `seq-wrap`.)  `fresh` holds here too: `originW` knows every
delivered id. -/
theorem own_reply_wrap_counterexample :
    ∃ (cfg : Cfg) (l : List Int) (clock : Nat → Int) (s0 : Nat) (batches : List (List Dgram))
      (origin : Nat → Option Nat) (st : St) (evs : List Ev) (res : Res),
      WF cfg ∧ l.length = cfg.modulus + 1 ∧
      run cfg (ext l) clock (St.init s0) batches = (st, evs, res) ∧ res = .done ∧
      (∀ d ∈ batches.flatten, ∀ j, origin d.id = some j → ∃ t, Ev.send d.seq j 1 t ∈ evs) ∧
      ∃ c i, Ev.callback c i ∈ evs ∧ origin i ≠ some c := by
  refine ⟨cfgW, lW, clockW, 0, batchesW, originW, _, _, _, by unfold WF; decide, rfl, eq_mk_of_snd run_eq, rfl,
    fun d hd j hj => ?_, 4, 20, by decide, by decide⟩
  have mem : ∀ d ∈ batchesW.flatten,
      d = okW 10 0 ∨ d = okW 11 1 ∨ d = okW 12 2 ∨ d = okW 13 3 ∨ d = okW 20 0 := by decide
  rcases mem d hd with rfl | rfl | rfl | rfl | rfl <;> cases hj <;> exact exists_send_of_any rfl

/-! non-vacuity: a concrete burst with loss, a retryable code, a duplicate reply,
retransmissions and callbacks satisfies the hypotheses and exercises every clause -/

namespace Example
def cfgX : Cfg := { window := 2, nTries := 3, modulus := 4, defaultTimeout := 2 }
def lX : List Int := [0, 1, 0]
def clockX : Nat → Int := fun k => k
def okD (id seq : Nat) : Dgram := { id := id, rc := 128, seq := seq }
/-- nothing; reply to command 0; a retryable code; reply to 1 and a duplicate reply to 0; reply to 2 -/
def batchesX : List (List Dgram) :=
  [[], [okD 10 1], [{ id := 11, rc := 130, seq := 2 }], [okD 12 2, okD 13 1], [okD 14 3], []]

example : WF cfgX := by unfold WF; decide

/-- three commands, window 2: commands 0, 1 and 2 are retransmitted (same sequence number, later
than the timeout), each callback is called exactly once with its own reply, the burst completes -/
example : (run cfgX (ext lX) clockX (St.init 1) batchesX).2 =
    ([.send 1 0 1 0, .send 2 1 1 1, .send 1 0 2 3, .send 2 1 2 5, .send 3 2 1 6, .callback 0 10,
      .send 3 2 2 10, .callback 1 12, .callback 2 14], .done) := by decide +kernel

/-- no reply at all: `n_tries` transmissions, then `TimeoutError` for command 0 -/
example : (run { cfgX with nTries := 2 } (ext [0]) (fun k => 2 * k) (St.init 1) [[], [], [], [], []]).2 =
    ([.send 1 0 1 0, .send 1 0 2 4], .timeout 0) := by decide +kernel

/-- a fatal code after an OK reply and a retryable one: `FatalReturnCodeError` -/
example : (run cfgX (ext lX) clockX (St.init 1)
    [[okD 10 1, { id := 11, rc := 130, seq := 2 }, { id := 12, rc := 131, seq := 2 }, okD 13 2]]).2.2 =
    .fatal 131 (some 1) := by decide +kernel

/-- a reachable state with a full window -/
example : ∃ st, Reach cfgX lX clockX st ∧ st.outs.length = cfgX.window :=
  ⟨_, Reach.step _ [] (Reach.init 1) (by decide) (by decide), by decide⟩

/-- a burst with loss, a retryable code, a duplicate reply and retransmissions, continued by empty
batches for ever, satisfies the progress hypotheses (a), (b) (strict form), (c) with 6 datagrams -/
example : Progress cfgX lX clockX 1 (scriptEnv batchesX) 6 :=
  have h := script_progress cfgX (ext lX) clockX (timedOut cfgX (ext lX) clockX) (St.init 1) batchesX
    (by decide +kernel) (by decide +kernel)
  ⟨fun k => Int.ofNat_le.mpr (Nat.le_succ k), fun n => (h n).1, fun n => Nat.le_trans (h n).2 (by decide)⟩

/-- a `select` that wakes up exactly at the deadline (clock reading 2 = deadline 0 + 2): the strict
form of (b) fails, the realistic one holds; the burst retransmits one iteration later and ends
with `TimeoutError` -/
example : alongRun { cfgX with nTries := 2 } (ext [0]) clockX (timedOut { cfgX with nTries := 2 } (ext [0]) clockX)
    (St.init 1) [[], [], [], []] = false := by decide +kernel
example : ProgressWeak { cfgX with nTries := 2 } [0] clockX 1 (scriptEnv [[], [], [], []]) 0 :=
  have h := script_progress { cfgX with nTries := 2 } (ext [0]) clockX
    (timedOutWeak { cfgX with nTries := 2 } (ext [0]) clockX) (St.init 1) [[], [], [], []]
    (by decide +kernel) (by decide +kernel)
  ⟨fun k => Int.ofNat_le.mpr (Nat.le_succ k), fun n => (h n).1, fun n => Nat.le_trans (h n).2 (by decide)⟩
example : (run { cfgX with nTries := 2 } (ext [0]) clockX (St.init 1) [[], [], [], []]).2 =
    ([.send 1 0 1 0, .send 1 0 2 4], .timeout 0) := by decide +kernel

/-- `batchesX` followed by a stale datagram of an earlier burst (id 15, sequence number 0, which
this burst does not use) -/
def batchesY : List (List Dgram) := batchesX ++ [[okD 15 0]]
/-- ground truth for `batchesY`: 10 and its duplicate 13 answer command 0, 11 (retryable code) and
12 answer command 1, 14 answers command 2, 15 is stale -/
def originY : Nat → Option Nat := fun i =>
  if i = 10 ∨ i = 13 then some 0 else if i = 11 ∨ i = 12 then some 1 else if i = 14 then some 2 else none

theorem runY_eq : (run cfgX (ext lX) clockX (St.init 1) batchesY).2.1 =
    [.send 1 0 1 0, .send 2 1 1 1, .send 1 0 2 3, .send 2 1 2 5, .send 3 2 1 6,
      .callback 0 10, .send 3 2 2 10, .callback 1 12, .callback 2 14] := by decide +kernel

/-- the hypotheses of `callback_own_reply` (`netOK`, at most `modulus` commands, `fresh`) are
satisfied by a run with retransmissions, a duplicate reply, a stale datagram and callbacks -/
example :
    (∀ d ∈ batchesY.flatten, ∀ j, originY d.id = some j →
      ∃ t, Ev.send d.seq j 1 t ∈ (run cfgX (ext lX) clockX (St.init 1) batchesY).2.1) ∧
    lX.length ≤ cfgX.modulus ∧
    (∀ d ∈ batchesY.flatten, originY d.id = none →
      ∀ c t, Ev.send d.seq c 1 t ∉ (run cfgX (ext lX) clockX (St.init 1) batchesY).2.1) ∧
    Ev.callback 1 12 ∈ (run cfgX (ext lX) clockX (St.init 1) batchesY).2.1 := by
  rw [runY_eq]
  have mem : ∀ d ∈ batchesY.flatten, d = okD 10 1 ∨ d = ⟨11, 130, 2⟩ ∨ d = okD 12 2 ∨ d = okD 13 1 ∨
      d = okD 14 3 ∨ d = okD 15 0 := by decide
  refine ⟨fun d hd j hj => ?_, by decide, fun d hd hn c t => ?_, by decide⟩
  · rcases mem d hd with rfl | rfl | rfl | rfl | rfl | rfl <;> cases hj <;> exact exists_send_of_any rfl
  · rcases mem d hd with rfl | rfl | rfl | rfl | rfl | rfl <;> cases hn <;> simp [okD]

/-! non-vacuity of the composition theorems: a 10-byte read / write at an odd address with a 4-byte
buffer (3 chunks), window 2, with a lost request, a retransmission, replies out of order and a
duplicate reply -/
def memR : C07.Mem := fun a => a % 7 + 1
/-- nothing; the reply to chunk 1; the reply to chunk 0 and a duplicate of it; the reply to chunk 2 -/
def batchesR : List (List Dgram) := [[], [okD 10 2], [okD 11 1, okD 12 1], [okD 13 3], []]
def originR : Nat → Option Nat := fun i =>
  if i = 10 then some 1 else if i = 11 ∨ i = 12 then some 0 else if i = 13 then some 2 else none
def payloadR : Nat → List Nat := fun i =>
  if i = 10 then C07.readMem memR 17 4 else if i = 11 ∨ i = 12 then C07.readMem memR 13 4
  else C07.readMem memR 21 2

theorem runR_eq : (run cfgX (ext (chunkTimeouts (C07.read 4 13 10))) clockX (St.init 1) batchesR).2 =
    ([.send 1 0 1 0, .send 2 1 1 1, .send 1 0 2 3, .send 3 2 1 6, .callback 1 10, .callback 0 11,
      .callback 2 13], .done) := by decide +kernel

/-- the events of the read burst and of the write burst on `batchesR` -/
def evsR : List Ev :=
  [.send 1 0 1 0, .send 2 1 1 1, .send 1 0 2 3, .send 3 2 1 6, .callback 1 10, .callback 0 11, .callback 2 13]

theorem mem_batchesR : ∀ d ∈ batchesR.flatten,
    d = okD 10 2 ∨ d = okD 11 1 ∨ d = okD 12 1 ∨ d = okD 13 3 := by
  decide

theorem netOK_R {d : Dgram} (hd : d ∈ batchesR.flatten) {j : Nat} (hj : originR d.id = some j) :
    ∃ t, Ev.send d.seq j 1 t ∈ evsR := by
  rcases mem_batchesR _ hd with rfl | rfl | rfl | rfl <;> cases hj <;> exact exists_send_of_any rfl

/-- no datagram of `batchesR` is stale -/
theorem fresh_R {d : Dgram} (hd : d ∈ batchesR.flatten) : originR d.id ≠ none := by
  rcases mem_batchesR _ hd with rfl | rfl | rfl | rfl <;> simp [originR, okD]

/-- the hypotheses of `read_through_burst` hold for this run (chunk 1 completes before chunk 0, chunk
0 is retransmitted, its duplicate reply is dropped), and `SCPConnection.read` returns the memory -/
example : readThrough cfgX clockX 1 batchesR payloadR 4 13 10 = .ok (C07.readMem memR 13 10) := by
  refine (read_through_burst (evs := evsR) (by unfold WF; decide) (by decide) memR (eq_mk_of_snd runR_eq)
    originR payloadR (fun d hd j => netOK_R hd) (by decide) (fun d hd h => absurd h (fresh_R hd)) ?_).2.1 rfl
  intro d hd hrc j ch hj hch
  rcases mem_batchesR _ hd with rfl | rfl | rfl | rfl <;> cases hj <;> cases hch <;> rfl
example : readThrough cfgX clockX 1 batchesR payloadR 4 13 10 = .ok [7, 1, 2, 3, 4, 5, 6, 7, 1, 2] := by decide +kernel

theorem runW_eq : (run cfgX (ext (chunkTimeouts (C07.write 4 13 [1,2,3,4,5,6,7,8,9,10]))) clockX (St.init 1)
      batchesR).2 =
    ([.send 1 0 1 0, .send 2 1 1 1, .send 1 0 2 3, .send 3 2 1 6, .callback 1 10, .callback 0 11,
      .callback 2 13], .done) := by decide +kernel

/-- the hypotheses of `write_through_burst` hold when the machine executed chunk 1, then chunk 0
twice (both transmissions arrived), then chunk 2; memory then holds exactly the data -/
example : memAfter (C07.write 4 13 [1,2,3,4,5,6,7,8,9,10]) [1, 0, 0, 2] memR =
    C07.writeMem memR 13 [1,2,3,4,5,6,7,8,9,10] := by
  refine (write_through_burst (evs := evsR) (by unfold WF; decide) (by decide) memR (eq_mk_of_snd runW_eq)
    originR (fun d hd j => netOK_R hd) (by decide) (fun d hd h => absurd h (fresh_R hd)) [1, 0, 0, 2]
    ?_ ?_ rfl).2.2
  · intro j hj
    obtain ⟨s, t, h⟩ := mem_sendKeys ((by decide : ∀ j ∈ [1, 0, 0, 2], (j, 1) ∈ sendKeys evsR) j hj)
    exact ⟨s, 1, t, h⟩
  · intro d hd hrc j hj
    rcases mem_batchesR _ hd with rfl | rfl | rfl | rfl <;> cases hj <;> decide
example : C07.readMem (memAfter (C07.write 4 13 [1,2,3,4,5,6,7,8,9,10]) [1, 0, 0, 2] memR) 12 12 =
    [6, 1, 2, 3, 4, 5, 6, 7, 8, 9, 10, 3] := by decide +kernel
end Example

end Rig.C06
