/-
C17, static half for ARGUMENTS and for state on objects that outlive a call.

`Gen/Effects.lean` is regenerated from the source of rig/ on every run by a conservative syntactic
effect scan (harness/gen/c17.py, `EffectScan`): every statement of every function / method / nested
function (rig/scripts and rig/wizard.py excluded) through which an object reachable from a parameter,
from the method's own `self` (outside `__init__`), from a module-level / function / class name or from a
closure cell can be written in place.  The list below is the REVIEW, written by hand: one entry per effect
(exact module, function, root, kind, statement text and number of occurrences) with the reason why that
write is not a modification of a caller's argument and not a memory of earlier calls.  `effects_reviewed`
is the obligation: a new in-place edit or a new cache is a generated entry without a review and breaks it.
One inclusion only: the review of a statement that has left the source stays.
-/
import Lean
import RigModel.Gen.Effects

namespace Rig.C17
open Rig.Gen.Effects

/-- (tag, module, function, root, kind, statement text, occurrences); the tag is a number computed from the other
fields by the generator; `effects_reviewed` compares tags only, the interpreter check `unreviewed` compares entries in full -/
abbrev Effect := Nat × String × String × String × String × String × Nat

/-- why a listed write is acceptable -/
inductive Why where
  | selfApi      -- documented in-place API: the state of the very object the method was called on
  | connState    -- session state of a controller / connection object (sequence counters, connection table, probed facts)
  | helperFresh  -- a helper writes through its parameter; every caller hands it an object made in that call (copy named)
  | callLocal    -- a state object created inside one public call and passed down (annealing kernel, Hilbert cursor)
  | scalar       -- augmented assignment on a bare name bound to a number: rebinding, no object is changed
  | viaCallee    -- the argument is handed to a function reviewed under `helperFresh`, which copies before it writes
  | memo         -- the one modelled memo (`memoGet`)
  | importTime   -- decorator that runs at import time on the function / class being defined
  deriving Repr, DecidableEq

def reviewed : List (Effect × Why × String) := [
  ((404861830439, "rig.bitfield", "BitField._Tree.add_field", "self", "call:setdefault", "self.children.setdefault(meetable_requirements, type(self)())", 1), .selfApi,
    "BitField.add_field (documented in-place API) stores the new field in the field tree of the bit field it was called on"),
  ((949739817145, "rig.bitfield", "BitField._Tree.add_field", "self", "pass:add_field(<self>)", "child.add_field(field, identifier, {i: v for i, v in iteritems(field_values) if i not in dict(meetable_requirements)})", 1), .selfApi,
    "BitField.add_field (documented in-place API) stores the new field in the field tree of the bit field it was called on"),
  ((522014696422, "rig.bitfield", "BitField._Tree.add_field", "self", "setitem", "self.fields[identifier] = field", 1), .selfApi,
    "BitField.add_field (documented in-place API) stores the new field in the field tree of the bit field it was called on"),
  ((243145621449, "rig.bitfield", "BitField._Tree.get_field", "self", "pass:get_field(<self>)", "child.get_field(identifier, field_values)", 1), .selfApi,
    "read-only walk of the field tree; listed only because the scan treats the candidate dicts built by get_field_candidates as part of the tree"),
  ((675704089767, "rig.bitfield", "BitField._Tree.get_field_candidates", "self", "pass:get_field_candidates(<self>)", "child.get_field_candidates(identifier, field_values)", 1), .selfApi,
    "candidate is a fresh dict (child_candidates' dicts are built in this call); nothing of the tree is written"),
  ((135279115861, "rig.bitfield", "BitField._Tree.get_field_candidates", "self", "setitem", "candidate[i] = v", 1), .selfApi,
    "candidate is a fresh dict (child_candidates' dicts are built in this call); nothing of the tree is written"),
  ((26643904811, "rig.bitfield", "BitField._Tree.get_field_requirements", "self", "pass:get_field_requirements(<self>)", "child.get_field_requirements(identifier, field_values)", 1), .selfApi,
    "read-only walk of the field tree (conservative listing, see get_field)"),
  ((251166137506, "rig.bitfield", "BitField.__call__", "self", "pass:get_field(<self>)", "self.fields.get_field(identifier, field_values)", 2), .selfApi,
    "documented: selecting a value records the largest value seen in the shared field (max_value), used by assign_fields to size the field (C08 model: assignField)"),
  ((727060764134, "rig.bitfield", "BitField.__call__", "self", "setattr", "field.max_value = max(field.max_value, value)", 1), .selfApi,
    "documented: selecting a value records the largest value seen in the shared field (max_value), used by assign_fields to size the field (C08 model: assignField)"),
  ((258589141220, "rig.bitfield", "BitField.__getattr__", "self", "pass:get_field(<self>)", "self.fields.get_field(identifier, self.field_values)", 1), .selfApi,
    "read-only lookup (conservative listing, see get_field)"),
  ((1028575339968, "rig.bitfield", "BitField._assign_field", "assigned_bits", "augassign", "assigned_bits |= field_bits", 2), .scalar,
    "assigned_bits is an int bit mask; |= rebinds the local name"),
  ((484092432154, "rig.bitfield", "BitField._assign_field", "self", "pass:get_field(<self>)", "self.fields.get_field(identifier, field_values)", 1), .selfApi,
    "BitField.assign_fields (documented in-place API) fixes length / position of the fields of the bit field it was called on (C08 model)"),
  ((830805451825, "rig.bitfield", "BitField._assign_field", "self", "pass:get_field_human_readable(<self>)", "self.fields.get_field_human_readable(identifier, field_values)", 2), .selfApi,
    "BitField.assign_fields (documented in-place API) fixes length / position of the fields of the bit field it was called on (C08 model)"),
  ((339692340945, "rig.bitfield", "BitField._assign_field", "self", "setattr", "field.length = length", 1), .selfApi,
    "BitField.assign_fields (documented in-place API) fixes length / position of the fields of the bit field it was called on (C08 model)"),
  ((377742208122, "rig.bitfield", "BitField._assign_field", "self", "setattr", "field.start_at = start_at", 1), .selfApi,
    "BitField.assign_fields (documented in-place API) fixes length / position of the fields of the bit field it was called on (C08 model)"),
  ((574933068603, "rig.bitfield", "BitField._assign_fields", "assigned_bits", "augassign", "assigned_bits |= (1 << f.length) - 1 << f.start_at", 1), .scalar,
    "assigned_bits is an int bit mask; |= rebinds the local name"),
  ((206377827923, "rig.bitfield", "BitField._assign_fields", "assigned_bits", "augassign", "assigned_bits |= self._assign_field(assigned_bits, identifier, field_values)", 1), .scalar,
    "assigned_bits is an int bit mask; |= rebinds the local name"),
  ((57682739752, "rig.bitfield", "BitField._assign_fields", "self", "pass:get_field(<self>)", "self.fields.get_field(identifier, field_values)", 1), .selfApi,
    "part of assign_fields (documented in-place API), see _assign_field"),
  ((630692154165, "rig.bitfield", "BitField._select_by_field_or_tag", "self", "pass:get_field(<self>)", "self.fields.get_field(field, self.field_values)", 1), .selfApi,
    "read-only lookup (conservative listing, see get_field)"),
  ((189252680520, "rig.bitfield", "BitField.add_field", "self", "call:update", "parent.tags.update(tags)", 1), .selfApi,
    "BitField.add_field is the documented in-place API: adds the field, and adds the new tags to the parent fields of the same bit field"),
  ((203920803015, "rig.bitfield", "BitField.add_field", "self", "pass:add_field(<self>)", "self.fields.add_field(field, identifier, self.field_values)", 1), .selfApi,
    "BitField.add_field is the documented in-place API: adds the field, and adds the new tags to the parent fields of the same bit field"),
  ((378215478380, "rig.bitfield", "BitField.add_field", "self", "pass:get_field(<self>)", "self.fields.get_field(parent_identifier, self.field_values)", 1), .selfApi,
    "BitField.add_field is the documented in-place API: adds the field, and adds the new tags to the parent fields of the same bit field"),
  ((379032946483, "rig.bitfield", "BitField.add_field", "self", "pass:get_field_requirements(<self>)", "self.fields.get_field_requirements(identifier, self.field_values)", 1), .selfApi,
    "BitField.add_field is the documented in-place API: adds the field, and adds the new tags to the parent fields of the same bit field"),
  ((943737299605, "rig.bitfield", "BitField.assign_fields.recurse_assign_fields", "self", "pass:_assign_fields(<self>)", "self._assign_fields(node.fields, field_values, assign_positions=True)", 1), .selfApi,
    "part of assign_fields (documented in-place API), see _assign_field"),
  ((925418613358, "rig.bitfield", "BitField.get_location_and_length", "self", "pass:get_field(<self>)", "self.fields.get_field(field, self.field_values)", 1), .selfApi,
    "read-only lookup (conservative listing, see get_field)"),
  ((52573839262, "rig.bitfield", "BitField.get_tags", "self", "pass:get_field(<self>)", "self.fields.get_field(field, self.field_values)", 1), .selfApi,
    "read-only lookup; returns a copy of the tag set (conservative listing, see get_field)"),
  ((790926496428, "rig.bitfield", "UnavailableFieldError.__init__", "tree", "pass:get_field_candidates(<self>)", "tree.get_field_candidates(identifier, {})", 1), .selfApi,
    "error message construction: read-only walk of the tree (conservative listing, see get_field_candidates)"),
  ((909957011254, "rig.geometry", "concentric_hexagons", "start", "augassign", "x += dx", 1), .scalar,
    "x, y are ints unpacked from the start tuple; += rebinds the local names"),
  ((147861314025, "rig.geometry", "concentric_hexagons", "start", "augassign", "y += dy", 1), .scalar,
    "x, y are ints unpacked from the start tuple; += rebinds the local names"),
  ((960561432189, "rig.geometry", "concentric_hexagons", "start", "augassign", "y -= 1", 1), .scalar,
    "x, y are ints unpacked from the start tuple; += rebinds the local names"),
  ((667635008873, "rig.geometry", "spinn5_eth_coords", "root_x", "augassign", "root_x %= 12", 2), .scalar,
    "root_x is an int; %= rebinds the local name"),
  ((683818981109, "rig.machine_control.bmp_controller", "BMPController._send_scp", "self", "pass:send_scp(<self>)", "connection.send_scp(length, 0, 0, board, *args, **kwargs)", 1), .connState,
    "sends on the controller's own connection: advances that connection's sequence counter (C06 model: seq)"),
  ((393068440746, "rig.machine_control.bmp_controller", "BMPController.scp_data_length", "self", "setattr", "self._scp_data_length = data.buffer_size", 1), .connState,
    "lazily probed buffer size of the one BMP this controller talks to; probed value, not a function of call arguments"),
  ((355104929024, "rig.machine_control.machine_controller", "MachineController._get_next_nn_id", "self", "setattr", "self._nn_id = self._nn_id + 1 if self._nn_id < 126 else 1", 1), .connState,
    "nearest-neighbour packet id counter of the controller, cycles 1..126 as the protocol requires (C09 model: nnid_range)"),
  ((605224862743, "rig.machine_control.machine_controller", "MachineController._send_ffd", "address", "augassign", "address += data_size", 1), .scalar,
    "address is an int; += rebinds the local name"),
  ((161763962169, "rig.machine_control.machine_controller", "MachineController._send_scp", "self", "pass:send_scp(<self>)", "connection.send_scp(length, x, y, p, *args, **kwargs)", 1), .connState,
    "sends on one of the controller's own connections: advances that connection's sequence counter (C06 model: seq)"),
  ((416834636385, "rig.machine_control.machine_controller", "MachineController.boot", "self", "setattr", "self.structs = boot.boot(self.initial_host, **boot_kwargs)", 1), .connState,
    "documented: boot() replaces self.structs by the struct definitions the machine was booted with (C20)"),
  ((1084562841735, "rig.machine_control.machine_controller", "MachineController.discover_connections", "self", "call:pop", "self.connections.pop((x, y))", 1), .connState,
    "documented in-place API: (re)builds the controller's connection table and cached machine dimensions"),
  ((541731384794, "rig.machine_control.machine_controller", "MachineController.discover_connections", "self", "pass:close(<self>)", "self.connections.pop((x, y)).close()", 1), .connState,
    "documented in-place API: (re)builds the controller's connection table and cached machine dimensions"),
  ((931907786919, "rig.machine_control.machine_controller", "MachineController.discover_connections", "self", "setattr", "self._height = max((y for x, y in working_chips)) + 1", 1), .connState,
    "documented in-place API: (re)builds the controller's connection table and cached machine dimensions"),
  ((878474833653, "rig.machine_control.machine_controller", "MachineController.discover_connections", "self", "setattr", "self._width = max((x for x, y in working_chips)) + 1", 1), .connState,
    "documented in-place API: (re)builds the controller's connection table and cached machine dimensions"),
  ((805624040142, "rig.machine_control.machine_controller", "MachineController.discover_connections", "self", "setitem", "self.connections[x, y] = SCPConnection(ip, self.scp_port, self.n_tries, self.timeout)", 1), .connState,
    "documented in-place API: (re)builds the controller's connection table and cached machine dimensions"),
  ((98549354739, "rig.machine_control.machine_controller", "MachineController.read", "self", "pass:read(<self>)", "connection.read(self.scp_data_length, self.scp_window_size, x, y, p, address, length_bytes)", 1), .connState,
    "reads through one of the controller's own connections (sequence counter, C06/C07 models)"),
  ((947207085250, "rig.machine_control.machine_controller", "MachineController.read_across_link", "address", "augassign", "address += to_read", 1), .scalar,
    "address is an int; += rebinds the local name"),
  ((883267368413, "rig.machine_control.machine_controller", "MachineController.read_across_link", "length_bytes", "augassign", "length_bytes -= to_read", 1), .scalar,
    "length_bytes is an int; -= rebinds the local name"),
  ((59632272979, "rig.machine_control.machine_controller", "MachineController.root_chip", "self", "setattr", "self._root_chip = self.get_software_version(255, 255, 0).position", 1), .connState,
    "lazily probed coordinate of the chip the controller is connected to; probed once per controller, a fact of the machine"),
  ((244298365854, "rig.machine_control.machine_controller", "MachineController.scp_data_length", "self", "setattr", "self._scp_data_length = data.buffer_size", 1), .connState,
    "lazily probed SCP buffer size of the machine; probed once per controller, a fact of the machine"),
  ((785477391789, "rig.machine_control.machine_controller", "MachineController.write", "self", "pass:write(<self>)", "connection.write(self.scp_data_length, self.scp_window_size, x, y, p, address, data)", 1), .connState,
    "writes through one of the controller's own connections (sequence counter, C06/C07 models)"),
  ((388770665629, "rig.machine_control.machine_controller", "MachineController.write_across_link", "address", "augassign", "address += to_write", 1), .scalar,
    "address is an int; += rebinds the local name"),
  ((746533815913, "rig.machine_control.machine_controller", "MemoryIO._perform_read", "self", "pass:read(<self>)", "self._machine_controller.read(addr, size, self._x, self._y, 0)", 1), .selfApi,
    "file-like object reads through the controller it was created by (C13 model)"),
  ((147100007027, "rig.machine_control.machine_controller", "MemoryIO._perform_write", "self", "pass:write(<self>)", "self._machine_controller.write(addr, data, self._x, self._y, 0)", 1), .selfApi,
    "file-like object writes through the controller it was created by (C13 model)"),
  ((147679844511, "rig.machine_control.machine_controller", "MemoryIO.free", "self", "pass:sdram_free(<self>)", "self._machine_controller.sdram_free(self._start_address, self._x, self._y)", 1), .selfApi,
    "documented in-place API: free() marks this file-like object as freed (C13 model: dead_after_close / no_access_after_free)"),
  ((7044900984, "rig.machine_control.machine_controller", "MemoryIO.free", "self", "setattr", "self._freed = True", 1), .selfApi,
    "documented in-place API: free() marks this file-like object as freed (C13 model: dead_after_close / no_access_after_free)"),
  ((560242618353, "rig.machine_control.machine_controller", "SlicedMemoryIO.close", "self", "setattr", "self.closed = True", 1), .selfApi,
    "documented file API: close() marks this object closed (C13 model)"),
  ((785737615665, "rig.machine_control.machine_controller", "SlicedMemoryIO.read", "self", "aug-setattr", "self._offset += n_bytes", 1), .selfApi,
    "documented file API: read() advances this object's offset (C13 model: step_refines_file)"),
  ((967371513294, "rig.machine_control.machine_controller", "SlicedMemoryIO.read", "self", "pass:_perform_read(<self>)", "self._parent._perform_read(self.address, n_bytes)", 1), .selfApi,
    "documented file API: read() advances this object's offset (C13 model: step_refines_file)"),
  ((770082901481, "rig.machine_control.machine_controller", "SlicedMemoryIO.seek", "self", "aug-setattr", "self._offset += n_bytes", 1), .selfApi,
    "documented file API: seek() sets this object's offset (C13 model)"),
  ((865092597904, "rig.machine_control.machine_controller", "SlicedMemoryIO.seek", "self", "setattr", "self._offset = n_bytes", 1), .selfApi,
    "documented file API: seek() sets this object's offset (C13 model)"),
  ((910022324405, "rig.machine_control.machine_controller", "SlicedMemoryIO.seek", "self", "setattr", "self._offset = self._end_address - self._start_address - n_bytes", 1), .selfApi,
    "documented file API: seek() sets this object's offset (C13 model)"),
  ((17697874410, "rig.machine_control.machine_controller", "SlicedMemoryIO.write", "self", "aug-setattr", "self._offset += len(bytes)", 1), .selfApi,
    "documented file API: write() advances this object's offset (C13 model: step_refines_file)"),
  ((694816105934, "rig.machine_control.machine_controller", "SlicedMemoryIO.write", "self", "pass:_perform_write(<self>)", "self._parent._perform_write(self.address, bytes)", 1), .selfApi,
    "documented file API: write() advances this object's offset (C13 model: step_refines_file)"),
  ((649511250278, "rig.machine_control.packets", "_unpack_sdp_into_packet", "packet", "setattr", "flags, packet.tag, dest_cpu_port, src_cpu_port, packet.dest_y, packet.dest_x, packet.src_y, packet.src_x = struct.unpack_from('<2x8B', bytestring)", 1), .helperFresh,
    "private helper; both callers (SDPPacket.from_bytestring, SCPPacket.from_bytestring) pass the packet they have just made with cls.__new__ (C15 model: decodeSDP / decodeSCP)"),
  ((888197175254, "rig.machine_control.packets", "_unpack_sdp_into_packet", "packet", "setattr", "packet.data = bytestring[10:]", 1), .helperFresh,
    "private helper; both callers (SDPPacket.from_bytestring, SCPPacket.from_bytestring) pass the packet they have just made with cls.__new__ (C15 model: decodeSDP / decodeSCP)"),
  ((163559832123, "rig.machine_control.packets", "_unpack_sdp_into_packet", "packet", "setattr", "packet.dest_cpu = dest_cpu_port & 31", 1), .helperFresh,
    "private helper; both callers (SDPPacket.from_bytestring, SCPPacket.from_bytestring) pass the packet they have just made with cls.__new__ (C15 model: decodeSDP / decodeSCP)"),
  ((689113777553, "rig.machine_control.packets", "_unpack_sdp_into_packet", "packet", "setattr", "packet.dest_port = dest_cpu_port >> 5", 1), .helperFresh,
    "private helper; both callers (SDPPacket.from_bytestring, SCPPacket.from_bytestring) pass the packet they have just made with cls.__new__ (C15 model: decodeSDP / decodeSCP)"),
  ((710686516686, "rig.machine_control.packets", "_unpack_sdp_into_packet", "packet", "setattr", "packet.reply_expected = flags == FLAG_REPLY", 1), .helperFresh,
    "private helper; both callers (SDPPacket.from_bytestring, SCPPacket.from_bytestring) pass the packet they have just made with cls.__new__ (C15 model: decodeSDP / decodeSCP)"),
  ((822959778440, "rig.machine_control.packets", "_unpack_sdp_into_packet", "packet", "setattr", "packet.src_cpu = src_cpu_port & 31", 1), .helperFresh,
    "private helper; both callers (SDPPacket.from_bytestring, SCPPacket.from_bytestring) pass the packet they have just made with cls.__new__ (C15 model: decodeSDP / decodeSCP)"),
  ((891710796351, "rig.machine_control.packets", "_unpack_sdp_into_packet", "packet", "setattr", "packet.src_port = src_cpu_port >> 5", 1), .helperFresh,
    "private helper; both callers (SDPPacket.from_bytestring, SCPPacket.from_bytestring) pass the packet they have just made with cls.__new__ (C15 model: decodeSDP / decodeSCP)"),
  ((362666243503, "rig.machine_control.regions", "RegionCoreTree.add_core", "self", "aug-setitem", "self.locally_selected[p] |= 1 << subregion", 2), .selfApi,
    "RegionCoreTree.add_core is the documented in-place API of the region tree (C12 model: add_inv)"),
  ((581699106753, "rig.machine_control.regions", "RegionCoreTree.add_core", "self", "pass:add_core(<self>)", "self.subregions[subregion].add_core(x, y, p)", 1), .selfApi,
    "RegionCoreTree.add_core is the documented in-place API of the region tree (C12 model: add_inv)"),
  ((457001108280, "rig.machine_control.regions", "RegionCoreTree.add_core", "self", "setitem", "self.locally_selected[p] = 0", 1), .selfApi,
    "RegionCoreTree.add_core is the documented in-place API of the region tree (C12 model: add_inv)"),
  ((621121964742, "rig.machine_control.regions", "RegionCoreTree.add_core", "self", "setitem", "self.subregions[subregion] = RegionCoreTree(base_x, base_y, self.level + 1)", 1), .selfApi,
    "RegionCoreTree.add_core is the documented in-place API of the region tree (C12 model: add_inv)"),
  ((172920013454, "rig.machine_control.scp_connection", "SCPConnection.close", "self", "pass:close(<self>)", "self.sock.close()", 1), .connState,
    "documented: closes this connection's socket"),
  ((293230393498, "rig.machine_control.scp_connection", "SCPConnection.read.callback", "mem", "setitem", "mem[:] = data[6 + consts.SDP_HEADER_LENGTH:]", 1), .helperFresh,
    "mem is a memoryview slice of the bytearray that SCPConnection.read created for this call and returns"),
  ((970785472037, "rig.machine_control.scp_connection", "SCPConnection.read.packets", "length_bytes", "augassign", "length_bytes -= block_size", 1), .scalar,
    "length_bytes is an int; -= rebinds the local name"),
  ((806639944097, "rig.machine_control.scp_connection", "SCPConnection.send_scp_burst", "self", "call:next", "next(self.seq)", 2), .connState,
    "the connection's 16-bit sequence counter (C06 model: seq; own_sequence_number); callback(packet) hands each received packet to the callback of the caller of this burst"),
  ((180818045722, "rig.machine_control.scp_connection", "SCPConnection.send_scp_burst", "self", "pass:callback(mem)", "callback(packet)", 1), .connState,
    "the connection's 16-bit sequence counter (C06 model: seq; own_sequence_number); callback(packet) hands each received packet to the callback of the caller of this burst"),
  ((616228740363, "rig.machine_control.scp_connection", "SCPConnection.write.packets", "address", "augassign", "address += block_size", 1), .scalar,
    "address is an int; += rebinds the local name"),
  ((807787203775, "rig.machine_control.struct_file", "Struct.__setitem__", "self", "setitem", "self.fields[name] = field", 1), .selfApi,
    "documented in-place API (mapping protocol) of a Struct"),
  ((950941083678, "rig.machine_control.struct_file", "Struct.update_default_values", "self", "setitem", "self[fname] = self[fname]._replace(default=value)", 1), .selfApi,
    "documented in-place API of a Struct; boot() applies it to the structs it has parsed from the struct file in that very call (C20: history_independent)"),
  ((820781494282, "rig.machine_control.utils", "sdram_alloc_for_vertices", "controller", "pass:sdram_alloc_as_filelike(<self>)", "controller.sdram_alloc_as_filelike(size, tag, x=x, y=y, clear=clear)", 1), .connState,
    "allocates SDRAM through the controller it is given (sends commands on its connections); documented purpose of the function"),
  ((233048724125, "rig.place_and_route.machine", "Machine.__setitem__", "self", "setitem", "self.chip_resource_exceptions[xy] = resources", 1), .selfApi,
    "documented in-place API of Machine (machine[x, y] = resources); the placers call it on their own machine.copy() only"),
  ((699636990597, "rig.place_and_route.place.hilbert", "hilbert", "s", "pass:hilbert(s)", "hilbert(level - 1, -angle, s)", 2), .callLocal,
    "s is the cursor object of one curve: created (s = HilbertState()) by the outermost call when s is None - which is how hilbert_chip_order calls it - and passed to the recursive calls"),
  ((180153763419, "rig.place_and_route.place.hilbert", "hilbert", "s", "pass:hilbert(s)", "hilbert(level - 1, angle, s)", 2), .callLocal,
    "s is the cursor object of one curve: created (s = HilbertState()) by the outermost call when s is None - which is how hilbert_chip_order calls it - and passed to the recursive calls"),
  ((1081196097851, "rig.place_and_route.place.hilbert", "hilbert", "s", "setattr", "for (s.x, s.y) in hilbert(level - 1, -angle, s)", 2), .callLocal,
    "s is the cursor object of one curve: created (s = HilbertState()) by the outermost call when s is None - which is how hilbert_chip_order calls it - and passed to the recursive calls"),
  ((665964314315, "rig.place_and_route.place.hilbert", "hilbert", "s", "setattr", "for (s.x, s.y) in hilbert(level - 1, angle, s)", 2), .callLocal,
    "s is the cursor object of one curve: created (s = HilbertState()) by the outermost call when s is None - which is how hilbert_chip_order calls it - and passed to the recursive calls"),
  ((801414303846, "rig.place_and_route.place.hilbert", "hilbert", "s", "setattr", "s.dx, s.dy = (s.dy * -angle, s.dx * angle)", 2), .callLocal,
    "s is the cursor object of one curve: created (s = HilbertState()) by the outermost call when s is None - which is how hilbert_chip_order calls it - and passed to the recursive calls"),
  ((89618598418, "rig.place_and_route.place.hilbert", "hilbert", "s", "setattr", "s.dx, s.dy = (s.dy * angle, s.dx * -angle)", 2), .callLocal,
    "s is the cursor object of one curve: created (s = HilbertState()) by the outermost call when s is None - which is how hilbert_chip_order calls it - and passed to the recursive calls"),
  ((596687200248, "rig.place_and_route.place.hilbert", "hilbert", "s", "setattr", "s.x, s.y = (s.x + s.dx, s.y + s.dy)", 3), .callLocal,
    "s is the cursor object of one curve: created (s = HilbertState()) by the outermost call when s is None - which is how hilbert_chip_order calls it - and passed to the recursive calls"),
  ((540358241451, "rig.place_and_route.place.rand", "place", "nets", "pass:apply_same_chip_constraints(nets)", "apply_same_chip_constraints(vertices_resources, nets, constraints)", 1), .viaCallee,
    "apply_same_chip_constraints copies nets (nets[:]) and every Net it changes (Net(...) copies sinks) before writing; dynamic: place_rand with same-chip constraints on sinks, nets kept and compared"),
  ((640441150950, "rig.place_and_route.place.sa.algorithm", "_initial_placement", "machine", "setitem", "machine[location] = resources_if_placed", 1), .helperFresh,
    "private helper; its only caller sa.place has rebound machine = machine.copy() before; dynamic: place_sa / place_sa_pinned keep the machine and compare"),
  ((245677258578, "rig.place_and_route.place.sa.algorithm", "place", "machine", "augassign", "distance_limit *= 1.0 - 0.44 + r_accept", 1), .scalar,
    "distance_limit is a number (max of width and height); *= rebinds the local name"),
  ((230526377532, "rig.place_and_route.place.sa.algorithm", "place", "nets", "pass:apply_same_chip_constraints(nets)", "apply_same_chip_constraints(vertices_resources, nets, constraints)", 1), .viaCallee,
    "apply_same_chip_constraints copies nets (nets[:]) and every Net it changes before writing; dynamic: place_sa / place_sa_pinned with same-chip groups, nets kept and compared"),
  ((110157123274, "rig.place_and_route.place.sa.python_kernel", "PythonKernel.run_steps", "self", "pass:_step(l2v)", "_step(self.movable_vertices, distance_limit, temperature, self.placements, self.l2v, self.v2n, self.vertices_resources, self.fixed_vertices, self.machine, self.has_wrap_around_links, self.random)", 1), .callLocal,
    "annealing state of one kernel object; sa.place creates the kernel inside the call from its own copies (machine.copy(), fresh placements dict) and drops it on return"),
  ((307238013401, "rig.place_and_route.place.sa.python_kernel", "PythonKernel.run_steps", "self", "pass:_step(machine)", "_step(self.movable_vertices, distance_limit, temperature, self.placements, self.l2v, self.v2n, self.vertices_resources, self.fixed_vertices, self.machine, self.has_wrap_around_links, self.random)", 1), .callLocal,
    "annealing state of one kernel object; sa.place creates the kernel inside the call from its own copies (machine.copy(), fresh placements dict) and drops it on return"),
  ((462156301783, "rig.place_and_route.place.sa.python_kernel", "PythonKernel.run_steps", "self", "pass:_step(placements)", "_step(self.movable_vertices, distance_limit, temperature, self.placements, self.l2v, self.v2n, self.vertices_resources, self.fixed_vertices, self.machine, self.has_wrap_around_links, self.random)", 1), .callLocal,
    "annealing state of one kernel object; sa.place creates the kernel inside the call from its own copies (machine.copy(), fresh placements dict) and drops it on return"),
  ((686140090573, "rig.place_and_route.place.sa.python_kernel", "PythonKernel.run_steps", "self", "setattr", "self.start_time = None", 1), .callLocal,
    "annealing state of one kernel object; sa.place creates the kernel inside the call from its own copies (machine.copy(), fresh placements dict) and drops it on return"),
  ((857809017065, "rig.place_and_route.place.sa.python_kernel", "_step", "l2v", "pass:_swap(l2v)", "_swap([src_vertex], dst_location, dst_vertices, src_location, l2v, vertices_resources, placements, machine)", 1), .callLocal,
    "annealing kernel state (location -> vertices), built by PythonKernel.__init__ for one sa.place call"),
  ((76823217306, "rig.place_and_route.place.sa.python_kernel", "_step", "l2v", "pass:_swap(l2v)", "_swap([src_vertex], src_location, dst_vertices, dst_location, l2v, vertices_resources, placements, machine)", 1), .callLocal,
    "annealing kernel state (location -> vertices), built by PythonKernel.__init__ for one sa.place call"),
  ((832085093812, "rig.place_and_route.place.sa.python_kernel", "_step", "machine", "pass:_swap(machine)", "_swap([src_vertex], dst_location, dst_vertices, src_location, l2v, vertices_resources, placements, machine)", 1), .callLocal,
    "annealing kernel state: the kernel's machine is the machine.copy() made by sa.place; dynamic: place_sa with kernel=PythonKernel keeps the caller's machine and compares"),
  ((1056131222200, "rig.place_and_route.place.sa.python_kernel", "_step", "machine", "pass:_swap(machine)", "_swap([src_vertex], src_location, dst_vertices, dst_location, l2v, vertices_resources, placements, machine)", 1), .callLocal,
    "annealing kernel state: the kernel's machine is the machine.copy() made by sa.place; dynamic: place_sa with kernel=PythonKernel keeps the caller's machine and compares"),
  ((479010524183, "rig.place_and_route.place.sa.python_kernel", "_step", "placements", "pass:_swap(placements)", "_swap([src_vertex], dst_location, dst_vertices, src_location, l2v, vertices_resources, placements, machine)", 1), .callLocal,
    "annealing kernel state: the placements dict is created by sa.place (_initial_placement) and is the value it returns"),
  ((845676796386, "rig.place_and_route.place.sa.python_kernel", "_step", "placements", "pass:_swap(placements)", "_swap([src_vertex], src_location, dst_vertices, dst_location, l2v, vertices_resources, placements, machine)", 1), .callLocal,
    "annealing kernel state: the placements dict is created by sa.place (_initial_placement) and is the value it returns"),
  ((336235342870, "rig.place_and_route.place.sa.python_kernel", "_swap", "l2v", "call:append", "vas_location2v.append(vb)", 1), .callLocal,
    "annealing kernel state, see _step"),
  ((701096517077, "rig.place_and_route.place.sa.python_kernel", "_swap", "l2v", "call:append", "vbs_location2v.append(va)", 1), .callLocal,
    "annealing kernel state, see _step"),
  ((451331563936, "rig.place_and_route.place.sa.python_kernel", "_swap", "l2v", "call:remove", "vas_location2v.remove(va)", 1), .callLocal,
    "annealing kernel state, see _step"),
  ((899210333429, "rig.place_and_route.place.sa.python_kernel", "_swap", "l2v", "call:remove", "vbs_location2v.remove(vb)", 1), .callLocal,
    "annealing kernel state, see _step"),
  ((971521768668, "rig.place_and_route.place.sa.python_kernel", "_swap", "machine", "setitem", "machine[vas_location] = vas_resources", 1), .callLocal,
    "annealing kernel state (machine.copy() of sa.place), see _step"),
  ((1043550550386, "rig.place_and_route.place.sa.python_kernel", "_swap", "machine", "setitem", "machine[vbs_location] = vbs_resources", 1), .callLocal,
    "annealing kernel state (machine.copy() of sa.place), see _step"),
  ((299311218995, "rig.place_and_route.place.sa.python_kernel", "_swap", "placements", "setitem", "placements[va] = vbs_location", 1), .callLocal,
    "annealing kernel state (the dict sa.place returns), see _step"),
  ((793146021949, "rig.place_and_route.place.sa.python_kernel", "_swap", "placements", "setitem", "placements[vb] = vas_location", 1), .callLocal,
    "annealing kernel state (the dict sa.place returns), see _step"),
  ((438039979619, "rig.place_and_route.place.sequential", "place", "nets", "pass:apply_same_chip_constraints(nets)", "apply_same_chip_constraints(vertices_resources, nets, constraints)", 1), .viaCallee,
    "apply_same_chip_constraints copies nets (nets[:]) and every Net it changes before writing; dynamic: place_sequential / seqcustom / hilbert / rcm / breadth_first keep nets and compare"),
  ((934151493337, "rig.place_and_route.place.utils", "apply_reserve_resource_constraint", "machine", "setattr", "machine.chip_resources = resources_after_reservation(machine.chip_resources, constraint)", 1), .helperFresh,
    "documented as in-place; every caller (sequential.place, rand.place, sa.place) has rebound machine = machine.copy() before; dynamic: every placer stream keeps the machine (with a ReserveResourceConstraint) and compares"),
  ((138147454741, "rig.place_and_route.place.utils", "apply_reserve_resource_constraint", "machine", "setitem", "machine.chip_resource_exceptions[location] = resources_after_reservation(machine.chip_resource_exceptions[location], constraint)", 1), .helperFresh,
    "documented as in-place; every caller (sequential.place, rand.place, sa.place) has rebound machine = machine.copy() before; dynamic: every placer stream keeps the machine (with a ReserveResourceConstraint) and compares"),
  ((388795888443, "rig.place_and_route.place.utils", "apply_reserve_resource_constraint", "machine", "setitem", "machine[constraint.location] = resources_after_reservation(machine[constraint.location], constraint)", 1), .helperFresh,
    "documented as in-place; every caller (sequential.place, rand.place, sa.place) has rebound machine = machine.copy() before; dynamic: every placer stream keeps the machine (with a ReserveResourceConstraint) and compares"),
  ((449220276588, "rig.place_and_route.place.utils", "apply_same_chip_constraints", "nets", "setitem", "net.sinks[sink_num] = merged_vertex", 1), .helperFresh,
    "writes into net.sinks only after net = Net(...) (which copies the sinks list) - the flag net_changed guards it - and into its own nets[:] copy; dynamic: placer streams with SameChipConstraint on net sinks keep nets and compare"),
  ((466533618632, "rig.place_and_route.place.utils", "finalise_same_chip_constraints", "placements", "call:pop", "placements.pop(merged_vertex)", 1), .helperFresh,
    "documented as in-place; every caller (sequential.place, rand.place, sa.place) passes the placements dict it has built and returns"),
  ((589222628697, "rig.place_and_route.place.utils", "finalise_same_chip_constraints", "placements", "setitem", "placements[v] = placement", 1), .helperFresh,
    "documented as in-place; every caller (sequential.place, rand.place, sa.place) passes the placements dict it has built and returns"),
  ((551681106703, "rig.place_and_route.route.ner", "avoid_dead_links", "root", "pass:copy_and_disconnect_tree(root)", "copy_and_disconnect_tree(root, machine)", 1), .viaCallee,
    "copy_and_disconnect_tree builds a new tree and appends to the new nodes only"),
  ((953318067030, "rig.place_and_route.route.ner", "copy_and_disconnect_tree", "root", "call:append", "new_parent.children.append((direction, new_node))", 1), .helperFresh,
    "new_parent is always a node of the copy (RoutingTree(old_node.chip) made in this call); the queue also holds old nodes, which the scan cannot tell apart; dynamic: route with dead links keeps nothing of the old tree (C03 model: copyAndDisconnect_*)"),
  ((161057576855, "rig.place_and_route.route.ner", "memoized_concentric_hexagons", "global:_concentric_hexagons", "setitem", "_concentric_hexagons[radius] = out", 1), .memo,
    "THE memo of the library: modelled by memoGet, transparent by memoGet_spec / history_independent; same object as the inventory entry"),
  ((981721944840, "rig.place_and_route.route.utils", "longest_dimension_first", "start", "augassign", "x %= width", 1), .scalar,
    "x, y are ints unpacked from the start tuple; the augmented assignments rebind the local names"),
  ((365647253599, "rig.place_and_route.route.utils", "longest_dimension_first", "start", "augassign", "x += dx", 1), .scalar,
    "x, y are ints unpacked from the start tuple; the augmented assignments rebind the local names"),
  ((997567643389, "rig.place_and_route.route.utils", "longest_dimension_first", "start", "augassign", "y %= height", 1), .scalar,
    "x, y are ints unpacked from the start tuple; the augmented assignments rebind the local names"),
  ((70611787475, "rig.place_and_route.route.utils", "longest_dimension_first", "start", "augassign", "y += dy", 1), .scalar,
    "x, y are ints unpacked from the start tuple; the augmented assignments rebind the local names"),
  ((1092505408257, "rig.place_and_route.routing_tree", "RoutingTree.chip", "self", "setattr", "self._chip_x, self._chip_y = chip", 1), .selfApi,
    "property setter: tree.chip = (x, y) is an explicit assignment by the caller"),
  ((838487043139, "rig.place_and_route.wrapper", "place_and_route_wrapper", "nets", "pass:place(nets)", "place(vertices_resources, nets, machine, constraints, **place_kwargs)", 1), .viaCallee,
    "place(...) = one of the placers, see sequential.place / apply_same_chip_constraints; dynamic: pr_wrapper stream keeps nets and compares"),
  ((5982645817, "rig.place_and_route.wrapper", "place_and_route_wrapper", "place_kwargs", "pass:place(nets)", "place(vertices_resources, nets, machine, constraints, **place_kwargs)", 1), .viaCallee,
    "a nets= entry of place_kwargs would be handed to the placer, see above"),
  ((1004430421922, "rig.place_and_route.wrapper", "wrapper", "nets", "pass:place(nets)", "place(vertices_resources, nets, machine, constraints, **place_kwargs)", 1), .viaCallee,
    "place(...) = one of the placers, see sequential.place / apply_same_chip_constraints; dynamic: wrapper stream keeps nets and compares"),
  ((235051492002, "rig.place_and_route.wrapper", "wrapper", "place_kwargs", "pass:place(nets)", "place(vertices_resources, nets, machine, constraints, **place_kwargs)", 1), .viaCallee,
    "a nets= entry of place_kwargs would be handed to the placer, see above"),
  ((803456061717, "rig.routing_table.ordered_covering", "_get_insertion_index", "generality", "augassign", "generality -= 1", 1), .scalar,
    "generality is an int; -= rebinds the local name"),
  ((284620419600, "rig.utils.contexts", "Context.__enter__", "self", "call:append", "self.stack.append(self)", 1), .selfApi,
    "the context stack of the controller: `with controller(...)` pushes (C18 model: restore*)"),
  ((630729698618, "rig.utils.contexts", "Context.__exit__", "self", "call:pop", "self.stack.pop()", 1), .selfApi,
    "the context stack of the controller: leaving the with block pops (C18 model: restore*)"),
  ((719633350909, "rig.utils.contexts", "Context.before_close", "self", "call:append", "self._before_close.append(fn)", 1), .selfApi,
    "documented: registers a callback on this context (C18 model: application_stops)"),
  ((108291538085, "rig.utils.contexts", "Context.update", "self", "call:update", "self.context_arguments.update(updates)", 1), .selfApi,
    "documented in-place API behind update_current_context"),
  ((987049411304, "rig.utils.contexts", "ContextMixin.update_current_context", "self", "call:update", "self.__context_stack[-1].update(context_args)", 1), .selfApi,
    "documented in-place API: changes the arguments of the current context of this controller (C18 model)"),
  ((913185881767, "rig.utils.docstrings", "add_int_enums_to_docstring", "enum", "aug-setattr", "enum.__doc__ += '\\n\\nAttributes\\n----------\\n'", 1), .importTime,
    "class decorator: runs once per decorated class at import time and edits the docstring of the class being defined"),
  ((571804950424, "rig.utils.docstrings", "add_int_enums_to_docstring", "enum", "aug-setattr", "enum.__doc__ += '{} = {}\\n'.format(val.name, int(val))", 1), .importTime,
    "class decorator: runs once per decorated class at import time and edits the docstring of the class being defined"),
  ((279253392841, "rig.utils.docstrings", "add_int_enums_to_docstring", "enum", "setattr", "enum.__doc__ = ''", 1), .importTime,
    "class decorator: runs once per decorated class at import time and edits the docstring of the class being defined"),
  ((94009754807, "rig.utils.docstrings", "add_signature_to_docstring.decorate", "f_wrapper", "setattr", "f_wrapper.__doc__ = '{}\\n{}'.format(signature, f_wrapper.__doc__)", 1), .importTime,
    "function decorator: runs at import time and edits the docstring of the wrapper being defined"),
  ((1058036608055, "rig.utils.docstrings", "add_signature_to_docstring.decorate", "f_wrapper", "setattr", "f_wrapper.__doc__ = signature", 1), .importTime,
    "function decorator: runs at import time and edits the docstring of the wrapper being defined")
]

def reviewedKeys : List Effect := reviewed.map (·.1)

/-- the generated effects that have no review with exactly the same fields (must be empty) -/
def unreviewed : List Effect := effects.filter (fun e => !reviewedKeys.contains e)

-- Evaluated by Lean's interpreter on every build (not by the kernel: kernel evaluation of string equality is far
-- too slow for 700 long strings): names every effect without a review in the build log - so the replay file of
-- the broken obligation says which statement is new - and compares ALL fields of every entry, not only the tag.
open Lean Elab Command in
run_cmd
  for e in unreviewed do
    logError m!"UNREVIEWED effect: {e.2.1} {e.2.2.1} root={e.2.2.2.1} kind={e.2.2.2.2.1} x{e.2.2.2.2.2.2} tag={e.1}: {e.2.2.2.2.2.1}"

/-- **Effect obligation** (kernel-checked).  Every statement the scan lists is one of the reviewed entries, identified
by its tag, a 40-bit number the generator computes from (module, function, root, kind, normalised statement text,
multiplicity): a new in-place edit of an argument, a new cache on an object, or a changed statement of a reviewed one
has a tag that is not in the list.  (The field-by-field comparison of the strings is the interpreter check above.) -/
theorem effects_reviewed : ∀ t ∈ effects.map (·.1), t ∈ reviewed.map (·.1.1) := by
  -- evaluated with `Nat.beq`, which the kernel computes natively on the 40-bit tags
  have h : (effects.all fun e => reviewed.any fun r => Nat.beq e.1 r.1.1) = true := by decide +kernel
  intro t ht
  obtain ⟨e, he, rfl⟩ := List.mem_map.1 ht
  obtain ⟨r, hr, hb⟩ := List.any_eq_true.1 (List.all_eq_true.1 h e he)
  exact List.mem_map.2 ⟨r, hr, (Nat.eq_of_beq_eq_true hb).symm⟩

/-- the scan is alive: it lists at least 50 effects, and it sees the write of the one memo that the inventory
(`inventory_written_once`) knows about - an empty or crippled table cannot satisfy `effects_reviewed` vacuously -/
theorem effects_scan_alive :
    50 ≤ effects.length ∧ 161057576855 ∈ effects.map (·.1) ∧
    (reviewed.filter (fun r => r.2.1 == Why.memo)).map (·.1.1) = [161057576855] := by
  decide +kernel

end Rig.C17
