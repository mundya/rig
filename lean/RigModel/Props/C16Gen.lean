/-
C16 - translator tie: the scalar converters `float_to_fp(signed, n_bits, n_frac)(value)` and
`fp_to_float(n_frac)(value)` (rig/type_casts.py; the outer function and the closure it returns as ONE definition of
both parameter lists) = the model's `floatToFp` / `fpToFloat`; the integer attributes of
`NumpyFloatToFixConverter.__init__` = the format's `maxV` / `minV`.  The generated definitions are parametric in the
semantics of Python floats (`F : PyFloatOps φ`: `2.0 ** n`, `float(k)`, `*`, `int(x)`); here `F` is instantiated with
the IEEE-754 double model of Model/C16.lean (`pow2f`, `intToDouble`, `mulScale`, `truncScaled` - that model's trusted
base).
-/
import RigModel.Model.C16
import RigModel.Gen.PyFun
import RigModel.Lemmas.C16
import RigModel.Lemmas.PyCast

-- see Lemmas/PyCast.lean
set_option linter.unusedTactic false
set_option linter.unreachableTactic false

namespace Rig.C16
open Rig.Gen

/-- a Python float value of the translated code: the scale `2.0 ** n` (`none` = 0.0 after silent underflow) or a
double -/
inductive FV where
  | scale (s : Option Int)
  | val (x : FloatR)
  deriving Repr, DecidableEq

/-- the float semantics of Model/C16 as the operations the generated definitions call.  The only multiplication the
translated code performs is "double times power of two" (`mulScale`); other operand shapes do not occur. -/
def dyOps : PyFun.PyFloatOps FV where
  pow2 n := match pow2f n with
    | .ok s => .ok (.scale s)
    | .error _ => .error "OverflowError"
  ofInt k := match intToDouble k with
    | .ok d => .ok (.val (.fin d))
    | .error _ => .error "OverflowError"
  mul a b := match a, b with
    | .scale s, .val (.fin x) => .val (mulScale x s)
    | .val (.fin x), .scale s => .val (mulScale x s)
    | _, _ => .val (.fin ⟨0, 0⟩)
  toInt v := match v with
    | .val (.fin d) => .ok (truncScaled d.m d.e)
    | .val (.inf _) => .error "OverflowError"
    | .scale none => .ok 0
    | .scale (some j) => .ok (truncScaled 1 j)
  ilog2 _ := .error "unmodelled"        -- `int(log(k, 2))` is not used by type_casts.py

def errPy {α β : Type} (f : α → β) : Except Err α → Except String β
  | .ok v => .ok (f v)
  | .error .valueError => .error "ValueError"
  | .error .assertion => .error "AssertionError"
  | .error .domain => .error "domain"
  | .error _ => .error "OverflowError"

/-- including both OverflowErrors and their order -/
theorem gen_fp_to_float (frac k : Int) :
    PyFun.fp_to_float dyOps frac k = errPy (fun r => FV.val r) (fpToFloat frac k) := by
  unfold PyFun.fp_to_float fpToFloat
  simp only [dyOps, bind, Except.bind, pure, Except.pure]
  cases h1 : pow2f (-frac) with
  | error e =>
    have : e = .overflowPow := by
      unfold pow2f at h1; split at h1 <;> (try split at h1) <;> simp at h1; exact h1.symm
    subst this; rfl
  | ok s =>
    cases h2 : intToDouble k with
    | error e =>
      have : e = .overflowFloat := by
        unfold intToDouble at h2; dsimp only at h2; split at h2 <;> simp at h2; exact h2.symm
      subst this; rfl
    | ok d => rfl

theorem shl_one (n : Nat) : (1 : Int) <<< n = 2 ^ n := by
  rw [Int.shiftLeft_eq]; simp

/-- `max_v`, `min_v` as the outer function computes them -/
theorem bounds_eq (fmt : Fmt) :
    (if fmt.signed = true then
        ((1 : Int) <<< ((fmt.bits : Int) - 1).toNat - 1, -((1 : Int) <<< ((fmt.bits : Int) - 1).toNat - 1) - 1)
      else ((1 : Int) <<< ((fmt.bits : Int)).toNat - 1, (0 : Int))) = (fmt.maxV, fmt.minV) := by
  obtain ⟨signed, bits, frac⟩ := fmt
  rw [show ((bits : Int) - 1).toNat = bits - 1 from Int.toNat_sub bits 1, Int.toNat_natCast, shl_one, shl_one]
  cases signed <;> rfl

theorem bits_ok (fmt : Fmt) (hb : fmt.signed = true → 1 ≤ fmt.bits) : (fmt.signed && fmt.bits == 0) = false := by
  cases hs : fmt.signed
  · rfl
  · have := hb hs
    simp; omega

/-- the generated converter with the float operations of the double model evaluated -/
theorem float_to_fp_dy (fmt : Fmt) (v : Dy) :
    PyFun.float_to_fp dyOps fmt.signed (fmt.bits : Int) fmt.frac (FV.val (.fin v))
      = match pow2f fmt.frac with
        | .error _ => .error "OverflowError"
        | .ok s =>
          match mulScale v s with
          | .fin d => .ok (max (min fmt.maxV (truncScaled d.m d.e)) fmt.minV)
          | .inf _ => .error "OverflowError" := by
  unfold PyFun.float_to_fp
  simp only [dyOps, bounds_eq]
  cases pow2f fmt.frac with
  | error e => rfl
  | ok s =>
    dsimp only
    cases mulScale v s <;> simp only [py_ac]

/-- `hb`: `1 << (n_bits - 1)` is defined (Python raises ValueError for the negative shift otherwise, which the
translator does not model); `hf`, `he`: neither the scale `2.0 ** n_frac` nor the product falls below the normal
exponent range (no subnormal rounding; lifted in `gen_float_to_fp_all`) -/
theorem gen_float_to_fp (fmt : Fmt) (v : Dy) (hb : fmt.signed = true → 1 ≤ fmt.bits) (hf : -1074 ≤ fmt.frac)
    (he : -1074 ≤ v.e + fmt.frac) :
    PyFun.float_to_fp dyOps fmt.signed (fmt.bits : Int) fmt.frac (FV.val (.fin v)) = errPy id (floatToFp fmt v) := by
  rw [float_to_fp_dy]
  unfold floatToFp
  simp only [bits_ok fmt hb, Bool.false_eq_true, if_false]
  by_cases h1 : 1024 ≤ fmt.frac
  · simp only [pow2f, h1, if_true]; rfl
  rw [pow2f_ok hf (Int.not_le.mp h1)]
  simp only [h1, if_false, mulScale, toDouble]
  by_cases hm : v.m = 0
  · simp only [hm, if_true, magLt_of_zero, Bool.not_true, Bool.false_eq_true, if_false, truncScaled_zero]
    rfl
  · simp only [hm, if_false]
    cases hmag : magLt v.m (v.e + fmt.frac) 1024
    · rfl
    · simp only [Bool.not_true, Bool.false_eq_true, if_false, he, if_true]
      rfl

/-- `npBits` is regenerated from the source as well; the attributes `bytes_per_element` and `dtype` are not integers
and not translated -/
theorem gen_np_init (a b c : Int) (fmt : Fmt) :
    PyFun.NumpyFloatToFixConverter_init a b c fmt.signed (fmt.bits : Int) fmt.frac
      = if Rig.Gen.TypeCasts.npBits.contains fmt.bits then .ok (fmt.maxV, fmt.minV, fmt.frac)
        else .error "ValueError" := by
  obtain ⟨signed, bits, frac⟩ := fmt
  have hmem : ([8, 16, 32, 64] : List Int).contains (bits : Int) = Rig.Gen.TypeCasts.npBits.contains bits :=
    Rig.PyLoops.contains_natCast Rig.Gen.TypeCasts.npBits bits
  unfold PyFun.NumpyFloatToFixConverter_init
  rw [hmem]
  cases Rig.Gen.TypeCasts.npBits.contains bits
  · rfl
  · rw [show ((bits : Int) - 1).toNat = bits - 1 from Int.toNat_sub bits 1, Int.toNat_natCast]
    cases signed <;> first | rfl | simp [Fmt.maxV, Fmt.minV]

theorem sig_small (m k : Int) (hm : m.natAbs ≤ 2 ^ 53) (hk : k < -53) : m.natAbs < 2 ^ (-k).toNat := by
  have h1 : (2 : Nat) ^ 53 < 2 ^ (-k).toNat := Nat.pow_lt_pow_right (by decide) (by omega)
  omega

theorem magLt_small (m k : Int) (b : Nat) (hk : k < 0) (h : m.natAbs < 2 ^ (-k).toNat) : magLt m k b = true := by
  unfold magLt
  have : ¬ (0 ≤ k) := by omega
  simp only [this, if_false, decide_eq_true_eq]
  have h1 : (2 : Nat) ^ (-k).toNat ≤ 2 ^ (b + (-k).toNat) := Nat.pow_le_pow_right (by decide) (by omega)
  omega

/-- every finite double has a representation `m * 2^e` with `|m| <= 2^53`, `-1074 <= e <= 971`; scales that underflow to
0.0 and products in the subnormal range give 0 on both sides -/
theorem gen_float_to_fp_all (fmt : Fmt) (v : Dy) (hb : fmt.signed = true → 1 ≤ fmt.bits)
    (hm : v.m.natAbs ≤ 2 ^ 53) (hev : v.e ≤ 971) (hel : -1074 ≤ v.e) :
    PyFun.float_to_fp dyOps fmt.signed (fmt.bits : Int) fmt.frac (FV.val (.fin v)) = errPy id (floatToFp fmt v) := by
  by_cases hn : -1074 ≤ fmt.frac ∧ -1074 ≤ v.e + fmt.frac
  · exact gen_float_to_fp fmt v hb hn.1 hn.2
  have hk : v.e + fmt.frac < -53 := by omega
  have hs := sig_small v.m (v.e + fmt.frac) hm hk
  have hmag : magLt v.m (v.e + fmt.frac) 1024 = true := magLt_small _ _ _ (by omega) hs
  have ht : truncScaled v.m (v.e + fmt.frac) = 0 :=
    truncScaled_small (by rw [Int.abs_eq_natAbs]; exact_mod_cast hm) hk
  rw [float_to_fp_dy]
  unfold floatToFp
  have h1 : ¬ (1024 ≤ fmt.frac) := by omega
  simp only [bits_ok fmt hb, Bool.false_eq_true, if_false, pow2f, h1, hmag, Bool.not_true, ht]
  by_cases hf : fmt.frac < -1074
  · simp only [hf, if_true, mulScale, truncScaled, num, den]
    rfl
  · obtain ⟨d, hd, hdt⟩ := toDouble_trunc v.m (v.e + fmt.frac) hmag hm
    simp only [hf, if_false, mulScale, hd, hdt, ht]
    rfl

end Rig.C16
