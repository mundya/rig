/-
C08 lemmas: the instances of a bit field.  Every value an instance holds belongs to a field present in it and is at
most that field's `max_value` (so it fits once the length is known); two instances that differ at all differ on a
field present in both.  Also the model-only step `markSpare`, which changes nothing but the `spare` flag.
-/
import RigModel.Lemmas.C08Tag

namespace Rig.C08

/-- one value of an instance: it belongs to a present field and was recorded in `max_value` -/
def ValOK (es : List Entry) (fv : Reqs) (iv : Ident × Nat) : Prop :=
  ∃ e ∈ es, e.ident = iv.1 ∧ e.enabled fv = true ∧ iv.2 ≤ e.field.maxValue

def InstOK (es : List Entry) (fv : Reqs) : Prop := ∀ iv ∈ fv, ValOK es fv iv

theorem mem_modifyFirst_fwd {pm : Entry → Bool} {f : Field → Field} {es : List Entry} {x : Entry} (h : x ∈ es) :
    x ∈ modifyFirst pm f es ∨ x.upd f ∈ modifyFirst pm f es := by
  fun_induction modifyFirst pm f es with
  | case1 => cases h
  | case2 e es =>
    rcases List.mem_cons.mp h with rfl | h
    · exact .inr List.mem_cons_self
    · exact .inl (List.mem_cons_of_mem _ h)
  | case3 e es _ ih =>
    rcases List.mem_cons.mp h with rfl | h
    · exact .inl List.mem_cons_self
    · exact (ih h).imp (List.mem_cons_of_mem _) (List.mem_cons_of_mem _)

theorem valOK_modifyFirst {pm : Entry → Bool} {f : Field → Field} {es : List Entry} {fv : Reqs} {iv : Ident × Nat}
    (hf : ∀ fld, fld.maxValue ≤ (f fld).maxValue) (h : ValOK es fv iv) : ValOK (modifyFirst pm f es) fv iv := by
  obtain ⟨e, he, h1, h2, h3⟩ := h
  rcases mem_modifyFirst_fwd (pm := pm) (f := f) he with h' | h'
  · exact ⟨e, h', h1, h2, h3⟩
  · exact ⟨e.upd f, h', h1, h2, Nat.le_trans h3 (hf _)⟩

theorem instOK_modifyField {es : List Entry} {fv fv0 : Reqs} {i : Ident} {f : Field → Field}
    (hf : ∀ fld, fld.maxValue ≤ (f fld).maxValue) (h : InstOK es fv) : InstOK (modifyField es i fv0 f) fv :=
  fun iv hiv => valOK_modifyFirst hf (h iv hiv)

theorem fold_max_mono {all fv : Reqs} {iv : Ident × Nat} (kvs : Reqs) {es : List Entry} (h : ValOK es fv iv) :
    ValOK (kvs.foldl (fun es kv => modifyField es kv.1 all fun f => { f with maxValue := max f.maxValue kv.2 }) es) fv iv :=
  List.foldlRecOn (motive := fun es => ValOK es fv iv) _ _ h fun _ h _ _ =>
    valOK_modifyFirst (fun _ => Nat.le_max_left _ _) h

theorem fold_max_spec {all : Reqs} (kvs : Reqs) {es : List Entry}
    (hex : ∀ iv ∈ kvs, ∃ e, getField es iv.1 all = some e) : ∀ iv ∈ kvs,
    ValOK (kvs.foldl (fun es kv => modifyField es kv.1 all fun f => { f with maxValue := max f.maxValue kv.2 }) es) all iv := by
  induction kvs generalizing es with
  | nil => intro _ hiv; cases hiv
  | cons kv kvs ih =>
    intro iv hiv
    rw [List.foldl_cons]
    rcases List.mem_cons.mp hiv with rfl | hiv
    · refine fold_max_mono kvs ?_
      obtain ⟨e, hg⟩ := hex iv List.mem_cons_self
      obtain ⟨_, h1, h2⟩ := getField_some hg
      exact ⟨_, upd_mem_modifyFirst hg, h1, h2, Nat.le_max_right _ _⟩
    · refine ih (fun jw hjw => ?_) iv hiv
      obtain ⟨e, hg⟩ := hex jw (List.mem_cons_of_mem _ hjw)
      rcases getField_modifyFirst (fun e => e.ident == kv.1 && e.enabled all)
        (fun f => { f with maxValue := max f.maxValue kv.2 }) jw.1 all es with h | ⟨y, _, _, h⟩
      · exact ⟨e, h.trans hg⟩
      · exact ⟨_, h⟩

theorem call_instOK {st st' : State} {fv fv' : Reqs} {kw : List (Ident × Int)}
    (h : call st fv kw = .ok (st', fv')) :
    InstOK st'.entries fv' ∧ ∀ fv0, InstOK st.entries fv0 → InstOK st'.entries fv0 := by
  have hchk := call_values_checked h
  obtain ⟨_, _, rfl⟩ := call_ok h
  refine ⟨fold_max_spec fv' fun iv hiv => ?_, fun fv0 h0 iv hiv => fold_max_mono fv' (h0 iv hiv)⟩
  obtain ⟨e, hg, _⟩ := hchk iv hiv
  exact ⟨e, hg⟩

theorem addField_instOK {st st' : State} {fv fv0 : Reqs} {ident : Ident} {length : Option Int}
    {startAt : Option Nat} {tags : List String} (h : addField st fv ident length startAt tags = .ok st')
    (h0 : InstOK st.entries fv0) : InstOK st'.entries fv0 := by
  obtain ⟨_, _, _, q, e, _, _, hst', _⟩ := addField_checked h
  rw [hst']
  refine List.foldlRecOn (motive := fun es => InstOK es fv0) _ _ (fun iv hiv => ?_)
    fun _ h _ _ => instOK_modifyField (fun _ => Nat.le_refl _) h
  obtain ⟨y, hy, r⟩ := h0 iv hiv
  exact ⟨y, (insertEntry_perm _ _).mem_iff.mpr (List.mem_cons_of_mem _ hy), r⟩

theorem assignFieldsP_instOK {st : State} {fv0 : Reqs} (h0 : InstOK st.entries fv0) :
    InstOK (assignFieldsP st).1.entries fv0 :=
  assignFieldsP_preserves (P := fun es => InstOK es fv0)
    (fun _ _ _ _ _ _ _ h => instOK_modifyField (fun _ => Nat.le_refl _) h) st h0

theorem instOK_markSpare {es : List Entry} (g : Nat → Bool) {fv : Reqs} (h : InstOK es fv) :
    InstOK (markSpare g es) fv := fun iv hiv =>
  let ⟨_, he, r⟩ := h iv hiv
  ⟨_, List.mem_map_of_mem he, r⟩

-- every clause speaks of what `markSpare` leaves alone, entry by entry
theorem inv_markSpare {st : State} (g : Nat → Bool) (h : Inv st) :
    Inv { st with entries := markSpare g st.entries } where
  unique := List.pairwise_map.mpr h.unique
  selfc := List.forall_mem_map.mpr h.selfc
  disjoint := List.pairwise_map.mpr h.disjoint
  inRange := List.forall_mem_map.mpr h.inRange
  wide := List.forall_mem_map.mpr h.wide
  lenPos := List.forall_mem_map.mpr h.lenPos

theorem inv2_markSpare {st : State} (g : Nat → Bool) (h : Inv2 st) :
    Inv2 { st with entries := markSpare g st.entries } where
  struct := struct_of_shape_eq (by simp [shape, markSpare]) h.struct
  tagClosed := List.forall_mem_map.mpr fun e he => List.forall_mem_map.mpr (h.tagClosed e he)

theorem valuesFit_of_instOK {st : State} (hinv : Inv st) {fv : Reqs} (h : InstOK st.entries fv) :
    ValuesFit st.entries fv := by
  intro e he x l hx hl
  obtain ⟨e', he', h1, h2, h3⟩ := h (e.ident, x) (Assoc.mem_of_lookup hx)
  obtain ⟨he1, he2⟩ := List.mem_filter.mp he
  obtain rfl := eq_of_enabled_same_ident hinv.unique he' he1 h1 h2 he2
  exact Nat.lt_of_le_of_lt h3 (hinv.wide e' he1 l hl)

/-- by induction on the depth: the requirements of a field name fields of the nodes above it, which are present in both -/
theorem enabled_of_agree {es : List Entry} (hs : Struct es) {fv fv' : Reqs}
    (hag : ∀ y ∈ es, y.enabled fv = true → y.enabled fv' = true → fv.lookup y.ident = fv'.lookup y.ident)
    {e : Entry} (he : e ∈ es) (h : e.enabled fv = true) : e.enabled fv' = true := by
  have hall := List.all_eq_true.mp h
  have key : ∀ n, n ≤ e.path.length → (e.path.take n).all (satisfied fv') = true := by
    intro n
    induction n with
    | zero => intro _; rfl
    | succ n ih =>
      intro hn
      have hpre := ih (Nat.le_of_succ_le hn)
      rw [List.take_succ_eq_append_getElem hn, List.all_append, hpre]
      simp only [Bool.true_and, List.all_cons, List.all_nil, Bool.and_true, satisfied_iff]
      intro iv hiv
      obtain ⟨y, hy, hyp, hyi⟩ := mem_shape.mp ((hs _ (mem_shape.mpr ⟨e, he, rfl, rfl⟩) n hn).2 iv hiv)
      have e1 : y.enabled fv = true := by
        rw [Entry.enabled, hyp]; exact List.all_eq_true.mpr fun r hr => hall r (List.mem_of_mem_take hr)
      rw [← hyi, ← hag y hy e1 (by rw [Entry.enabled, hyp]; exact hpre), hyi]
      exact (satisfied_iff _ _).mp (hall _ (List.getElem_mem hn)) iv hiv
  simpa [Entry.enabled] using key _ (Nat.le_refl _)

/-- for instances only: an arbitrary dict may carry a stray key, and two dicts may differ on that alone -/
theorem differ_on_common {es : List Entry} (hs : Struct es) {fv fv' : Reqs} (hk : InstOK es fv) (hk' : InstOK es fv')
    (hne : ∃ i, fv.lookup i ≠ fv'.lookup i) :
    ∃ e ∈ es, e.enabled fv = true ∧ e.enabled fv' = true ∧ fv.lookup e.ident ≠ fv'.lookup e.ident := by
  apply Classical.byContradiction
  intro hcon
  have hag : ∀ y ∈ es, y.enabled fv = true → y.enabled fv' = true → fv.lookup y.ident = fv'.lookup y.ident :=
    fun y hy h1 h2 => Classical.byContradiction fun hn => hcon ⟨y, hy, h1, h2, hn⟩
  -- a value of one assignment belongs to a field present in it, hence in the other, on which they agree
  have key : ∀ {fv fv' : Reqs}, InstOK es fv →
      (∀ y ∈ es, y.enabled fv = true → y.enabled fv' = true → fv.lookup y.ident = fv'.lookup y.ident) →
      ∀ {i x}, fv.lookup i = some x → fv'.lookup i = some x := by
    intro fv fv' hk hag i x h
    obtain ⟨e, he, rfl, h2, _⟩ := hk _ (Assoc.mem_of_lookup h)
    rw [← hag e he h2 (enabled_of_agree hs hag he h2)]; exact h
  have hag' := fun y hy h1 h2 => (hag y hy h2 h1).symm
  obtain ⟨i, hi⟩ := hne
  apply hi
  cases hf : fv.lookup i with
  | some x => exact (key hk hag hf).symm
  | none =>
    cases hf' : fv'.lookup i with
    | none => rfl
    | some x' => exact absurd ((key hk' hag' hf').symm.trans hf) (by simp)

end Rig.C08
