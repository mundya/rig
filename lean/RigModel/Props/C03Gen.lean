/-
C03 - translator tie: the body of `Links.opposite` (rig/links.py) is regenerated from the source into
`Gen/PyFun.lean`; the model's `opp` (a table lookup in the regenerated `oppositeTable`) is proved equal to it
on the six links.
-/
import RigModel.Model.C03
import RigModel.Gen.PyFun

namespace Rig.C03
open Rig.Gen

theorem gen_opp (l : Nat) (h : l < 6) : PyFun.Links_opposite l = .ok ((opp l : Nat) : Int) := by
  revert l; decide

end Rig.C03
