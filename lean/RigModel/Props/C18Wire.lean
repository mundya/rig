/-
C18 (companion) - the command put on the wire carries the resolved values:
theorems about the per-method wire rules (`bodyOf`) of EVERY decorated method of the
generated signature table, for all argument values, context stacks and passing styles.
The symbolic requests of every method address the chip / board its own signature names (`sigs_checked`, evaluated);
by the soundness of the symbolic rules so does every request of an accepted call; and of the fields of a request only
the core `p` of the inner reads of 17 methods can depend on HOW the arguments were passed.

A changed signature (Gen/Signatures.lean is regenerated from the source on every run) or a
changed rule breaks `sigs_checked`, on which `rules_obey_signature_rule` / `core_from_context_methods` rest.
-/
import RigModel.Lemmas.C18Wire

namespace Rig.C18
open Rig.Gen.Signatures

/-- every symbolic request of every decorated method obeys the addressing rule derived from the
method's own signature (`chipRule`): chip (x, y) for methods that have chip coordinates,
(255, 255) for those that have none and for `discover_connections`, data-computed chips only for the
four methods documented to visit many chips; application id = the method's `app_id`; BMP: (cabinet, frame,
board), or the first board (any method), or board 0 (`set_power` only), and mask = the boards -/
theorem rules_obey_signature_rule : ∀ s ∈ sigs, (rulesOf sigs s).all (ruleOk s) = true :=
  fun s hs => (sigs_checked.1 s hs).2.2.1

theorem known_of_ruleOk (s : Sig) (ap : APat) (h : ruleOk s ap = true) :
    (ap.a.isSome && ap.b.isSome && ap.extra != some none) = true := by
  unfold ruleOk at h
  split at h <;> simp only [Bool.and_eq_true, Bool.or_eq_true, beq_iff_eq, List.any_eq_true] at h
  · obtain ⟨⟨⟨ha, hb⟩, _⟩, hx | hx⟩ := h <;> simp [ha, hb, hx]
  · obtain ⟨⟨_, _, ha, hb⟩, hx | hx⟩ := h <;> simp [ha, hb, hx]

theorem known_of_rules {s : Sig} {l : List APat} (hrule : l.all (ruleOk s) = true) :
    l.all (fun ap => ap.a.isSome && ap.b.isSome && ap.extra != some none) = true :=
  List.all_eq_true.mpr fun ap hap => known_of_ruleOk s ap (List.all_eq_true.mp hrule ap hap)

/-- no request of any method leaves x, y or the application id to the context stack of an inner call -/
theorem rules_chip_known : ∀ s ∈ sigs, (rulesOf sigs s).all
    (fun ap => ap.a.isSome && ap.b.isSome && ap.extra != some none) = true :=
  fun s hs => known_of_rules (rules_obey_signature_rule s hs)

def chipAddr (b : Dict) : Chip → Val × Val
  | .own => (lookupV b "x", lookupV b "y")
  | .root => (.int 255, .int 255)
  | .data => (.dyn, .dyn)

/-- the request pattern `pt` carries the values bound for this call of `s` -/
def Carries (s : Sig) (b : Dict) (pt : Pat) : Prop :=
  if pt.kind = .bmp then
    pt.a = lookupV b "cabinet" ∧ pt.b = lookupV b "frame" ∧
    (pt.c = lookupV b "board" ∨ pt.c = firstVal (lookupV b "board") ∨ (s.name = "set_power" ∧ pt.c = .int 0)) ∧
    (pt.extra = none ∨ pt.extra = some (maskVal (lookupV b "board")))
  else
    (∃ ch ∈ chipRule s, (pt.a, pt.b) = chipAddr b ch) ∧
    (pt.extra = none ∨ pt.extra = some (lookupV b "app_id"))

theorem carries_of_ruleOk (s : Sig) (b : Dict) (ap : APat) (pt : Pat)
    (hok : ruleOk s ap = true) (hd : ap.Describes b pt) : Carries s b pt := by
  obtain ⟨hk, ha, hb, hc, hx0, hx1⟩ := hd
  unfold ruleOk at hok
  unfold Carries
  rw [hk]
  split at hok <;> rename_i hbmp <;>
    simp only [Bool.and_eq_true, Bool.or_eq_true, beq_iff_eq, List.any_eq_true] at hok
  · obtain ⟨⟨⟨h1, h2⟩, h3⟩, h4⟩ := hok
    rw [if_pos hbmp]
    exact ⟨ha _ h1, hb _ h2,
      h3.elim (·.elim (.inl ∘ hc _) (.inr ∘ .inl ∘ hc _)) fun h => .inr (.inr ⟨h.1, hc _ h.2⟩),
      h4.imp hx0.mp (hx1 _)⟩
  · obtain ⟨⟨ch, hch, h1, h2⟩, h4⟩ := hok
    rw [if_neg hbmp, ha _ h1, hb _ h2]
    exact ⟨⟨ch, hch, by cases ch <;> rfl⟩, h4.imp hx0.mp (hx1 _)⟩

theorem wireB_carries_resolved (body : String → String → List Op)
    (hrule : ∀ s ∈ sigs, (rulesOfB body sigs s).all (ruleOk s) = true)
    (s : Sig) (hs : s ∈ sigs) (b : Dict) (stack : List Dict) :
    ∀ pt ∈ wireB body sigs s.cls wireFuel s.name b stack, Carries s b pt := by
  intro pt hpt
  obtain ⟨ap, hap, hd⟩ := rulesOfB_sound body sigs s b stack pt hpt
  exact carries_of_ruleOk s b ap pt (List.all_eq_true.mp (hrule s hs) ap hap) hd

set_option linter.unusedVariables false in -- `hr`, `hb` say where `b` comes from; the conclusion holds for every `b`
/-- **The wire carries the resolved values.**  For every decorated method of the generated table,
every argument passing (positional / keyword / context / default, any mix), every context stack:
each request pattern an accepted call may put on the wire is addressed to the chip (x, y) bound for
the call - (255, 255) for the methods without chip coordinates and for `discover_connections`; a chip
computed from data only for the four `dataAddressed` methods (`chipRule`) - carries the call's application id
where the command has one, resp. goes to the call's (cabinet, frame, board) with the boards' mask. -/
theorem wire_carries_resolved (s : Sig) (hs : s ∈ sigs) (pos : List Val) (kw : Dict) (stack : List Dict)
    (nk b : Dict) (hr : resolve s pos.length kw stack = .ok nk) (hb : bind s pos nk = .ok b) :
    ∀ pt ∈ wire sigs s.cls wireFuel s.name b stack, Carries s b pt :=
  wireB_carries_resolved bodyOf rules_obey_signature_rule s hs b stack

/-- `callRes` form: the patterns of an accepted call reported by the model (and used as the wire
oracle on the implementation's datagrams) all carry the bound values -/
theorem sent_carries_resolved (E : Env) (hE : E.sigs = sigs) (s : Sig) (hs : s ∈ sigs) (hc : E.cls = s.cls)
    (hf : findSig sigs s.cls s.name = some s)
    (pos : List Val) (kw : Dict) (stack : List Dict) (nk : Dict) (pats : List Pat)
    (h : callRes E s.name pos kw stack = .sent nk pats) :
    ∃ b, resolve s pos.length kw stack = .ok nk ∧ bind s pos nk = .ok b ∧ ∀ pt ∈ pats, Carries s b pt := by
  revert h
  fun_cases callRes E s.name pos kw stack with
  | case5 s' hf' nk' hr b hb =>
    -- the one branch that sends
    intro h; obtain ⟨rfl, rfl⟩ := CallRes.sent.inj h
    rw [hE, hc, hf] at hf'; cases hf'
    exact ⟨b, hr, hb, fun pt hpt => wire_carries_resolved s hs pos kw stack _ b hr hb pt (hc ▸ hE ▸ hpt)⟩
  | _ => nofun

/-- the value bound to a parameter is the resolved one: the positional argument for the first
`pos.length` parameters, the entry of the precedence dictionary (`precedence_accepted`) otherwise -/
theorem bound_is_resolved (s : Sig) (pos : List Val) (nk b : Dict) (hb : bind s pos nk = .ok b) (n : String) :
    dget b n = (match dget ((s.argNames.drop 1).zip pos) n with
                | some v => some v
                | none => dget nk n) := by
  rw [bind_ok hb]
  exact dget_append _ _ _

theorem chipB_independent_of_passing_style {body : String → String → List Op} {sigs : List Sig} {s : Sig}
    (hknown : (rulesOfB body sigs s).all (fun ap => ap.a.isSome && ap.b.isSome && ap.extra != some none) = true)
    (b : Dict) (stack : List Dict) :
    ∀ pt ∈ wireB body sigs s.cls wireFuel s.name b stack,
      ∃ ap ∈ rulesOfB body sigs s, ∃ ex ey, ap.a = some ex ∧ ap.b = some ey ∧
        pt.a = evalEx b ex ∧ pt.b = evalEx b ey ∧
        (pt.extra = none ∨ ∃ ea, ap.extra = some (some ea) ∧ pt.extra = some (evalEx b ea)) := by
  intro pt hpt
  obtain ⟨ap, hap, hd⟩ := rulesOfB_sound body sigs s b stack pt hpt
  have hk := List.all_eq_true.mp hknown ap hap
  simp only [Bool.and_eq_true, Option.isSome_iff_exists, bne_iff_ne, ne_eq] at hk
  obtain ⟨⟨⟨ex, hx⟩, ⟨ey, hy⟩⟩, hne⟩ := hk
  obtain ⟨_, ha, hb, _, hx0, hx1⟩ := hd
  refine ⟨ap, hap, ex, ey, hx, hy, ha _ hx, hb _ hy, ?_⟩
  cases hex : ap.extra with
  | none => exact Or.inl (hx0.mp hex)
  | some oe =>
    cases oe with
    | none => exact absurd hex hne
    | some ea => exact Or.inr ⟨ea, rfl, hx1 ea hex⟩

/-- **(x, y) and the application id never depend on how the arguments were passed.**  Every request
pattern of an accepted call has x, y (and the application id, if any) equal to the value of an
expression over the call's bound parameters, taken from a list (`rulesOf`) that is computed from
the rules alone - without the stack, the passing style or any value. -/
theorem chip_independent_of_passing_style (s : Sig) (hs : s ∈ sigs) (b : Dict) (stack : List Dict) :
    ∀ pt ∈ wire sigs s.cls wireFuel s.name b stack,
      ∃ ap ∈ rulesOf sigs s, ∃ ex ey, ap.a = some ex ∧ ap.b = some ey ∧
        pt.a = evalEx b ex ∧ pt.b = evalEx b ey ∧
        (pt.extra = none ∨ ∃ ea, ap.extra = some (some ea) ∧ pt.extra = some (evalEx b ea)) :=
  chipB_independent_of_passing_style (rules_chip_known s hs) b stack

/-- **Exactly these methods leave the core of some inner request to the context stack** (an inner
decorated call omits `p`, so it is filled from the innermost context that sets `p`, else 0): -/
theorem core_from_context_methods :
    (sigs.filter (coreFromContext sigs)).map (fun s => s.name) =
      ["discover_connections", "read_vcpu_struct_field", "write_vcpu_struct_field", "get_processor_status",
       "get_iobuf", "get_iobuf_bytes", "get_router_diagnostics", "sdram_alloc", "sdram_alloc_as_filelike",
       "flood_fill_aplx", "load_application", "load_routing_tables", "load_routing_table_entries",
       "get_routing_table_entries", "get_p2p_routing_table", "get_num_working_cores", "get_system_info"] := by
  rw [sigs_checked.2.1]; rfl

/-- of those, the ones that take a core argument themselves (the examples below show, for
`get_processor_status`, that passing `p` explicitly and setting it in a context put different cores on the wire) -/
theorem core_style_dependent_methods :
    ((sigs.filter (coreFromContext sigs)).filter (fun s => (sigNames s).contains "p")).map (fun s => s.name) =
      ["read_vcpu_struct_field", "write_vcpu_struct_field", "get_processor_status", "get_iobuf",
       "get_iobuf_bytes"] := by
  rw [sigs_checked.2.2.1]; rfl

theorem coreB_independent_of_passing_style {body : String → String → List Op} {sigs : List Sig} {s : Sig}
    (hcore : coreFromContextB body sigs s = false) (b : Dict) (stack : List Dict) :
    ∀ pt ∈ wireB body sigs s.cls wireFuel s.name b stack,
      ∃ ap ∈ rulesOfB body sigs s, ∃ ec, ap.c = some ec ∧ pt.c = evalEx b ec := by
  intro pt hpt
  obtain ⟨ap, hap, hd⟩ := rulesOfB_sound body sigs s b stack pt hpt
  cases hc : ap.c with
  | none => cases (List.any_eq_true.mpr ⟨ap, hap, by rw [hc]; rfl⟩).symm.trans hcore
  | some ec => exact ⟨ap, hap, ec, hc, hd.2.2.2.1 ec hc⟩

set_option linter.unusedVariables false in -- `hs`
/-- for every other method the core (resp. board) field `c` of every request is a function of the call's
bound arguments alone -/
theorem core_independent_of_passing_style (s : Sig) (hs : s ∈ sigs) (hcore : coreFromContext sigs s = false)
    (b : Dict) (stack : List Dict) :
    ∀ pt ∈ wire sigs s.cls wireFuel s.name b stack,
      ∃ ap ∈ rulesOf sigs s, ∃ ec, ap.c = some ec ∧ pt.c = evalEx b ec :=
  coreB_independent_of_passing_style hcore b stack

/-- both examples below in one evaluation: the kernel shares the comparisons of method names only within a declaration -/
theorem get_processor_status_styles :
    (match callRes ⟨sigs, "MachineController", []⟩ "get_processor_status" [.int 3, .int 1, .int 2] []
        [[("app_id", .int 66)]] with
     | .sent _ pats => pats.map (fun pt => (pt.a, pt.b, pt.c))
     | .rejected _ => []) =
    [(.int 1, .int 2, .int 0), (.int 1, .int 2, .int 0)] ∧
    (match callRes ⟨sigs, "MachineController", []⟩ "get_processor_status" [] []
        [[("x", .int 1), ("y", .int 2), ("p", .int 3)], [("app_id", .int 66)]] with
     | .sent _ pats => pats.map (fun pt => (pt.a, pt.b, pt.c))
     | .rejected _ => []) =
    [(.int 1, .int 2, .int 3), (.int 1, .int 2, .int 3)] := by decide +kernel

/-- `mc.get_processor_status(3, 1, 2)`: both reads go to chip (1, 2) via core 0 -/
example :
    (match callRes ⟨sigs, "MachineController", []⟩ "get_processor_status" [.int 3, .int 1, .int 2] []
        [[("app_id", .int 66)]] with
     | .sent _ pats => pats.map (fun pt => (pt.a, pt.b, pt.c))
     | .rejected _ => []) =
    [(.int 1, .int 2, .int 0), (.int 1, .int 2, .int 0)] := get_processor_status_styles.1

/-- `with mc(x=1, y=2, p=3): mc.get_processor_status()`: same chip, but via core 3 -/
example :
    (match callRes ⟨sigs, "MachineController", []⟩ "get_processor_status" [] []
        [[("x", .int 1), ("y", .int 2), ("p", .int 3)], [("app_id", .int 66)]] with
     | .sent _ pats => pats.map (fun pt => (pt.a, pt.b, pt.c))
     | .rejected _ => []) =
    [(.int 1, .int 2, .int 3), (.int 1, .int 2, .int 3)] := get_processor_status_styles.2

/-- hypotheses of `wire_carries_resolved` are satisfiable with a non-empty wire:
`with mc(x=4, y=5): mc.sdram_alloc(8, 1, clear=True)` under the initial context -/
example :
    (match resolve mc_sdram_alloc 2 [("clear", .bool true)] [[("x", .int 4), ("y", .int 5)], [("app_id", .int 66)]] with
     | .ok nk => (match bind mc_sdram_alloc [.int 8, .int 1] nk with
                  | .ok b => (wire sigs "MachineController" wireFuel "sdram_alloc" b
                                [[("x", .int 4), ("y", .int 5)], [("app_id", .int 66)]]).length
                  | .error _ => 0)
     | .error _ => 0) = 5 := by decide +kernel

/-- a composite operation re-dispatches with the RESOLVED values: `with mc(app_id=31): mc.count_cores_in_state(states, 30)`
- one count command per state, through `self.count_cores_in_state(s, app_id)` - every pattern carries
application 30 (the explicit one), none the context's 31 or the default 66 -/
example :
    (match callRes ⟨sigs, "MachineController", []⟩ "count_cores_in_state" [.other "['run', 'wait']", .int 30] []
        [[("app_id", .int 31)], [("app_id", .int 66)]] with
     | .sent _ pats => pats.all (fun pt => pt.extra == some (.int 30)) && pats.length ≥ 2
     | .rejected _ => false) = true := by decide +kernel

/-- boards given as an iterable: `bmp.set_led(7, board=[2, 0])` goes to board 2 with mask 0b101,
`bmp.set_power(True, board=[2, 1])` to board 0 with mask 0b110 -/
example :
    callRes ⟨sigs, "BMPController", [[0, 0]]⟩ "set_led" [.int 7] [("board", .ints [2, 0])]
        [[("cabinet", .int 0), ("frame", .int 0), ("board", .int 0)]] =
    .sent [("action", .none), ("cabinet", .int 0), ("frame", .int 0), ("board", .ints [2, 0])]
      [⟨.bmp, .int 0, .int 0, .int 2, some (.int 5)⟩] := by rfl

example :
    callRes ⟨sigs, "BMPController", [[0, 0]]⟩ "set_power" [.bool true] [("board", .ints [2, 1])]
        [[("cabinet", .int 0), ("frame", .int 0), ("board", .int 0)]] =
    .sent [("cabinet", .int 0), ("frame", .int 0), ("board", .ints [2, 1]), ("delay", .other "0.0"),
           ("post_power_on_delay", .other "5.0")]
      [⟨.bmp, .int 0, .int 0, .int 0, some (.int 6)⟩] := by rfl

end Rig.C18
