/-
C18 - soundness of the symbolic wire rules (`absWire`) for the concrete ones (`wire`):
whatever the values, the stack and the passing style, every request pattern `wire`
yields is described by a symbolic request of `absWire` - each known field is the
value of an expression over the parameters of the method the caller invoked.

Generic in the signature table and the table of bodies (`absWireB_sound`); of the decorator only `precedence` and the
shape of `bind` are used.
-/
import RigModel.Props.C18

namespace Rig.C18

/-- the symbolic environment is right about the bound parameters: wherever it knows
an expression, the parameter's value is that expression's value at the caller's parameters -/
def EnvSound (env : AEnv) (b0 b : Dict) : Prop :=
  ∀ n e, env n = some e → lookupV b n = evalEx b0 e

theorem envSound_env0 (b : Dict) : EnvSound env0 b b := by
  intro n e h
  simp only [env0, Option.some.injEq] at h
  subst h
  rfl

theorem subst_sound (env : AEnv) (b0 b : Dict) (h : EnvSound env b0 b) (x e : Ex)
    (hx : subst env x = some e) : evalEx b x = evalEx b0 e := by
  cases x with
  | ref n => exact h n e hx
  | lit v => simp only [subst, Option.some.injEq] at hx; subst hx; rfl
  | dyn => simp only [subst, Option.some.injEq] at hx; subst hx; rfl
  | mask n | first n =>
    simp only [subst] at hx
    split at hx
    · rename_i m heq
      cases hx
      simp only [evalEx, h n _ heq]
    · cases hx

theorem dget_zip_map (g : Ex → Val) (n : String) : ∀ (names : List String) (pos : List Ex),
    dget (names.zip (pos.map g)) n = (zipFind names pos n).map g
  | [], _ | _ :: _, [] => rfl
  | k :: ks, x :: xs => by
    simp only [List.map_cons, List.zip_cons_cons, dget, zipFind]
    split
    · rfl
    · exact dget_zip_map g n ks xs

theorem dgetLast_evalKw (b : Dict) (n : String) (kw : List (String × Ex)) :
    dgetLast (evalKw b kw) n = (kwLast kw n).map (evalEx b) := by
  fun_induction kwLast kw n with
  | case1 => rfl
  | case2 k e t n w hw ih => rw [evalKw, dgetLast, ih, hw]; rfl
  | case3 e t n hw ih => rw [evalKw, dgetLast, ih, hw]; exact if_pos rfl
  | case4 k e t n hw hne ih => rw [evalKw, dgetLast, ih, hw]; exact if_neg hne

theorem absEnv_sound (s : Sig) (env : AEnv) (b0 b : Dict) (stack : List Dict) (pos : List Ex)
    (kw : List (String × Ex)) (nk b' : Dict) (h : EnvSound env b0 b)
    (hr : resolve s pos.length (evalKw b kw) stack = .ok nk)
    (hb : bind s (pos.map (evalEx b)) nk = .ok b') :
    EnvSound (absEnv s env pos kw) b0 b' := by
  have hnk := (accepted_complete s _ _ stack nk hr).1
  intro n e he
  simp only [absEnv] at he
  -- Python's binding: a parameter bound positionally has the positional value, any other name that of `new_kwargs`
  simp only [lookupV, bind_ok hb, dget_append, dget_zip_map]
  cases hz : zipFind (s.argNames.drop 1) pos n with
  | some x =>
    simp only [hz] at he
    simp only [Option.map_some, Option.getD_some]
    exact subst_sound env b0 b h x e he
  | none =>
    simp only [hz] at he
    cases hk : kwLast kw n with
    | none => simp [hk] at he
    | some x =>
      simp only [hk, Option.bind_some] at he
      simp only [Option.map_none, hnk, precedence, dgetLast_evalKw, hk, Option.map_some, Option.getD_some]
      exact subst_sound env b0 b h x e he

/-- a symbolic request describes a concrete pattern: same kind, every known field is the value of
its expression at the caller's parameters, and it carries an application id / board mask iff the
symbolic one does -/
def APat.Describes (ap : APat) (b0 : Dict) (pt : Pat) : Prop :=
  pt.kind = ap.kind ∧
  (∀ e, ap.a = some e → pt.a = evalEx b0 e) ∧
  (∀ e, ap.b = some e → pt.b = evalEx b0 e) ∧
  (∀ e, ap.c = some e → pt.c = evalEx b0 e) ∧
  (ap.extra = none ↔ pt.extra = none) ∧
  (∀ e, ap.extra = some (some e) → pt.extra = some (evalEx b0 e))

private theorem describes_mk (env : AEnv) (b0 b : Dict) (h : EnvSound env b0 b) (k : PKind)
    (x y p : Ex) (ex : Option Ex) :
    (APat.mk k (subst env x) (subst env y) (subst env p) (ex.map (subst env))).Describes b0
      ⟨k, evalEx b x, evalEx b y, evalEx b p, ex.map (evalEx b)⟩ := by
  refine ⟨rfl, fun e he => subst_sound env b0 b h x e he, fun e he => subst_sound env b0 b h y e he,
    fun e he => subst_sound env b0 b h p e he, ?_, ?_⟩
  · cases ex <;> simp
  · intro e he
    cases ex with
    | none => simp at he
    | some x' =>
      simp only [Option.map_some, Option.some.injEq] at he ⊢
      exact subst_sound env b0 b h x' e he

/-- **Soundness of the symbolic rules**, for any table of method bodies (`bodyOf`, `genBody`). -/
theorem absWireB_sound (body : String → String → List Op) (sigs : List Sig) (cls : String) :
    ∀ (fuel : Nat) (m : String) (env : AEnv) (b0 b : Dict) (stack : List Dict),
    EnvSound env b0 b → ∀ pt ∈ wireB body sigs cls fuel m b stack,
      ∃ ap ∈ absWireB body sigs cls fuel m env, ap.Describes b0 pt := by
  intro fuel
  induction fuel with
  | zero => intro m env b0 b stack _ pt hpt; simp [wireB] at hpt
  | succ fuel ih =>
    intro m env b0 b stack h pt hpt
    simp only [wireB, List.mem_flatMap] at hpt
    obtain ⟨op, hop, hpt⟩ := hpt
    simp only [absWireB, List.mem_flatMap]
    cases op with
    | scp x y p app | bmp x y p app =>
      simp only [List.mem_singleton] at hpt
      subst hpt
      exact ⟨_, ⟨_, hop, List.mem_singleton.mpr rfl⟩, describes_mk env b0 b h _ x y p app⟩
    | mem x y p =>
      simp only [List.mem_singleton] at hpt
      subst hpt
      exact ⟨_, ⟨_, hop, List.mem_singleton.mpr rfl⟩, describes_mk env b0 b h .mem x y p none⟩
    | unknown w =>
      simp only [List.mem_singleton] at hpt
      subst hpt
      refine ⟨_, ⟨_, hop, List.mem_singleton.mpr rfl⟩, rfl, ?_, ?_, ?_, ?_, ?_⟩ <;> simp
    | call m' pos kw =>
      simp only [List.length_map] at hpt
      split at hpt
      · cases hpt
      · rename_i s hf
        split at hpt
        · cases hpt
        · rename_i nk hr
          split at hpt
          · cases hpt
          · rename_i b' hb
            obtain ⟨ap, hap, hd⟩ := ih m' (absEnv s env pos kw) b0 b' stack
              (absEnv_sound s env b0 b stack pos kw nk b' h hr hb) pt hpt
            exact ⟨ap, ⟨_, hop, by simp only [hf]; exact hap⟩, hd⟩

theorem absWire_sound (sigs : List Sig) (cls : String) :
    ∀ (fuel : Nat) (m : String) (env : AEnv) (b0 b : Dict) (stack : List Dict),
    EnvSound env b0 b → ∀ pt ∈ wire sigs cls fuel m b stack,
      ∃ ap ∈ absWire sigs cls fuel m env, ap.Describes b0 pt :=
  absWireB_sound bodyOf sigs cls

/-- the form the property theorems use: every request pattern of a call of `s` with bound arguments `b` is described
by one of the symbolic requests `rulesOfB body sigs s` -/
theorem rulesOfB_sound (body : String → String → List Op) (sigs : List Sig) (s : Sig) (b : Dict) (stack : List Dict) :
    ∀ pt ∈ wireB body sigs s.cls wireFuel s.name b stack, ∃ ap ∈ rulesOfB body sigs s, ap.Describes b pt :=
  absWireB_sound body sigs s.cls wireFuel s.name env0 b b stack (envSound_env0 b)

end Rig.C18
