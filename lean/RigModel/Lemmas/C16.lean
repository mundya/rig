/-
C16 - truncation toward zero and the order of dyadic pairs (integer arithmetic with powers of two),
clipping between float bounds, the closed forms of the NumPy and of the deprecated converter, and the
bridge from the integer fractions of the model to ℚ.  The hypotheses of Props/C16.lean are defined here.
-/
import RigModel.Lemmas.C16Rne

namespace Rig.C16
open Rig.Gen.TypeCasts

theorem num_eq (m k : Int) : num m k = m * 2 ^ k.toNat := by
  unfold num; split
  · rfl
  · rw [Int.toNat_eq_zero.mpr (by omega), Int.pow_zero, Int.mul_one]

theorem den_eq (k : Int) : den k = 2 ^ (-k).toNat := by
  unfold den; split
  · rw [Int.toNat_eq_zero.mpr (by omega), Int.pow_zero]
  · rfl

theorem den_pos (k : Int) : 0 < den k := by
  rw [den_eq]; positivity

theorem magLt_eq (m k : Int) (b : Nat) :
    magLt m k b = decide (m.natAbs * 2 ^ k.toNat < 2 ^ (b + (-k).toNat)) := by
  unfold magLt
  split
  · rw [Int.toNat_eq_zero.mpr (show -k ≤ 0 by omega), Nat.add_zero]
  · rw [Int.toNat_eq_zero.mpr (show k ≤ 0 by omega), Nat.pow_zero, Nat.mul_one]

theorem magLt_of_zero (k : Int) (b : Nat) : magLt 0 k b = true := by
  rw [magLt_eq, Int.natAbs_zero, Nat.zero_mul]
  exact decide_eq_true (Nat.two_pow_pos _)

theorem maxV_nonneg (f : Fmt) : 0 ≤ f.maxV := by
  unfold Fmt.maxV
  have h1 : (0 : Int) < 2 ^ (f.bits - 1) := by positivity
  have h2 : (0 : Int) < 2 ^ f.bits := by positivity
  split <;> omega

theorem minV_nonpos (f : Fmt) : f.minV ≤ 0 := by
  have := maxV_nonneg f
  unfold Fmt.minV; split <;> omega

theorem minV_le_maxV (f : Fmt) : f.minV ≤ f.maxV := Int.le_trans (minV_nonpos f) (maxV_nonneg f)

def nInt (fmt : Fmt) : Nat := if fmt.signed then fmt.bits - 1 else fmt.bits

theorem maxV_eq (fmt : Fmt) :
    fmt.maxV = 2 ^ nInt fmt - 1 ∧ fmt.minV = (if fmt.signed then -(2 ^ nInt fmt) else 0) := by
  unfold Fmt.minV Fmt.maxV nInt
  cases fmt.signed <;> simp

/-- clipping against `float(max)` instead of `max` is the saturation defect of the array and of the deprecated converter -/
theorem floatMax_eq (fmt : Fmt) :
    round53Val fmt.maxV = if nInt fmt ≤ 53 then fmt.maxV else fmt.maxV + 1 := by
  rw [(maxV_eq fmt).1, round53Val_pow_pred, Int.sub_add_cancel]

theorem floatMax_bounds (fmt : Fmt) :
    fmt.maxV ≤ round53Val fmt.maxV ∧ round53Val fmt.maxV ≤ fmt.maxV + 1 := by
  rw [floatMax_eq]; split <;> omega

theorem floatMin_eq (fmt : Fmt) : round53Val fmt.minV = fmt.minV := by
  rw [(maxV_eq fmt).2]
  split
  · rw [← Int.neg_one_mul]; exact round53Val_mul_pow (-1) _ (by decide)
  · exact round53Val_mul_pow 0 0 (by decide)

theorem pow2f_ok {n : Int} (h1 : -1074 ≤ n) (h2 : n < 1024) : pow2f n = .ok (some n) := by
  rw [pow2f, if_neg (Int.not_le.mpr h2), if_neg (Int.not_lt.mpr h1)]

theorem mul_pow_le_iff {a b : Int} {p q p' q' : Nat} (h : p + q' = p' + q) :
    a * 2 ^ p ≤ b * 2 ^ q ↔ a * 2 ^ p' ≤ b * 2 ^ q' := by
  have e : a * 2 ^ p * 2 ^ q' = a * 2 ^ p' * 2 ^ q := by
    rw [Int.mul_assoc, Int.mul_assoc, ← Int.pow_add, ← Int.pow_add, h]
  rw [← mul_le_mul_iff_of_pos_right (show (0 : Int) < 2 ^ q' by positivity), e,
    Int.mul_right_comm b, mul_le_mul_iff_of_pos_right (show (0 : Int) < 2 ^ q by positivity)]

theorem mul_pow_lt_iff {a p q p' q' : Nat} (h : p + q' = p' + q) : a * 2 ^ p < 2 ^ q ↔ a * 2 ^ p' < 2 ^ q' := by
  rw [← Nat.mul_lt_mul_right (Nat.two_pow_pos q'), Nat.mul_assoc, ← Nat.pow_add, ← Nat.pow_add, h, Nat.add_comm q,
    Nat.pow_add, Nat.pow_add, ← Nat.mul_assoc, Nat.mul_lt_mul_right (Nat.two_pow_pos q)]

theorem magLt_mul_pow (m : Int) (s : Nat) (j : Int) (b : Nat) :
    magLt (m * 2 ^ s) j b = magLt m (s + j) b := by
  -- the exponents are positive and negative parts; name them so that `omega` need not split
  have h1 := Int.toNat_sub_toNat_neg j
  have h2 := Int.toNat_sub_toNat_neg (s + j)
  rw [magLt_eq, magLt_eq, Int.natAbs_mul, Int.natAbs_pow, show Int.natAbs 2 = 2 from rfl, Nat.mul_assoc, ← Nat.pow_add]
  generalize j.toNat = x1 at *
  generalize (-j).toNat = x2 at *
  generalize ((s : Int) + j).toNat = y1 at *
  generalize (-((s : Int) + j)).toNat = y2 at *
  exact decide_eq_decide.mpr (mul_pow_lt_iff (by omega))

theorem cross_iff_le (a b : Dy) (f : Int) :
    num a.m (a.e + f) * den (b.e + f) ≤ num b.m (b.e + f) * den (a.e + f) ↔ Dy.le a b := by
  simp only [num_eq, den_eq, Dy.le, Int.mul_assoc, ← Int.pow_add]
  apply mul_pow_le_iff
  -- the exponents are positive and negative parts; name them so that `omega` need not split
  have h1 := Int.toNat_sub_toNat_neg (a.e + f)
  have h2 := Int.toNat_sub_toNat_neg (b.e + f)
  have h3 := Int.toNat_of_nonneg (Int.sub_nonneg.mpr (Int.min_le_left a.e b.e))
  have h4 := Int.toNat_of_nonneg (Int.sub_nonneg.mpr (Int.min_le_right a.e b.e))
  generalize (a.e + f).toNat = x1 at *
  generalize (-(a.e + f)).toNat = x2 at *
  generalize (b.e + f).toNat = y1 at *
  generalize (-(b.e + f)).toNat = y2 at *
  generalize min a.e b.e = e at *
  generalize (a.e - e).toNat = p at *
  generalize (b.e - e).toNat = q at *
  omega

theorem Dy.le_total (a b : Dy) : Dy.le a b ∨ Dy.le b a := by
  unfold Dy.le
  rw [Int.min_comm b.e a.e]
  exact Int.le_total _ _

theorem isTrunc_iff {t n d : Int} (hd : 0 < d) : IsTrunc t n d ↔ t = n.tdiv d := by
  have floor : ∀ t n : Int, 0 ≤ n → (t * d ≤ n ∧ n < (t + 1) * d ↔ t = n.tdiv d) := by
    intro t n hn
    rw [Int.tdiv_eq_ediv_of_nonneg hn, ← Int.le_ediv_iff_mul_le hd, ← Int.ediv_lt_iff_lt_mul hd]
    omega
  unfold IsTrunc
  rcases Int.lt_or_le n 0 with hn | hn
  · -- mirror image of the non-negative case
    have := floor (-t) (-n) (by omega)
    rw [Int.neg_tdiv, Int.add_mul, Int.neg_mul, Int.one_mul] at this
    rw [Int.sub_mul, Int.one_mul]
    constructor
    · intro ⟨_, h⟩; have := h hn; omega
    · intro h; exact ⟨fun _ => by omega, fun _ => by omega⟩
  · constructor
    · intro ⟨h, _⟩; exact (floor t n hn).mp (h hn)
    · intro h; exact ⟨fun _ => (floor t n hn).mpr h, fun _ => by omega⟩

theorem le_tdiv_iff {a n d : Int} (hd : 0 < d) (ha : 0 < a) : a ≤ n.tdiv d ↔ a * d ≤ n := by
  rcases Int.lt_or_le n 0 with hn | hn
  · have h1 : 0 ≤ (-n).tdiv d := Int.tdiv_nonneg (by omega) (by omega)
    have h2 := Int.mul_pos ha hd
    rw [Int.neg_tdiv] at h1
    constructor <;> intro _ <;> omega
  · rw [Int.tdiv_eq_ediv_of_nonneg hn]; exact Int.le_ediv_iff_mul_le hd

theorem tdiv_le_iff {a n d : Int} (hd : 0 < d) (ha : a < 0) : n.tdiv d ≤ a ↔ n ≤ a * d := by
  have := le_tdiv_iff (n := -n) hd (show 0 < -a by omega)
  rw [Int.neg_tdiv, Int.neg_mul] at this
  omega

theorem tdiv_le_tdiv_of_cross {n d n' d' : Int} (hd : 0 < d) (hd' : 0 < d')
    (hle : n * d' ≤ n' * d) : n.tdiv d ≤ n'.tdiv d' := by
  rw [← Int.mul_tdiv_mul_of_pos_left n d hd', ← Int.mul_tdiv_mul_of_pos_left n' d' hd,
    Int.mul_comm d' d]
  exact Int.tdiv_le_tdiv (Int.mul_pos hd hd') hle

/-- the scale `2^f` is a parameter: the deprecated converter clips before scaling, the others after -/
theorem truncScaled_mono {a b : Dy} (f : Int) (h : Dy.le a b) :
    truncScaled a.m (a.e + f) ≤ truncScaled b.m (b.e + f) :=
  tdiv_le_tdiv_of_cross (den_pos _) (den_pos _) ((cross_iff_le a b f).mpr h)

theorem truncScaled_of_nonneg (m : Int) {k : Int} (hk : 0 ≤ k) : truncScaled m k = m * 2 ^ k.toNat := by
  unfold truncScaled
  rw [num_eq, den_eq, Int.toNat_eq_zero (n := -k) |>.mpr (by omega), Int.pow_zero, Int.tdiv_one]

theorem truncScaled_nonneg {m : Int} (k : Int) (hm : 0 ≤ m) : 0 ≤ truncScaled m k := by
  unfold truncScaled
  rw [num_eq]
  exact Int.tdiv_nonneg (Int.mul_nonneg hm (by positivity)) (Int.le_of_lt (den_pos k))

theorem truncScaled_nonpos {m : Int} (k : Int) (hm : m ≤ 0) : truncScaled m k ≤ 0 := by
  have := truncScaled_nonneg k (show 0 ≤ -m by omega)
  rw [truncScaled, num_eq, Int.neg_mul, Int.neg_tdiv, ← num_eq] at this
  exact Int.nonpos_of_neg_nonneg this

theorem truncScaled_zero (k : Int) : truncScaled 0 k = 0 :=
  Int.le_antisymm (truncScaled_nonpos k (Int.le_refl 0)) (truncScaled_nonneg k (Int.le_refl 0))

theorem truncScaled_eq_zero {m k : Int} (hk : k ≤ 0) (h : |m| < 2 ^ (-k).toNat) : truncScaled m k = 0 := by
  have := abs_lt.mp h
  unfold truncScaled
  rw [num_eq, den_eq, Int.toNat_eq_zero.mpr hk, Int.pow_zero, Int.mul_one]
  rcases Int.lt_or_le m 0 with hm | hm
  · have := Int.tdiv_eq_zero_of_lt (a := -m) (b := 2 ^ (-k).toNat) (by omega) (by omega)
    rw [Int.neg_tdiv] at this
    omega
  · exact Int.tdiv_eq_zero_of_lt hm (by omega)

theorem truncScaled_small {m k : Int} (hm : |m| ≤ 2 ^ 53) (hk : k < -53) : truncScaled m k = 0 :=
  truncScaled_eq_zero (by omega) (lt_of_le_of_lt hm (pow_lt_pow_right₀ (by decide) (by omega)))

theorem truncScaled_round53 (k : Int) : truncScaled (round53 k).m (round53 k).e = round53Val k :=
  truncScaled_of_nonneg _ (by rw [round53_e]; omega)

/-! A monotone function commutes with `np.clip`; `int(.)` is one. -/

theorem apply_clip {g : Dy → Int} (hg : ∀ a b, Dy.le a b → g a ≤ g b) (v lo hi : Dy) :
    g (clipF (.fin v) lo hi) = min (max (g v) (g lo)) (g hi) := by
  have total : ∀ {a b}, ¬ Dy.le a b → g b ≤ g a := fun h => hg _ _ ((Dy.le_total _ _).resolve_left h)
  have hmax : g (maxD v lo) = max (g v) (g lo) := by
    unfold maxD; split
    · rename_i h; exact (Int.max_eq_right (hg _ _ h)).symm
    · rename_i h; exact (Int.max_eq_left (total h)).symm
  rw [← hmax]
  show g (minD _ _) = _
  unfold minD; split
  · rename_i h; exact (Int.min_eq_left (hg _ _ h)).symm
  · rename_i h; exact (Int.min_eq_right (total h)).symm

theorem truncScaled_clip (f : Int) (v lo hi : Dy) :
    truncScaled (clipF (.fin v) lo hi).m ((clipF (.fin v) lo hi).e + f) =
      min (max (truncScaled v.m (v.e + f)) (truncScaled lo.m (lo.e + f))) (truncScaled hi.m (hi.e + f)) :=
  apply_clip (g := fun d => truncScaled d.m (d.e + f)) (fun _ _ => truncScaled_mono f) v lo hi

theorem int_le_iff (f : Int) {b : Dy} (d : Dy) (hb : 0 ≤ b.e + f) (hpos : 0 < truncScaled b.m (b.e + f)) :
    Dy.le b d ↔ truncScaled b.m (b.e + f) ≤ truncScaled d.m (d.e + f) := by
  have h1 : den (b.e + f) = 1 := by rw [den_eq, Int.toNat_eq_zero.mpr (by omega), Int.pow_zero]
  unfold truncScaled at hpos ⊢
  rw [h1, Int.tdiv_one] at hpos ⊢
  rw [← cross_iff_le b d f, h1, Int.mul_one, le_tdiv_iff (den_pos _) hpos]

def clamp (fmt : Fmt) (t : Int) : Int := max (min fmt.maxV t) fmt.minV

/-- the exact scaled value lies in the finite range of doubles -/
def FiniteScaled (fmt : Fmt) (v : Dy) : Prop := magLt v.m (v.e + fmt.frac) 1024 = true
instance (fmt : Fmt) (v : Dy) : Decidable (FiniteScaled fmt v) := by unfold FiniteScaled; infer_instance

/-- the format is one `float_to_fp` accepts -/
def Fmt.Ok (fmt : Fmt) : Prop := ¬ (fmt.signed = true ∧ fmt.bits = 0) ∧ fmt.frac < 1024
instance (f : Fmt) : Decidable f.Ok := by unfold Fmt.Ok; infer_instance

theorem clamp_eq_min (fmt : Fmt) (t : Int) : clamp fmt t = min (max t fmt.minV) fmt.maxV := by
  rw [clamp, max_min_distrib_right, Int.max_eq_left (minV_le_maxV fmt), Int.min_comm]

theorem clamp_mem (fmt : Fmt) (t : Int) : fmt.minV ≤ clamp fmt t ∧ clamp fmt t ≤ fmt.maxV :=
  ⟨Int.le_max_right _ _, by rw [clamp_eq_min]; exact Int.min_le_right _ _⟩

theorem clamp_mono (fmt : Fmt) {t t' : Int} (h : t ≤ t') : clamp fmt t ≤ clamp fmt t' :=
  max_le_max (min_le_min (Int.le_refl _) h) (Int.le_refl _)

theorem clamp_of_mem {fmt : Fmt} {t : Int} (h1 : fmt.minV ≤ t) (h2 : t ≤ fmt.maxV) : clamp fmt t = t := by
  rw [clamp, Int.min_eq_right h2, Int.max_eq_left h1]

theorem clamp_of_ge {fmt : Fmt} {t : Int} (h : fmt.maxV ≤ t) : clamp fmt t = fmt.maxV := by
  rw [clamp, Int.min_eq_left h, Int.max_eq_left (minV_le_maxV fmt)]

theorem clamp_of_le {fmt : Fmt} {t : Int} (h : t ≤ fmt.minV) : clamp fmt t = fmt.minV := by
  rw [clamp, Int.max_eq_right (Int.le_trans (Int.min_le_right _ _) h)]

theorem sat_of_le {fmt : Fmt} {B t : Int} (hB : fmt.maxV ≤ B) (ht : t ≤ fmt.maxV) :
    min (max t fmt.minV) B = clamp fmt t := by
  rw [clamp_eq_min, Int.min_eq_left (Int.le_trans (Int.max_le.mpr ⟨ht, minV_le_maxV fmt⟩) hB),
    Int.min_eq_left (Int.max_le.mpr ⟨ht, minV_le_maxV fmt⟩)]

theorem sat_of_ge {fmt : Fmt} {B t : Int} (ht : B ≤ t) : min (max t fmt.minV) B = B :=
  Int.min_eq_right (Int.le_trans ht (Int.le_max_left _ _))

theorem fp_ok_inv {fmt : Fmt} {v : Dy} {r : Int} (h : floatToFp fmt v = .ok r) :
    r = clamp fmt (truncScaled v.m (v.e + fmt.frac)) := by
  revert h
  fun_cases floatToFp fmt v
  case case4 => rintro ⟨⟩; rfl
  all_goals nofun

/-- the rule of the property is a function of the input: truncate, then clamp -/
theorem specFp_iff (fmt : Fmt) (v : Dy) (r : Int) :
    SpecFp fmt v r ↔ r = clamp fmt (truncScaled v.m (v.e + fmt.frac)) := by
  have hd : 0 < scaledDen fmt v := den_pos _
  have hM := maxV_nonneg fmt
  have hm := minV_nonpos fmt
  unfold SpecFp
  simp only
  have c1 := le_tdiv_iff (n := scaledNum fmt v) hd (show 0 < fmt.maxV + 1 by omega)
  have c2 := tdiv_le_iff (n := scaledNum fmt v) hd (show fmt.minV - 1 < 0 by omega)
  simp only [← c1, ← c2, isTrunc_iff hd]
  change (if _ ≤ truncScaled v.m (v.e + fmt.frac) then _ else if truncScaled v.m (v.e + fmt.frac) ≤ _
    then _ else r = truncScaled v.m (v.e + fmt.frac)) ↔ _
  generalize truncScaled v.m (v.e + fmt.frac) = t
  split
  · rw [clamp_of_ge (by omega)]
  · split
    · rw [clamp_of_le (by omega)]
    · rw [clamp_of_mem (by omega) (by omega)]

/-- `2.0**(-n_frac)` exists, and `k` and `k * 2^-frac` are finite as doubles (no overflow in `fp_to_float`) -/
def InverseDomain (fmt : Fmt) (k : Int) : Prop :=
  -1024 < fmt.frac ∧ magLt k 0 1024 = true ∧ magLt k (-fmt.frac) 1024 = true

instance (f : Fmt) (k : Int) : Decidable (InverseDomain f k) := by unfold InverseDomain; infer_instance

theorem width_cases {b : Nat} (hb : npBits.contains b = true) : b = 8 ∨ b = 16 ∨ b = 32 ∨ b = 64 := by
  have : npBits = [8, 16, 32, 64] := by decide
  rw [this] at hb; simpa using hb

theorem width_nInt {fmt : Fmt} (hb : npBits.contains fmt.bits = true) : nInt fmt ≤ 53 ↔ fmt.bits ≠ 64 := by
  unfold nInt
  rcases width_cases hb with h | h | h | h <;> rw [h] <;> cases fmt.signed <;> decide

theorem width_maxV_pos {fmt : Fmt} (hb : npBits.contains fmt.bits = true) : 0 < fmt.maxV := by
  obtain ⟨s, b, f⟩ := fmt
  show 0 < Fmt.maxV ⟨s, b, 0⟩
  rcases width_cases hb with rfl | rfl | rfl | rfl <;> cases s <;> decide +kernel

/-- a double: 53-bit significand -/
def IsDouble (v : Dy) : Prop := v.m.natAbs ≤ 2 ^ 53
instance (v : Dy) : Decidable (IsDouble v) := by unfold IsDouble; infer_instance

/-- the scaled double used by the array path truncates to the same integer as the exact
scaled value (underflow rounds to something still below 1 in magnitude) -/
theorem toDouble_trunc (m k : Int) (hfin : magLt m k 1024 = true) (hm : m.natAbs ≤ 2 ^ 53) :
    ∃ d, toDouble m k = .fin d ∧ truncScaled d.m d.e = truncScaled m k := by
  fun_cases toDouble m k
  case case1 h0 => exact ⟨_, rfl, by rw [h0, truncScaled_zero, truncScaled_zero]⟩
  case case2 _ h => rw [hfin] at h; nomatch h
  case case3 => exact ⟨_, rfl, rfl⟩
  case case4 _ _ hk =>
    refine ⟨_, rfl, ?_⟩
    -- `|m| ≤ 2^53` rounds to at most `2^53`, far below the denominators `2^1074` and `2^-k`
    have habs : |m| ≤ 2 ^ 53 := natAbs_le_pow_iff.mp hm
    have hr : |rne m (-1074 - k).toNat| ≤ 2 ^ 53 :=
      rne_abs_le (le_trans habs (le_mul_of_one_le_right (by decide) (one_le_pow₀ (by decide))))
    show truncScaled (rne m (-1074 - k).toNat) (-1074) = _
    rw [truncScaled_small hr (by decide), truncScaled_small habs (by omega)]

/-- hypotheses of the array theorems: an accepted width, `2.0**n_frac` exists and is not 0.0,
the scaled value is finite, the input is a double -/
structure ArrayDomain (fmt : Fmt) (v : Dy) : Prop where
  width : npBits.contains fmt.bits = true
  fracHi : fmt.frac < 1024
  fracLo : -1074 ≤ fmt.frac
  finite : FiniteScaled fmt v
  double : IsDouble v

theorem ArrayDomain.fmtOk {fmt : Fmt} {v : Dy} (h : ArrayDomain fmt v) : fmt.Ok := by
  refine ⟨?_, h.fracHi⟩
  intro ⟨_, h0⟩
  have := h.width
  rw [h0] at this
  revert this; decide

/-- the bound at which a converter saturates: `max` after fixes/c16-saturate-64bit.diff, `float(max)` before -/
def satBound (rep : Bool) (fmt : Fmt) : Int := if rep then fmt.maxV else round53Val fmt.maxV

theorem satBound_true (fmt : Fmt) : satBound true fmt = fmt.maxV := rfl

theorem satBound_false (fmt : Fmt) : satBound false fmt = round53Val fmt.maxV := rfl

/-- **The array converter in closed form**: truncate, saturate at `satBound`, cast (unspecified where
`float(max) = max + 1` has left the range) -/
theorem np_closed (rep : Bool) (fmt : Fmt) (v : Dy) (h : ArrayDomain fmt v) :
    npFloatToFixG rep fmt v = .ok
      (if min (max (truncScaled v.m (v.e + fmt.frac)) fmt.minV) (satBound rep fmt) ≤ fmt.maxV
       then .val (min (max (truncScaled v.m (v.e + fmt.frac)) fmt.minV) (satBound rep fmt))
       else .unspecified) := by
  obtain ⟨d, hd, ht⟩ := toDouble_trunc v.m (v.e + fmt.frac) h.finite h.double
  obtain ⟨hH1, hH2⟩ := floatMax_bounds fmt
  have hM := width_maxV_pos h.width
  have hmM := minV_le_maxV fmt
  have hc := truncScaled_clip 0 d (round53 fmt.minV) (round53 fmt.maxV)
  have hs := int_le_iff 0 (b := round53 fmt.maxV) d (by rw [round53_e]; omega)
  simp only [Int.add_zero, truncScaled_round53, floatMin_eq, ht] at hc hs
  have hs := hs (by omega)
  unfold npFloatToFixG
  rw [pow2f_ok h.fracLo h.fracHi]
  simp only [h.width, Bool.not_true, Bool.false_eq_true, if_false, bind, Except.bind, pure, Except.pure,
    mulScale, hd, FloatR.ge, hs, satBound]
  generalize truncScaled v.m (v.e + fmt.frac) = t at *
  generalize clipF (.fin d) (round53 fmt.minV) (round53 fmt.maxV) = c at hc ⊢
  cases rep
  · simp only [Bool.false_and, Bool.false_eq_true, if_false, hc, Int.le_min, Int.le_max_right, true_and]
    rw [if_congr (and_iff_right (Int.le_trans hmM hH1)) rfl rfl]
  · simp only [Bool.true_and, decide_eq_true_eq, if_true]
    split
    · -- saturated: `t ≥ float(max) ≥ max`
      rename_i hsat
      rw [sat_of_ge (Int.le_trans hH1 hsat), if_pos (Int.le_refl _)]
    · -- below `float(max) ≤ max + 1`, that is at most `max`: both bounds clamp alike
      rename_i hsat
      have ht : t ≤ fmt.maxV := by omega
      rw [hc, sat_of_le hH1 ht, sat_of_le (Int.le_refl _) ht, if_pos (clamp_mem fmt t), if_pos (clamp_mem fmt t).2]

theorem np_closed_of_sat {rep : Bool} {fmt : Fmt} {v : Dy} (h : ArrayDomain fmt v)
    (hs : min (max (truncScaled v.m (v.e + fmt.frac)) fmt.minV) (satBound rep fmt) =
      clamp fmt (truncScaled v.m (v.e + fmt.frac))) :
    npFloatToFixG rep fmt v = .ok (.val (clamp fmt (truncScaled v.m (v.e + fmt.frac)))) := by
  rw [np_closed rep fmt v h, hs, if_pos (clamp_mem fmt _).2]

/-- `validate_fp_params` accepts the format: no ValueError, and `n_int ≤ 1023`, so that
`float((1 << n_int) - 1)` does not raise OverflowError -/
structure FixOk (fmt : Fmt) : Prop where
  bits1 : 1 ≤ fmt.bits
  frac0 : 0 ≤ fmt.frac
  fracLe : (if fmt.signed then 1 else 0) + fmt.frac ≤ fmt.bits
  bitsLe : fmt.bits < 1024 + (if fmt.signed then 1 else 0)

theorem FixOk.fmtOk {fmt : Fmt} (h : FixOk fmt) : fmt.Ok := by
  refine ⟨?_, ?_⟩
  · intro ⟨_, h0⟩; have := h.bits1; omega
  · have hh := h.fracLe; have hb := h.bitsLe
    cases hs : fmt.signed <;> simp [hs] at hh hb <;> omega

/-- what `validate_fp_params` returns: the lower bound is `min` before scaling, the upper bound is
`float(max)` before scaling -/
theorem validate_ok (fmt : Fmt) (h : FixOk fmt) :
    ∃ lo : Int, validate fmt = .ok (lo, ⟨(round53 fmt.maxV).m, (round53 fmt.maxV).e - fmt.frac⟩) ∧
      lo * 2 ^ fmt.frac.toNat = fmt.minV := by
  obtain ⟨e1, e2⟩ := maxV_eq fmt
  have a : ¬ (fmt.bits < 1) := by have := h.bits1; omega
  have b : ¬ ((if fmt.signed then (1 : Int) else 0) + fmt.frac > fmt.bits ∨ fmt.frac < 0) := by
    have := h.fracLe; have := h.frac0; omega
  have c : ¬ (1024 ≤ (if fmt.signed then fmt.bits - 1 else fmt.bits)) := by
    have := h.bitsLe
    split <;> rename_i hs <;> simp only [hs, if_true, if_false, Bool.false_eq_true] at this <;> omega
  have hfn : fmt.frac.toNat ≤ nInt fmt := by
    have h1 := h.fracLe; have h2 := h.bits1; unfold nInt
    cases hs : fmt.signed <;> simp only [hs, if_true, if_false, Bool.false_eq_true] at h1 ⊢ <;> omega
  refine ⟨if fmt.signed then -(2 ^ (nInt fmt - fmt.frac.toNat)) else 0, ?_, ?_⟩
  · rw [e1]; unfold validate nInt; simp only [a, b, c, if_false]
  · rw [e2]
    split
    · rw [Int.neg_mul, ← Int.pow_add, Nat.sub_add_cancel hfn]
    · rw [Int.zero_mul]

theorem testBit_top {w n : Nat} (h : w < 2 ^ (n + 1)) : w.testBit n = decide (2 ^ n ≤ w) := by
  by_cases hge : 2 ^ n ≤ w
  · rw [Nat.testBit_of_two_pow_le_and_two_pow_add_one_gt hge h, decide_eq_true hge]
  · rw [Nat.testBit_lt_two_pow (by omega), decide_eq_false hge]

/-- the two's-complement encoding and the assertion of `float_to_fix`, on integers: `t` is the
clipped truncated value, `B = 2^n_bits`, `neg` the sign test on the clipped float -/
theorem fix_encode (rep : Bool) (neg : Prop) [Decidable neg] {B M t : Int} (hn : neg → t ≤ 0)
    (hp : ¬ neg → 0 ≤ t) (hlo : -B ≤ t) (hhi : t ≤ B) (hM : 0 ≤ M) (hMB : M < B) :
    (if ¬ (0 ≤ (if neg then B + t else if rep then min t M else t) ∧
          (if neg then B + t else if rep then min t M else t) < 2 * B)
      then (.error .assertion : Except Err Int)
      else .ok ((if neg then B + t else if rep then min t M else t) % B))
      = .ok ((if rep then min t M else t) % B) := by
  by_cases h : neg <;> cases rep <;> simp only [h, if_true, if_false, Bool.false_eq_true]
  · have := hn h; rw [if_neg (by omega), Int.add_emod_left]
  · have := hn h; rw [if_neg (by omega), Int.add_emod_left, Int.min_eq_left (by omega)]
  · have := hp h; rw [if_neg (by omega)]
  · have := hp h; rw [if_neg (by omega)]

/-- **The deprecated converter in closed form**: truncate, saturate at `satBound`, encode in two's complement -/
theorem fix_closed (rep : Bool) (fmt : Fmt) (v : Dy) (h : FixOk fmt) :
    floatToFixG rep fmt v = .ok
      (min (max (truncScaled v.m (v.e + fmt.frac)) fmt.minV) (satBound rep fmt) % 2 ^ fmt.bits) := by
  obtain ⟨e1, e2⟩ := maxV_eq fmt
  obtain ⟨lo, hv, hlo⟩ := validate_ok fmt h
  have hM := maxV_nonneg fmt
  obtain ⟨hH1, hH2⟩ := floatMax_bounds fmt
  have hpow : (2 : Int) ^ nInt fmt ≤ 2 ^ fmt.bits :=
    pow_le_pow_right₀ (by decide) (by unfold nInt; split <;> omega)
  have hB : -2 ^ fmt.bits ≤ fmt.minV ∧ fmt.maxV < 2 ^ fmt.bits := by
    rw [e1, e2]; split <;> omega
  have hfp : (2 : Int) ^ (fmt.bits - (if fmt.signed then 1 else 0)) - 1 = fmt.maxV := by
    rw [e1]; unfold nInt; cases fmt.signed <;> rfl
  unfold floatToFixG
  rw [hv]
  simp only [bind, Except.bind, hfp, pure, Except.pure, Int.pow_succ, Int.mul_comm _ 2]
  -- the clipped value, truncated: the bounds scale to `min` and to `float(max)`
  have hc := truncScaled_clip fmt.frac v (Dy.ofInt lo)
    ⟨(round53 fmt.maxV).m, (round53 fmt.maxV).e - fmt.frac⟩
  generalize clipF _ _ _ = c at hc ⊢
  simp only [Dy.ofInt, Int.zero_add, truncScaled_of_nonneg _ h.frac0, hlo, Int.sub_add_cancel,
    truncScaled_round53] at hc
  have s1 := truncScaled_nonpos (m := c.m) (c.e + fmt.frac)
  have s2 := truncScaled_nonneg (m := c.m) (c.e + fmt.frac)
  rw [hc] at s1 s2
  rw [hc, fix_encode rep (c.m < 0) (fun h => s1 (Int.le_of_lt h)) (fun h => s2 (Int.not_lt.mp h))
    (Int.le_trans hB.1 (Int.le_min.mpr ⟨Int.le_max_right _ _, Int.le_trans (minV_le_maxV fmt) hH1⟩))
    (Int.le_trans (Int.min_le_right _ _) (Int.le_trans hH2 hB.2)) hM hB.2, satBound]
  cases rep
  · rfl
  · rw [if_pos rfl, if_pos rfl, Int.min_assoc, Int.min_eq_right hH1]

def Dy.toRat (d : Dy) : ℚ := d.m * (2 : ℚ) ^ d.e

theorem toRat_grid (y : Dy) (s : Nat) (h : (s : Int) ≤ y.e) :
    ∃ t : Int, y.toRat = ((t * 2 ^ s : Int) : ℚ) := by
  obtain ⟨j, hj⟩ : ∃ j : Nat, y.e = (j : Int) + s := ⟨(y.e - s).toNat, by omega⟩
  refine ⟨y.m * 2 ^ j, ?_⟩
  unfold Dy.toRat
  rw [hj, zpow_add₀ two_ne_zero]
  push_cast
  simp only [zpow_natCast]
  ring

theorem toRat_small (y : Dy) (s : Nat) (hm : y.m.natAbs ≤ 2 ^ 53) (hs : 0 < s) (h : y.e < (s : Int)) :
    |y.toRat| ≤ (((2 : Int) ^ 52 * 2 ^ s : Int) : ℚ) := by
  obtain ⟨s', rfl⟩ : ∃ s', s = s' + 1 := ⟨s - 1, by omega⟩
  unfold Dy.toRat
  have h2 : (0 : ℚ) < (2 : ℚ) ^ y.e := zpow_pos two_pos _
  rw [abs_mul, abs_of_pos h2]
  have hm' : |(y.m : ℚ)| ≤ 2 ^ 53 := by exact_mod_cast natAbs_le_pow_iff.mp hm
  have he : (2 : ℚ) ^ y.e ≤ (2 : ℚ) ^ (s' : Int) :=
    zpow_le_zpow_right₀ one_le_two (by omega)
  calc |(y.m : ℚ)| * (2 : ℚ) ^ y.e ≤ 2 ^ 53 * (2 : ℚ) ^ (s' : Int) :=
        mul_le_mul hm' he (le_of_lt h2) (by positivity)
    _ = (((2 : Int) ^ 52 * 2 ^ (s' + 1) : Int) : ℚ) := by
        push_cast; simp only [zpow_natCast]; ring

theorem closer_of_between {k y G : ℚ} (h : (y ≤ G ∧ G ≤ k) ∨ (k ≤ G ∧ G ≤ y)) :
    |k - G| ≤ |k - y| ∧ (|k - y| = |k - G| → y = G) := by
  rcases h with ⟨h1, h2⟩ | ⟨h1, h2⟩
  · rw [abs_of_nonneg (sub_nonneg.mpr h2), abs_of_nonneg (sub_nonneg.mpr (h1.trans h2))]
    exact ⟨sub_le_sub_left h1 k, fun e => sub_right_injective e⟩
  · rw [abs_of_nonpos (sub_nonpos.mpr h1), abs_of_nonpos (sub_nonpos.mpr (h1.trans h2))]
    exact ⟨neg_le_neg (sub_le_sub_left h2 k), fun e => sub_right_injective (neg_injective e)⟩

theorem num_den_rat (m k : Int) : (num m k : ℚ) = m * (2 : ℚ) ^ k * (den k : ℚ) := by
  have h : k + ((-k).toNat : Int) = (k.toNat : Int) := by omega
  rw [num_eq, den_eq]
  push_cast
  rw [mul_assoc, ← zpow_natCast, ← zpow_natCast, ← zpow_add₀ two_ne_zero, h]

def scaledRat (fmt : Fmt) (v : Dy) : ℚ := v.toRat * (2 : ℚ) ^ fmt.frac

theorem scaledNum_rat (fmt : Fmt) (v : Dy) :
    (scaledNum fmt v : ℚ) = scaledRat fmt v * (scaledDen fmt v : ℚ) := by
  unfold scaledNum scaledDen scaledRat Dy.toRat
  rw [num_den_rat, zpow_add₀ two_ne_zero]; ring

end Rig.C16
