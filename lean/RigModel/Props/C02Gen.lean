/-
C02 - translator tie: `add_resources`, `subtract_resources`, `overallocated`, `resources_after_reservation` of
rig/place_and_route/place/utils.py, as regenerated into `Gen/PyFun.lean`, against the model's `add` / `sub` / `over` /
`decr` (Model/C02.lean), and `Machine.__contains__` against `Machine.ok`.  A resource dictionary is translated as the
association list of its items in insertion order (integer keys standing for the resource identifiers); the model keeps
the values as a list indexed by the position of the resource, so the ties are stated on a dictionary `ks.zip va`, the
second dictionary entering through `get(k, 0)`; KeyError is raised exactly where the model says `none`.
-/
import RigModel.Model.C02
import RigModel.Gen.PyFun
import RigModel.Lemmas.PyCast

namespace Rig.C02
open Rig.Gen

/-- the positional view of a second dictionary along the keys of the first: `res_b.get(k, 0)` -/
def along (ks : List Int) (db : List (Int × Int)) : List Int := ks.map (fun k => (db.lookup k).getD 0)

theorem gen_add_resources : ∀ (ks va : List Int) (db : List (Int × Int)), ks.length = va.length →
    PyFun.add_resources (ks.zip va) db = ks.zip (add va (along ks db))
  | [], [], db, _ => rfl
  | k :: ks, a :: va, db, h => by
    have ih := gen_add_resources ks va db (Nat.succ.inj h)
    simp only [PyFun.add_resources, along, List.zip_cons_cons, List.map_cons, add] at ih ⊢
    exact congrArg₂ List.cons (congrArg (Prod.mk k) (by omega)) ih
  | [], _ :: _, _, h => nomatch h
  | _ :: _, [], _, h => nomatch h

theorem gen_subtract_resources : ∀ (ks va : List Int) (db : List (Int × Int)), ks.length = va.length →
    PyFun.subtract_resources (ks.zip va) db = ks.zip (sub va (along ks db))
  | [], [], db, _ => rfl
  | k :: ks, a :: va, db, h => by
    have ih := gen_subtract_resources ks va db (Nat.succ.inj h)
    simp only [PyFun.subtract_resources, along, List.zip_cons_cons, List.map_cons, sub] at ih ⊢
    exact congrArg₂ List.cons (congrArg (Prod.mk k) (by omega)) ih
  | [], _ :: _, _, h => nomatch h
  | _ :: _, [], _, h => nomatch h

theorem gen_overallocated (ks v : List Int) (h : ks.length = v.length) :
    PyFun.overallocated (ks.zip v) = over v := by
  unfold PyFun.overallocated over
  rw [List.map_snd_zip (by omega)]
  cases (v.any fun w => decide (w < 0)) <;> simp

/-- `res[k] -= x` -/
theorem dictUpd_decr : ∀ (ks v : List Int) (i : Nat) (x : Int), ks.length = v.length → ks.Nodup → (hi : i < ks.length) →
    PyFun.pyDictUpd (ks.zip v) ks[i] (fun w => w - x)
      = match decr v i x with
        | some r => .ok (ks.zip r)
        | none => .error "KeyError"
  | k :: ks, a :: v, 0, x, _, _, _ => by
    rw [List.zip_cons_cons, List.getElem_cons_zero, PyFun.pyDictUpd, if_pos rfl]; rfl
  | k :: ks, a :: v, i + 1, x, h, hnd, hi => by
    have hi' : i < ks.length := Nat.lt_of_succ_lt_succ hi
    have hk : k ≠ ks[i] := fun e => (List.nodup_cons.mp hnd).1 (e ▸ List.getElem_mem _)
    rw [List.zip_cons_cons, List.getElem_cons_succ, PyFun.pyDictUpd, if_neg hk,
      dictUpd_decr ks v i x (Nat.succ.inj h) (List.nodup_cons.mp hnd).2 hi', decr]
    cases decr v i x <;> rfl
  | [], _, _, _, _, _, hi => nomatch hi
  | _ :: _, [], _, _, h, _, _ => nomatch h

theorem dictUpd_absent : ∀ (d : List (Int × Int)) (k : Int) (f : Int → Int), k ∉ d.map Prod.fst →
    PyFun.pyDictUpd d k f = .error "KeyError"
  | [], _, _, _ => rfl
  | (k', v) :: t, k, f, h => by
    have h1 : k' ≠ k := fun e => h (e ▸ List.mem_cons_self)
    have h2 : k ∉ t.map Prod.fst := fun m => h (List.mem_cons_of_mem _ m)
    rw [PyFun.pyDictUpd, if_neg h1, dictUpd_absent t k f h2]; rfl

theorem gen_resources_after_reservation (ks v : List Int) (i : Nat) (start stop : Int) (h : ks.length = v.length)
    (hnd : ks.Nodup) (hi : i < ks.length) :
    PyFun.resources_after_reservation (ks.zip v) (ks[i], start, stop)
      = match decr v i (stop - start) with
        | some r => .ok (ks.zip r)
        | none => .error "KeyError" := by
  unfold PyFun.resources_after_reservation
  dsimp only
  rw [dictUpd_decr ks v i (stop - start) h hnd hi]
  cases decr v i (stop - start) <;> rfl

/-- a reservation on a resource key absent from the dict raises KeyError (the model's `Err.keyError`) -/
theorem gen_resources_after_reservation_absent (d : List (Int × Int)) (k start stop : Int) (h : k ∉ d.map Prod.fst) :
    PyFun.resources_after_reservation d (k, start, stop) = .error "KeyError" := by
  unfold PyFun.resources_after_reservation
  dsimp only
  rw [dictUpd_absent d k _ h]

/-! ### `Machine.__contains__` for a chip (rig/place_and_route/machine.py) -/

def chipPy (c : Chip) : Int × Int := ((c.1 : Int), (c.2 : Int))

theorem gen_machine_ok (m : Machine) (c : Chip) (dl : List (Int × Int × Int)) :
    (PyFun.Machine_contains_chip (m.w : Int) (m.h : Int) (m.dead.map chipPy) dl (chipPy c)).1 = m.ok c := by
  obtain ⟨x, y⟩ := c
  have hc : (m.dead.map chipPy).contains (chipPy (x, y)) = m.dead.contains (x, y) :=
    Rig.PyLoops.contains_map_inj chipPy
      (fun a b h => Prod.ext (Int.natCast_inj.mp (congrArg Prod.fst h)) (Int.natCast_inj.mp (congrArg Prod.snd h)))
      m.dead (x, y)
  unfold PyFun.Machine_contains_chip Machine.ok
  simp only [chipPy] at hc ⊢
  rw [Bool.eq_iff_iff]
  simp only [hc, decide_eq_true_eq, Bool.and_eq_true, Bool.not_eq_eq_eq_not, Bool.not_true, Bool.not_eq_true,
    py_cast, true_and, py_ac]

/-- the hypotheses are satisfiable -/
example : PyFun.resources_after_reservation ([10, 20].zip [5, 7]) (20, 1, 3) = .ok [(10, 5), (20, 5)] := by decide

end Rig.C02
