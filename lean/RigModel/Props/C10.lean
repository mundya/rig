/-
C10 - routing entries installed in a chip's router are the entries given.
-/
import RigModel.Model.C10
import RigModel.Lemmas.C10Bits
import RigModel.Lemmas.C10Trees
import RigModel.Lemmas.C10Load

namespace Rig.C10
open Rig.Gen.Router

/-- the generated enumeration data is what the model assumes: 24 routes 0..23, links 0..5 have
opposite `(r + 3) % 6`, every other route has none, cores are 6 + n, the record is `<2H 3I`,
1024 rows -/
theorem routes_enum_documented :
    routesValues = List.range 24 ∧
    oppositeTable = (List.range 6).map (fun r => (r, (r + 3) % 6)) ∧
    noOpposite = (List.range 24).filter (fun r => ¬ r < 6) ∧
    coreRoutes = (List.range 18).map (fun n => 6 + n) ∧
    rtePackString = "<2H 3I" ∧ rtrEntries = 1024 := by
  decide

/-- **Traversal.** On a well-formed tree the breadth-first traversal never trips its assertion
and yields exactly the nodes of the tree (as a set), each with the direction it is entered by. -/
theorem traverse_exact (t : Tree) (h : t.WF) :
    (traverse t).2 = false ∧ ∀ v, v ∈ (traverse t).1 ↔ v ∈ t.occs none :=
  traverse_spec t h

/-- the predicate the harness evaluates on the implementation's result holds of the model's -/
theorem tables_spec (nets : List Net) (hwf : ∀ n ∈ nets, n.tree.WF) : TablesSpec nets (treeTables nets) := by
  have h := (processNets_spec nets [] _ inv_empty hwf).congr (S' := (· ∈ allOccs nets)) (by simp)
  rw [treeTables]
  cases hp : processNets [] nets <;> rw [hp] at h
  · rename_i e
    cases e <;> exact h
  · exact ⟨inv_no_conflict _ _ h, inv_tables_exact _ _ h⟩

/-- **Tables are exact.** Whenever tables are returned: the chips are exactly the chips the trees
visit, each chip has one entry per (key, mask) occurring there, the entry's route is exactly the
set of non-`None` child directions of the tree nodes on that chip under that key and mask, its
sources are exactly the opposite arrival links of those nodes (`None` for roots), and no two nodes
on one chip under one key and mask fork differently. -/
theorem tables_exact (nets : List Net) (hwf : ∀ n ∈ nets, n.tree.WF) (T : Tables)
    (h : treeTables nets = .ok T) :
    TablesExact (allOccs nets) T ∧ ¬ Conflict (allOccs nets) := by
  have := tables_spec nets hwf
  rw [h] at this
  exact ⟨this.2, this.1⟩

/-- **Only the multisource error, and only at a real conflict.** -/
theorem tables_total (nets : List Net) (hwf : ∀ n ∈ nets, n.tree.WF) (e : Err)
    (h : treeTables nets = .error e) :
    ∃ k m c, e = .multisource k m c ∧ ConflictAt (allOccs nets) c k m := by
  have := tables_spec nets hwf
  rw [h] at this
  cases e with
  | multisource k m c => exact ⟨k, m, c, rfl, this⟩
  | _ => exact this.elim

/-- **Multisource error iff conflict.** The conversion reports a multi-source error precisely
when two tree nodes on one chip under the same key and mask leave by different direction sets. -/
theorem multisource_iff (nets : List Net) (hwf : ∀ n ∈ nets, n.tree.WF) :
    (∃ k m c, treeTables nets = .error (.multisource k m c)) ↔ Conflict (allOccs nets) := by
  constructor
  · rintro ⟨k, m, c, h⟩
    obtain ⟨k', m', c', he, a, ha, b, hb, hata, hatb, hne⟩ := tables_total nets hwf _ h
    exact ⟨a, ha, b, hb, hata.1.trans hatb.1.symm, hata.2.1.trans hatb.2.1.symm, hata.2.2.trans hatb.2.2.symm, hne⟩
  · intro hc
    cases h : treeTables nets with
    | ok T => exact absurd hc (tables_exact nets hwf T h).2
    | error e =>
      obtain ⟨k, m, c, rfl, _⟩ := tables_total nets hwf e h
      exact ⟨k, m, c, rfl⟩

theorem TablesExact.entry {os : List Occ} {T : Tables} (h : TablesExact os T) {ct : ChipXY × List Entry}
    (hct : ct ∈ T) {e : Entry} (he : e ∈ ct.2) : EntryExact os ct.1 e :=
  (h.2.2 ct hct).2.2.1 e he

theorem EntryExact.route_iff {os : List Occ} {c : ChipXY} {e : Entry} (h : EntryExact os c e) (r : Nat) :
    r ∈ e.route ↔ ∃ o ∈ os, o.at c e.key e.mask ∧ r ∈ o.v.outs :=
  ⟨h.2.1 r, fun ⟨o, ho, hat, hr⟩ => h.2.2.1 o ho hat r hr⟩

theorem EntryExact.sources_iff {os : List Occ} {c : ChipXY} {e : Entry} (h : EntryExact os c e) (s : Option Nat) :
    s ∈ e.sources ↔ ∃ o ∈ os, o.at c e.key e.mask ∧ srcOf o.v.dir = s :=
  ⟨h.2.2.2.1 s, fun ⟨o, ho, hat, hs⟩ => hs ▸ h.2.2.2.2 o ho hat⟩

/-- the entries of a table set computed from trees are loadable when the trees' keys, masks and
routes are in the documented range -/
theorem tables_inRange (os : List Occ) (T : Tables) (hT : TablesExact os T)
    (hdom : ∀ o ∈ os, o.key < 4294967296 ∧ o.mask < 4294967296 ∧ ∀ r ∈ o.v.outs, r < 24) :
    ∀ ct ∈ T, ∀ e ∈ ct.2, e.InRange := by
  intro ct hct e he
  obtain ⟨⟨o, ho, hat⟩, hroute, _, _, _⟩ := hT.entry hct he
  refine ⟨?_, ?_, ?_⟩
  · intro r hr
    obtain ⟨o', ho', _, hr'⟩ := hroute r hr
    exact (hdom o' ho').2.2 r hr'
  · rw [← hat.2.1]; exact (hdom o ho).1
  · rw [← hat.2.2]; exact (hdom o ho).2.1

/-- non-vacuity: two nets with the same key and mask merging on chip (1,0) (one enters from the
west, one is rooted there), plus a leaf without route: tables are returned, the merged entry has
both sources -/
def exNets : List Net :=
  [{ key := 5, mask := 7, tree := .node (0, 0) (.sub (some 0) (.node (1, 0) (.leaf (some 8) (.leaf none .nil))) .nil) },
   { key := 5, mask := 7, tree := .node (1, 0) (.leaf (some 8) .nil) }]
theorem exNets_tables :
    treeTables exNets = .ok [((0, 0), [{ route := [0], key := 5, mask := 7, sources := [none] }]),
                             ((1, 0), [{ route := [8], key := 5, mask := 7, sources := [some 3, none] }])] := by
  rfl
example : (∀ n ∈ exNets, n.tree.WF) ∧
    treeTables exNets = .ok [((0, 0), [{ route := [0], key := 5, mask := 7, sources := [none] }]),
                             ((1, 0), [{ route := [8], key := 5, mask := 7, sources := [some 3, none] }])] := by
  refine ⟨?_, exNets_tables⟩
  intro n hn
  simp only [exNets, List.mem_cons, List.not_mem_nil, or_false] at hn
  rcases hn with rfl | rfl <;> simp [Tree.WF, Kids.WF]
/-- non-vacuity of the error side: same key and mask, different forks on chip (1,0) -/
example : treeTables (exNets ++ [{ key := 5, mask := 7, tree := .node (1, 0) (.leaf (some 9) .nil) }]) =
    .error (.multisource 5 7 (1, 0)) := by rfl

/-- **Route word.** Bit `b` of the packed route word is set exactly when `b` is in the route set. -/
theorem route_word_bits (rs : List Nat) (b : Nat) : (routeWord rs).testBit b = true ↔ b ∈ rs :=
  routeWord_testBit rs b

/-- **Record round trip.** For every index below 2^16, every subset of the 24 routes and every
32-bit key and mask, the packed record is 16 bytes and unpacks to the same key, mask and route
set (app id and core 0 as packed). -/
theorem rte_roundtrip (i : Nat) (e : Entry) (hi : i < 65536) (hr : ∀ r ∈ e.route, r < 24)
    (hk : e.key < 4294967296) (hm : e.mask < 4294967296) :
    ∃ bs d, packEntry i e = .ok bs ∧ bs.length = 16 ∧ unpackEntry bs = some (some d) ∧
      d.key = e.key ∧ d.mask = e.mask ∧ (∀ r, r ∈ d.routes ↔ r ∈ e.route) ∧ d.app = 0 ∧ d.core = 0 := by
  refine ⟨_, _, packEntry_ok i e hi ⟨hr, hk, hm⟩, rfl,
    unpack_used i 0 (routeWord e.route) e.key e.mask (routeWord_lt e.route 24 hr) hk hm, rfl, rfl, ?_, rfl, rfl⟩
  intro r
  rw [mem_routes_filter, routeWord_testBit]
  exact ⟨fun h => h.2, fun h => ⟨hr r h, h⟩⟩

example : ∃ e : Entry, (∀ r ∈ e.route, r < 24) ∧ e.route.length = 24 ∧ e.key < 4294967296 ∧ e.mask < 4294967296 :=
  ⟨{ route := List.range 24, key := 4294967295, mask := 4294967295, sources := [] }, by simp, by simp, by simp, by simp⟩

/-! ## loading and reading back, against the router specification

`pol` is the machine's allocation policy (any function answering 0 or the first row of a block of
free rows - `PolValid`), `s` any chip state.  Hypotheses, all documented facts of a real machine:
`scp_data_length > 0`; app id below 256; `sv.sdram_sys` holds the staging buffer address `buf`;
the staging buffer does not overlap the router copy; entries have routes below 24 and 32-bit key
and mask. -/

/-- **Allocation failure.** If the machine answers 0 to `alloc_rtr`, `load_routing_table_entries`
raises `SpiNNakerRouterError(count, x, y)`, the allocation request is the only command sent (no
write, no load) and the chip - router and memory - is unchanged. -/
theorem load_alloc_failure {α : Type} (pol : Pol) (s : Chip) (scpLen x y app : Nat) (entries : List Entry)
    (k : Prog α) (ha : app < 256) (h0 : pol s.rows app entries.length = 0) :
    run pol (loadEntries scpLen entries x y app k) s =
      (s, .error (.routerError entries.length x y), [allocReq x y app entries.length]) ∧
    LoadSpec s.rows s.rows entries app 0 true false := by
  refine ⟨?_, by simp [LoadSpec]⟩
  exact (loadEntries_steps_refused pol s scpLen x y app entries k ha h0).run

/-- **Load is exact.** If the machine answers a base `b ≠ 0`, the call returns normally, sends
exactly: the allocation, the read of `sv.sdram_sys`, the write commands of the packed table to the
staging buffer and one load command `(count << 16 | app << 8 | load, buf, b)`; afterwards rows
`b .. b+n-1` hold exactly the given entries in order (key, mask, exactly the given route bits,
the app id) and belong to the application, and every other row is unchanged. -/
theorem load_exact (pol : Pol) (s : Chip) (scpLen x y app buf : Nat) (entries : List Entry)
    (hpol : PolValid pol) (hb : 0 < scpLen) (ha : app < 256)
    (hbase : pol s.rows app entries.length ≠ 0) (hr : ∀ e ∈ entries, e.InRange)
    (hsv : SvWord s svSdramSys buf)
    (hdis : buf + 16 * entries.length ≤ s.copyBase ∨ s.copyBase + 16 * rtrEntries ≤ buf) :
    (run pol (loadEntries scpLen entries x y app (.ret ())) s).2.1 = .ok () ∧
    (run pol (loadEntries scpLen entries x y app (.ret ())) s).2.2 =
      allocReq x y app entries.length ::
        ((Rig.C07.read scpLen (svBase + svSdramSys) 4).map (readReq x y 0) ++
         ((Rig.C07.write scpLen buf (recordsFrom 0 entries)).map (writeReq x y 0) ++
          [loadReq x y app entries.length buf (pol s.rows app entries.length)])) ∧
    LoadSpec s.rows (run pol (loadEntries scpLen entries x y app (.ret ())) s).1.rows entries app
      (pol s.rows app entries.length) false true := by
  rw [(loadEntries_steps pol s scpLen x y app buf entries (.ret ()) hb ha hbase hpol hr hsv hdis).run,
    after_run_ret]
  exact ⟨rfl, rfl, loadedChip_spec s buf _ app entries hbase⟩

/-- **Read-back is exact.** `get_routing_table_entries` returns 1024 items; item `j` is `None`
exactly when row `j` is unused, otherwise it carries the row's key, mask, app id, core and exactly
the routes whose bit is set in the row's route word; the chip is unchanged. -/
theorem readback_exact (pol : Pol) (s : Chip) (scpLen x y : Nat) (hb : 0 < scpLen)
    (hsv : SvWord s svRtrCopy s.copyBase) (hrows : ∀ j, j < rtrEntries → (s.rows j).Ok) :
    ∃ t, (run pol (getEntries scpLen x y) s).2.1 = .ok t ∧ ReadbackSpec s.rows t ∧
      (run pol (getEntries scpLen x y) s).1 = s := by
  rw [(getEntries_steps pol s scpLen x y hb hsv hrows).run, after_run_ret]
  exact ⟨_, rfl, ⟨length_readback _, fun j hj => ⟨_, getElem?_readback _ hj, readsAs_decRow _⟩⟩, rfl⟩

/-- **Load then read back.** Reading the router back after a successful load returns, at
positions `b .. b+n-1`, exactly the given entries (same key, mask, route set, the app id), and at
every other position what was there before. -/
theorem load_then_readback (pol : Pol) (s : Chip) (scpLen x y app buf : Nat) (entries : List Entry)
    (hpol : PolValid pol) (hb : 0 < scpLen) (ha : app < 256)
    (hbase : pol s.rows app entries.length ≠ 0) (hr : ∀ e ∈ entries, e.InRange)
    (hsv : SvWord s svSdramSys buf) (hsv2 : SvWord s svRtrCopy s.copyBase)
    (hdis : buf + 16 * entries.length ≤ s.copyBase ∨ s.copyBase + 16 * rtrEntries ≤ buf)
    (hdis2 : buf + 16 * entries.length ≤ svBase + svRtrCopy ∨ svBase + svRtrCopy + 4 ≤ buf)
    (hrows : ∀ j, j < rtrEntries → (s.rows j).Ok) :
    ∃ t, (run pol (loadEntries scpLen entries x y app (getEntries scpLen x y)) s).2.1 = .ok t ∧
      t.length = rtrEntries ∧
      (∀ i, i < entries.length → ∃ e d, entries[i]? = some e ∧
          t[pol s.rows app entries.length + i]? = some (some d) ∧
          d.key = e.key ∧ d.mask = e.mask ∧ d.app = app ∧ (∀ r, r ∈ d.routes ↔ r ∈ e.route)) ∧
      (∀ j, j < rtrEntries →
          ¬ (pol s.rows app entries.length ≤ j ∧ j < pol s.rows app entries.length + entries.length) →
          t[j]? = some (decRow (s.rows j))) := by
  have hfree := blockFree_of_pol hpol hbase
  rw [((loadEntries_steps pol s scpLen x y app buf entries _ hb ha hbase hpol hr hsv hdis).trans
    (getEntries_steps pol _ scpLen x y hb (loadedChip_svRtrCopy s buf _ app entries hsv2 hdis2)
      (loadedChip_rows_ok s buf _ app entries ha hr hrows))).run, after_run_ret]
  refine ⟨_, rfl, length_readback _, fun i hi => ?_,
    fun j hj hjb => readback_loaded_out s buf _ app entries j hj hjb⟩
  obtain ⟨e, d, he, hd, h1, h2, h3, -, h5⟩ := readback_loaded_in s buf _ app entries i hi
    (hfree.lt hi) hr
  exact ⟨e, d, he, hd, h1, h2, h3, h5⟩

/-- **Clear.** `clear_routing_table_entries` sends one `free_rtr_by_app` command; afterwards no row
belongs to the application (its rows are free and unused) and every other row is unchanged. -/
theorem clear_exact (pol : Pol) (s : Chip) (x y app : Nat) (ha : app < 256) :
    (run pol (clearEntries x y app) s).2.2 = [clearReq x y app] ∧
    ∀ j, ((s.rows j).owner = some app →
            ((run pol (clearEntries x y app) s).1.rows j).owner = none ∧
            ((run pol (clearEntries x y app) s).1.rows j).ent = none) ∧
         ((s.rows j).owner ≠ some app → (run pol (clearEntries x y app) s).1.rows j = s.rows j) := by
  simp only [clearEntries, run, step_clear pol s x y app ha, true_and]
  intro j
  constructor <;> intro h <;> simp [freeByApp, h]

/-- non-vacuity of the machine hypotheses: a first-fit policy is valid, and an empty router with
`sv` pointers set up satisfies the state hypotheses -/
def firstFit : Pol := fun rows _ n =>
  match (List.range rtrEntries).find? (fun b => decide (BlockFree rows b n)) with
  | some b => b
  | none => 0
theorem firstFit_valid : PolValid firstFit := by
  intro rows app n
  unfold firstFit
  cases h : (List.range rtrEntries).find? (fun b => decide (BlockFree rows b n)) with
  | none => exact Or.inl rfl
  | some b => exact Or.inr (by simpa using List.find?_some h)
example : PolValid firstFit := firstFit_valid
theorem firstFit_eq {rows : Nat → Row} {n b : Nat} (app : Nat) (hn : 0 < n) (hb : BlockFree rows b n)
    (hmin : ∀ j, j < b → ¬ BlockFree rows j n) : firstFit rows app n = b := by
  have : (List.range rtrEntries).find? (fun b => decide (BlockFree rows b n)) = some b :=
    List.find?_range_eq_some.2 ⟨decide_eq_true hb,
      List.mem_range.2 (Nat.lt_of_lt_of_le (Nat.lt_add_of_pos_right hn) hb.2.1), fun j hj => by simp [hmin j hj]⟩
  unfold firstFit
  rw [this]
def exChip : Chip :=
  { mem := Rig.C07.writeMem (Rig.C07.writeMem (fun _ => 0) (svBase + svSdramSys) (le32 0x60001000))
      (svBase + svRtrCopy) (le32 0x70000000),
    rows := fun _ => default, copyBase := 0x70000000 }
theorem exChip_svSdramSys : SvWord exChip svSdramSys 0x60001000 :=
  ⟨by decide, by decide +kernel, by decide +kernel⟩
theorem firstFit_exChip (app n : Nat) (hn : 0 < n) (h : n < rtrEntries) : firstFit exChip.rows app n = 1 :=
  firstFit_eq app hn ⟨Nat.le_refl 1, by rw [Nat.add_comm]; exact h, fun _ _ => rfl⟩ fun j hj h' =>
    absurd h'.1 (Nat.not_le.2 hj)
example : SvWord exChip svSdramSys 0x60001000 ∧ SvWord exChip svRtrCopy exChip.copyBase ∧
    firstFit exChip.rows 7 3 = 1 ∧ (∀ j, (exChip.rows j).Ok) :=
  ⟨exChip_svSdramSys, ⟨by decide, by decide +kernel, by decide +kernel⟩, firstFit_exChip 7 3 (by decide) (by decide),
    fun _ => trivial⟩

end Rig.C10
