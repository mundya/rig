/-
C01 - delivery over a routing tree: on tables that agree with a tree, `visit` produces the events `treeEvs` of the
tree, each once and no other; `visit` is invariant under per-chip `RouteEquiv` on covered states.
-/
import RigModel.Model.C01
import RigModel.Lemmas.C03Tree
import Mathlib.Data.List.Nodup
import Mathlib.Data.List.Pairwise

namespace Rig.C01.L
open Rig.C01
open Rig.C03 (Chip Machine chipOk linkOk step opp Tree chipsL)
open Rig.C03.L (tree_ind chipsL_eq leafL_eq)

theorem treeEvsL_eq (s : List (Nat × Tree)) : treeEvsL s = s.flatMap (treeEvs ·.2) := by
  induction s with
  | nil => rfl
  | cons p r ih => rw [treeEvsL, ih, List.flatMap_cons]

theorem chips_sub_sublist {s : List (Nat × Tree)} {sub : Nat × Tree} (h : sub ∈ s) :
    sub.2.chips.Sublist (chipsL s) := by
  rw [chipsL_eq, List.flatMap_def]
  exact List.sublist_flatten_of_mem (List.mem_map_of_mem h)

theorem subs_disjoint {s : List (Nat × Tree)} {a b : Nat × Tree} {x : Chip} (hn : (chipsL s).Nodup)
    (ha : a ∈ s) (hb : b ∈ s) (hxa : x ∈ a.2.chips) (hxb : x ∈ b.2.chips) : a = b := by
  rw [chipsL_eq, List.nodup_flatMap] at hn
  have : Std.Symm (Function.onFun List.Disjoint fun sub : Nat × Tree => sub.2.chips) :=
    ⟨fun _ _ h => List.disjoint_symm h⟩
  exact Classical.byContradiction fun hab => hn.2.forall ha hb hab hxa hxb

theorem chip_mem_chips (t : Tree) : t.chip ∈ t.chips := by
  cases t with
  | node c subs lv => simp [Tree.chip, Tree.chips]

theorem agreesL_iff {m : Machine} {dev T k path c} {s : List (Nat × Tree)} :
    AgreesL m dev T k path c s ↔ ∀ sub ∈ s,
      sub.1 < 6 ∧ linkOk m c sub.1 = true ∧ chipOk m sub.2.chip = true ∧ sub.2.chip = step m c sub.1 ∧
      (c, sub.1) ∉ dev ∧ Agrees m dev T k path sub.2 := by
  induction s with
  | nil => simp [AgreesL]
  | cons p r ih => rw [AgreesL, ih, List.forall_mem_cons]

theorem srcListedL_iff {T : Chip → List Entry} {k : W} {s : List (Nat × Tree)} :
    SrcListedL T k s ↔ ∀ sub ∈ s, SrcListed T k (some (opp sub.1)) sub.2 := by
  induction s with
  | nil => simp [SrcListedL]
  | cons p r ih => rw [SrcListedL, ih, List.forall_mem_cons]

theorem leafEv_exit (c : Chip) {l : Nat} (h : l < 6) : leafEv c l = .exit c l := if_pos h

theorem leafEv_core (c : Chip) (p : Nat) : leafEv c (6 + p) = .core c p := by
  rw [leafEv, if_neg (Nat.not_lt.2 (Nat.le_add_right 6 p)), Nat.add_sub_cancel_left]

theorem treeEvs_eq (t : Tree) : treeEvs t = t.leafList.filterMap fun lf => lf.2.1.map (leafEv lf.1) := by
  induction t using tree_ind with
  | h c subs lv ih =>
    rw [treeEvs, Tree.leafList, List.filterMap_append, treeEvsL_eq, leafL_eq, List.filterMap_flatMap,
      List.filterMap_map, List.map_filterMap]
    exact congrArg₂ _ rfl (List.flatMap_congr fun sub hs => ih sub hs)

theorem treeEvs_leafList (t : Tree) (ev : Ev) :
    ev ∈ treeEvs t ↔ ∃ lf ∈ t.leafList, ∃ r, lf.2.1 = some r ∧ ev = leafEv lf.1 r := by
  rw [treeEvs_eq, List.mem_filterMap]
  exact exists_congr fun lf => and_congr_right fun _ => Option.map_eq_some_iff.trans
    (exists_congr fun r => and_congr_right fun _ => eq_comm)

theorem leafEv_chip (c : Chip) (r : Nat) : (leafEv c r).chip = c ∧ (leafEv c r).isFlag = false := by
  unfold leafEv; split <;> exact ⟨rfl, rfl⟩

theorem treeEvs_chip (t : Tree) : ∀ ev ∈ treeEvs t, ev.chip ∈ t.chips ∧ ev.isFlag = false := by
  intro ev hev
  obtain ⟨lf, hlf, r, _, rfl⟩ := (treeEvs_leafList t ev).1 hev
  rw [(leafEv_chip lf.1 r).1]
  exact ⟨Rig.C03.L.leaf_chip_mem t lf hlf, (leafEv_chip lf.1 r).2⟩

theorem mem_coreEvs {c : Chip} {r : Nat} {ev : Ev} :
    ev ∈ coreEvs c r ↔ ∃ p, p < 18 ∧ r.testBit (6 + p) = true ∧ ev = .core c p := by
  simp only [coreEvs, List.mem_map, List.mem_filter, List.mem_range, and_assoc, eq_comm]

theorem coreEvs_nodup (c : Chip) (r : Nat) : (coreEvs c r).Nodup :=
  (List.nodup_range.filter _).map fun _ _ h => by cases h; rfl

/-- the events of the copy that chip `c`, applying route `r`, sends over link `l` -/
def linkPart (m : Machine) (dev : List (Chip × Nat)) (T : Chip → List Entry) (k : W) (f : Nat) (path : List Chip)
    (c : Chip) (r l : Nat) : List Ev :=
  if r.testBit l then linkEvs m dev c l (visit m dev T k f (c :: path)) else []

theorem routeOf_of_lookup {T : List Entry} {k : W} {e : Entry} (hl : Rig.C04.lookup T k = some e) (arr : Option Nat) :
    routeOf T k arr = some e.route := by
  simp only [routeOf, hl]

theorem visit_route {m : Machine} {dev T k f path c arr r} (hp : c ∉ path) (hr : routeOf (T c) k arr = some r) :
    visit m dev T k (f + 1) path c arr = coreEvs c r ++ (List.range 6).flatMap (linkPart m dev T k f path c r) := by
  simp only [visit, List.contains_iff_mem, hp, if_false, hr]
  rfl

theorem linkEvs_congr {m : Machine} {dev c l} {next next' : Chip → Option Nat → List Ev}
    (h : (c, l) ∉ dev → linkOk m c l = true → chipOk m (step m c l) = true →
      next (step m c l) (some (opp l)) = next' (step m c l) (some (opp l))) :
    linkEvs m dev c l next = linkEvs m dev c l next' := by
  unfold linkEvs
  by_cases hd : dev.contains (c, l) = true
  · rw [if_pos hd, if_pos hd]
  · rw [if_neg hd, if_neg hd]
    by_cases hk : (linkOk m c l && chipOk m (step m c l)) = true
    · rw [if_pos hk, if_pos hk]
      exact h (fun hm => hd (List.contains_iff_mem.2 hm)) (Bool.and_eq_true_iff.1 hk).1 (Bool.and_eq_true_iff.1 hk).2
    · rw [if_neg hk, if_neg hk]

theorem leaf_core_iff {c : Chip} {lv : List (Option Nat × Nat)}
    (hlv : ∀ r, r ∈ lv.filterMap (·.1) → r < 24) (ev : Ev) :
    ev ∈ (lv.filterMap (·.1)).map (leafEv c) ↔
      (∃ p, p < 18 ∧ 6 + p ∈ lv.filterMap (·.1) ∧ ev = .core c p) ∨
      (∃ l, l < 6 ∧ l ∈ lv.filterMap (·.1) ∧ ev = .exit c l) := by
  rw [List.mem_map]
  constructor
  · rintro ⟨r, hm, rfl⟩
    by_cases h6 : r < 6
    · exact Or.inr ⟨r, h6, hm, leafEv_exit c h6⟩
    · obtain ⟨p, rfl⟩ := Nat.exists_eq_add_of_le (Nat.le_of_not_lt h6)
      exact Or.inl ⟨p, Nat.lt_of_add_lt_add_left (hlv _ hm), hm, leafEv_core c p⟩
  · rintro (⟨p, hp, hm, rfl⟩ | ⟨l, hl, hm, rfl⟩)
    · exact ⟨6 + p, hm, leafEv_core c p⟩
    · exact ⟨l, hm, leafEv_exit c hl⟩

/-- the clauses of `Agrees` at the node `.node c subs lv` entered after `path`, for the entry `e` its chip applies -/
structure NodeAgrees (m : Machine) (dev : List (Chip × Nat)) (T : Chip → List Entry) (k : W) (path : List Chip)
    (c : Chip) (subs : List (Nat × Tree)) (lv : List (Option Nat × Nat)) (e : Entry) : Prop where
  lookup : Rig.C04.lookup (T c) k = some e
  route : ∀ b, b < 24 → (e.route.testBit b = true ↔ b ∈ nodeOuts subs lv)
  leaf : ∀ r, r ∈ lv.filterMap (·.1) → r < 24 ∧ (r < 6 → (c, r) ∈ dev)
  hop : ∀ sub ∈ subs, sub.1 < 6 ∧ linkOk m c sub.1 = true ∧ chipOk m sub.2.chip = true ∧
    sub.2.chip = step m c sub.1 ∧ (c, sub.1) ∉ dev ∧ Agrees m dev T k (c :: path) sub.2

theorem agrees_node {m : Machine} {dev T k path c subs lv} :
    Agrees m dev T k path (.node c subs lv) ↔ c ∉ path ∧ ∃ e, NodeAgrees m dev T k path c subs lv e := by
  rw [Agrees, agreesL_iff]
  exact ⟨fun ⟨hp, ⟨e, hl, hr⟩, hlv, hs⟩ => ⟨hp, e, hl, hr, hlv, hs⟩,
    fun ⟨hp, e, h⟩ => ⟨hp, ⟨e, h.lookup, h.route⟩, h.leaf, h.hop⟩⟩

section node
variable {m : Machine} {dev : List (Chip × Nat)} {T : Chip → List Entry} {k : W} {path : List Chip}
  {c : Chip} {subs : List (Nat × Tree)} {lv : List (Option Nat × Nat)} {e : Entry}
  (h : NodeAgrees m dev T k path c subs lv e) (f : Nat)
include h

theorem link_hop {sub : Nat × Tree} (hsub : sub ∈ subs) :
    linkPart m dev T k f path c e.route sub.1 = visit m dev T k f (c :: path) sub.2.chip (some (opp sub.1)) := by
  obtain ⟨h6, hlk, hck, hstep, hnd, _⟩ := h.hop sub hsub
  have hb := (h.route sub.1 (Nat.lt_trans h6 (by decide))).2 (List.mem_append_left _ (List.mem_map_of_mem hsub))
  simp [linkPart, linkEvs, hb, hnd, hlk, ← hstep, hck]

theorem link_leaf {l : Nat} (hl : l < 6) (hm : l ∈ lv.filterMap (·.1)) :
    linkPart m dev T k f path c e.route l = [.exit c l] := by
  have hb := (h.route l (Nat.lt_trans hl (by decide))).2 (List.mem_append_right _ hm)
  simp [linkPart, linkEvs, hb, (h.leaf l hm).2 hl]

theorem linkPart_cases {l : Nat} (hl : l < 6) :
    (l ∈ lv.filterMap (·.1) ∧ linkPart m dev T k f path c e.route l = [.exit c l]) ∨
    (∃ sub ∈ subs, sub.1 = l ∧
      linkPart m dev T k f path c e.route l = visit m dev T k f (c :: path) sub.2.chip (some (opp l))) ∨
    linkPart m dev T k f path c e.route l = [] := by
  by_cases hb : l ∈ nodeOuts subs lv
  · rcases List.mem_append.1 hb with hm | hm
    · obtain ⟨sub, hsub, rfl⟩ := List.mem_map.1 hm
      exact Or.inr (Or.inl ⟨sub, hsub, rfl, link_hop h f hsub⟩)
    · exact Or.inl ⟨hm, link_leaf h f hl hm⟩
  · have hb' : e.route.testBit l = false := by simpa using mt (h.route l (Nat.lt_trans hl (by decide))).1 hb
    exact Or.inr (Or.inr (by simp [linkPart, hb']))

omit f in
theorem mem_coreEvs_node (ev : Ev) :
    ev ∈ coreEvs c e.route ↔ ∃ p, p < 18 ∧ 6 + p ∈ lv.filterMap (·.1) ∧ ev = .core c p := by
  rw [mem_coreEvs]
  refine exists_congr fun p => and_congr_right fun hp => and_congr_left fun _ => ?_
  rw [h.route (6 + p) (Nat.add_lt_add_left hp 6), nodeOuts, List.mem_append, or_iff_right]
  intro hmem
  obtain ⟨sub, hsub, he⟩ := List.mem_map.1 hmem
  exact Nat.not_lt.2 (Nat.le_add_right 6 p) (he ▸ (h.hop sub hsub).1)

end node

theorem visit_tree {m : Machine} {dev T k} (t : Tree) : ∀ (f : Nat) (path : List Chip) (arr : Option Nat),
    Agrees m dev T k path t → t.chips.Nodup → t.chips.length ≤ f →
    (visit m dev T k f path t.chip arr).Nodup ∧ ∀ ev, ev ∈ visit m dev T k f path t.chip arr ↔ ev ∈ treeEvs t := by
  induction t using tree_ind with
  | h c subs lv ih =>
    intro f path arr ha hn hlen
    obtain _ | f := f
    · simp [Tree.chips] at hlen
    obtain ⟨hp, e, h⟩ := agrees_node.1 ha
    rw [Tree.chips, List.length_cons] at hlen
    rw [Tree.chips, List.nodup_cons] at hn
    obtain ⟨hc, hnL⟩ := hn
    have ih' := fun sub hsub arr => ih sub hsub f (c :: path) arr (h.hop sub hsub).2.2.2.2.2
      (hnL.sublist (chips_sub_sublist hsub))
      (Nat.le_trans (chips_sub_sublist hsub).length_le (Nat.le_of_succ_le_succ hlen))
    have hlink : ∀ l, l < 6 → ∀ ev ∈ linkPart m dev T k f path c e.route l,
        (l ∈ lv.filterMap (·.1) ∧ ev = .exit c l) ∨ ∃ sub ∈ subs, sub.1 = l ∧ ev ∈ treeEvs sub.2 := by
      intro l hl ev hev
      rcases linkPart_cases h f hl with ⟨hm, he⟩ | ⟨sub, hsub, rfl, he⟩ | he <;> rw [he] at hev
      · exact Or.inl ⟨hm, List.mem_singleton.1 hev⟩
      · exact Or.inr ⟨sub, hsub, rfl, ((ih' sub hsub _).2 ev).1 hev⟩
      · cases hev
    rw [Tree.chip, visit_route hp (routeOf_of_lookup h.lookup arr)]
    constructor
    · -- an event of a sub-tree happens at a chip of the sub-tree, so not at `c`
      have hchip : ∀ sub ∈ subs, ∀ ev ∈ treeEvs sub.2, ev.chip ∈ sub.2.chips := fun sub _ ev hev =>
        (treeEvs_chip sub.2 ev hev).1
      have hchipL : ∀ sub ∈ subs, ∀ ev ∈ treeEvs sub.2, ev.chip ≠ c := fun sub hsub ev hev he =>
        hc (he ▸ (chips_sub_sublist hsub).subset (hchip sub hsub ev hev))
      rw [List.nodup_append, List.nodup_flatMap]
      refine ⟨coreEvs_nodup _ _, ⟨fun l hl => ?_, ?_⟩, ?_⟩
      · rcases linkPart_cases h f (List.mem_range.1 hl) with ⟨_, he⟩ | ⟨sub, hsub, rfl, he⟩ | he <;> rw [he]
        · exact List.nodup_singleton _
        · exact (ih' sub hsub _).1
        · exact List.nodup_nil
      · refine (List.pairwise_lt_range (n := 6)).imp_of_mem fun {a b} ha hb hab ev hea heb => ?_
        rcases hlink a (List.mem_range.1 ha) ev hea with ⟨_, rfl⟩ | ⟨sa, hsa, rfl, hta⟩ <;>
          rcases hlink b (List.mem_range.1 hb) _ heb with ⟨_, he⟩ | ⟨sb, hsb, rfl, htb⟩
        · cases he; exact Nat.lt_irrefl _ hab
        · exact hchipL sb hsb _ htb rfl
        · exact hchipL sa hsa _ hta (he ▸ rfl)
        · rw [subs_disjoint hnL hsa hsb (hchip sa hsa _ hta) (hchip sb hsb _ htb)] at hab
          exact Nat.lt_irrefl _ hab
      · rintro _ hx y hy rfl
        obtain ⟨p, _, _, rfl⟩ := mem_coreEvs.1 hx
        obtain ⟨l, hl, hy⟩ := List.mem_flatMap.1 hy
        rcases hlink l (List.mem_range.1 hl) _ hy with ⟨_, he⟩ | ⟨sub, hsub, _, ht⟩
        · cases he
        · exact hchipL sub hsub _ ht rfl
    · intro ev
      rw [List.mem_append, mem_coreEvs_node h, treeEvs, List.mem_append,
        leaf_core_iff (fun r hr => (h.leaf r hr).1), treeEvsL_eq, or_assoc]
      refine or_congr_right ?_
      simp only [List.mem_flatMap, List.mem_range]
      constructor
      · rintro ⟨l, hl, hev⟩
        rcases hlink l hl ev hev with ⟨hm, rfl⟩ | ⟨sub, hsub, _, hev⟩
        · exact Or.inl ⟨l, hl, hm, rfl⟩
        · exact Or.inr ⟨sub, hsub, hev⟩
      · rintro (⟨l, hl, hm, rfl⟩ | ⟨sub, hsub, hev⟩)
        · exact ⟨l, hl, link_leaf h f hl hm ▸ List.mem_singleton_self _⟩
        · exact ⟨sub.1, (h.hop sub hsub).1, link_hop h f hsub ▸ ((ih' sub hsub _).2 ev).2 hev⟩

theorem flags_nil_of_treeEvs {evs : List Ev} {t : Tree} (h : ∀ ev, ev ∈ evs ↔ ev ∈ treeEvs t) : flags evs = [] := by
  rw [flags, List.filter_eq_nil_iff]
  intro ev hev
  simp [(treeEvs_chip t ev ((h ev).1 hev)).2]

theorem opp_eq : ∀ {l : Nat}, l < 6 → opp l = (l + 3) % 6 := by decide

theorem routeOf_congr {A B : List Entry} {k : W} {arr : Option Nat} {e : Entry}
    (heq : Rig.C04.RouteEquiv A B) (hl : Rig.C04.lookup A k = some e)
    (hs : e.sources.testBit (srcBit arr) = true) : routeOf B k arr = routeOf A k arr := by
  rcases heq k e hl with ⟨e', hl', hr, _⟩ | ⟨hl', l0, h6, hsrc, hroute⟩
  · simp [routeOf, hl, hl', hr]
  · -- the entry was removed: it had the single source `l0`, which is how the packet arrived
    rw [hsrc, Nat.testBit_two_pow] at hs
    have hs' : l0 = srcBit arr := by simpa using hs
    cases arr with
    | none => simp [srcBit] at hs'; omega
    | some l => subst hs'; simp [routeOf, hl, hl', hroute, opp_eq h6]

theorem visit_congr {m : Machine} {dev} {T T' : Chip → List Entry} {k : W}
    (heq : ∀ c, Rig.C04.RouteEquiv (T c) (T' c)) :
    ∀ (f : Nat) (path : List Chip) (c : Chip) (arr : Option Nat), Covered m dev T k f path c arr →
      visit m dev T' k f path c arr = visit m dev T k f path c arr
  | 0, _, _, _, _ => rfl
  | f + 1, path, c, arr, hc => by
    rw [Covered] at hc
    by_cases hp : c ∈ path
    · simp [visit, hp]
    · obtain ⟨e, hl, hs, hnext⟩ := hc.resolve_left hp
      rw [visit_route hp (routeOf_of_lookup hl arr),
        visit_route hp ((routeOf_congr (heq c) hl hs).trans (routeOf_of_lookup hl arr))]
      refine congrArg _ (List.flatMap_congr fun l hl6 => ?_)
      unfold linkPart
      split
      · rename_i hb
        exact linkEvs_congr fun hd h1 h2 => visit_congr heq f _ _ _ (hnext l (List.mem_range.1 hl6) hb hd h1 h2)
      · rfl

theorem covered_of_agrees {m : Machine} {dev T k} (t : Tree) : ∀ (f : Nat) (path : List Chip) (arr : Option Nat),
    Agrees m dev T k path t → SrcListed T k arr t → Covered m dev T k f path t.chip arr := by
  induction t using tree_ind with
  | h c subs lv ih =>
    intro f path arr ha hsl
    obtain _ | f := f
    · rw [Covered]; trivial
    rw [SrcListed] at hsl
    obtain ⟨_, e, h⟩ := agrees_node.1 ha
    rw [Tree.chip, Covered]
    refine Or.inr ⟨e, h.lookup, hsl.1 e h.lookup, fun l hl6 hb hnd _ _ => ?_⟩
    rcases List.mem_append.1 ((h.route l (Nat.lt_trans hl6 (by decide))).1 hb) with hm | hleaf
    · obtain ⟨sub, hsub, rfl⟩ := List.mem_map.1 hm
      obtain ⟨_, _, _, hstep, _, hag⟩ := h.hop sub hsub
      rw [← hstep]
      exact ih sub hsub f _ _ hag (srcListedL_iff.1 hsl.2 sub hsub)
    · exact absurd ((h.leaf l hleaf).2 hl6) hnd

end Rig.C01.L
