/-
Which requests `load_application` puts on the wire: no signal packet before the final start signal.
-/
import RigModel.Lemmas.C09Loop

namespace Rig.C09
open Rig.Gen.Load Rig.Gen.Scp

theorem ite_ne {α : Type} {c : Prop} [Decidable c] {a b x : α} (ha : a ≠ x) (hb : b ≠ x) : ite c a b ≠ x := by
  split <;> assumption

/-- only SCP command `signal` with the message type of `send_signal` is read as a signal packet: every other
branch of `decode` ends in another constructor -/
theorem notSig (r : Req) (h : r.cmd ≠ cmdSignal ∨ r.arg1 ≠ sigStartType) : isSignalPkt r = false := by
  have hd : ∀ sig mask appId, decode r ≠ .signal sig mask appId := fun _ _ _ => by
    by_cases hc : r.cmd = cmdSignal
    · rw [decode_signal r hc, if_neg (h.resolve_left (not_not_intro hc))]
      exact ite_ne Pkt.noConfusion Pkt.noConfusion
    · rw [decode, if_neg hc]
      exact ite_ne (ite_ne Pkt.noConfusion (ite_ne Pkt.noConfusion (ite_ne Pkt.noConfusion Pkt.noConfusion)))
        (ite_ne Pkt.noConfusion (ite_ne Pkt.noConfusion Pkt.noConfusion))
  rw [isSignalPkt]
  split
  · next heq => exact absurd heq (hd _ _ _)
  · rfl

def ExtNoSig (s s' : Sim) : Prop :=
  ∃ added : List (Req × Reply), s'.trace = added ++ s.trace ∧ ∀ e ∈ added, isSignalPkt e.1 = false

theorem ExtNoSig.refl (s : Sim) : ExtNoSig s s := ⟨[], rfl, fun _ h => absurd h List.not_mem_nil⟩

theorem ExtNoSig.trans {s1 s2 s3 : Sim} (h1 : ExtNoSig s1 s2) (h2 : ExtNoSig s2 s3) : ExtNoSig s1 s3 := by
  obtain ⟨a1, e1, p1⟩ := h1
  obtain ⟨a2, e2, p2⟩ := h2
  exact ⟨a2 ++ a1, by rw [e2, e1, List.append_assoc], fun e he => (List.mem_append.mp he).elim (p2 e) (p1 e)⟩

theorem ext_send (mc : MCfg) (s : Sim) (r : Req) (h : isSignalPkt r = false) : ExtNoSig s (s.send mc r).1 :=
  ⟨[(r, (step mc s.m r).2)], rfl, fun _ he => List.mem_singleton.mp he ▸ h⟩

theorem ExtNoSig.foldl {α β : Type} (π : β → Sim) (f : β → α → β) (l : List α) (b : β)
    (h : ∀ b, ∀ a ∈ l, ExtNoSig (π b) (π (f b a))) : ExtNoSig (π b) (π (l.foldl f b)) := by
  induction l generalizing b with
  | nil => exact .refl (π b)
  | cons a l ih =>
    exact (h b a List.mem_cons_self).trans (ih (f b a) fun b a' ha' => h b a' (List.mem_cons_of_mem a ha'))

theorem ext_sendAll (mc : MCfg) (rs : List Req) (s : Sim) (h : ∀ r ∈ rs, isSignalPkt r = false) :
    ExtNoSig s (sendAll mc s rs) :=
  ExtNoSig.foldl id _ rs s fun s r hr => ext_send mc s r (h r hr)

theorem ext_readMem (mc : MCfg) (buf : Nat) (s : Sim) (x y addr len : Nat) :
    ExtNoSig s (readMem mc buf s x y addr len).1 :=
  ExtNoSig.foldl Prod.fst (readStep mc x y) _ (s, []) fun acc _ _ =>
    ext_send mc acc.1 _ (notSig _ (.inl (by decide : cmdRead ≠ cmdSignal)))

theorem ffdReqs_cmd (pid buf fuel block addr : Nat) (data : List Nat) :
    ∀ r ∈ ffdReqs pid buf fuel block addr data, r.cmd = cmdFfd := by
  fun_induction ffdReqs pid buf fuel block addr data with
  | case1 => exact fun _ h => absurd h List.not_mem_nil
  | case2 fuel block addr data _ d size ih => exact fun r h => (List.mem_cons.mp h).elim (· ▸ rfl) (ih r)
  | case3 => exact fun _ h => absurd h List.not_mem_nil

theorem ext_floodFillOne (mc : MCfg) (c : Ctl) (flags : Nat) (s : Sim) (a : App) :
    ExtNoSig s (floodFillOne mc c flags s a) := by
  have h0 : ExtNoSig s { s with nn := nextNn s.nn } := ⟨[], rfl, fun _ h => absurd h List.not_mem_nil⟩
  refine h0.trans ((ext_sendAll mc _ _ fun r hr => notSig r (.inl ?_)).trans
    ((ext_readMem mc c.buf _ 255 255 _ 4).trans (ext_sendAll mc _ _ fun r hr => notSig r (.inl ?_))))
  · rcases List.mem_cons.mp hr with rfl | hr
    · exact (by decide : cmdNnp ≠ cmdSignal)
    · obtain ⟨rm, _, rfl⟩ := List.mem_map.mp hr
      exact (by decide : cmdNnp ≠ cmdSignal)
  · rcases List.mem_append.mp hr with h | h
    · rw [ffdReqs_cmd _ _ _ _ _ _ r h]; decide
    · rw [List.mem_singleton.mp h]
      exact (by decide : cmdNnp ≠ cmdSignal)

theorem ext_floodFill (mc : MCfg) (c : Ctl) (wait : Bool) (apps : List App) (s : Sim) :
    ExtNoSig s (floodFill mc c wait s apps) :=
  ExtNoSig.foldl id _ apps s fun s a _ => ext_floodFillOne mc c _ s a

theorem ext_readCpuState (mc : MCfg) (buf : Nat) (s : Sim) (x y p : Nat) :
    ExtNoSig s (readCpuState mc buf s x y p).1 := by
  simp only [readCpuState]
  exact (ext_readMem mc buf s x y _ 4).trans (ext_readMem mc buf _ x y _ 1)

theorem ext_checkCores (mc : MCfg) (buf x y : Nat) (ps : List Nat) (s : Sim) :
    ExtNoSig s (checkCores mc buf x y s ps).1 := by
  induction ps generalizing s with
  | nil => exact .refl s
  | cons p ps ih => rw [checkCores]; exact (ext_readCpuState mc buf s x y p).trans (ih _)

theorem ext_checkTargets (mc : MCfg) (buf : Nat) (ts : List (Nat × Nat × List Nat)) (s : Sim) :
    ExtNoSig s (checkTargets mc buf s ts).1 := by
  induction ts generalizing s with
  | nil => exact .refl s
  | cons t ts ih => rw [checkTargets]; exact (ext_checkCores mc buf t.1 t.2.1 t.2.2 s).trans (ih _)

theorem ext_checkApps (mc : MCfg) (buf : Nat) (as : List App) (s : Sim) :
    ExtNoSig s (checkApps mc buf s as).1 := by
  induction as generalizing s with
  | nil => exact .refl s
  | cons a as ih => rw [checkApps]; exact (ext_checkTargets mc buf a.targets s).trans (ih _)

theorem ext_verify (mc : MCfg) (c : Ctl) (total : Nat) (s : Sim) (unl : List App) :
    ExtNoSig s (verify mc c total s unl).1 := by
  rw [verify]
  cases c.useCount
  · exact ext_checkApps mc c.buf unl s
  · have hc := ext_send mc s (countReq stWait c.appId) (notSig _ (.inr (by decide : diagCountType ≠ sigStartType)))
    rw [if_pos rfl]
    generalize s.send mc (countReq stWait c.appId) = o at hc
    obtain ⟨s', r⟩ := o
    cases r with
    | count n => dsimp only; split; exacts [hc, hc.trans (ext_checkApps mc c.buf unl s')]
    | _ => exact hc.trans (ext_checkApps mc c.buf unl s')

theorem ext_loadLoop (mc : MCfg) (c : Ctl) (total fuel : Nat) (s : Sim) (tries : Nat) (unl : List App)
    (sent : List (List App)) : ExtNoSig s (loadLoop mc c total fuel s tries unl sent).1 :=
  (loadLoop_rule mc c total (fun s' _ _ _ => ExtNoSig s s')
    (fun s' _ unl _ h _ _ => h.trans ((ext_floodFill mc c true unl s').trans (ext_verify mc c total _ unl)))
    fuel s tries unl sent (.refl s)).elim fun _ h => h.2.1

end Rig.C09
