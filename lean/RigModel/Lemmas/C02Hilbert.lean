/-
C02 - the Hilbert curve generator of hilbert.py visits every point of the 2^L x 2^L square
exactly once (for every level L).

A call `hilbert(level, a)` in state `⟨x, y, dx, dy⟩` works in the orthonormal frame made of its heading
`(dx, dy)` and the direction `(dy * -a, dx * a)`, its heading turned left (`a = 1`) or right (`a = -1`):
it fills the square of side `2 ^ level` that the two span from `(x, y)` and stops in the far corner along
the heading.  In the coordinates `(u, v)` of that frame the four recursive calls fill the quadrants
`v, u < K`, then `K ≤ v`, `u < K`, then `K ≤ u, v` and last `K ≤ u`, `v < K` (`HilbertFrame.quadrants`).
-/
import RigModel.Model.C02
namespace Rig.C02

structure HilbertFrame (a dx dy : Int) : Prop where
  ang : a * a = 1
  unit : dx * dx + dy * dy = 1
  axis : dx * dy = 0

def coordAlong (x y dx dy : Int) (q : Int × Int) : Int := (q.1 - x) * dx + (q.2 - y) * dy

theorem int_mul_mul_mul_comm (x y z w : Int) : x * y * (z * w) = x * z * (y * w) := by
  rw [Int.mul_assoc, Int.mul_left_comm y, ← Int.mul_assoc]

namespace HilbertFrame
variable {a dx dy : Int} (h : HilbertFrame a dx dy)
include h

theorem neg : HilbertFrame (-a) dx dy :=
  ⟨by rw [Int.neg_mul_neg]; exact h.ang, h.unit, h.axis⟩

theorem left : HilbertFrame a (dy * -a) (dx * a) :=
  ⟨h.ang,
    by rw [int_mul_mul_mul_comm, int_mul_mul_mul_comm dx, Int.neg_mul_neg, h.ang, Int.mul_one, Int.mul_one,
      Int.add_comm]; exact h.unit,
    by rw [int_mul_mul_mul_comm, Int.mul_comm dy, h.axis, Int.zero_mul]⟩

theorem right : HilbertFrame a (dy * a) (dx * -a) :=
  ⟨h.ang,
    by rw [int_mul_mul_mul_comm, int_mul_mul_mul_comm dx, Int.neg_mul_neg, h.ang, Int.mul_one, Int.mul_one,
      Int.add_comm]; exact h.unit,
    by rw [int_mul_mul_mul_comm, Int.mul_comm dy, h.axis, Int.zero_mul]⟩

theorem mul_ang (z : Int) : z * a * a = z ∧ z * a * -a = -z ∧ z * -a * a = -z := by
  rw [Int.mul_assoc, Int.mul_assoc, Int.mul_assoc, Int.mul_neg, Int.neg_mul, h.ang, Int.mul_one, Int.mul_neg_one]
  exact ⟨rfl, rfl, rfl⟩

theorem quadrants {x y K x2 y2 x3 y3 x4 y4 : Int}
    (hx2 : x2 = x + (K - 1) * (dy * -a) + dy * -a) (hy2 : y2 = y + (K - 1) * (dx * a) + dx * a)
    (hx3 : x3 = x2 + (K - 1) * dx + dx) (hy3 : y3 = y2 + (K - 1) * dy + dy)
    (hx4 : x4 = x3 + (K - 1) * dx + dy * a) (hy4 : y4 = y3 + (K - 1) * dy + dx * -a) (q : Int × Int) :
    x4 + (K - 1) * (dy * a) = x + (K * 2 - 1) * dx ∧ y4 + (K - 1) * (dx * -a) = y + (K * 2 - 1) * dy ∧
    coordAlong x2 y2 dx dy q = coordAlong x y dx dy q ∧
    coordAlong x2 y2 (dy * -a) (dx * a) q = coordAlong x y (dy * -a) (dx * a) q - K ∧
    coordAlong x3 y3 dx dy q = coordAlong x y dx dy q - K ∧
    coordAlong x3 y3 (dy * -a) (dx * a) q = coordAlong x y (dy * -a) (dx * a) q - K ∧
    coordAlong x4 y4 (dy * a) (dx * -a) q = K - 1 - coordAlong x y (dy * -a) (dx * a) q ∧
    coordAlong x4 y4 (-dx) (-dy) q = K * 2 - 1 - coordAlong x y dx dy q := by
  obtain ⟨h1, h2, h3⟩ := h
  subst hx2 hy2 hx3 hy3 hx4 hy4
  simp only [coordAlong]
  grind

theorem origin {x y : Int} {q : Int × Int} (hu : coordAlong x y dx dy q = 0)
    (hv : coordAlong x y (dy * -a) (dx * a) q = 0) :
    q = (x, y) := by
  obtain ⟨h1, h2, h3⟩ := h
  obtain ⟨qx, qy⟩ := q
  simp only [coordAlong] at hu hv
  rw [Prod.mk.injEq]
  grind

end HilbertFrame

def InBox (K u v : Int) : Prop := 0 ≤ u ∧ u < K ∧ 0 ≤ v ∧ v < K

theorem InBox.tile (K u v : Int) :
    InBox (K * 2) u v ↔
      InBox K v u ∨ InBox K u (v - K) ∨ InBox K (u - K) (v - K) ∨ InBox K (K - 1 - v) (K * 2 - 1 - u) := by
  unfold InBox; omega

/-- what one call of the generator does (`(x, y)` itself is yielded by the caller) -/
structure GenSpec (n : Nat) (a x y dx dy : Int) (r : List (Int × Int) × HS) : Prop where
  exit : r.2 = ⟨x + (2 ^ n - 1) * dx, y + (2 ^ n - 1) * dy, dx, dy⟩
  nodup : ((x, y) :: r.1).Nodup
  mem : ∀ q, q ∈ (x, y) :: r.1 ↔ InBox (2 ^ n) (coordAlong x y dx dy q) (coordAlong x y (dy * -a) (dx * a) q)

theorem hilbertGen_spec : ∀ (n : Nat) (a x y dx dy : Int), HilbertFrame a dx dy →
    GenSpec n a x y dx dy (hilbertGen n a ⟨x, y, dx, dy⟩) := by
  intro n
  induction n with
  | zero =>
    intro a x y dx dy h
    refine ⟨by simp [hilbertGen], by simp [hilbertGen], fun q => ?_⟩
    simp only [hilbertGen, List.mem_singleton, Int.pow_zero, InBox]
    constructor
    · rintro rfl; simp [coordAlong]
    · intro hq; exact h.origin (by omega) (by omega)
  | succ n ih =>
    intro a x y dx dy h
    have ih' : ∀ {a x y dx dy r}, HilbertFrame a dx dy → hilbertGen n a ⟨x, y, dx, dy⟩ = r →
        GenSpec n a x y dx dy r :=
      fun h e => e ▸ ih _ _ _ _ _ h
    simp only [hilbertGen]
    generalize e1 : hilbertGen n (-a) ⟨x, y, dy * -a, dx * a⟩ = r1
    obtain ⟨l1, s1⟩ := r1
    obtain ⟨rfl, ndA, Amem⟩ := ih' h.left.neg e1
    simp only [h.mul_ang, h.neg.mul_ang]
    generalize e2 : hilbertGen n a _ = r2
    obtain ⟨l2, s2⟩ := r2
    obtain ⟨rfl, ndB, Bmem⟩ := ih' h e2
    simp only
    generalize e3 : hilbertGen n a _ = r3
    obtain ⟨l3, s3⟩ := r3
    obtain ⟨rfl, ndC, Cmem⟩ := ih' h e3
    simp only
    generalize e4 : hilbertGen n (-a) _ = r4
    obtain ⟨l4, s4⟩ := r4
    obtain ⟨rfl, ndD, Dmem⟩ := ih' h.right.neg e4
    simp only [h.mul_ang, h.neg.mul_ang, Int.neg_neg] at Amem Dmem ⊢
    have Q := h.quadrants (x := x) (y := y) (K := 2 ^ n) rfl rfl rfl rfl rfl rfl
    simp only [Q] at Bmem Cmem Dmem ⊢
    refine ⟨?_, ?_, fun q => ?_⟩
    · simp only [Int.pow_succ, (Q (x, y)).1, (Q (x, y)).2.1]
    · simp only [← List.cons_append, List.append_assoc, List.nodup_append, List.mem_append, Amem, Bmem, Cmem, Dmem]
      refine ⟨ndA, ⟨ndB, ⟨ndC, ndD, ?_⟩, ?_⟩, ?_⟩ <;>
        (intro q hq q' hq' e; subst e; unfold InBox at hq hq'; omega)
    · simp only [Int.pow_succ, ← List.cons_append, List.append_assoc, List.mem_append, Amem, Bmem, Cmem, Dmem]
      exact (InBox.tile _ _ _).symm

theorem hilbertPts_spec (L : Nat) :
    (hilbertPts L).Nodup ∧
    ∀ q : Int × Int, q ∈ hilbertPts L ↔ 0 ≤ q.1 ∧ q.1 < 2 ^ L ∧ 0 ≤ q.2 ∧ q.2 < 2 ^ L := by
  have S := hilbertGen_spec L 1 0 0 1 0 ⟨rfl, rfl, rfl⟩
  refine ⟨S.nodup, fun q => (S.mem q).trans ?_⟩
  simp only [InBox, coordAlong]
  omega

theorem clog2_spec (n : Nat) : n ≤ 2 ^ clog2 n ∧ (clog2 n = 0 ∨ 2 ^ (clog2 n - 1) < n) := by
  unfold clog2
  split
  · exact ⟨by simp only [Nat.pow_zero]; omega, Or.inl rfl⟩
  · have := Nat.lt_log2_self (n := n - 1)
    have := Nat.log2_self_le (n := n - 1) (by omega)
    simp only [Nat.add_sub_cancel]
    omega

/-- a point of the curve is turned into the chip with the same coordinates -/
theorem toChip_eq_some {q : Int × Int} {c : Chip} :
    (if 0 ≤ q.1 ∧ 0 ≤ q.2 then some (q.1.toNat, q.2.toNat) else none) = some c ↔
      q = ((c.1 : Int), (c.2 : Int)) := by
  obtain ⟨qx, qy⟩ := q
  obtain ⟨cx, cy⟩ := c
  split
  · rename_i h
    simp only [Option.some.injEq, Prod.mk.injEq]
    constructor
    · rintro ⟨rfl, rfl⟩; exact ⟨(Int.toNat_of_nonneg h.1).symm, (Int.toNat_of_nonneg h.2).symm⟩
    · rintro ⟨rfl, rfl⟩; exact ⟨Int.toNat_natCast _, Int.toNat_natCast _⟩
  · simp only [reduceCtorEq, false_iff, Prod.mk.injEq]; omega

theorem mem_chips_hilbertPts (L : Nat) (c : Chip) :
    c ∈ (hilbertPts L).filterMap (fun q => if 0 ≤ q.1 ∧ 0 ≤ q.2 then some (q.1.toNat, q.2.toNat) else none) ↔
      c.1 < 2 ^ L ∧ c.2 < 2 ^ L := by
  simp only [List.mem_filterMap, toChip_eq_some, exists_eq_right, (hilbertPts_spec _).2]
  have hp : ((2 ^ L : Nat) : Int) = (2 : Int) ^ L := Int.natCast_pow 2 L
  omega

theorem hilbertChips_nodup (w h : Nat) : (hilbertChips w h).Nodup := by
  unfold hilbertChips List.Nodup
  rw [List.pairwise_filterMap]
  refine List.Pairwise.imp ?_ (hilbertPts_spec (clog2 (max w h))).1
  intro a b hab c hc c' hc' e
  subst e
  exact hab ((toChip_eq_some.1 hc).trans (toChip_eq_some.1 hc').symm)

end Rig.C02
