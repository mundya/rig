/-
C14 - the P2P routing table: reading the table memory the machine specification lays out, column by
column and eight 3-bit entries per word, yields every entry inside the dimensions once.
-/
import RigModel.Lemmas.C14Bytes
import RigModel.Lemmas.C14Spec
import RigModel.Lemmas.Lists

namespace Rig.C14
open Rig.Gen.C14

theorem p2pWord_eq (f : Nat → Nat → Nat) (c k : Nat) :
    p2pWord f c k = packBits (((List.range 8).map fun e => f c (8 * k + e)).map fun v => (3, v)) := by
  simp only [p2pWord, show List.range 8 = [0, 1, 2, 3, 4, 5, 6, 7] from rfl, List.map_cons, List.map_nil, packBits,
    Nat.add_zero]
  omega

theorem p2pWord_lt (f : Nat → Nat → Nat) (hf : ∀ x y, f x y < 8) (c k : Nat) : p2pWord f c k < 2 ^ (3 * 8) := by
  have := packBits_lt _ (BitsFit.map 3 ((List.range 8).map fun e => f c (8 * k + e)) fun v hv => by
    obtain ⟨e, _, rfl⟩ := List.mem_map.1 hv; exact hf _ _)
  rwa [← p2pWord_eq, bitsWidth_map, List.length_map, List.length_range] at this

theorem p2pWord_entry (f : Nat → Nat → Nat) (hf : ∀ x y, f x y < 8) (c k e : Nat) (he : e < 8) :
    (p2pWord f c k >>> (3 * e)) &&& 7 = f c (8 * k + e) := by
  rw [Nat.and_two_pow_sub_one_eq_mod _ 3, Nat.shiftRight_eq_div_pow, p2pWord_eq]
  refine packBits_map_field 3 _ e (by rw [List.getElem?_map, List.getElem?_range he]; rfl) (forall_mem_take ?_ _)
  intro v hv
  obtain ⟨e', _, rfl⟩ := List.mem_map.1 hv
  exact hf _ _

theorem p2pMem_word (f : Nat → Nat → Nat) (hf : ∀ x y, f x y < 8) (c k : Nat) (hk : k < 32) :
    leVal (readMem (p2pMem f) (SPINNAKER_RTR_P2P + 128 * c + 4 * k) 4) = p2pWord f c k := by
  have : readMem (p2pMem f) (SPINNAKER_RTR_P2P + 128 * c + 4 * k) 4 = leN 4 (p2pWord f c k) := by
    apply List.map_congr_left
    intro j hj
    rw [List.mem_range] at hj
    obtain ⟨e1, e2, e3⟩ : (128 * c + (4 * k + j)) / 128 = c ∧ (128 * c + (4 * k + j)) % 128 / 4 = k ∧
        (128 * c + (4 * k + j)) % 4 = j := by omega
    simp only [p2pMem, Nat.add_assoc, Nat.add_sub_cancel_left, e1, e2, e3]
  rw [this]
  exact leVal_leN 4 _ (Nat.lt_trans (p2pWord_lt f hf c k) (by decide))

theorem wordEntries_spec (f : Nat → Nat → Nat) (hf : ∀ x y, f x y < 8) (c k n : Nat) (hn : n ≤ 8) :
    wordEntries (p2pWord f c k) (8 * k) n = (List.range' (8 * k) n).map fun r => (r, f c r) := by
  rw [wordEntries, List.range'_eq_map_range, List.map_map]
  apply List.map_congr_left
  intro e he
  rw [List.mem_range] at he
  rw [p2pWord_entry f hf c k e (Nat.lt_of_lt_of_le he hn)]
  rfl

theorem colLoop_done (fuel : Nat) (raw : List Nat) (row h : Nat) (hr : h ≤ row) :
    colLoop fuel raw row h = .ok [] := by
  cases fuel with
  | zero => rfl
  | succ n =>
    simp [colLoop, Nat.not_lt.2 hr]

/-- rows `8k .. h-1` of column `c` -/
def colRows (f : Nat → Nat → Nat) (c k h : Nat) : List (Nat × Nat) :=
  (List.range' (8 * k) (h - 8 * k)).map fun r => (r, f c r)

theorem colRows_of_le (f : Nat → Nat → Nat) (c k h : Nat) (hle : h ≤ 8 * k) : colRows f c k h = [] := by
  rw [colRows, Nat.sub_eq_zero_of_le hle]; rfl

theorem colRows_succ (f : Nat → Nat → Nat) (c k h : Nat) (h8 : 8 ≤ h - 8 * k) :
    colRows f c k h = ((List.range' (8 * k) 8).map fun r => (r, f c r)) ++ colRows f c (k + 1) h := by
  rw [colRows, colRows, ← List.map_append, Nat.mul_succ, Nat.sub_add_eq, List.range'_append_1,
    Nat.add_sub_cancel' h8]

/-- `n` words from word `k` of column `c`'s block reach row `h` (`h ≤ 8 (k + n)`) and stay inside the block
(`k + n ≤ 32`): the loop entered at row `8k` returns rows `8k .. h-1` -/
theorem colLoop_spec (f : Nat → Nat → Nat) (hf : ∀ x y, f x y < 8) (c h : Nat) :
    ∀ (n fuel k : Nat), n ≤ fuel → h ≤ 8 * (k + n) → k + n ≤ 32 →
      colLoop fuel (readMem (p2pMem f) (SPINNAKER_RTR_P2P + 128 * c + 4 * k) (4 * n)) (8 * k) h
        = .ok (colRows f c k h) := by
  intro n
  induction n with
  | zero =>
    intro fuel k _ hle _
    have hle : h ≤ 8 * k := hle
    rw [colLoop_done _ _ _ _ hle, colRows_of_le f c k h hle]
  | succ n ih =>
    intro fuel k hfu hle hk
    by_cases hlt : 8 * k < h
    · rcases fuel with _ | fuel
      · cases hfu
      rw [Nat.mul_succ, Nat.add_comm (4 * n) 4, readMem_add]
      simp only [colLoop, hlt, if_true, List.take_left' (readMem_length _ _ 4), List.drop_left' (readMem_length _ _ 4),
        readMem_length, ne_eq, not_true, if_false,
        p2pMem_word f hf c k (Nat.lt_of_lt_of_le (Nat.lt_add_of_pos_right (Nat.succ_pos n)) hk)]
      by_cases h8 : 8 ≤ h - 8 * k
      · rw [Nat.add_comm n 1, ← Nat.add_assoc] at hle hk
        rw [Nat.min_eq_left h8, ← Nat.mul_succ, Nat.add_assoc _ (4 * k) 4, ← Nat.mul_succ,
          ih fuel (k + 1) (Nat.le_of_succ_le_succ hfu) hle hk, wordEntries_spec f hf c k 8 (Nat.le_refl 8),
          colRows_succ f c k h h8]
      · rw [Nat.min_eq_right (Nat.le_of_not_le h8), Nat.add_sub_cancel' (Nat.le_of_lt hlt),
          colLoop_done _ _ _ _ (Nat.le_refl h), wordEntries_spec f hf c k _ (Nat.le_of_not_le h8)]
        simp only [List.append_nil, colRows]
    · rw [colLoop_done _ _ _ _ (Nat.le_of_not_lt hlt), colRows_of_le f c k h (Nat.le_of_not_lt hlt)]

theorem p2pCols_of_reads (f : Nat → Nat → Nat) (hf : ∀ x y, f x y < 8) (rd : Rd) (h : Nat) (hh : h ≤ 255)
    (cols : List Nat)
    (hrd : ∀ c ∈ cols, rd (SPINNAKER_RTR_P2P + 128 * c) (((h + 7) / 8) * 4) =
      readMem (p2pMem f) (SPINNAKER_RTR_P2P + 128 * c) (((h + 7) / 8) * 4)) :
    p2pCols rd (((h + 7) / 8) * 4) h cols = .ok (p2pSpecTable f cols h) := by
  induction cols with
  | nil => rfl
  | cons c cs ih =>
    have hcol := colLoop_spec f hf c h ((h + 7) / 8) h 0 (by omega) (by omega) (by omega)
    rw [Nat.mul_zero, Nat.add_zero] at hcol
    simp only [p2pCols, ih fun c' hc' => hrd c' (List.mem_cons_of_mem _ hc')]
    rw [show SPINNAKER_RTR_P2P + 256 * c / 8 * 4 = SPINNAKER_RTR_P2P + 128 * c by omega, hrd c List.mem_cons_self,
      Nat.mul_comm _ 4, hcol]
    simp only [colRows, p2pSpecTable, List.flatMap_cons, Nat.mul_zero, Nat.sub_zero, List.map_map, List.range_eq_range']
    rfl

theorem p2pTableOfDims_spec (f : Nat → Nat → Nat) (hf : ∀ x y, f x y < 8) (rd : Rd) (w h : Nat)
    (hw : w ≤ 255) (hh : h ≤ 255)
    (hrd : ∀ a n, SPINNAKER_RTR_P2P ≤ a → a + n ≤ SPINNAKER_RTR_P2P + P2P_REGION →
      rd a n = readMem (p2pMem f) a n) :
    p2pTableOfDims rd (w * 256 + h) = .ok (p2pSpecTable f (List.range w) h) := by
  have e1 : ((w * 256 + h) >>> 8) &&& 0xFF = w := by
    rw [Nat.and_two_pow_sub_one_eq_mod _ 8, Nat.shiftRight_eq_div_pow]; omega
  have e2 : ((w * 256 + h) >>> 0) &&& 0xFF = h := by
    rw [Nat.and_two_pow_sub_one_eq_mod _ 8, Nat.shiftRight_eq_div_pow]; omega
  simp only [p2pTableOfDims, e1, e2]
  refine p2pCols_of_reads f hf rd h hh (List.range w) fun c hc => hrd _ _ (by omega) ?_
  have := List.mem_range.1 hc
  unfold P2P_REGION; omega

theorem mem_p2pSpecTable (f : Nat → Nat → Nat) (w h x y r : Nat) :
    ((x, y), r) ∈ p2pSpecTable f (List.range w) h ↔ x < w ∧ y < h ∧ r = f x y := by
  simp only [p2pSpecTable, List.mem_flatMap, List.mem_map, List.mem_range, Prod.mk.injEq]
  constructor
  · rintro ⟨c, hc, r', hr', ⟨rfl, rfl⟩, rfl⟩
    exact ⟨hc, hr', rfl⟩
  · rintro ⟨hx, hy, rfl⟩
    exact ⟨x, hx, y, hy, ⟨rfl, rfl⟩, rfl⟩

theorem p2pSpecTable_nodup (f : Nat → Nat → Nat) (w h : Nat) :
    ((p2pSpecTable f (List.range w) h).map (·.1)).Nodup := by
  simp only [p2pSpecTable, List.map_flatMap, List.map_map, Function.comp_def]
  exact Lists.nodup_flatMap_map id (fun _ => List.range h) Prod.mk _ (by rw [List.map_id]; exact List.nodup_range)
    (fun _ _ => List.nodup_range) fun _ _ _ _ heq => Prod.mk.inj heq

end Rig.C14
