/-
C01 - bridge lemmas between C14's machine / reservations and the stage models' types.
-/
import RigModel.Model.C01Wrap
import RigModel.Lemmas.C01Stage
import RigModel.Props.C14
import RigModel.Props.C05

namespace Rig.C01Wrap.L
open Rig.C01 Rig.C01Pipe Rig.C01Wrap
open Rig.C03 (Chip chipOk linkOk)
open Rig.C14 (SysInfo ChipInfo PMachine Reservation buildMachine coreConstraints busy coverCount)
open Rig.Gen.C14 (APPSTATE_IDLE)

theorem chipOk_bridge (si : SysInfo) (wp : WProblem) (c : Nat × Nat) :
    chipOk (machine3 (problemOf si wp)) (chipZ c) = (buildMachine si).chipOk c :=
  Rig.C01.L.chipOk_chipZ _ _ _ _ c

theorem chipOk_nat {si : SysInfo} {wp : WProblem} {xy : Chip}
    (h : chipOk (machine3 (problemOf si wp)) xy = true) :
    ∃ c : Nat × Nat, xy = chipZ c ∧ (buildMachine si).chipOk c = true := by
  have hb := Rig.C03.L.chipOk_inRange h
  have hz := Rig.C01.L.chipZ_chipN hb.1 hb.2.2.1
  exact ⟨chipN xy, hz.symm, by rw [← chipOk_bridge si wp, hz]; exact h⟩

theorem contains_deadLinks03 (m : PMachine) (c : Nat × Nat) (l : Nat) :
    (deadLinks03 m).contains (chipZ c, l) = m.deadLinks.contains (c.1, c.2, l) := by
  rw [Bool.eq_iff_iff]
  simp only [List.contains_iff_mem, deadLinks03, List.mem_map]
  constructor
  · rintro ⟨⟨x, y, l'⟩, ha, he⟩
    simp only [Prod.mk.injEq] at he
    rw [← Rig.C01.L.chipZ_inj he.1, ← he.2]; exact ha
  · intro h; exact ⟨(c.1, c.2, l), h, rfl⟩

theorem linkOk_bridge (si : SysInfo) (wp : WProblem) (c : Nat × Nat) (l : Nat) :
    linkOk (machine3 (problemOf si wp)) (chipZ c) l = (buildMachine si).linkOk c.1 c.2 l := by
  unfold linkOk PMachine.linkOk
  rw [chipOk_bridge]
  have : (machine3 (problemOf si wp)).deadLinks = deadLinks03 (buildMachine si) := rfl
  rw [this, contains_deadLinks03]

theorem link_dead_of_not_reported {si : SysInfo} (hwf : si.WF) (wp : WProblem) {c : Nat × Nat} {l : Nat}
    (hl : l < 6) (h : si.hasLink c.1 c.2 l = false) :
    linkOk (machine3 (problemOf si wp)) (chipZ c) l = false := by
  rw [linkOk_bridge]
  cases hx : (buildMachine si).linkOk c.1 c.2 l with
  | false => rfl
  | true =>
    have := ((Rig.C14.build_machine_exact si hwf).2.2.2.1 c.1 c.2 l hl).1 hx
    have h2 := ((Rig.C14.contains_exact si hwf.1).2.1 c.1 c.2 l).2 this
    rw [h] at h2; cases h2

theorem m5_contains (pb : Problem) (xy : Chip) : (m5 pb).contains xy = chipOk (machine3 pb) xy := by
  rw [Bool.eq_iff_iff]
  simp only [Rig.C05.Machine.contains, chipOk, Bool.and_eq_true, decide_eq_true_eq, Bool.not_eq_true', and_assoc]
  rfl

theorem m5_get (si : SysInfo) (wp : WProblem) (c : Nat × Nat) :
    (m5 (problemOf si wp)).get (chipZ c) =
      if (buildMachine si).chipOk c then some (resAssoc (vec3 ((buildMachine si).resources c))) else none := by
  have e : (m5 (problemOf si wp)).exceptions =
      (buildMachine si).exceptions.map fun e => (chipZ e.1, resAssoc (vec3 e.2)) := by
    simp [m5, problemOf, machine02, List.map_map, Function.comp_def]
  unfold Rig.C05.Machine.get PMachine.resources
  rw [m5_contains, chipOk_bridge, e, Rig.Assoc.lookup_map (fun _ _ => Rig.C01.L.chipZ_inj) (fun q => resAssoc (vec3 q)) c]
  cases (buildMachine si).exceptions.lookup c <;> rfl

/-- the capacity of the core resource anywhere is the core count of a described chip -/
theorem capacity_described {si : SysInfo} (hwf : si.WF) (wp : WProblem) {xy : Chip} {k : Int}
    (h : Rig.C05.capacity (m5 (problemOf si wp)) xy 0 = some k) :
    ∃ c ci, xy = chipZ c ∧ (c, ci) ∈ si.chips ∧ k = (ci.numCores : Int) := by
  obtain ⟨rs, hget, _⟩ := Option.bind_eq_some_iff.1 h
  have hcont : (m5 (problemOf si wp)).contains xy = true := by
    rw [Rig.C05.Machine.get] at hget
    exact Decidable.byContradiction fun hc => by rw [if_neg hc] at hget; cases hget
  obtain ⟨c, rfl, hok⟩ := chipOk_nat (m5_contains _ xy ▸ hcont)
  obtain ⟨_, _, hchip, _, hres⟩ := Rig.C14.build_machine_exact si hwf
  obtain ⟨ci, hci⟩ := (hchip c.1 c.2).1 hok
  rw [Rig.C05.capacity, m5_get, hok, hres c ci hci] at h
  exact ⟨c, ci, rfl, hci, (Option.some.inj h).symm⟩

theorem dem_vec3_nonneg (q : Nat × Nat × Nat) : ∀ i, 0 ≤ Rig.C02.dem (vec3 q) i
  | 0 | 1 | 2 => Int.natCast_nonneg _
  | _ + 3 => Int.le_refl 0

theorem nonnegCap (si : SysInfo) (wp : WProblem) : Rig.C02.NonNegCap (problemOf si wp).m2 := by
  intro c _ i
  have e : ((problemOf si wp).m2.exc).lookup c = ((buildMachine si).exceptions.lookup c).map vec3 :=
    Rig.Assoc.lookup_map (f := id) (fun _ _ h => h) vec3 c _
  rw [Rig.C02.cap, Rig.C02.aget_eq_lookup, e]
  cases (buildMachine si).exceptions.lookup c <;> exact dem_vec3_nonneg _ i

theorem mem_constraintsOf {si : SysInfo} {cs : List PC} {pc : PC} (h : pc ∈ constraintsOf si cs)
    (hpc : ∀ r s a, pc ≠ .reserve r s a) : pc ∈ cs := by
  rcases List.mem_append.1 h with h | h
  · obtain ⟨r, _, rfl⟩ := List.mem_map.1 h
    exact absurd rfl (hpc _ _ _)
  · exact h

/-- a reservation of `build_core_constraints` that applies to chip `c` is one of the reserved ranges the allocator
keeps clear of on that chip -/
theorem reservation_reserved {si : SysInfo} {cs : List PC} {r : Reservation} (hr : r ∈ coreConstraints si)
    {c : Nat × Nat} (ha : r.appliesTo c = true) :
    (⟨(r.start : Int), (r.stop : Int)⟩ : Rig.C05.Slice) ∈
      Rig.C05.reserved ((constraintsOf si cs).map PC.to05) (chipZ c) 0 := by
  have hm : PC.to05 (Reservation.toPC r) ∈ (constraintsOf si cs).map PC.to05 :=
    List.mem_map.2 ⟨_, List.mem_append_left _ (List.mem_map.2 ⟨r, hr, rfl⟩), rfl⟩
  simp only [Reservation.toPC, PC.to05] at hm
  unfold Rig.C05.reserved
  rw [List.mem_append]
  unfold Reservation.appliesTo at ha
  cases hc : r.chip with
  | none =>
    left
    rw [hc] at hm
    simp only [Rig.C05.globalRes, List.mem_filterMap]
    exact ⟨_, hm, by simp⟩
  | some c' =>
    right
    rw [hc] at hm ha
    simp only [beq_iff_eq] at ha
    subst ha
    simp only [Rig.C05.localRes, List.mem_filterMap]
    exact ⟨_, hm, by simp⟩

/-- C14 `reservations_partition`: a core that is not idle lies in a reservation that applies to its chip -/
theorem busy_covered {si : SysInfo} (hnd : (si.chips.map (·.1)).Nodup)
    (h18 : ∀ xy ci, (xy, ci) ∈ si.chips → ci.coreStates.length ≤ 18)
    {c : Nat × Nat} {ci : ChipInfo} (hci : (c, ci) ∈ si.chips) {i : Nat} (hb : busy ci i = true) :
    ∃ r ∈ coreConstraints si, r.appliesTo c = true ∧ r.start ≤ i ∧ i < r.stop := by
  have hpart := Rig.C14.reservations_partition si hnd h18 c ci hci i
  rw [hb, if_pos rfl, coverCount] at hpart
  obtain ⟨r, hr⟩ := List.exists_mem_of_length_pos (hpart ▸ Nat.one_pos)
  rw [List.mem_filter] at hr
  simp only [Bool.and_eq_true, decide_eq_true_eq] at hr
  exact ⟨r, hr.1, hr.2.1.1, hr.2.1.2, hr.2.2⟩

theorem idle_of_not_busy {ci : ChipInfo} {i : Nat} (hlen : i < ci.coreStates.length) (h : busy ci i = false) :
    ci.coreStates[i]? = some APPSTATE_IDLE := by
  rw [busy, List.getElem?_eq_getElem hlen] at h
  rw [List.getElem?_eq_getElem hlen, bne_eq_false_iff_eq.1 h]

end Rig.C01Wrap.L
