/-
C02 - the `for same_chip_constraint in constraints` loop and the rewrite of the vertex order: what the merged problem
gives back (`MergeOut`), the documented domain, no `fuel`.
-/
import RigModel.Lemmas.C02Merge

namespace Rig.C02

theorem replaceFirst_perm {l : List Vtx} {a b : Vtx} {l' : List Vtx} (h : replaceFirst l a b = some l') :
    l'.Perm (b :: l.erase a) := by
  induction l generalizing l' with
  | nil => cases h
  | cons y t ih =>
    rw [replaceFirst] at h
    split at h
    · cases h; subst_vars; rw [List.erase_cons_head]
    · obtain ⟨l1, h1, rfl⟩ := Option.map_eq_some_iff.1 h
      rw [List.erase_cons_tail (by simpa using ‹¬y = a›)]
      exact ((ih h1).cons y).trans (.swap ..)

theorem replaceFirst_isSome {l : List Vtx} {a : Vtx} (b : Vtx) (h : a ∈ l) :
    ∃ l', replaceFirst l a b = some l' := by
  induction l with
  | nil => cases h
  | cons y t ih =>
    rw [replaceFirst]
    split
    · exact ⟨_, rfl⟩
    · obtain ⟨l1, h1⟩ := ih ((List.mem_cons.1 h).resolve_left (Ne.symm ‹_›))
      exact ⟨y :: l1, by rw [h1]; rfl⟩

theorem removeRest_sub {tl vo removed vo' : List Vtx} (h : removeRest vo tl removed = .ok vo') :
    vo'.Sublist vo ∧ ∀ x ∈ vo, x ∉ tl → x ∈ vo' := by
  fun_induction removeRest vo tl removed
  case case1 => cases h; exact ⟨.refl _, fun x hx _ => hx⟩
  case case2 ih => exact (ih h).imp_right fun k x hx hn => k x hx fun h => hn (List.mem_cons_of_mem _ h)
  case case3 ih =>
    have ⟨s, k⟩ := ih h
    exact ⟨s.trans List.erase_sublist, fun x hx hn =>
      k x ((List.mem_erase_of_ne fun e => hn (List.mem_cons.2 (.inl e))).2 hx) fun h => hn (List.mem_cons_of_mem _ h)⟩
  case case4 => cases h

/-- `removed` lists the entries of `tl` already taken out of the order -/
theorem removeRest_ok (tl vo removed : List Vtx) (hnd : vo.Nodup) (hin : ∀ v ∈ tl, (v ∈ removed ↔ v ∉ vo)) :
    ∃ vo', removeRest vo tl removed = .ok vo' ∧ ∀ x ∈ vo', x ∉ tl := by
  fun_induction removeRest vo tl removed
  case case1 vo _ => exact ⟨vo, rfl, fun _ _ => List.not_mem_nil⟩
  case case2 vo v vs removed hv ih =>
    have ⟨h0, hin⟩ := List.forall_mem_cons.1 hin
    obtain ⟨vo', h1, h2⟩ := ih hnd hin
    exact ⟨vo', h1, fun x hx h => (List.mem_cons.1 h).elim
      (fun e => h0.1 hv (e ▸ (removeRest_sub h1).1.subset hx)) (h2 x hx)⟩
  case case3 vo v vs removed hv hvo ih =>
    obtain ⟨vo', h1, h2⟩ := ih (hnd.erase v) fun u hu => by
      rw [List.mem_cons, hnd.mem_erase_iff, hin u (List.mem_cons_of_mem _ hu), Classical.not_and_iff_not_or_not,
        Classical.not_not]
    exact ⟨vo', h1, fun x hx h => (List.mem_cons.1 h).elim
      (hnd.mem_erase_iff.1 ((removeRest_sub h1).1.subset hx)).1 (h2 x hx)⟩
  case case4 hv hvo => exact absurd ((hin _ List.mem_cons_self).2 hvo) hv

/-- after `vertex_order[vertex_order.index(v0)] = b` and the removal of `tl` -/
theorem order_step {vo vo1 vo2 tl removed : List Vtx} {v0 b : Vtx} (hrep : replaceFirst vo v0 b = some vo1)
    (hrem : removeRest vo1 tl removed = .ok vo2) (hb : b ∉ tl) :
    b ∈ vo2 ∧ ∀ x ∈ vo, x ∉ v0 :: tl → x ∈ vo2 := by
  have hp := replaceFirst_perm hrep
  have hs := (removeRest_sub hrem).2
  exact ⟨hs b (hp.mem_iff.2 List.mem_cons_self) hb, fun x hx hn =>
    have ⟨h0, hn⟩ := List.ne_and_not_mem_of_not_mem_cons hn
    hs x (hp.mem_iff.2 (List.mem_cons_of_mem _ ((List.mem_erase_of_ne h0).2 hx))) hn⟩

theorem substOrder_cons_mem {k : Nat} {vs : List Vtx} {rest : List (List Vtx)} {vo vo' : List Vtx}
    (h : substOrder k (vs :: rest) vo = .ok vo') (hk : Vtx.m k ∉ vs) :
    ∃ vo2, substOrder (k + 1) rest vo2 = .ok vo' ∧ Vtx.m k ∈ vo2 ∧ ∀ x ∈ vo, x ∉ vs → x ∈ vo2 := by
  cases vs with
  | nil => cases h
  | cons v0 tl =>
    rw [substOrder] at h
    split at h
    · cases h
    · obtain ⟨vo2, hrem, h⟩ := Except.bind_eq_ok h
      exact ⟨vo2, h, order_step ‹_› hrem (List.ne_and_not_mem_of_not_mem_cons hk).2⟩

theorem substOrder_cons_ok {k : Nat} {vs : List Vtx} (rest : List (List Vtx)) {vo : List Vtx} (hnd : vo.Nodup)
    (hne : vs ≠ []) (hvs : ∀ v ∈ vs, v ∈ vo) (hk : Vtx.m k ∉ vo) :
    ∃ vo2, substOrder k (vs :: rest) vo = substOrder (k + 1) rest vo2 ∧ vo2.Nodup ∧
      ∀ x, x ∈ vo2 ↔ x = .m k ∨ (x ∈ vo ∧ x ∉ vs) := by
  cases vs with
  | nil => exact absurd rfl hne
  | cons v0 tl =>
    have ⟨hv0, htl⟩ := List.forall_mem_cons.1 hvs
    obtain ⟨vo1, h1⟩ := replaceFirst_isSome (.m k) hv0
    have hp := replaceFirst_perm h1
    have m1 : ∀ x, x ∈ vo1 ↔ x = .m k ∨ (x ≠ v0 ∧ x ∈ vo) := fun x => by
      rw [hp.mem_iff, List.mem_cons, hnd.mem_erase_iff]
    have n1 : vo1.Nodup :=
      hp.nodup_iff.2 (List.nodup_cons.2 ⟨fun h => hk (List.mem_of_mem_erase h), hnd.erase _⟩)
    obtain ⟨vo2, h2, hnt⟩ := removeRest_ok tl vo1 [v0] n1 fun v hv => by
      have := htl v hv
      rw [List.mem_singleton, m1 v]
      exact ⟨fun e h => h.elim (fun e' => hk (e' ▸ this)) fun h => h.1 e, fun h =>
        Classical.byContradiction fun e => h (.inr ⟨e, this⟩)⟩
    have hsub := (removeRest_sub h2).1
    have ⟨hm, hkeep⟩ := order_step h1 h2 fun h => hk (htl _ h)
    refine ⟨vo2, by simp only [substOrder, h1, h2, bind, Except.bind], n1.sublist hsub, fun x =>
      ⟨fun hx => ?_, fun hx => hx.elim (· ▸ hm) fun ⟨a, b⟩ => hkeep x a b⟩⟩
    exact ((m1 x).1 (hsub.subset hx)).imp_right fun ⟨h0, hxo⟩ =>
      ⟨hxo, fun h => (List.mem_cons.1 h).elim h0 (hnt x hx)⟩

/-- after `i` constraints: no `m k` with `k ≥ subs.length` in use; every same-chip constraint visited lists one vertex -/
structure MInv (i : Nat) (vr : VR) (cs : List Constraint) (subs : List (List Vtx)) : Prop where
  nodup : (keys vr).Nodup
  fv : ∀ v ∈ keys vr, VFresh subs.length v
  fc : ∀ c ∈ cs, CFresh subs.length c
  const : ∀ j, j < i → ∀ ws, cs[j]? = some (.same ws) → ∀ a ∈ ws, ∀ b ∈ ws, a = b

theorem const_of_short {ws : List Vtx} (h : ws.length ≤ 1) : ∀ a ∈ ws, ∀ b ∈ ws, a = b := by
  cases ws with
  | nil => nofun
  | cons x t =>
    cases List.eq_nil_of_length_eq_zero (Nat.le_zero.1 (Nat.le_of_succ_le_succ h))
    exact fun _ ha _ hb => (List.mem_singleton.1 ha).trans (List.mem_singleton.1 hb).symm

theorem MInv.skip {i : Nat} {vr : VR} {cs : List Constraint} {subs : List (List Vtx)} (I : MInv i vr cs subs)
    (h : ∀ ws, cs[i]? = some (.same ws) → ws.length ≤ 1) : MInv (i + 1) vr cs subs :=
  ⟨I.nodup, I.fv, I.fc, fun j hj ws hws => by
    rcases Nat.lt_succ_iff_lt_or_eq.1 hj with hj | rfl
    · exact I.const j hj ws hws
    · exact const_of_short (h ws hws)⟩

theorem MInv.merge {i : Nat} {vr vr1 : VR} {cs : List Constraint} {subs : List (List Vtx)} {vs : List Vtx}
    {tot : Res} (I : MInv i vr cs subs) (hget : cs[i]? = some (.same vs)) (P : PopOut vr (dedup vs) [] vr1 tot) :
    MInv (i + 1) (vr1 ++ [(.m subs.length, tot)]) (cs.map (rewrite (.m subs.length) vs)) (subs ++ [vs]) := by
  refine ⟨?_, fun v hv => ?_, fun c hc => ?_, fun j hj ws hws a ha b hb => ?_⟩
  · rw [keys, List.map_append]
    exact List.nodup_append.2 ⟨P.nodup, List.pairwise_singleton _ _, fun a ha b hb =>
      List.mem_singleton.1 hb ▸ (I.fv a ((P.keys a).1 ha).1).ne⟩
  · rw [List.length_append]
    rcases (pop_merged P ..).1 hv with rfl | hv
    · exact Nat.lt_succ_self _
    · exact (I.fv v hv.1).mono (Nat.le_succ _)
  · obtain ⟨c0, hc0, rfl⟩ := List.mem_map.1 hc
    rw [List.length_append]
    exact rewrite_fresh (I.fc c0 hc0)
  · rw [List.getElem?_map] at hws
    obtain ⟨c0, hcj, hws⟩ := Option.map_eq_some_iff.1 hws
    cases c0 <;> cases hws
    rename_i ws0
    obtain ⟨a0, ha0, rfl⟩ := List.mem_map.1 ha
    obtain ⟨b0, hb0, rfl⟩ := List.mem_map.1 hb
    rcases Nat.lt_succ_iff_lt_or_eq.1 hj with hj | rfl
    · rw [I.const j hj ws0 hcj a0 ha0 b0 hb0]
    · cases hget.symm.trans hcj
      rw [substV, substV, if_pos ha0, if_pos hb0]

/-- feasibility comes back through `finaliseFrom`; the rewritten vertex order still covers the vertices -/
structure MergeOut (m : Machine) (vr : VR) (cs : List Constraint) (subs : List (List Vtx))
    (vrf : VR) (csf : List Constraint) (added : List (List Vtx)) : Prop where
  inv : MInv csf.length vrf csf (subs ++ added)
  nonneg : NonNegVR vr → NonNegVR vrf
  back : ∀ q, Feasible vrf csf m q → ∃ p, finaliseFrom subs.length added q = .ok p ∧ Feasible vr cs m p
  order : ∀ vo vo', (∀ v ∈ keys vr, v ∈ vo) → substOrder subs.length added vo = .ok vo' →
    ∀ v ∈ keys vrf, v ∈ vo'
  /-- no ValueError from the rewrite of a vertex order that is a permutation of the vertices -/
  orderOk : ∀ vo, vo.Nodup → (∀ v, v ∈ vo ↔ v ∈ keys vr) →
    ∃ vo', substOrder subs.length added vo = .ok vo' ∧ vo'.Nodup ∧ ∀ v, v ∈ vo' ↔ v ∈ keys vrf

theorem applySameLoop_spec (m : Machine) {n i : Nat} {vr : VR} {cs : List Constraint} {subs : List (List Vtx)}
    {vrf : VR} {csf : List Constraint} {subsf : List (List Vtx)}
    (I : MInv i vr cs subs) (hlen : n + i = cs.length) (h : applySameLoop n i vr cs subs = .ok (vrf, csf, subsf)) :
    ∃ added, subsf = subs ++ added ∧ MergeOut m vr cs subs vrf csf added := by
  have hstep {n i k : Nat} (h : n.succ + i = k) : n + (i + 1) = k := (Nat.succ_add_eq_add_succ n i).symm.trans h
  fun_induction applySameLoop n i vr cs subs
  case case1 =>
    cases h
    cases (Nat.zero_add _).symm.trans hlen
    exact ⟨[], (List.append_nil _).symm, (List.append_nil _).symm ▸ I, id, fun q F => ⟨q, rfl, F⟩,
      fun vo vo' hvo h => by cases h; exact hvo, fun vo hnd hvo => ⟨vo, rfl, hnd, hvo⟩⟩
  case case2 hget hshort ih =>
    exact ih (I.skip fun ws hws => by cases hget.symm.trans hws; exact hshort) (hstep hlen) h
  case case3 => cases h
  case case5 hnot ih => exact ih (I.skip fun ws hws => (hnot ws hws).elim) (hstep hlen) h
  case case4 n i vr cs subs vs hget hlong _ vr1 tot hpop ih =>
    have P := popAll_spec hpop I.nodup (nodup_dedup vs)
    obtain ⟨added, rfl, Oi, On, Ob, Oo, Ook⟩ := ih (I.merge hget P) (by rw [List.length_map]; exact hstep hlen) h
    rw [show (subs ++ [vs]).length = subs.length + 1 from List.length_append] at Ob Oo Ook
    have hvs : ∀ v ∈ vs, v ∈ keys vr := fun v hv => P.present v ((mem_dedup vs v).2 hv)
    have hmk : ∀ {l : List Vtx}, (∀ v ∈ l, v ∈ keys vr) → Vtx.m subs.length ∉ l := fun hl hm =>
      (I.fv _ (hl _ hm)).ne rfl
    have hkeys := pop_merged P (.m subs.length)
    refine ⟨vs :: added, List.append_assoc .., List.append_assoc subs [vs] added ▸ Oi,
      fun hnn => On fun v d hvd i' => ?_, fun q F => ?_, fun vo vo' hvo hso => ?_, fun vo hnd hvo => ?_⟩
    · rcases List.mem_append.1 hvd with hvd | hvd
      · exact hnn v d (P.sub _ hvd) i'
      · cases List.mem_singleton.1 hvd
        exact P.nonneg hnn (fun i => Int.le_refl 0) i'
    · obtain ⟨p', hp', F'⟩ := Ob q F
      obtain ⟨p, hp, Fp⟩ := expand_feasible I.fv I.fc P F'
      exact ⟨p, by rw [finaliseFrom, hp']; exact hp, Fp⟩
    · obtain ⟨vo2, h2, hm, hkeep⟩ := substOrder_cons_mem hso (hmk hvs)
      refine Oo vo2 vo' (fun u hu => ?_) h2
      rcases (hkeys u).1 hu with rfl | ⟨h1, h2⟩
      · exact hm
      · exact hkeep u (hvo u h1) h2
    · obtain ⟨vo2, e, n2, m2⟩ := substOrder_cons_ok added hnd (fun e => hlong (by rw [e]; exact Nat.zero_le 1))
        (fun v hv => (hvo v).2 (hvs v hv)) (hmk fun v hv => (hvo v).1 hv)
      rw [e]
      exact Ook vo2 n2 fun x => by rw [m2, hkeys, hvo]

/-- all vertices of the caller are `Vtx.o` -/
def Original (vr : VR) (cs : List Constraint) : Prop :=
  (∀ v ∈ keys vr, VFresh 0 v) ∧ ∀ c ∈ cs, CFresh 0 c

theorem applySame_spec (m : Machine) {vr : VR} {cs : List Constraint} {vrf : VR} {csf : List Constraint}
    {subs : List (List Vtx)} (hn : (keys vr).Nodup) (ho : Original vr cs)
    (h : applySame vr cs = .ok (vrf, csf, subs)) : MergeOut m vr cs [] vrf csf subs := by
  obtain ⟨added, e, O⟩ := applySameLoop_spec m (subs := [])
    ⟨hn, ho.1, ho.2, fun j hj => absurd hj (Nat.not_lt_zero j)⟩ rfl h
  cases e
  exact O

theorem known_rewrite {vr vr1 : VR} {cs : List Constraint} {vs : List Vtx} {mv : Vtx} {tot : Res}
    (hk : Known vr cs) (hkeep : ∀ u ∈ keys vr, u ∉ vs → u ∈ keys vr1) :
    Known (vr1 ++ [(mv, tot)]) (cs.map (rewrite mv vs)) := by
  intro c hc
  obtain ⟨c0, hc0, rfl⟩ := List.mem_map.1 hc
  have := hk c0 hc0
  cases c0 with
  | loc v c => exact substV_mem tot hkeep this
  | same ws =>
    intro u hu
    obtain ⟨w, hw, rfl⟩ := List.mem_map.1 hu
    exact substV_mem tot hkeep (this w hw)
  | _ => trivial

theorem reserve_mem_rewrite {cs : List Constraint} {vs : List Vtx} {mv : Vtx} {r : Nat} {a : Int}
    {c : Option Chip} (h : Constraint.reserve r a c ∈ cs.map (rewrite mv vs)) : Constraint.reserve r a c ∈ cs := by
  obtain ⟨c0, hc0, e⟩ := List.mem_map.1 h
  cases c0 <;> cases e
  exact hc0

theorem applySameLoop_dom : ∀ (n i : Nat) (vr : VR) (cs : List Constraint) (subs : List (List Vtx)),
    Known vr cs →
    (∃ out, applySameLoop n i vr cs subs = .ok out) ∧
    ∀ vrf csf subsf, applySameLoop n i vr cs subs = .ok (vrf, csf, subsf) →
      Known vrf csf ∧ ∀ r a c, Constraint.reserve r a c ∈ csf → Constraint.reserve r a c ∈ cs := by
  intro n i vr cs subs hk
  have pop {vr cs i vs} (hk : Known vr cs) (hget : cs[i]? = some (.same vs)) :=
    popAll_dom (dedup vs) vr [] (nodup_dedup vs) fun v hv =>
      hk _ (List.mem_of_getElem? hget) v ((mem_dedup vs v).1 hv)
  fun_induction applySameLoop n i vr cs subs
  case case1 => exact ⟨⟨_, rfl⟩, fun _ _ _ h => by cases h; exact ⟨hk, fun _ _ _ h => h⟩⟩
  case case2 ih | case5 ih => exact ih hk
  case case3 hget _ e he =>
    obtain ⟨_, _, h, _⟩ := pop hk hget
    cases he.symm.trans h
  case case4 vs hget _ _ _ _ he ih =>
    obtain ⟨_, _, h, hkeep⟩ := pop hk hget
    cases he.symm.trans h
    have ⟨i1, i2⟩ := ih (known_rewrite hk fun u hu hn => hkeep u hu fun h => hn ((mem_dedup vs u).1 h))
    exact ⟨i1, fun vrf csf subsf h => (i2 _ _ _ h).imp_right fun j r a c h => reserve_mem_rewrite (j r a c h)⟩

theorem applySameLoop_noSame (vr : VR) (cs : List Constraint) (subs : List (List Vtx))
    (h : ∀ vs, Constraint.same vs ∉ cs) (n i : Nat) : applySameLoop n i vr cs subs = .ok (vr, cs, subs) := by
  fun_induction applySameLoop n i vr cs subs
  case case1 => rfl
  case case5 ih => exact ih h
  all_goals exact absurd (List.mem_of_getElem? ‹_›) (h _)

/-! In none of these loops does `fuel` occur: a branch recurses, passes on the error of a function treated before, or
returns something that is not `.error .fuel` by construction (the branches left to `nofun`). -/

theorem applySameLoop_no_fuel (n i : Nat) (vr : VR) (cs : List Constraint) (subs : List (List Vtx)) :
    applySameLoop n i vr cs subs ≠ .error .fuel := by
  fun_induction applySameLoop n i vr cs subs
  case case1 => nofun
  case case3 he => rintro ⟨⟩; exact popAll_no_fuel _ _ _ he
  all_goals assumption

theorem removeRest_no_fuel (tl vo removed : List Vtx) : removeRest vo tl removed ≠ .error .fuel := by
  fun_induction removeRest vo tl removed
  case case2 ih => exact ih
  case case3 ih => exact ih
  all_goals nofun

theorem substOrder_no_fuel (subs : List (List Vtx)) (k : Nat) (vo : List Vtx) :
    substOrder k subs vo ≠ .error .fuel := by
  fun_induction substOrder k subs vo
  case case4 ih => exact Except.bind_ne_error (removeRest_no_fuel _ _ _) ih
  all_goals nofun

theorem finaliseFrom_no_fuel (subs : List (List Vtx)) (base : Nat) (p : Placement) :
    finaliseFrom base subs p ≠ .error .fuel := by
  fun_induction finaliseFrom base subs p with
  | case1 => nofun
  | case2 _ vs _ _ ih =>
    refine Except.bind_ne_error ih fun q => ?_
    unfold expandOne
    split <;> nofun

end Rig.C02
