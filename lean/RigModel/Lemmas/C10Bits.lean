/-
C10 - route words, 16-byte records.
-/
import RigModel.Model.C10
import RigModel.Lemmas.LE
import RigModel.Lemmas.Bits

namespace Rig.C10
open Rig.Gen.Router

theorem routeWord_testBit (rs : List Nat) (b : Nat) : (routeWord rs).testBit b = true ↔ b ∈ rs := by
  simp [routeWord, Nat.one_shiftLeft, Bits.testBit_foldl_or_pow]

theorem routeWord_lt (rs : List Nat) (n : Nat) (h : ∀ r ∈ rs, r < n) : routeWord rs < 2 ^ n := by
  apply Nat.lt_pow_two_of_testBit
  intro i hi
  cases hb : (routeWord rs).testBit i with
  | false => rfl
  | true => exact absurd (h i ((routeWord_testBit rs i).mp hb)) (Nat.not_lt.2 hi)

theorem mem_bitsOf (w n b : Nat) : b ∈ bitsOf w n ↔ b < n ∧ w.testBit b = true := by
  simp [bitsOf, List.mem_filter]

theorem routes_filter_eq_bitsOf (w : Nat) : routesValues.filter (fun r => (w >>> r) &&& 1 = 1) = bitsOf w 24 := by
  rw [show routesValues = List.range 24 by decide, bitsOf]
  exact List.filter_congr fun r _ => by
    rw [Nat.testBit_eq_decide_div_mod_eq, Nat.and_one_is_mod, Nat.shiftRight_eq_div_pow]

theorem mem_routes_filter (w r : Nat) :
    r ∈ routesValues.filter (fun r => (w >>> r) &&& 1 = 1) ↔ r < 24 ∧ w.testBit r = true := by
  rw [routes_filter_eq_bitsOf]; exact mem_bitsOf w 24 r

theorem word32_le32 (a : Nat) (h : a < 4294967296) :
    word32 (a % 256) (a / 256 % 256) (a / 65536 % 256) (a / 16777216 % 256) = a := by
  have e : ∀ r0 r1 r2 r3 : Nat, word32 r0 r1 r2 r3 = LE.val [r0, r1, r2, r3] := by
    intros; simp only [word32, LE.val, Nat.mul_zero, Nat.add_zero, Nat.mul_add, ← Nat.mul_assoc, Nat.add_assoc]
  rw [e, ← LE.bytes_four]; exact LE.val_bytes_of_lt h

theorem unpack_used (nx fr w k m : Nat) (hw : w < 2 ^ 24) (hk : k < 4294967296) (hm : m < 4294967296) :
    unpackEntry (le16 nx ++ le16 fr ++ le32 w ++ le32 k ++ le32 m) =
      some (some { routes := routesValues.filter (fun r => (w >>> r) &&& 1 = 1), key := k, mask := m,
                   app := fr % 256, core := fr / 256 % 16 }) := by
  have hfr : fr % 256 + 256 * (fr / 256 % 256) = fr % 65536 := (Nat.mod_mul (a := 256) (b := 256)).symm
  have hhi : (fr % 65536) >>> 8 = fr / 256 % 256 := by
    rw [Nat.shiftRight_eq_div_pow]; exact Nat.mod_mul_right_div_self fr 256 256
  -- bit 24 of a 24-bit route word is clear, so it is not the marker `ff......` of an unused row
  have hne : w &&& 0xff000000 ≠ 0xff000000 := fun e => by
    have := congrArg (·.testBit 24) e
    simp only [Nat.testBit_and, Nat.testBit_lt_two_pow hw, Bool.false_and] at this
    exact absurd this (by decide)
  show unpackEntry [_, _, _, _, _, _, _, _, _, _, _, _, _, _, _, _] = _
  simp only [unpackEntry]
  rw [word32_le32 w (Nat.lt_trans hw (by decide)), word32_le32 k hk, word32_le32 m hm,
    if_neg hne, hfr, hhi, Nat.and_two_pow_sub_one_eq_mod _ 8, Nat.and_two_pow_sub_one_eq_mod _ 4,
    Nat.mod_mod_of_dvd fr (by decide : 256 ∣ 65536), Nat.mod_mod_of_dvd _ (by decide : 16 ∣ 256)]

theorem unpack_unused (nx fr : Nat) :
    unpackEntry (le16 nx ++ le16 fr ++ le32 0xff000000 ++ le32 0xffffffff ++ le32 0) = some none := rfl

end Rig.C10
