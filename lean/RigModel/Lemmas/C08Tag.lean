/-
C08 lemmas: the second invariant of the field tree - structure (child keys name fields of the parent node) and tag
closure - and its preservation by `__call__`, `assign_fields` and `add_field`.
-/
import RigModel.Lemmas.C08Inv

namespace Rig.C08

/-- every key along the path is non-empty and names only fields of the node it leaves -/
def PathOK (sh : List (Path × Ident)) (q : Path) : Prop :=
  ∀ n (h : n < q.length), q[n] ≠ [] ∧ ∀ iv ∈ q[n], (q.take n, iv.1) ∈ sh

/-- a child key is a non-empty tuple of (identifier, value) pairs whose identifiers
are fields of the parent node (so every inner node holds at least one field) -/
def Struct (es : List Entry) : Prop := ∀ pi ∈ shape es, PathOK (shape es) pi.1

theorem PathOK.mono {sh sh' : List (Path × Ident)} {q : Path} (hs : ∀ x ∈ sh, x ∈ sh') (h : PathOK sh q) :
    PathOK sh' q := fun n hn => ⟨(h n hn).1, fun iv hiv => hs _ ((h n hn).2 iv hiv)⟩

theorem pathOK_snoc {sh : List (Path × Ident)} {p : Path} {k : Reqs} (hp : PathOK sh p) (hk : k ≠ [])
    (hin : ∀ iv ∈ k, (p, iv.1) ∈ sh) : PathOK sh (p ++ [k]) := by
  intro n hn
  by_cases h : n < p.length
  · rw [List.getElem_append_left h, List.take_append_of_le_length (by omega)]
    exact hp n h
  · obtain rfl : n = p.length := by simp at hn; omega
    simp only [List.getElem_append_right (Nat.le_refl _), Nat.sub_self, List.getElem_cons_zero,
      List.take_left']
    exact ⟨hk, hin⟩

theorem struct_of_shape_eq {es es' : List Entry} (h : shape es' = shape es) (hs : Struct es) : Struct es' := by
  unfold Struct; rw [h]; exact hs

theorem struct_of_perm_cons {es es' : List Entry} {e : Entry} (hp : es'.Perm (e :: es)) (hs : Struct es)
    (he : PathOK (shape es) e.path) : Struct es' := by
  have hm : ∀ x, x ∈ shape es' ↔ x = (e.path, e.ident) ∨ x ∈ shape es :=
    fun x => ((hp.map _).mem_iff).trans List.mem_cons
  have hsub : ∀ x ∈ shape es, x ∈ shape es' := fun x hx => (hm x).mpr (Or.inr hx)
  intro pi hpi
  rcases (hm pi).mp hpi with rfl | hpi
  · exact he.mono hsub
  · exact (hs pi hpi).mono hsub

theorem descend_pathOK {es : List Entry} {ident : Ident} {fuel : Nat} {p : Path} {rem : Reqs} {q : Path}
    (h : descend es ident fuel p rem = .ok q) (hp : PathOK (shape es) p) : PathOK (shape es) q := by
  fun_induction descend es ident fuel p rem with
  | case1 | case2 | case4 => cases h
  | case3 => cases h; exact hp
  | case5 _ p rem _ _ meet hne ih =>
    refine ih h (pathOK_snoc hp (fun h0 => hne (by simp [h0])) fun iv hiv => ?_)
    simp only [meet, List.mem_filterMap, Option.map_eq_some_iff] at hiv
    obtain ⟨i, hi, v, _, rfl⟩ := hiv
    exact mem_shape.mpr (mem_nodeIdents.mp hi)

theorem parent_exists {es : List Entry} (hs : Struct es) (hsc : ∀ e ∈ es, compatible e.reqs e.reqs)
    {e : Entry} (he : e ∈ es) {iv : Ident × Nat} (hiv : iv ∈ e.reqs) :
    ∃ y ∈ es, y.ident = iv.1 ∧ y.enabled e.reqs = true := by
  simp only [Entry.reqs, List.mem_flatten] at hiv
  obtain ⟨k, hk, hivk⟩ := hiv
  obtain ⟨n, hn, rfl⟩ := List.getElem_of_mem hk
  obtain ⟨y, hy, hyp, hyi⟩ := mem_shape.mp ((hs _ (mem_shape.mpr ⟨e, he, rfl, rfl⟩) n hn).2 iv hivk)
  refine ⟨y, hy, hyi, enabled_iff.mpr fun jw hjw => lookup_of_mem_selfCompat (hsc e he) ?_⟩
  simp only [Entry.reqs, hyp, List.mem_flatten] at hjw ⊢
  obtain ⟨k', hk', hjw'⟩ := hjw
  exact ⟨k', List.mem_of_mem_take hk', hjw'⟩

structure Inv2 (st : State) : Prop where
  /-- child keys are non-empty and name fields of the parent node -/
  struct : Struct st.entries
  /-- a tagged field's required parents carry the tag -/
  tagClosed : SpecTagClosed st.entries

theorem mem_modifyFirst_keep {pm : Entry → Bool} {f : Field → Field} {es : List Entry} {x' : Entry}
    (h : x' ∈ modifyFirst pm f es) :
    ∃ x ∈ es, x'.path = x.path ∧ x'.ident = x.ident ∧ (x'.field = x.field ∨ x'.field = f x.field) := by
  rcases mem_modifyFirst h with h1 | ⟨y, hy, rfl⟩
  · exact ⟨x', h1, rfl, rfl, Or.inl rfl⟩
  · exact ⟨y, List.mem_of_find?_eq_some hy, rfl, rfl, Or.inr rfl⟩

theorem tagClosed_modifyFirst {pm : Entry → Bool} {f : Field → Field} {es : List Entry}
    (hf : ∀ fld, (f fld).tags = fld.tags) (h : SpecTagClosed es) : SpecTagClosed (modifyFirst pm f es) := by
  intro e' he' p' hp' ⟨v, hv⟩ hen t ht
  obtain ⟨e, he, h1, h2, h3⟩ := mem_modifyFirst_keep he'
  obtain ⟨p, hp, g1, g2, g3⟩ := mem_modifyFirst_keep hp'
  have te : e'.field.tags = e.field.tags := by rcases h3 with h3 | h3 <;> simp [h3, hf]
  have tp : p'.field.tags = p.field.tags := by rcases g3 with g3 | g3 <;> simp [g3, hf]
  rw [tp]
  refine h e he p hp ⟨v, ?_⟩ ?_ t (te ▸ ht)
  · rw [← g2, ← reqs_congr_path h1]; exact hv
  · rw [← enabled_congr_path g1, ← reqs_congr_path h1]; exact hen

/-- on the listing, which is all the second invariant speaks of -/
theorem inv2_modifyField {es : List Entry} {i : Ident} {fv : Reqs} {f : Field → Field}
    (hf : ∀ fld, (f fld).tags = fld.tags) (h : Struct es ∧ SpecTagClosed es) :
    Struct (modifyField es i fv f) ∧ SpecTagClosed (modifyField es i fv f) :=
  ⟨struct_of_shape_eq shape_modifyField h.1, tagClosed_modifyFirst hf h.2⟩

theorem call_inv2 {st st' : State} {fv fv' : Reqs} {kw : List (Ident × Int)} (hinv : Inv2 st)
    (h : call st fv kw = .ok (st', fv')) : Inv2 st' := by
  obtain ⟨_, _, rfl⟩ := call_ok h
  suffices h' : Struct _ ∧ SpecTagClosed _ from ⟨h'.1, h'.2⟩
  exact List.foldlRecOn (motive := fun es => Struct es ∧ SpecTagClosed es) fv' _ ⟨hinv.1, hinv.2⟩
    fun _ hi _ _ => inv2_modifyField (fun _ => rfl) hi

theorem assignFieldsP_inv2 {st : State} (h : Inv2 st) : Inv2 (assignFieldsP st).1 :=
  have := assignFieldsP_preserves (P := fun es => Struct es ∧ SpecTagClosed es)
    (fun _ _ _ _ _ _ _ => inv2_modifyField fun _ => rfl) st ⟨h.1, h.2⟩
  ⟨this.1, this.2⟩

theorem shape_addTags {fv : Reqs} {T : List String} (parents : List Ident) (es : List Entry) :
    shape (addTags fv T parents es) = shape es :=
  List.foldlRecOn (motive := fun es' => shape es' = shape es) _ _ rfl fun _ h _ _ =>
    shape_modifyField.trans h

theorem addTags_spec {fv : Reqs} {T : List String} : ∀ (parents : List Ident) (es : List Entry), SpecUnique es →
    ∀ x' ∈ addTags fv T parents es, ∃ x ∈ es, x'.path = x.path ∧ x'.ident = x.ident ∧
      ∀ t, t ∈ x'.field.tags ↔ (t ∈ x.field.tags ∨ (t ∈ T ∧ x.ident ∈ parents ∧ x.enabled fv = true)) := by
  intro parents
  induction parents with
  | nil => exact fun es _ x' hx' => ⟨x', hx', rfl, rfl, fun t => by simp⟩
  | cons pi ps ih =>
    intro es hu x' hx'
    obtain ⟨x1, hx1, h1, h2, h3⟩ := ih _ (specUnique_modifyFirst hu) x' hx'
    rw [modifyFirst_eq_map (unique_pairwise_match hu pi fv), List.mem_map] at hx1
    obtain ⟨x, hx, rfl⟩ := hx1
    by_cases hpm : (x.ident == pi && x.enabled fv) = true
    · rw [if_pos hpm] at h1 h2 h3
      simp only [Bool.and_eq_true, beq_iff_eq] at hpm
      refine ⟨x, hx, h1, h2, fun t => (h3 t).trans ?_⟩
      by_cases ht : t ∈ T <;> simp [hpm.1, hpm.2, ht, mem_tagUnion]
    · rw [if_neg hpm] at h1 h2 h3
      simp only [Bool.and_eq_true, beq_iff_eq] at hpm
      refine ⟨x, hx, h1, h2, fun t => (h3 t).trans ?_⟩
      rw [List.mem_cons]
      exact or_congr_right (and_congr_right fun _ =>
        ⟨fun ⟨a, b⟩ => ⟨Or.inr a, b⟩, fun ⟨a, b⟩ => ⟨a.resolve_left fun h => hpm ⟨h, b⟩, b⟩⟩)

theorem addField_inv2 {st st' : State} {fv : Reqs} {ident : Ident} {length : Option Int} {startAt : Option Nat}
    {tags : List String} (hinv : Inv st) (hinv2 : Inv2 st)
    (h : addField st fv ident length startAt tags = .ok st') : Inv2 st' := by
  obtain ⟨_, _, _, q, e, hd, hg, hst', _⟩ := addField_checked h
  obtain ⟨hD1, hD2, hfresh⟩ := descend_root hd
  suffices hh : Struct st'.entries ∧ SpecTagClosed st'.entries from ⟨hh.1, hh.2⟩
  rw [hst']
  generalize hnew : newEntry q ident (length.map Int.toNat) startAt (tagNorm tags) = n at hg ⊢
  obtain ⟨rfl, rfl, htags⟩ : n.path = q ∧ n.ident = ident ∧ n.field.tags = tagNorm tags := hnew ▸ ⟨rfl, rfl, rfl⟩
  have hnen : n.enabled fv = true := enabled_iff.mpr hD1
  have hperm := insertEntry_perm st.entries n
  have hu1 : SpecUnique (insertEntry st.entries n) :=
    List.Pairwise.perm (List.pairwise_cons.mpr ⟨fun x hx hc hid => (hfresh x hx hc).2 hid.symm, hinv.unique⟩)
      hperm.symm fun hxy hc => (hxy (compatible_symm hc)).symm
  have hmem1 : ∀ x, x ∈ insertEntry st.entries n ↔ x = n ∨ x ∈ st.entries :=
    fun x => hperm.mem_iff.trans List.mem_cons
  -- the field that get_field finds is the new one
  cases hg.symm.trans (getField_of_enabled hu1 ((hmem1 _).mpr (Or.inl rfl)) hnen)
  refine ⟨struct_of_shape_eq (shape_addTags _ _) (struct_of_perm_cons hperm hinv2.struct
    (descend_pathOK hd fun _ hn => absurd hn (Nat.not_lt_zero _))), ?_⟩
  intro e' he' p' hp' ⟨v, hv⟩ hpen t ht
  obtain ⟨e0, he0, h1, h2, h3⟩ := addTags_spec _ _ hu1 e' he'
  obtain ⟨p0, hp0, g1, g2, g3⟩ := addTags_spec _ _ hu1 p' hp'
  have hv0 : (p0.ident, v) ∈ e0.reqs := by rw [← g2, ← reqs_congr_path h1]; exact hv
  have hpen0 : p0.enabled e0.reqs = true := by rw [← enabled_congr_path g1, ← reqs_congr_path h1]; exact hpen
  rw [g3 t]
  rcases (h3 t).mp ht with ht0 | ⟨htT, _, heen⟩
  · rcases (hmem1 e0).mp he0 with rfl | he0old
    · -- the new field itself: its parents are exactly the fields that receive the tags
      exact Or.inr ⟨htags ▸ ht0, List.mem_map_of_mem hv0, enabled_trans hnen hpen0⟩
    · rcases (hmem1 p0).mp hp0 with rfl | hp0old
      · -- an old field cannot require the new field: that name was taken in its scope
        obtain ⟨y, hy, hyi, hye⟩ := parent_exists hinv2.struct hinv.selfc he0old hv0
        exact absurd hyi (hfresh y hy (compatible_of_enabled hpen0 hye)).2
      · exact Or.inl (hinv2.tagClosed e0 he0old p0 hp0old ⟨v, hv0⟩ hpen0 t ht0)
  · -- e0 received the tags: so does every field it requires
    exact Or.inr ⟨htT, List.mem_map_of_mem (hD2 _ v (enabled_iff.mp heen _ hv0)), enabled_trans heen hpen0⟩

end Rig.C08
