/-
C02 - association lists, resource arithmetic, machine access.
-/
import RigModel.Model.C02
import RigModel.Lemmas.Assoc
import RigModel.Lemmas.ExceptSat

namespace Rig.C02

section assoc
variable {α β : Type} [DecidableEq α]

theorem aget_cons (k : α) (v : β) (t : List (α × β)) (a : α) :
    aget ((k, v) :: t) a = if k = a then some v else aget t a := rfl

theorem aset_cons (k : α) (v : β) (t : List (α × β)) (a : α) (b : β) :
    aset ((k, v) :: t) a b = if k = a then (a, b) :: t else (k, v) :: aset t a b := rfl

theorem adel_cons (k : α) (v : β) (t : List (α × β)) (a : α) :
    adel ((k, v) :: t) a = if k = a then t else (k, v) :: adel t a := rfl

omit [DecidableEq α] in
theorem keys_cons (k : α) (v : β) (t : List (α × β)) : keys ((k, v) :: t) = k :: keys t := rfl

theorem aget_eq_lookup [BEq α] [LawfulBEq α] (l : List (α × β)) (a : α) : aget l a = l.lookup a := by
  induction l with
  | nil => rfl
  | cons hd t ih => obtain ⟨k, v⟩ := hd; simp only [aget_cons, ih, Assoc.lookup_cons, beq_iff_eq]

theorem aset_eq_upsert [BEq α] [LawfulBEq α] (l : List (α × β)) (a : α) (x : β) :
    aset l a x = Assoc.upsert l a fun _ => x := by
  induction l with
  | nil => rfl
  | cons hd t ih =>
    obtain ⟨k, v⟩ := hd
    simp only [aset_cons, Assoc.upsert, ih, beq_iff_eq]
    split
    · next hk => rw [hk]
    · rfl

theorem aget_aset (l : List (α × β)) (a b : α) (x : β) :
    aget (aset l a x) b = if a = b then some x else aget l b := by
  simp only [aget_eq_lookup, aset_eq_upsert, Assoc.lookup_upsert, beq_iff_eq]

theorem aget_aset_self (l : List (α × β)) (a : α) (x : β) : aget (aset l a x) a = some x := by
  rw [aget_aset, if_pos rfl]

theorem aget_aset_ne (l : List (α × β)) {a b : α} (x : β) (h : a ≠ b) :
    aget (aset l a x) b = aget l b := by
  rw [aget_aset, if_neg h]

theorem aget_some_mem {l : List (α × β)} {a : α} {x : β} (h : aget l a = some x) : (a, x) ∈ l :=
  Assoc.mem_of_lookup (aget_eq_lookup l a ▸ h)

theorem aget_isSome_iff (l : List (α × β)) (a : α) : (aget l a).isSome ↔ a ∈ keys l := by
  rw [aget_eq_lookup]; exact Assoc.lookup_isSome_iff

theorem aget_none_iff {l : List (α × β)} {a : α} : aget l a = none ↔ a ∉ keys l := by
  rw [aget_eq_lookup]; exact Assoc.lookup_eq_none_iff

theorem keys_aset (l : List (α × β)) (a : α) (x : β) :
    keys (aset l a x) = if a ∈ keys l then keys l else keys l ++ [a] := by
  rw [aset_eq_upsert]; exact Assoc.keys_upsert l a _

theorem mem_keys_aset (l : List (α × β)) (a b : α) (x : β) :
    b ∈ keys (aset l a x) ↔ b = a ∨ b ∈ keys l := by
  rw [aset_eq_upsert]; exact Assoc.mem_keys_upsert l a b _

theorem nodup_keys_aset (l : List (α × β)) (a : α) (x : β) (h : (keys l).Nodup) :
    (keys (aset l a x)).Nodup := by
  rw [aset_eq_upsert]; exact Assoc.nodup_keys_upsert l a _ h

theorem aget_adel (l : List (α × β)) (a b : α) (h : (keys l).Nodup) :
    aget (adel l a) b = if a = b then none else aget l b := by
  induction l with
  | nil => exact (ite_self _).symm
  | cons hd t ih =>
    obtain ⟨k, v⟩ := hd
    have ⟨hk, ht⟩ := List.nodup_cons.1 h
    rw [adel_cons, aget_cons]
    by_cases hka : k = a
    · subst hka; rw [if_pos rfl]
      by_cases hb : k = b
      · subst hb; rw [if_pos rfl]; exact aget_none_iff.2 hk
      · rw [if_neg hb, if_neg hb]
    · rw [if_neg hka, aget_cons, ih ht]
      by_cases hb : k = b
      · subst hb; rw [if_pos rfl, if_neg (Ne.symm hka), if_pos rfl]
      · rw [if_neg hb, if_neg hb]

theorem adel_sublist (l : List (α × β)) (a : α) : (adel l a).Sublist l := by
  induction l with
  | nil => exact .slnil
  | cons hd t ih =>
    simp only [adel]; split
    · exact List.sublist_cons_self _ _
    · exact ih.cons_cons _

theorem nodup_keys_adel (l : List (α × β)) (a : α) (h : (keys l).Nodup) : (keys (adel l a)).Nodup :=
  h.sublist ((adel_sublist l a).map _)

theorem mem_keys_adel (l : List (α × β)) (a b : α) (h : (keys l).Nodup) :
    b ∈ keys (adel l a) ↔ b ≠ a ∧ b ∈ keys l := by
  rw [← aget_isSome_iff, ← aget_isSome_iff, aget_adel l a b h]
  split
  · subst_vars; simp
  · rename_i hab; simp [Ne.symm hab]

theorem mem_keys_adel_ne (l : List (α × β)) (a b : α) (hb : b ∈ keys l) (hne : b ≠ a) : b ∈ keys (adel l a) := by
  induction l with
  | nil => cases hb
  | cons hd t ih =>
    obtain ⟨k, r⟩ := hd
    rw [adel_cons]
    split
    · subst_vars; exact (List.mem_cons.1 hb).resolve_left hne
    · exact (List.mem_cons.1 hb).elim (· ▸ List.mem_cons_self) fun h => List.mem_cons_of_mem _ (ih h)

theorem mem_aset (l : List (α × β)) (a : α) (b : β) :
    ∀ e ∈ aset l a b, e = (a, b) ∨ e ∈ l := by
  induction l with
  | nil => exact fun e he => .inl (List.mem_singleton.1 he)
  | cons hd t ih =>
    obtain ⟨k, v⟩ := hd
    intro e he
    rw [aset_cons] at he
    split at he
    · exact (List.mem_cons.1 he).imp_right (List.mem_cons_of_mem _)
    · rcases List.mem_cons.1 he with rfl | he
      · exact .inr List.mem_cons_self
      · exact (ih e he).imp_right (List.mem_cons_of_mem _)

section
variable (l : List (α × β)) (a : α) (x : β) (b : α)

theorem aget_aset_eq_self : aget (aset l a x) b = some x ↔ b = a ∨ aget l b = some x := by
  rw [aget_aset]
  by_cases e : a = b
  · rw [if_pos e]; exact ⟨fun _ => .inl e.symm, fun _ => rfl⟩
  · rw [if_neg e]; exact ⟨.inr, fun h => h.resolve_left fun h => e h.symm⟩

theorem aget_aset_eq_of_ne {y : β} (h : some y ≠ some x) : aget (aset l a x) b = some y ↔ b ≠ a ∧ aget l b = some y := by
  rw [aget_aset]
  by_cases e : a = b
  · rw [if_pos e]; exact ⟨fun h' => absurd h'.symm h, fun h' => absurd e.symm h'.1⟩
  · rw [if_neg e]; exact ⟨fun h' => ⟨fun h => e h.symm, h'⟩, And.right⟩

end

end assoc

theorem foldl_inv {β γ : Type} (P : β → Prop) (f : β → γ → β) :
    ∀ (l : List γ) (b : β), P b → (∀ b, P b → ∀ c ∈ l, P (f b c)) → P (l.foldl f b)
  | [], _, hb, _ => hb
  | c :: l, b, hb, h =>
    foldl_inv P f l _ (h b hb c List.mem_cons_self) fun b hb c hc => h b hb c (List.mem_cons_of_mem _ hc)

theorem sub_length : ∀ (a b : Res), (sub a b).length = a.length
  | [], _ => rfl
  | _ :: _, [] => rfl
  | _ :: xs, _ :: ys => congrArg (· + 1) (sub_length xs ys)

theorem add_length : ∀ (a b : Res), (add a b).length = a.length
  | [], _ => rfl
  | _ :: _, [] => rfl
  | _ :: xs, _ :: ys => congrArg (· + 1) (add_length xs ys)

theorem dem_nil (i : Nat) : dem [] i = 0 := rfl
theorem dem_cons_zero (x : Int) (xs : Res) : dem (x :: xs) 0 = x := rfl
theorem dem_cons_succ (x : Int) (xs : Res) (i : Nat) : dem (x :: xs) (i + 1) = dem xs i := rfl

theorem dem_sub {a b : Res} {i : Nat} (h : i < a.length) : dem (sub a b) i = dem a i - dem b i := by
  induction a generalizing b i with
  | nil => cases h
  | cons x xs ih =>
    cases b with
    | nil => exact (Int.sub_zero _).symm
    | cons y ys =>
      cases i with
      | zero => rfl
      | succ j => exact ih (Nat.lt_of_succ_lt_succ h)

theorem dem_add {a b : Res} {i : Nat} (h : i < a.length) : dem (add a b) i = dem a i + dem b i := by
  induction a generalizing b i with
  | nil => cases h
  | cons x xs ih =>
    cases b with
    | nil => exact (Int.add_zero _).symm
    | cons y ys =>
      cases i with
      | zero => rfl
      | succ j => exact ih (Nat.lt_of_succ_lt_succ h)

theorem dem_accum (a b : Res) (i : Nat) : dem (accum a b) i = dem a i + dem b i := by
  induction a generalizing b i with
  | nil => exact (Int.zero_add _).symm
  | cons x xs ih =>
    cases b with
    | nil => exact (Int.add_zero _).symm
    | cons y ys =>
      cases i with
      | zero => rfl
      | succ j => exact ih ys j

theorem dem_ge_length (a : Res) (i : Nat) (h : a.length ≤ i) : dem a i = 0 := by
  simp [dem, List.getD, List.getElem?_eq_none h]

theorem over_false_iff (r : Res) : over r = false ↔ ∀ i, i < r.length → 0 ≤ dem r i := by
  simp only [over, List.any_eq_false, List.forall_mem_iff_forall_getElem, decide_eq_true_eq, Int.not_lt, dem]
  exact forall₂_congr fun i hi => by
    rw [List.getD_eq_getElem?_getD, List.getElem?_eq_getElem hi, Option.getD_some]

theorem decr_some {a : Res} {r : Nat} {x : Int} {a' : Res} (h : decr a r x = some a') :
    a'.length = a.length ∧ ∀ i, dem a' i = dem a i - (if r = i then x else 0) := by
  induction a generalizing r a' with
  | nil => cases h
  | cons y ys ih =>
    cases r with
    | zero =>
      cases h
      exact ⟨rfl, fun i => by cases i <;> simp [dem_cons_zero, dem_cons_succ]⟩
    | succ n =>
      obtain ⟨b, hb, rfl⟩ := Option.map_eq_some_iff.1 h
      obtain ⟨h1, h2⟩ := ih hb
      exact ⟨congrArg (· + 1) h1, fun i => by cases i <;> simp [dem_cons_zero, dem_cons_succ, h2]⟩

theorem Machine.get_eq (m : Machine) (c : Chip) : m.get c = if m.ok c then some (cap m c) else none := rfl

theorem Machine.get_some {m : Machine} {c : Chip} {r : Res} (h : m.get c = some r) :
    m.ok c = true ∧ r = cap m c := by
  rw [Machine.get_eq] at h
  split at h
  · cases h; exact ⟨‹_›, rfl⟩
  · cases h

theorem Machine.set_some {m m' : Machine} {c : Chip} {r : Res} (h : m.set c r = some m') :
    m.ok c = true ∧ m'.w = m.w ∧ m'.h = m.h ∧ m'.dead = m.dead ∧ m'.res = m.res ∧
    ∀ c', cap m' c' = if c = c' then r else cap m c' := by
  unfold Machine.set at h
  split at h
  · cases h
    refine ⟨‹_›, rfl, rfl, rfl, rfl, fun c' => ?_⟩
    simp only [cap, aget_aset]
    split <;> rfl
  · cases h

theorem Machine.ok_congr {m m' : Machine} (hw : m'.w = m.w) (hh : m'.h = m.h) (hd : m'.dead = m.dead)
    (c : Chip) : m'.ok c = m.ok c := by
  simp only [Machine.ok, hw, hh, hd]

theorem Machine.get_of_ok {m : Machine} {c : Chip} (h : m.ok c = true) : m.get c = some (cap m c) := by
  rw [Machine.get_eq, if_pos h]

theorem Machine.set_of_ok {m : Machine} {c : Chip} (r : Res) (h : m.ok c = true) :
    m.set c r = some { m with exc := aset m.exc c r } := by
  rw [Machine.set, if_pos h]

theorem get_ne_none {m : Machine} {c : Chip} (h : m.ok c = true) : m.get c ≠ none := by
  rw [Machine.get_of_ok h]; nofun

theorem set_ne_none {m : Machine} {c : Chip} {r : Res} (h : m.ok c = true) : m.set c r ≠ none := by
  rw [Machine.set_of_ok r h]; nofun

theorem ok_of_set {m m' : Machine} {c : Chip} {r : Res} (h : m.set c r = some m') (c' : Chip) :
    m'.ok c' = m.ok c' :=
  have ⟨_, hw, hh, hd, _⟩ := Machine.set_some h
  Machine.ok_congr hw hh hd c'

theorem mem_chips_iff (m : Machine) (c : Chip) : c ∈ m.chips ↔ m.ok c = true := by
  obtain ⟨x, y⟩ := c
  simp only [Machine.chips, List.mem_flatMap, List.mem_range, List.mem_filterMap]
  constructor
  · rintro ⟨a, _, b, _, h⟩
    split at h
    · cases h; assumption
    · cases h
  · intro h
    have h' := h
    simp only [Machine.ok, Bool.and_eq_true, decide_eq_true_eq] at h'
    exact ⟨x, h'.1.1, y, h'.1.2, by rw [if_pos h]⟩

theorem chips_nodup (m : Machine) : m.chips.Nodup := by
  have inj {x y : Nat} {c : Chip} (h : (if m.ok (x, y) then some (x, y) else none) = some c) : c = (x, y) := by
    split at h <;> cases h; rfl
  refine List.pairwise_flatMap.2 ⟨fun x _ => List.pairwise_filterMap.2 ?_, ?_⟩
  · exact List.pairwise_lt_range.imp fun hab c hc c' hc' e => by
      cases inj hc; cases inj hc'; exact Nat.ne_of_lt hab (Prod.mk.inj e).2
  · exact List.pairwise_lt_range.imp fun hab c hc c' hc' e => by
      obtain ⟨_, _, hc⟩ := List.mem_filterMap.1 hc
      obtain ⟨_, _, hc'⟩ := List.mem_filterMap.1 hc'
      cases inj hc; cases inj hc'; exact Nat.ne_of_lt hab (Prod.mk.inj e).1

end Rig.C02
