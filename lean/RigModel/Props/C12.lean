/-
C12 - the flood-fill region list selects exactly the requested chips and cores.

Vocabulary (Model/C12.lean, specification section; definitions in Lemmas/C12*.lean; `wantsD`, `flatTargets`, `compressD`
in this file):
* `selects r x y`   - region word `r` selects chip `(x, y)`: written from the documented word
                      layout only (level bits 17:16, base masked to the level, 16 block bits);
* `sel (r, m) x y p`- the pair selects core `p` of chip `(x, y)`;
* `countSel out x y p` - how many pairs of `out` select core `p` of chip `(x, y)`;
* `Exact targets out`  - that count is 1 on the targets and 0 everywhere else
                         (nothing missing, nothing extra, nothing twice), for ALL x, y, p;
* `StrictlyIncreasing out` - strictly increasing as `(region, core mask)` tuples;
* `holds d t x y p` - the (chip, core) set a tree node stands for; `Inv d t` the tree invariant;
* `InRange c`       - 0 <= x, y < 256 and 0 <= p < 18;
* `buildTraceAt x0 y0 lv ts` - the insertion loop on `RegionCoreTree(x0, y0, lv)` with all return values;
* `runHistory x0 y0 lv ops` - calls `HOp.add x y p` / `HOp.read` on one tree object, results `HRes.added b` / `HRes.pairs l`;
* `addsOf ops`      - the cores a history adds, in order; `annot`, `ResOK`, `AllOK` - each call with the cores added
                      before it and the result it must have; `goodAdds`, `annotF`, `ResOKF`, `AllOKF` - the same
                      when calls may fail: only in-range adds count, every other `add_core` must raise `ValueError`;
* `fullCores ts bs` - the cores for which some `add_core` of the run returned `True`;
* `exactB`, `nodupB`, `strictB` - the executable oracle the driver runs on the implementation's
                      output (enumeration through `chipsOf`/`coresOf`/`expand`, sorted keys);
* `wantsD tg x y p` - core `p` of chip `(x, y)` is requested by the dictionary `tg` as C09 carries it
                      (the expression of C09's `wants`/`wantsT`/`regionsOK`);
* `Rig.C09.selects`, `selectsCore`, `strictlyIncreasing`, `regionsOK` - C09's own reading of the
                      region word and its contract for `compress_flood_fill_regions`.
-/
import RigModel.Lemmas.C12
import RigModel.Lemmas.C12Oracle
import RigModel.Lemmas.C12Sub
import RigModel.Lemmas.C12Hist
import RigModel.Model.C09

namespace Rig.C12

/-- **Region word.** For every level 0..3 and every chip of the 256 x 256 space the word
built by `get_region_for_chip` selects, under the documented layout, exactly the chips of
the same block (side 4^(3-level)) as the given chip. -/
theorem region_word_selects (x y lv : Nat) (hx : x < 256) (hy : y < 256) (hl : lv ≤ 3) :
    ∃ r, regionForChip x y lv = .ok r ∧
      ∀ x' y', selects r x' y' = true ↔
        (x' / 4 ^ (3 - lv) = x / 4 ^ (3 - lv) ∧ y' / 4 ^ (3 - lv) = y / 4 ^ (3 - lv)) := by
  refine ⟨_, regionForChip_eq x y lv (by omega) (by omega) hl, fun x' y' => ?_⟩
  have hm : 1 <<< subIndex lv x y < 2 ^ 16 := by
    rw [Nat.one_shiftLeft]; exact Nat.pow_lt_pow_right (by decide) (subIndex_lt ..)
  have hb : ∀ z, z < 256 → z / scale lv * scale lv + scale lv ≤ 256 := by
    intro z hz
    rw [← scale_mul (by omega : lv ≤ 4)] at hz ⊢
    have := Nat.mul_le_mul_right (scale lv) (Nat.succ_le_of_lt (Nat.div_lt_of_lt_mul (Nat.mul_comm _ _ ▸ hz)))
    rwa [Nat.succ_mul] at this
  have hS := scale_pos lv
  rw [selects_code _ _ lv _ x' y' hl (Nat.mul_mod_left ..) (Nat.mul_mod_left ..) (hb x hx) (hb y hy) hm,
    inSq_iff_div (Nat.mul_mod_left ..) (Nat.mul_mod_left ..), Nat.one_shiftLeft, Nat.testBit_two_pow,
    decide_eq_true_eq, Nat.mul_right_cancel_iff hS, Nat.mul_right_cancel_iff hS, subIndex_eq, subIndex_eq,
    two_pow_shift hl, scale_succ hl, Nat.mul_comm 4, ← Nat.div_div_eq_div_mul, ← Nat.div_div_eq_div_mul,
    ← Nat.div_div_eq_div_mul, ← Nat.div_div_eq_div_mul, (Nat.add_sub_add_right 3 1 lv).symm,
    pair4_inj (Nat.mod_lt _ (by decide)) (Nat.mod_lt _ (by decide)), and_and_and_comm]
  -- equal quotients by the block side = equal quotients by the square side and equal block numbers
  have split4 : ∀ a b : Nat, a / 4 = b / 4 ∧ b % 4 = a % 4 ↔ a = b := fun a b =>
    ⟨fun ⟨h1, h2⟩ => by rw [← Nat.div_add_mod a 4, ← Nat.div_add_mod b 4, h1, h2], fun h => h ▸ ⟨rfl, rfl⟩⟩
  exact and_congr (split4 _ _) (split4 _ _)

/-- **Single chip.** `get_region_for_chip(x, y, 3)` selects chip `(x, y)` and no other chip. -/
theorem single_chip (x y : Nat) (hx : x < 256) (hy : y < 256) :
    ∃ r, regionForChip x y 3 = .ok r ∧ ∀ x' y', selects r x' y' = true ↔ (x' = x ∧ y' = y) := by
  obtain ⟨r, h1, h2⟩ := region_word_selects x y 3 hx hy (by decide)
  refine ⟨r, h1, ?_⟩
  intro x' y'
  rw [h2]
  simp

example : (regionForChip 255 3 3) = .ok 0xfc038000 := rfl

/-- **Insertion invariant.** On a node satisfying the invariant, `add_core` of an in-square chip and a
core < 18 succeeds, keeps the invariant (masks 16 bit; a block bit set for a core means the child
holds nothing for that core; no node below the root keeps all sixteen bits), and the set the node
stands for grows by exactly the inserted core - where a node that reports `True` stands, together
with the bit its parent sets, for its whole square for that core, and itself keeps nothing for it. -/
theorem add_inv (d : Nat) (t : RTree) (x y p : Nat) (hI : Inv d t)
    (hin : inSq t.x0 t.y0 t.lv x y) (hp : p < 18) :
    ∃ t' full, addCore d t x y p = .ok (t', full) ∧ Inv d t' ∧
      (t.lv = 0 → full = false) ∧
      (∀ x' y' p', (holds d t' x' y' p' ∨ (full = true ∧ p' = p ∧ inSq t.x0 t.y0 t.lv x' y')) ↔
        (holds d t x' y' p' ∨ (x' = x ∧ y' = y ∧ p' = p))) ∧
      (full = true → ∀ x' y', ¬ holds d t' x' y' p) := by
  obtain ⟨t', full, h, hI', _, _, _, h0, hh, hn⟩ := addCore_spec d t x y p hI hin hp
  exact ⟨t', full, h, hI', h0, hh, hn⟩

/-- **Selected set = inserted set, for all insertion orders.** Inserting any sequence of in-range
cores into the empty tree succeeds and yields a tree satisfying the invariant that stands for
exactly the set of inserted cores (so the set does not depend on the order or on repetitions). -/
theorem insert_all (ts : List (Int × Int × Int)) (hr : ∀ c, c ∈ ts → InRange c) :
    ∃ t, buildTree ts = .ok t ∧ Inv 4 t ∧
      ∀ x y p, holds 4 t x y p ↔ (x, y, p) ∈ ts.map toNat3 := by
  obtain ⟨t, e, h, hh⟩ := foldlM_spec ts stands_new hr
  exact ⟨t, e, h.1, hh⟩

example : InRange (255, 0, 17) := by simp [InRange]
example : ¬ InRange (256, 0, 1) := by simp [InRange]
example : Inv 4 (RTree.new 0 0 0) := stands_new.1.1

/-- **Any node, any insertion sequence.** On a freshly constructed node of level 0..3 placed on its
grid inside the 256 x 256 space, any sequence of `add_core` calls with chips of its square and cores
< 18 succeeds; the node keeps the invariant; the root never returns `True`; the set the node stands
for, together with its whole square for every core for which some call returned `True`
(`fullCores`: the node hands these to its parent and clears them), is exactly the set of inserted
cores; and the pairs the node yields select, each exactly once, what the node stands for. -/
theorem subtree_insert (x0 y0 lv : Nat) (hl : lv ≤ 3) (hx : x0 % scale lv = 0) (hy : y0 % scale lv = 0)
    (hx1 : x0 + scale lv ≤ 256) (hy1 : y0 + scale lv ≤ 256) (ts : List (Int × Int × Int))
    (hr : ∀ c, c ∈ ts → InRange c ∧ inSq x0 y0 lv c.1.toNat c.2.1.toNat) :
    ∃ t bs, buildTraceAt x0 y0 lv ts = .ok (t, bs) ∧ bs.length = ts.length ∧ Inv (4 - lv) t ∧
      (lv = 0 → ∀ b, b ∈ bs → b = false) ∧
      (∀ x y p, (holds (4 - lv) t x y p ∨ (p ∈ fullCores ts bs ∧ inSq x0 y0 lv x y)) ↔
        (x, y, p) ∈ ts.map toNat3) ∧
      ∀ x y p, (holds (4 - lv) t x y p → countSel (emit (4 - lv) t) x y p = 1) ∧
        (¬ holds (4 - lv) t x y p → countSel (emit (4 - lv) t) x y p = 0) := by
  have hd : 4 - lv = (3 - lv) + 1 := by omega
  have hI0 : Inv (4 - lv) (RTree.new x0 y0 lv) := by
    rw [hd]; exact Inv_new (3 - lv) x0 y0 lv (by omega) hx hy hx1 hy1
  obtain ⟨t, bs, e, hlen, hI, h0, hh⟩ :=
    trace_spec (4 - lv) x0 y0 lv ts (RTree.new x0 y0 lv) [] hI0 rfl rfl rfl hr
  refine ⟨t, bs, e, hlen, hI, h0, ?_, (emit_covers (4 - lv) t hI).1⟩
  exact fun x y p => (hh x y p).trans (or_iff_right holds_new)

example : InRange (7, 9, 17) ∧ inSq 4 8 3 (7 : Int).toNat (9 : Int).toNat := by
  simp [InRange, inSq, scale]

/-- **Faults, then continued use.** For EVERY history on one `RegionCoreTree()` object, without any
hypothesis: an `add_core` of an in-range core returns `False`; any other `add_core` (negative or too
large coordinates, core number > 17) raises `ValueError` and leaves the tree exactly as it was; the
object stays usable: every read-out, before or after failed calls, selects exactly the in-range
cores added before it, each once; the final tree is the tree built from the in-range adds alone. -/
theorem history_faults_exact (ops : List HOp) :
    ∃ t rs, runHistory 0 0 0 ops = .ok (t, rs) ∧ AllOKF (annotF [] ops) rs ∧
      buildTree (goodAdds ops) = .ok t ∧ Inv 4 t ∧
      ∀ x y p, holds 4 t x y p ↔ (x, y, p) ∈ (goodAdds ops).map toNat3 := by
  obtain ⟨t, rs, e, ht, hf, hb⟩ := hist_specF ops [] stands_new
  exact ⟨t, rs, e, hf, hb, ht.1.1, ht.2⟩

/-- one read-out singled out: after the calls `before`, failed ones among them or not, it selects exactly the
in-range cores added by `before` - whatever was read earlier and whatever follows -/
theorem history_read_at_any (before after : List HOp) :
    ∃ t rs l, runHistory 0 0 0 (before ++ .read :: after) = .ok (t, rs) ∧
      rs[before.length]? = some (.pairs l) ∧ Exact ((goodAdds before).map toNat3) l := by
  obtain ⟨t, rs, e, hf, _⟩ := history_faults_exact (before ++ .read :: after)
  obtain ⟨r, h1, h2⟩ := allOKF_get before .read after [] rs hf
  cases r with
  | added b => simp [ResOKF] at h2
  | raised e' => simp [ResOKF] at h2
  | pairs l => exact ⟨t, rs, l, e, h1, by simpa [ResOKF] using h2⟩

/-- **Every read-out after ANY history.** For every sequence of calls on one `RegionCoreTree()`
object - `add_core` of in-range cores (any order, repetitions allowed) interleaved with any number
of read-outs `get_regions_and_coremasks()` at any points - no call fails, every `add_core` returns
`False`, and EVERY read-out selects, under the documented meaning of a region word, exactly the
cores added before it, each exactly once (`AllOK (annot [] ops) rs`, call by call); the final tree
is the tree `compress_flood_fill_regions` builds from the added cores (read-outs leave no trace),
satisfies the invariant and stands for exactly the added cores. -/
theorem history_reads_exact (ops : List HOp) (hr : ∀ c, c ∈ addsOf ops → InRange c) :
    ∃ t rs, runHistory 0 0 0 ops = .ok (t, rs) ∧ AllOK (annot [] ops) rs ∧
      buildTree (addsOf ops) = .ok t ∧ Inv 4 t ∧
      ∀ x y p, holds 4 t x y p ↔ (x, y, p) ∈ (addsOf ops).map toNat3 := by
  obtain ⟨t, rs, e, hR, hh, hok, hb⟩ := hist_spec ops _ [] [] stands_new.1 stands_new.2 hr
  exact ⟨t, rs, e, hok, hb, hR.1, hh⟩

/-- one read-out singled out, all adds in range: it selects exactly the cores added by `before` -/
theorem history_read_at (before after : List HOp)
    (hr : ∀ c, c ∈ addsOf (before ++ .read :: after) → InRange c) :
    ∃ t rs l, runHistory 0 0 0 (before ++ .read :: after) = .ok (t, rs) ∧
      rs[before.length]? = some (.pairs l) ∧ Exact ((addsOf before).map toNat3) l := by
  have := history_read_at_any before after
  rwa [goodAdds_eq before (fun c hc => hr c (by rw [addsOf_append]; exact List.mem_append_left _ hc))] at this

example : ∀ c, c ∈ addsOf [.add 3 4 5, .read, .add 255 0 17, .read, .read] → InRange c := by
  intro c hc
  simp only [addsOf, List.mem_cons, List.not_mem_nil, or_false] at hc
  rcases hc with rfl | rfl <;> simp [InRange]

/-- the executable oracle enumerates exactly the chips `selects` accepts -/
theorem chipsOf_spec (r x y : Nat) : (x, y) ∈ chipsOf r ↔ selects r x y = true :=
  chipsOf_mem r x y

/-! The driver's op `oracle` returns `exactB targets out`, `strictB out` and `nodupB targets` on the
implementation's own output; these are the proved predicates, for ALL target lists and ALL
outputs (any words, any masks - no bounds). -/

/-- **Oracle = specification (exactness).** For targets listed without repetition the enumerating
oracle returns `true` iff the pairs select every target exactly once and nothing else. -/
theorem exactB_iff (targets : List (Nat × Nat × Nat)) (out : List (Nat × Nat)) (hnd : targets.Nodup) :
    exactB targets out = true ↔ Exact targets out := by
  unfold exactB
  rw [beq_iff_eq, sortNat_eq_iff, perm_map_key, List.perm_iff_count]
  unfold Exact
  constructor
  · intro h x y p
    rw [← count_expand, h, hnd.count]
  · rintro h ⟨x, y, p⟩
    rw [count_expand, h, hnd.count]

/-- the hypothesis of `exactB_iff` is itself decided by the driver -/
theorem nodupB_iff (targets : List (Nat × Nat × Nat)) : nodupB targets = true ↔ targets.Nodup := by
  unfold nodupB
  rw [strictNat_iff, pairwise_lt_iff_nodup (sortNat_sorted _), (sortNat_perm _).nodup_iff, List.nodup_map_iff key3_inj]

theorem strictB_iff (out : List (Nat × Nat)) : strictB out = true ↔ StrictlyIncreasing out :=
  neighbours_iff_pairwise pairLt_trans strictB rfl (fun _ => rfl) (fun a b l => by
    rw [strictB, Bool.and_eq_true, Bool.or_eq_true, Bool.and_eq_true, decide_eq_true_eq, decide_eq_true_eq,
      beq_iff_eq]; rfl) out

/-- the three booleans of the driver's reply together -/
theorem oracle_decides (targets : List (Nat × Nat × Nat)) (out : List (Nat × Nat)) :
    (nodupB targets && exactB targets out && strictB out) = true ↔
      (targets.Nodup ∧ Exact targets out ∧ StrictlyIncreasing out) := by
  simp only [Bool.and_eq_true, nodupB_iff, strictB_iff]
  constructor
  · rintro ⟨⟨h1, h2⟩, h3⟩; exact ⟨h1, (exactB_iff _ _ h1).1 h2, h3⟩
  · rintro ⟨h1, h2, h3⟩; exact ⟨⟨h1, (exactB_iff _ _ h1).2 h2⟩, h3⟩

/-- non-vacuity of the hypothesis (and the driver decides it: `nodupB_iff`).  The hypothesis cannot
be dropped: `Exact` reads the targets as a set, the oracle compares multisets, so for a target
listed twice `exactB` is false on a correct output. -/
example : [((3 : Nat), (4 : Nat), (5 : Nat)), (3, 4, 6), (4, 3, 5)].Nodup := by decide
example : nodupB [(3, 4, 5), (3, 4, 6), (4, 3, 5)] = true := (nodupB_iff _).2 (by decide)

/-- in-range targets never raise; with `compress_err`: the model's fuel error is unreachable -/
theorem compress_ok (ts : List (Int × Int × Int)) (hr : ∀ c, c ∈ ts → InRange c) :
    ∃ out, compress ts = .ok out := by
  obtain ⟨t, e, _⟩ := compress_spec ts hr
  exact ⟨_, e⟩

/-- anything outside the domain raises `ValueError` (and never the fuel error) -/
theorem compress_err (ts : List (Int × Int × Int)) (h : ∃ c, c ∈ ts ∧ ¬ InRange c) :
    compress ts = .error .valueError := by
  have := foldlM_err ts stands_new h
  simp only [compress, buildTree, this]

/-- **Exactness.** For every sequence of in-range targets (any order, repetitions allowed) the
emitted list selects, under the documented meaning of a region word, every requested core of
every requested chip by exactly one pair, and selects nothing else - for all chips `(x, y)` and
all core numbers `p` whatsoever. -/
theorem compress_exact (ts : List (Int × Int × Int)) (hr : ∀ c, c ∈ ts → InRange c) :
    ∃ out, compress ts = .ok out ∧ Exact (ts.map toNat3) out := by
  obtain ⟨t, e, h⟩ := compress_spec ts hr
  exact ⟨_, e, (sorted_emit h).1⟩

/-- set reading of `Exact`: some emitted pair selects core `p` of chip `(x, y)` iff it was requested,
and never more than one pair does -/
theorem exact_select_iff (targets : List (Nat × Nat × Nat)) (out : List (Nat × Nat))
    (h : Exact targets out) (x y p : Nat) :
    ((∃ pr, pr ∈ out ∧ sel pr x y p = true) ↔ (x, y, p) ∈ targets) ∧ countSel out x y p ≤ 1 := by
  have h1 := h x y p
  have h2 : 0 < countSel out x y p ↔ ∃ pr, pr ∈ out ∧ sel pr x y p = true := by
    unfold countSel; exact List.countP_pos_iff
  rw [← h2, h1]
  by_cases hm : (x, y, p) ∈ targets
  · simp [hm]
  · simp [hm]

/-- **Order.** The emitted list is strictly increasing in `(region, core mask)`. -/
theorem compress_sorted (ts : List (Int × Int × Int)) (hr : ∀ c, c ∈ ts → InRange c) :
    ∃ out, compress ts = .ok out ∧ StrictlyIncreasing out := by
  obtain ⟨t, e, h⟩ := compress_spec ts hr
  exact ⟨_, e, (sorted_emit h).2.1⟩

/-- The `sorted(...)` in `compress_flood_fill_regions` is needed: the traversal
`get_regions_and_coremasks` alone is NOT increasing (its docstring says it is) - a leaf at (4, 0) is
yielded before the leaf at (0, 16) of the next level-2 sibling.  The same two pairs come out of the
implementation (`list(t.get_regions_and_coremasks())` after `add_core(4, 0, 0); add_core(0, 16, 0)`). -/
theorem emit_not_sorted :
    (buildTree [(4, 0, 0), (0, 16, 0)]).map (emit 4) = .ok [(0x04030001, 1), (0x00130001, 1)] ∧
    ¬ StrictlyIncreasing [(0x04030001, 1), (0x00130001, 1)] := by
  refine ⟨by decide +kernel, ?_⟩
  rw [← strictB_iff]
  decide

/-- **Loader keys.** Core masks are 18 bit and both documented sort keys,
`(region << 32) | core_mask` (regions.py) and `(region << 18) | cores` (`_send_ffcs`), are
strictly increasing along the emitted list. -/
theorem compress_keys (ts : List (Int × Int × Int)) (hr : ∀ c, c ∈ ts → InRange c) :
    ∃ out, compress ts = .ok out ∧ (∀ pr, pr ∈ out → pr.2 < 2 ^ 18) ∧
      out.Pairwise (fun a b => a.1 * 2 ^ 32 + a.2 < b.1 * 2 ^ 32 + b.2) ∧
      out.Pairwise (fun a b => a.1 * 2 ^ 18 + a.2 < b.1 * 2 ^ 18 + b.2) := by
  obtain ⟨t, e, h⟩ := compress_spec ts hr
  obtain ⟨_, hs, hm⟩ := sorted_emit h
  exact ⟨_, e, hm,
    hs.imp_of_mem fun ha _ h => key_lt h (Nat.lt_of_lt_of_le (hm _ ha) (Nat.pow_le_pow_right (by decide) (by decide))),
    hs.imp_of_mem fun ha _ h => key_lt h (hm _ ha)⟩

/-! `Model/C09.lean` has its own `selects` (written by another hand from the same documentation); C09's
fill theorems assume a contract of `compress_flood_fill_regions` (`CompressOK`, Lemmas/C09Load.lean;
checked at run time by `regionsOK`).  The two readings agree on every word and every chip, and
`compress` meets that contract. -/

/-- **Cross-model.** C09's and C12's reading of a region word agree on ALL words and chips. -/
theorem c09_selects_agree (r x y : Nat) : Rig.C09.selects r x y = selects r x y := by
  have hlv : r / 65536 % 4 = wLevel r := rfl
  have hl : wLevel r < 4 := Nat.mod_lt _ (by decide)
  have hside : 4 ^ (4 - wLevel r) = 4 * wSide r := by
    unfold wSide; rw [show 4 - wLevel r = 3 - wLevel r + 1 by omega, Nat.pow_succ, Nat.mul_comm]
  have hbit : ∀ i, i < 16 → (r % 65536).testBit i = r.testBit i := by
    intro i hi
    rw [show (65536 : Nat) = 2 ^ 16 from rfl, Nat.testBit_mod_two_pow, decide_eq_true hi, Bool.true_and]
  have hy : r / 65536 % 256 / 4 * 4 = wBaseY r := by
    rw [show 256 = 4 * 64 from rfl, Nat.mod_mul_right_div_self, Nat.div_div_eq_div_mul]; rfl
  have hx : r / 16777216 % 256 = wBaseX r := rfl
  unfold Rig.C09.selects selects
  simp only [hlv, hside, hx, hy, Nat.mul_div_cancel_left _ (by decide : 0 < 4), hbit _ (by omega : x / wSide r % 4 + 4 * (y / wSide r % 4) < 16)]

/-- ... hence on all pairs and cores: C09's `selectsCore` says "some pair of the list selects" -/
theorem c09_selectsCore_agree (out : List (Nat × Nat)) (x y p : Nat) :
    Rig.C09.selectsCore out x y p = decide (0 < countSel out x y p) := by
  unfold Rig.C09.selectsCore countSel
  rw [Bool.eq_iff_iff]
  simp only [List.any_eq_true, decide_eq_true_eq, List.countP_pos_iff, sel, c09_selects_agree]

/-- C09's order check is `strictB`, i.e. `StrictlyIncreasing` -/
theorem c09_strictlyIncreasing_agree (out : List (Nat × Nat)) :
    Rig.C09.strictlyIncreasing out = true ↔ StrictlyIncreasing out :=
  neighbours_iff_pairwise pairLt_trans _ rfl (fun _ => rfl)
    (fun a b l => by simp [Rig.C09.strictlyIncreasing, Rig.C09.pairLt, pairLt]) out

/-- the set a `{(x, y): cores}` dictionary, as C09 carries it, requests (the expression used by
C09's `wants`, `wantsT` and `regionsOK`) -/
def wantsD (tg : List (Nat × Nat × List Nat)) (x y p : Nat) : Bool :=
  tg.any fun t => t.1 == x && t.2.1 == y && t.2.2.contains p

/-- the dictionary flattened in iteration order: the insertion sequence of
`compress_flood_fill_regions` -/
def flatTargets (tg : List (Nat × Nat × List Nat)) : List (Int × Int × Int) :=
  tg.flatMap fun e => e.2.2.map fun (p : Nat) => ((e.1 : Int), (e.2.1 : Int), (p : Int))

theorem flatTargets_mem (tg : List (Nat × Nat × List Nat)) (x y p : Nat) :
    (x, y, p) ∈ (flatTargets tg).map toNat3 ↔ wantsD tg x y p = true := by
  simp only [flatTargets, wantsD, toNat3, List.mem_map, List.mem_flatMap, List.any_eq_true,
    Bool.and_eq_true, beq_iff_eq, List.contains_iff_mem]
  constructor
  · rintro ⟨c, ⟨e, he, q, hq, rfl⟩, h⟩
    simp only [Int.toNat_natCast, Prod.mk.injEq] at h
    obtain ⟨rfl, rfl, rfl⟩ := h
    exact ⟨e, he, ⟨rfl, rfl⟩, hq⟩
  · rintro ⟨e, he, ⟨rfl, rfl⟩, hq⟩
    exact ⟨_, ⟨e, he, p, hq, rfl⟩, by simp⟩

theorem flatTargets_inRange (tg : List (Nat × Nat × List Nat))
    (h : ∀ x y p, wantsD tg x y p = true → x < 256 ∧ y < 256 ∧ p < 18) :
    ∀ c, c ∈ flatTargets tg → InRange c := by
  intro c hc
  have hm : (c.1.toNat, c.2.1.toNat, c.2.2.toNat) ∈ (flatTargets tg).map toNat3 :=
    List.mem_map.2 ⟨c, hc, rfl⟩
  have := h _ _ _ ((flatTargets_mem tg _ _ _).1 hm)
  simp only [flatTargets, List.mem_flatMap, List.mem_map] at hc
  obtain ⟨e, he, p, hp, rfl⟩ := hc
  simp only [Int.toNat_natCast] at this
  simp only [InRange]
  omega

/-- **C12 discharges C09's contract.** For every dictionary `tg` of in-range targets and every
insertion sequence `ts` that lists exactly the requested cores (any order, repetitions allowed),
`compress` succeeds and its output meets, under C09's OWN reading of the region word, everything
C09 assumes of `compress_flood_fill_regions`: 18-bit masks, `selectsCore` = requested for ALL
chips and cores (C09's `CompressOK` asks this only on the machine's chips and cores < 18),
strictly increasing, and the run-time check `regionsOK` is true for every chip list. -/
theorem c09_regions_contract (tg : List (Nat × Nat × List Nat)) (ts : List (Int × Int × Int))
    (hr : ∀ c, c ∈ ts → InRange c)
    (hrep : ∀ x y p, (x, y, p) ∈ ts.map toNat3 ↔ wantsD tg x y p = true) :
    ∃ out, compress ts = .ok out ∧
      (∀ rm, rm ∈ out → rm.2 < 262144) ∧
      (∀ x y p, Rig.C09.selectsCore out x y p = wantsD tg x y p) ∧
      Rig.C09.strictlyIncreasing out = true ∧
      ∀ chips, Rig.C09.regionsOK chips tg out = true := by
  obtain ⟨t, e, h⟩ := compress_spec ts hr
  obtain ⟨hex, hs, hm⟩ := sorted_emit h
  generalize sortPairs (emit 4 t) = out at *
  have hsel : ∀ x y p, Rig.C09.selectsCore out x y p = wantsD tg x y p := by
    intro x y p
    rw [c09_selectsCore_agree, hex x y p, Bool.eq_iff_iff, decide_eq_true_eq, ← hrep]
    split
    · next hm => exact iff_of_true Nat.one_pos hm
    · next hm => exact iff_of_false (Nat.lt_irrefl 0) hm
  have hst : Rig.C09.strictlyIncreasing out = true := (c09_strictlyIncreasing_agree out).2 hs
  refine ⟨out, e, hm, hsel, hst, ?_⟩
  intro chips
  unfold Rig.C09.regionsOK
  simp only [Bool.and_eq_true, List.all_eq_true, decide_eq_true_eq, beq_iff_eq]
  exact ⟨⟨hst, fun rm h => hm rm h⟩, fun c _ => hsel c.1 c.2.1 c.2.2⟩

/-- `compress_flood_fill_regions` as the function C09's controller model takes (`Ctl.compress`):
the dictionary is inserted in iteration order -/
def compressD (tg : List (Nat × Nat × List Nat)) : List (Nat × Nat) :=
  match compress (flatTargets tg) with
  | .ok out => out
  | .error _ => []

/-- **The body of C09's `CompressOK` holds for the C12 model** (`c.compress := compressD`), with
the domain stated on the requested set only: all requested chips in the 256 x 256 space, cores < 18
(what C09's `Valid.hin` gives on a machine whose chip coordinates are below 256). -/
theorem c09_compressOK (tg : List (Nat × Nat × List Nat))
    (h : ∀ x y p, wantsD tg x y p = true → x < 256 ∧ y < 256 ∧ p < 18) :
    (∀ rm, rm ∈ compressD tg → rm.2 < 262144) ∧
    (∀ x y p, Rig.C09.selectsCore (compressD tg) x y p = wantsD tg x y p) ∧
    ∀ chips, Rig.C09.regionsOK chips tg (compressD tg) = true := by
  obtain ⟨out, e, h1, h2, _, h4⟩ :=
    c09_regions_contract tg (flatTargets tg) (flatTargets_inRange tg h) (flatTargets_mem tg)
  have : compressD tg = out := by simp only [compressD, e]
  rw [this]
  exact ⟨h1, h2, h4⟩

/-- non-vacuity: a dictionary with two chips, one of them with an empty core set -/
example : ∀ x y p, wantsD [(255, 3, [0, 17]), (7, 7, [])] x y p = true → x < 256 ∧ y < 256 ∧ p < 18 := by
  intro x y p h
  simp only [wantsD, List.any_cons, List.any_nil, Bool.or_false, Bool.or_eq_true, Bool.and_eq_true,
    beq_iff_eq, List.contains_iff_mem, List.mem_cons, List.not_mem_nil, or_false] at h
  simp only [and_false, or_false] at h
  omega
example : compressD [(255, 3, [0, 17]), (7, 7, [])] = [(0xfc038000, 0x20001)] := by decide +kernel

end Rig.C12
