/-
C01 - from the stage predicates (C03 `ValidTree`, C10 `TablesExact`, pairwise non-intersecting keys) to
`Agrees` / `SrcListed` (`agrees_of_stages`), and from the leaves of a valid tree to the expected deliveries
(`delivered_of_leaves`); C10's exact tables are read over any `Separated` list of occurrences.
`namespace Rig.C01.L`, for Props/C01 and (`treeTables_ok`, `tables04_good`: the tables exist and are in the domain of
the minimiser) Props/C01Pipe; the bridges between the stage models are in Lemmas/C01Stage.
-/
import RigModel.Lemmas.C01
import RigModel.Lemmas.C03AStar
import RigModel.Lemmas.C04
import RigModel.Lemmas.C10Bits
import RigModel.Props.C10

namespace Rig.C01.L
open Rig.C01
open Rig.C03 (Chip Machine chipOk linkOk step opp Tree edgesL HopOk ValidTree Sink)
open Rig.C03.L (tree_ind chipsL_eq leafL_eq)

theorem edges_sub {c : Chip} {s : List (Nat × Tree)} {sub : Nat × Tree} (h : sub ∈ s) :
    (c, sub.1, sub.2.chip) ∈ edgesL c s ∧ ∀ e ∈ sub.2.edges, e ∈ edgesL c s := by
  rw [Rig.C03.L.edgesL_eq]
  exact ⟨List.mem_flatMap.2 ⟨sub, h, List.mem_cons_self⟩,
    fun e he => List.mem_flatMap.2 ⟨sub, h, List.mem_cons_of_mem _ he⟩⟩

theorem chipZ_chipN {c : Chip} (h1 : 0 ≤ c.1) (h2 : 0 ≤ c.2) : chipZ (chipN c) = c := by
  rw [chipZ, chipN, Int.toNat_of_nonneg h1, Int.toNat_of_nonneg h2]

theorem chipZ_inj {a b : Rig.C10.ChipXY} (h : chipZ a = chipZ b) : a = b := by
  have hN : ∀ c : Rig.C10.ChipXY, chipN (chipZ c) = c := fun c => by simp [chipN, chipZ]
  rw [← hN a, h, hN]

theorem contains_map_chipZ (l : List Rig.C10.ChipXY) (c : Rig.C10.ChipXY) :
    (l.map chipZ).contains (chipZ c) = l.contains c := by
  rw [Bool.eq_iff_iff, List.contains_iff_mem, List.contains_iff_mem, List.mem_map_of_injective fun _ _ => chipZ_inj]

/-- the right-hand side is, by `rfl`, `Rig.C02.Machine.ok` and `Rig.C14.PMachine.chipOk` -/
theorem chipOk_chipZ (w h : Nat) (dead : List Rig.C10.ChipXY) (dl : List (Chip × Nat)) (c : Rig.C10.ChipXY) :
    chipOk { w := w, h := h, deadChips := dead.map chipZ, deadLinks := dl } (chipZ c) =
      (decide (c.1 < w) && decide (c.2 < h) && !dead.contains c) := by
  simp only [chipOk, contains_map_chipZ]
  simp [chipZ]

theorem occs_leafKids (lv : List (Option Nat × Nat)) (K : Rig.C10.Kids) : (leafKids lv K).occs = K.occs := by
  induction lv with
  | nil => rfl
  | cons p rest ih => exact ih

theorem outDirs_leafKids (lv : List (Option Nat × Nat)) (K : Rig.C10.Kids) :
    Rig.C10.outDirs (leafKids lv K) = lv.filterMap (·.1) ++ Rig.C10.outDirs K := by
  induction lv with
  | nil => rfl
  | cons p rest ih => obtain ⟨_ | x, v⟩ := p <;> simp [leafKids, Rig.C10.outDirs, ih]

theorem outDirs_toC10L (s : List (Nat × Tree)) : Rig.C10.outDirs (toC10L s) = s.map (·.1) := by
  induction s with
  | nil => rfl
  | cons p r ih => rw [toC10L, Rig.C10.outDirs, ih, List.map_cons]

theorem occs_toC10L (s : List (Nat × Tree)) :
    (toC10L s).occs = s.flatMap fun p => (toC10 p.2).occs (some p.1) := by
  induction s with
  | nil => rfl
  | cons p r ih => rw [toC10L, Rig.C10.Kids.occs, ih, List.flatMap_cons]

theorem occs_node (c : Chip) (subs : List (Nat × Tree)) (lv : List (Option Nat × Nat)) (d : Option Nat) :
    (toC10 (.node c subs lv)).occs d =
      { dir := d, chip := chipN c, outs := Rig.C10.outDirs (leafKids lv (toC10L subs)) } ::
        subs.flatMap fun p => (toC10 p.2).occs (some p.1) := by
  rw [toC10, Rig.C10.Tree.occs, occs_leafKids, occs_toC10L]

theorem occs_chips (t : Tree) : ∀ d : Option Nat, ((toC10 t).occs d).map (·.chip) = t.chips.map chipN := by
  induction t using tree_ind with
  | h c subs lv ih =>
    intro d
    rw [occs_node, Tree.chips, chipsL_eq, List.map_cons, List.map_cons, List.map_flatMap, List.map_flatMap]
    exact congrArg _ (List.flatMap_congr fun sub hs => ih sub hs _)

theorem occs_unique (t : Tree) (d : Option Nat) (hn : t.chips.Nodup) (hpos : ∀ x ∈ t.chips, 0 ≤ x.1 ∧ 0 ≤ x.2)
    {v w : Rig.C10.Visit} (hv : v ∈ (toC10 t).occs d) (hw : w ∈ (toC10 t).occs d) (h : v.chip = w.chip) : v = w := by
  refine List.inj_on_of_nodup_map (f := (·.chip)) ?_ hv hw h
  rw [occs_chips]
  exact hn.map_on fun a ha b hb hab => by
    rw [← chipZ_chipN (hpos a ha).1 (hpos a ha).2, hab, chipZ_chipN (hpos b hb).1 (hpos b hb).2]

theorem wf_leafKids (lv : List (Option Nat × Nat)) (K : Rig.C10.Kids) : (leafKids lv K).WF ↔ K.WF := by
  induction lv with
  | nil => rfl
  | cons p rest ih => exact ih

theorem wf_toC10L (s : List (Nat × Tree)) : (toC10L s).WF ↔ ∀ sub ∈ s, sub.1 < 6 ∧ (toC10 sub.2).WF := by
  induction s with
  | nil => simp [toC10L, Rig.C10.Kids.WF]
  | cons p r ih =>
    rw [toC10L, Rig.C10.Kids.WF, ih, List.forall_mem_cons, and_assoc]
    exact and_congr_left' ⟨fun ⟨l, hl, h6⟩ => Option.some.inj hl ▸ h6, fun h => ⟨_, rfl, h⟩⟩

theorem toC10_wf (t : Tree) : (∀ e ∈ t.edges, e.2.1 < 6) → (toC10 t).WF := by
  induction t using tree_ind with
  | h c subs lv ih =>
    intro he
    rw [toC10, Rig.C10.Tree.WF, wf_leafKids, wf_toC10L]
    exact fun sub hs => ⟨he _ (edges_sub hs).1, ih sub hs fun e hee => he e ((edges_sub hs).2 e hee)⟩

section valid
variable {m : Machine} {src : Chip} {sinks : List Sink} {t : Tree}

theorem valid_hops (hv : ValidTree m src sinks t) : ∀ e ∈ t.edges, HopOk m e :=
  fun ⟨c, l, c'⟩ he => hv.hops c l c' he

theorem valid_chips_ok (hv : ValidTree m src sinks t) (hs : chipOk m src = true) :
    ∀ x ∈ t.chips, chipOk m x = true := fun x hx => by
  cases Rig.C03.L.reach_of_mem m t (valid_hops hv) x hx with
  | refl => exact hv.rooted ▸ hs
  | hop _ _ _ _ hc => exact hc

theorem valid_chips_nonneg (hv : ValidTree m src sinks t) (hs : chipOk m src = true) :
    ∀ x ∈ t.chips, 0 ≤ x.1 ∧ 0 ≤ x.2 := fun x hx =>
  have := Rig.C03.L.chipOk_inRange (valid_chips_ok hv hs x hx)
  ⟨this.1, this.2.2.1⟩

end valid

theorem nets_wf {m : Machine} {nets : List PNet} (htree : ∀ n ∈ nets, ValidTree m n.src n.sinks n.tree) :
    ∀ x ∈ nets.map PNet.net10, x.tree.WF := by
  intro x hx
  obtain ⟨n, hn, rfl⟩ := List.mem_map.1 hx
  exact toC10_wf _ fun e he => (valid_hops (htree n hn) e he).1

theorem tableAt_eq {T : Tables} {c : Chip} {X : List Entry} (hall : ∀ q ∈ T, q.1 = c → q.2 = X)
    (hne : X = [] ∨ ∃ q ∈ T, q.1 = c) : tableAt T c = X := by
  unfold tableAt
  cases hf : T.find? (fun p => p.1 == c) with
  | some q => exact hall q (List.mem_of_find?_eq_some hf) (by simpa using List.find?_some hf)
  | none =>
    rcases hne with rfl | ⟨q, hq, hc⟩
    · rfl
    · simpa [hc] using List.find?_eq_none.1 hf q hq

theorem tableAt_of_mem {T : Tables} (hn : (T.map (·.1)).Nodup) {ct : Chip × List Entry} (h : ct ∈ T) :
    tableAt T ct.1 = ct.2 :=
  tableAt_eq (fun _ hq hc => congrArg Prod.snd (List.inj_on_of_nodup_map hn hq h hc)) (Or.inr ⟨ct, h, rfl⟩)

theorem tableAt_of_not_mem {T : Tables} {c : Chip} (h : c ∉ T.map (·.1)) : tableAt T c = [] :=
  tableAt_eq (fun q hq hc => absurd (List.mem_map.2 ⟨q, hq, hc⟩) h) (Or.inl rfl)

theorem tables04_nodup {T10 : Rig.C10.Tables} (hn : (T10.map (·.1)).Nodup) : ((tables04 T10).map (·.1)).Nodup := by
  have : (tables04 T10).map (·.1) = (T10.map (·.1)).map chipZ := by
    simp [tables04, List.map_map, Function.comp_def]
  exact this ▸ hn.map fun _ _ h => chipZ_inj h

theorem srcBits_testBit (l : List (Option Nat)) (i : Nat) : (srcBits l).testBit i = true ↔ i ∈ l.map srcBit := by
  have : srcBits l = Rig.C10.routeWord (l.map srcBit) := by
    simp only [srcBits, Rig.C10.routeWord, List.foldl_map]
  rw [this, Rig.C10.routeWord_testBit]

theorem entry04_matches (e : Rig.C10.Entry) (k : W) :
    (entry04 e).matches k = true ↔ k &&& BitVec.ofNat 32 e.mask = BitVec.ofNat 32 e.key := by
  simp [Rig.C04.Entry.matches, entry04]

theorem net_unique {nets : List PNet}
    (hk : nets.Pairwise (fun a b => Rig.C04.intersect a.key a.mask b.key b.mask = false))
    {a b : PNet} (ha : a ∈ nets) (hb : b ∈ nets) (hi : Rig.C04.intersect a.key a.mask b.key b.mask = true) : a = b := by
  have : Std.Symm (fun a b : PNet => Rig.C04.intersect a.key a.mask b.key b.mask = false) := ⟨by
    intro x y h
    simp only [Rig.C04.intersect, beq_eq_false_iff_ne, ne_eq] at h ⊢
    exact fun h' => h h'.symm⟩
  exact Classical.byContradiction fun hne => Bool.false_ne_true ((hk.forall ha hb hne).symm.trans hi)

theorem mem_allOccs {nets : List PNet} {o : Rig.C10.Occ} :
    o ∈ Rig.C10.allOccs (nets.map PNet.net10) ↔
      ∃ n ∈ nets, ∃ v ∈ (toC10 n.tree).occs none, o = { key := n.key.toNat, mask := n.mask.toNat, v := v } := by
  simp only [Rig.C10.allOccs, Rig.C10.Net.occs, PNet.net10, List.flatMap_map, List.mem_flatMap, List.mem_map, eq_comm]

/-- what the tables do with key `k` at an occurrence (tree node seen by C10) -/
def OccOk (T : Chip → List Entry) (k : W) (v : Rig.C10.Visit) : Prop :=
  ∃ e, Rig.C04.lookup (T (chipZ v.chip)) k = some e ∧ (∀ b, e.route.testBit b = true ↔ b ∈ v.outs) ∧
    e.sources.testBit (srcBit (Rig.C10.srcOf v.dir)) = true

/-- what makes first-match lookup in C10's exact tables find the entry of the tree node the packet is at -/
def Separated (os : List Rig.C10.Occ) : Prop :=
  ∀ a ∈ os, ∀ b ∈ os, a.v.chip = b.v.chip →
    Rig.C04.intersect (BitVec.ofNat 32 a.key) (BitVec.ofNat 32 a.mask) (BitVec.ofNat 32 b.key)
      (BitVec.ofNat 32 b.mask) = true → a = b

theorem separated_allOccs {nets : List PNet}
    (hkeys : nets.Pairwise (fun a b => Rig.C04.intersect a.key a.mask b.key b.mask = false))
    (hnd : ∀ n ∈ nets, n.tree.chips.Nodup) (hpos : ∀ n ∈ nets, ∀ x ∈ n.tree.chips, 0 ≤ x.1 ∧ 0 ≤ x.2) :
    Separated (Rig.C10.allOccs (nets.map PNet.net10)) := by
  intro a ha b hb hc hi
  obtain ⟨n1, hn1, v1, hv1, rfl⟩ := mem_allOccs.1 ha
  obtain ⟨n2, hn2, v2, hv2, rfl⟩ := mem_allOccs.1 hb
  simp only [BitVec.ofNat_toNat, BitVec.setWidth_eq] at hi
  cases net_unique hkeys hn1 hn2 hi
  rw [occs_unique n1.tree none (hnd n1 hn1) (hpos n1 hn1) hv1 hv2 hc]

theorem intersect_self (k m : W) : Rig.C04.intersect k m k m = true := by simp [Rig.C04.intersect]

theorem treeTables_ok {nets : List Rig.C10.Net} (hwf : ∀ n ∈ nets, n.tree.WF)
    (hsep : Separated (Rig.C10.allOccs nets)) : ∃ T10, Rig.C10.treeTables nets = .ok T10 := by
  cases h : Rig.C10.treeTables nets with
  | ok T => exact ⟨T, rfl⟩
  | error e =>
    obtain ⟨k, mk, c, _, a, ha, b, hb, hata, hatb, hne⟩ := Rig.C10.tables_total _ hwf e h
    cases hsep a ha b hb (hata.1.trans hatb.1.symm)
      (by rw [hata.2.1, hata.2.2, hatb.2.1, hatb.2.2]; exact intersect_self _ _)
    rw [Rig.C10.sameSet_refl] at hne
    cases hne

section exact
variable {os : List Rig.C10.Occ} {T10 : Rig.C10.Tables} (hex : Rig.C10.TablesExact os T10) (hsep : Separated os)
include hex hsep

theorem orthogonal04 {ct : Rig.C10.ChipXY × List Rig.C10.Entry} (hct : ct ∈ T10) :
    Rig.C04.Orthogonal (ct.2.map entry04) := by
  obtain ⟨hkm, _, hexact, _⟩ := hex.2.2 ct hct
  rw [Rig.C04.Orthogonal, List.pairwise_map]
  refine (List.pairwise_map.1 hkm).imp_of_mem fun {a b} ha hb hne k ⟨hma, hmb⟩ => hne ?_
  obtain ⟨⟨oa, hoa, hata⟩, _⟩ := hexact a ha
  obtain ⟨⟨ob, hob, hatb⟩, _⟩ := hexact b hb
  cases hsep oa hoa ob hob (hata.1.trans hatb.1.symm) (Rig.C04.intersect_of_matches (k := k)
    (by rw [hata.2.1, hata.2.2]; exact (entry04_matches a k).1 hma)
    (by rw [hatb.2.1, hatb.2.2]; exact (entry04_matches b k).1 hmb))
  exact Prod.ext (hata.2.1.symm.trans hatb.2.1) (hata.2.2.symm.trans hatb.2.2)

theorem occOk_of_exact {o : Rig.C10.Occ} (ho : o ∈ os) {k : W}
    (hk : k &&& BitVec.ofNat 32 o.mask = BitVec.ofNat 32 o.key) : OccOk (tableAt (tables04 T10)) k o.v := by
  obtain ⟨ct, hct, hc⟩ := hex.2.1 o ho
  obtain ⟨_, _, hexact, hall⟩ := hex.2.2 ct hct
  obtain ⟨e, he, hek, hem⟩ := hall o ho hc.symm
  have hat : o.at ct.1 e.key e.mask := ⟨hc.symm, hek.symm, hem.symm⟩
  refine ⟨entry04 e, ?_, fun b => ?_, ?_⟩
  · rw [← hc, tableAt_of_mem (tables04_nodup hex.1) (ct := (chipZ ct.1, ct.2.map entry04))
      (List.mem_map.2 ⟨ct, hct, rfl⟩)]
    exact Rig.C04.orthogonal_lookup_mem (orthogonal04 hex hsep hct) (List.mem_map_of_mem he)
      ((entry04_matches e k).2 (by rw [hek, hem]; exact hk))
  · rw [entry04, Rig.C10.routeWord_testBit, (hexact e he).route_iff]
    refine ⟨fun ⟨o', ho', hat', hbo⟩ => ?_, fun hb => ⟨o, ho, hat, hb⟩⟩
    -- the nodes this entry stands for are `o` alone
    cases hsep o' ho' o ho (hat'.1.trans hc) (by rw [hat'.2.1, hat'.2.2, hek, hem]; exact intersect_self _ _)
    exact hbo
  · rw [entry04, srcBits_testBit]
    exact List.mem_map_of_mem (((hexact e he).sources_iff _).2 ⟨o, ho, hat, rfl⟩)

/-- orthogonal, every entry listing a source: the domain of C04's `minimiseTable_equiv` -/
theorem tables04_good : ((tables04 T10).map (·.1)).Nodup ∧
    ∀ ct ∈ tables04 T10, Rig.C04.Good ct.2 ∧ ∀ e ∈ ct.2, e.sources ≠ 0 := by
  refine ⟨tables04_nodup hex.1, fun ct hct => ?_⟩
  obtain ⟨c10, hc10, rfl⟩ := List.mem_map.1 hct
  refine ⟨Or.inl (orthogonal04 hex hsep hc10), fun e he h0 => ?_⟩
  obtain ⟨e10, he10, rfl⟩ := List.mem_map.1 he
  obtain ⟨⟨o, ho, hat⟩, _, _, _, hsrc⟩ := (hex.2.2 c10 hc10).2.2.1 e10 he10
  have h2 := (srcBits_testBit _ _).2 (List.mem_map_of_mem (f := srcBit) (hsrc o ho hat))
  rw [show srcBits e10.sources = 0 from h0] at h2
  simp at h2

end exact

theorem agrees_of_valid {m : Machine} {dev T k} (t : Tree) : ∀ (path : List Chip) (d : Option Nat),
    t.chips.Nodup → (∀ x ∈ t.chips, x ∉ path ∧ 0 ≤ x.1 ∧ 0 ≤ x.2) →
    (∀ e ∈ t.edges, HopOk m e ∧ (e.1, e.2.1) ∉ dev) →
    (∀ lf ∈ t.leafList, ∀ r, lf.2.1 = some r → r < 24 ∧ (r < 6 → (lf.1, r) ∈ dev)) →
    (∀ v ∈ (toC10 t).occs d, OccOk T k v) →
    Agrees m dev T k path t ∧ SrcListed T k (Rig.C10.srcOf d) t := by
  induction t using tree_ind with
  | h c subs lv ih =>
    intro path d hn hx he hl hocc
    rw [occs_node] at hocc
    rw [Tree.chips, List.nodup_cons] at hn
    have hxc := hx c (List.mem_cons_self ..)
    obtain ⟨e, hlk, hroute, hsrc⟩ := hocc _ (List.mem_cons_self ..)
    simp only [chipZ_chipN hxc.2.1 hxc.2.2] at hlk
    have hsubs : ∀ sub ∈ subs,
        (sub.1 < 6 ∧ linkOk m c sub.1 = true ∧ chipOk m sub.2.chip = true ∧ sub.2.chip = step m c sub.1 ∧
          (c, sub.1) ∉ dev ∧ Agrees m dev T k (c :: path) sub.2) ∧ SrcListed T k (some (opp sub.1)) sub.2 := by
      intro sub hs
      have hes := edges_sub (c := c) hs
      obtain ⟨⟨h6, hlko, hcko, hst⟩, hnd⟩ := he _ hes.1
      have := ih sub hs (c :: path) (some sub.1) (hn.2.sublist (chips_sub_sublist hs))
        (fun x hxs => by
          have hxs' := (chips_sub_sublist hs).subset hxs
          have := hx x (List.mem_cons_of_mem _ hxs')
          exact ⟨fun h => (List.mem_cons.1 h).elim (fun h => hn.1 (h ▸ hxs')) this.1, this.2⟩)
        (fun e' he' => he e' (hes.2 e' he'))
        (fun lf hlf => hl lf (List.mem_append_right _ (leafL_eq subs ▸ List.mem_flatMap.2 ⟨sub, hs, hlf⟩)))
        (fun v hv => hocc v (List.mem_cons_of_mem _ (List.mem_flatMap.2 ⟨sub, hs, hv⟩)))
      exact ⟨⟨h6, hlko, hcko, hst, hnd, this.1⟩, opp_eq h6 ▸ this.2⟩
    constructor
    · refine agrees_node.2 ⟨hxc.1, e, hlk, fun b _ => (hroute b).trans (by
        rw [outDirs_leafKids, outDirs_toC10L, nodeOuts, List.mem_append, List.mem_append, or_comm]), fun r hr => ?_,
        fun sub hs => (hsubs sub hs).1⟩
      obtain ⟨p, hp, hpr⟩ := List.mem_filterMap.1 hr
      exact hl (c, p.1, p.2) (List.mem_append_left _ (List.mem_map.2 ⟨p, hp, rfl⟩)) r hpr
    · rw [SrcListed]
      exact ⟨fun e' he' => Option.some.inj (hlk.symm.trans he') ▸ hsrc, srcListedL_iff.2 fun sub hs => (hsubs sub hs).2⟩

theorem mem_expectedLeaves {sinks : List Sink} {lf : Rig.C03.Leaf} :
    lf ∈ Rig.C03.expectedLeaves sinks ↔ ∃ s ∈ sinks, ∃ r ∈ s.routes, (s.chip, r, s.v) = lf := by
  simp only [Rig.C03.expectedLeaves, Sink.leaves, List.mem_flatMap, List.mem_map]

theorem mem_sink_routes (s : Sink) (r : Nat) :
    some r ∈ s.routes ↔ (s.kind = 2 ∧ r = s.a) ∨ (s.kind = 1 ∧ ∃ i, i < s.b - s.a ∧ r = 6 + (s.a + i)) := by
  unfold Sink.routes
  by_cases h2 : s.kind = 2
  · simp [h2, eq_comm]
  · by_cases h1 : s.kind = 1
    · simp [h1, Rig.Gen.C03Links.coreRouteBase, eq_comm]
    · simp [h1, h2]

/-- the hypotheses are the stage conclusions (those of `pipeline_delivery` before minimisation) -/
theorem agrees_of_stages {m : Machine} {dev : List (Chip × Nat)} {nets : List PNet} {T10 : Rig.C10.Tables}
    (hplace : ∀ n ∈ nets, chipOk m n.src = true)
    (halloc : ∀ n ∈ nets, ∀ s ∈ n.sinks, (s.kind = 1 → s.b ≤ 18) ∧ (s.kind = 2 → s.a < 6 ∧ (s.chip, s.a) ∈ dev))
    (hdev : ∀ d ∈ dev, linkOk m d.1 d.2 = false)
    (htree : ∀ n ∈ nets, ValidTree m n.src n.sinks n.tree)
    (hkeys : nets.Pairwise (fun a b => Rig.C04.intersect a.key a.mask b.key b.mask = false))
    (htab : Rig.C10.treeTables (nets.map PNet.net10) = .ok T10)
    {n : PNet} (hn : n ∈ nets) {k : W} (hk : k &&& n.mask = n.key) :
    Agrees m dev (tableAt (tables04 T10)) k [] n.tree ∧ SrcListed (tableAt (tables04 T10)) k none n.tree := by
  have hv := htree n hn
  have hpos := fun n' hn' => valid_chips_nonneg (htree n' hn') (hplace n' hn')
  refine agrees_of_valid n.tree [] none hv.distinct (fun x hx => ⟨List.not_mem_nil, hpos n hn x hx⟩)
    (fun e he => ⟨valid_hops hv e he, fun hd => ?_⟩) (fun lf hlf r hr => ?_)
    (fun v hv' => occOk_of_exact (Rig.C10.tables_exact _ (nets_wf htree) T10 htab).1
      (separated_allOccs hkeys (fun n' hn' => (htree n' hn').distinct) hpos)
      (mem_allOccs.2 ⟨n, hn, v, hv', rfl⟩) (by simp only [BitVec.ofNat_toNat, BitVec.setWidth_eq]; exact hk))
  · -- a device link is not a working link, a hop is
    exact Bool.false_ne_true ((hdev _ hd).symm.trans (valid_hops hv e he).2.1)
  · obtain ⟨s, hs, r', hr', rfl⟩ := mem_expectedLeaves.1 (hv.leaves_sound lf hlf)
    cases hr
    have ha := halloc n hn s hs
    rcases (mem_sink_routes s r).1 hr' with ⟨h2, rfl⟩ | ⟨h1, i, hi, rfl⟩
    · exact ⟨Nat.lt_trans (ha.2 h2).1 (by decide), fun _ => (ha.2 h2).2⟩
    · exact ⟨Nat.add_lt_add_left (Nat.lt_of_lt_of_le (Nat.add_lt_of_lt_sub' hi) (ha.1 h1)) 6,
        fun h => absurd h (Nat.not_lt.2 (Nat.le_add_right 6 _))⟩

theorem mem_sinkCores {sinks : List Sink} {x : Chip × Nat} :
    x ∈ sinkCores sinks ↔ ∃ s ∈ sinks, s.kind = 1 ∧ ∃ i, i < s.b - s.a ∧ (s.chip, s.a + i) = x := by
  simp only [sinkCores, List.mem_flatMap]
  refine exists_congr fun s => and_congr_right fun _ => ?_
  by_cases h1 : s.kind = 1 <;> simp [h1]

theorem mem_sinkExits {sinks : List Sink} {x : Chip × Nat} :
    x ∈ sinkExits sinks ↔ ∃ s ∈ sinks, s.kind = 2 ∧ x = (s.chip, s.a) := by
  simp only [sinkExits, List.mem_filterMap]
  refine exists_congr fun s => and_congr_right fun _ => ?_
  by_cases h2 : s.kind = 2 <;> simp [h2, eq_comm]

theorem delivered_of_leaves {m : Machine} {src : Chip} {sinks : List Sink} {t : Tree}
    (hv : ValidTree m src sinks t) (hk2 : ∀ s ∈ sinks, s.kind = 2 → s.a < 6)
    {evs : List Ev} (hn : evs.Nodup) (hm : ∀ ev, ev ∈ evs ↔ ev ∈ treeEvs t) :
    Delivered evs (sinkCores sinks) (sinkExits sinks) := by
  refine ⟨hn, fun ev => ?_⟩
  rw [hm, treeEvs_leafList]
  simp only [mem_sinkCores, mem_sinkExits]
  constructor
  · rintro ⟨lf, hlf, r, hr, rfl⟩
    obtain ⟨s, hs, r', hr', rfl⟩ := mem_expectedLeaves.1 (hv.leaves_sound lf hlf)
    cases hr
    rcases (mem_sink_routes s r).1 hr' with ⟨h2, rfl⟩ | ⟨h1, i, hi, rfl⟩
    · exact Or.inr ⟨_, ⟨s, hs, h2, rfl⟩, leafEv_exit _ (hk2 s hs h2)⟩
    · exact Or.inl ⟨_, ⟨s, hs, h1, i, hi, rfl⟩, leafEv_core _ _⟩
  · rintro (⟨_, ⟨s, hs, h1, i, hi, rfl⟩, rfl⟩ | ⟨_, ⟨s, hs, h2, rfl⟩, rfl⟩)
    · exact ⟨_, hv.leaves_complete _ (mem_expectedLeaves.2
        ⟨s, hs, _, (mem_sink_routes s _).2 (Or.inr ⟨h1, i, hi, rfl⟩), rfl⟩), _, rfl, (leafEv_core _ _).symm⟩
    · exact ⟨_, hv.leaves_complete _ (mem_expectedLeaves.2
        ⟨s, hs, _, (mem_sink_routes s _).2 (Or.inl ⟨h2, rfl⟩), rfl⟩), _, rfl, (leafEv_exit _ (hk2 s hs h2)).symm⟩

end Rig.C01.L
