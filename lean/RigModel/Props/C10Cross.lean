/-
C10 - C10's routing table entries (keys/masks as naturals, route and sources as lists) against
C04's (`BitVec 32` key/mask, route and sources as bit sets; bit 24 of `sources` = `None`).  The
conversions preserve `matches` and first-match `lookup`, so tables produced by `treeTables` can be
fed to C04's theorems (`RouteEquiv`, minimisation).
-/
import RigModel.Model.C04
import RigModel.Model.C10
import RigModel.Props.C10

namespace Rig.C10
open Rig.Gen.Router

/-- sources as the tree conversion produces them: `None` or one of the 24 routes -/
def SrcOk (s : Option Nat) : Prop := ∀ l, s = some l → l < 24

theorem ofNat32_beq (a b : Nat) (ha : a < 2 ^ 32) (hb : b < 2 ^ 32) :
    (BitVec.ofNat 32 a == BitVec.ofNat 32 b) = (a == b) := by
  rw [Bool.eq_iff_iff, beq_iff_eq, beq_iff_eq]
  refine ⟨fun h => ?_, fun h => by rw [h]⟩
  have := congrArg BitVec.toNat h
  rwa [BitVec.toNat_ofNat, BitVec.toNat_ofNat, Nat.mod_eq_of_lt ha, Nat.mod_eq_of_lt hb] at this

/-- `matches` is preserved; the packet key is truncated to 32 bits -/
theorem toC04_matches (e : Entry) (k : Nat) (hk : e.key < 4294967296) (hm : e.mask < 4294967296) :
    (toC04 e).matches (BitVec.ofNat 32 k) = e.matches k := by
  simp only [Rig.C04.Entry.matches, Entry.matches, toC04, ← BitVec.ofNat_and]
  exact ofNat32_beq _ _ (Nat.and_lt_two_pow k hm) hk

set_option linter.unusedVariables false in
/-- First-match lookup is preserved: for a table of entries with 32-bit keys and masks and every
32-bit packet key, C04's `lookup` on the converted table finds the conversion of what C10's `lookup`
finds (`none` iff `none`). -/
theorem toC04_lookup (T : List Entry) (k : Nat) (hT : ∀ e ∈ T, e.key < 4294967296 ∧ e.mask < 4294967296)
    (hk : k < 4294967296) :
    Rig.C04.lookup (T.map toC04) (BitVec.ofNat 32 k) = (lookup T k).map toC04 := by
  induction T with
  | nil => rfl
  | cons e T ih =>
    have he := hT e List.mem_cons_self
    have ih' := ih fun e' h' => hT e' (List.mem_cons_of_mem _ h')
    simp only [Rig.C04.lookup, lookup, List.map_cons, List.find?_cons] at ih' ⊢
    rw [toC04_matches e k he.1 he.2]
    cases e.matches k with
    | true => rfl
    | false => exact ih'

theorem ofC04_matches (e : Rig.C04.Entry) (k : Rig.C04.W) : (ofC04 e).matches k.toNat = e.matches k := by
  simp only [Rig.C04.Entry.matches, Entry.matches, ofC04, ← BitVec.toNat_and]
  rw [Bool.eq_iff_iff]
  simp only [beq_iff_eq]
  exact ⟨fun h => BitVec.eq_of_toNat_eq h, fun h => by rw [h]⟩

theorem ofC04_lookup (T : List Rig.C04.Entry) (k : Rig.C04.W) :
    lookup (T.map ofC04) k.toNat = (Rig.C04.lookup T k).map ofC04 := by
  rw [lookup, List.find?_map,
    show (fun e : Entry => e.matches k.toNat) ∘ ofC04 = _ from funext fun e => ofC04_matches e k]
  rfl

theorem toC04_route_bits (e : Entry) (b : Nat) : (toC04 e).route.testBit b = true ↔ b ∈ e.route :=
  routeWord_testBit e.route b

theorem srcBit_srcOfBit (b : Nat) : srcBit (srcOfBit b) = b := by
  unfold srcOfBit
  split
  · next h => simp [srcBit, h]
  · rfl

theorem srcOfBit_srcBit {s : Option Nat} (h : SrcOk s) : srcOfBit (srcBit s) = s := by
  cases s with
  | none => rfl
  | some l => exact if_neg (Nat.ne_of_lt (h l rfl))

theorem srcWord_testBit (ss : List (Option Nat)) (hs : ∀ s ∈ ss, SrcOk s) (b : Nat) :
    (srcWord ss).testBit b = true ↔ srcOfBit b ∈ ss := by
  rw [srcWord, routeWord_testBit, List.mem_map]
  constructor
  · rintro ⟨s, hs', rfl⟩
    rwa [srcOfBit_srcBit (hs s hs')]
  · exact fun h => ⟨_, h, srcBit_srcOfBit b⟩

/-- the converted sources word: bit 24 is set iff `None` is a source, bit `l ≠ 24` iff link/route
`l` is -/
theorem toC04_sources_bits (e : Entry) (hs : ∀ s ∈ e.sources, SrcOk s) :
    ((toC04 e).sources.testBit 24 = true ↔ none ∈ e.sources) ∧
    (∀ l, l ≠ 24 → ((toC04 e).sources.testBit l = true ↔ some l ∈ e.sources)) :=
  ⟨(srcWord_testBit e.sources hs 24).trans (by rw [srcOfBit, if_pos rfl]),
    fun l hl => (srcWord_testBit e.sources hs l).trans (by rw [srcOfBit, if_neg hl])⟩

theorem routeWord_bitsOf (w n : Nat) (h : w < 2 ^ n) : routeWord (bitsOf w n) = w := by
  apply Nat.eq_of_testBit_eq
  intro i
  rw [Bool.eq_iff_iff, routeWord_testBit, mem_bitsOf]
  exact ⟨fun h' => h'.2, fun hi => ⟨(Nat.pow_lt_pow_iff_right (by decide)).1
    (Nat.lt_of_le_of_lt (Nat.ge_two_pow_of_testBit hi) h), hi⟩⟩

/-- **Round trip on the C04 side**: a C04 entry with a 24-bit route word and 25-bit sources word is
recovered exactly -/
theorem toC04_ofC04 (e : Rig.C04.Entry) (hr : e.route < 2 ^ 24) (hs : e.sources < 2 ^ 25) :
    toC04 (ofC04 e) = e := by
  have h1 : routeWord (bitsOf e.route 24) = e.route := routeWord_bitsOf _ _ hr
  have h2 : srcWord ((bitsOf e.sources 25).map srcOfBit) = e.sources := by
    unfold srcWord
    rw [List.map_map]
    have : (srcBit ∘ srcOfBit) = id := by funext b; exact srcBit_srcOfBit b
    rw [this, List.map_id]
    exact routeWord_bitsOf _ _ hs
  cases e
  simp only [toC04, ofC04, BitVec.ofNat_toNat, BitVec.setWidth_eq] at h1 h2 ⊢
  simp only [h1, h2]

/-- **Round trip on the C10 side**: same key and mask, same route set, same source set (lists are
compared as sets, which is all either model observes) -/
theorem ofC04_toC04 (e : Entry) (hk : e.key < 4294967296) (hm : e.mask < 4294967296)
    (hr : ∀ r ∈ e.route, r < 24) (hs : ∀ s ∈ e.sources, SrcOk s) :
    (ofC04 (toC04 e)).key = e.key ∧ (ofC04 (toC04 e)).mask = e.mask ∧
    (∀ r, r ∈ (ofC04 (toC04 e)).route ↔ r ∈ e.route) ∧
    (∀ s, s ∈ (ofC04 (toC04 e)).sources ↔ s ∈ e.sources) := by
  refine ⟨?_, ?_, ?_, ?_⟩
  · exact (BitVec.toNat_ofNat _ _).trans (Nat.mod_eq_of_lt hk)
  · exact (BitVec.toNat_ofNat _ _).trans (Nat.mod_eq_of_lt hm)
  · intro r
    simp only [ofC04, toC04, mem_bitsOf, routeWord_testBit]
    exact ⟨fun h => h.2, fun h => ⟨hr r h, h⟩⟩
  · intro s
    simp only [ofC04, List.mem_map, mem_bitsOf]
    constructor
    · rintro ⟨b, ⟨_, hbit⟩, rfl⟩
      exact (srcWord_testBit _ hs b).1 hbit
    · intro hmem
      have hinv := srcOfBit_srcBit (hs s hmem)
      refine ⟨srcBit s, ⟨?_, (srcWord_testBit _ hs _).2 (hinv.symm ▸ hmem)⟩, hinv⟩
      cases s with
      | none => decide
      | some l => exact Nat.lt_succ_of_lt (hs _ hmem l rfl)

theorem srcOk_srcOf (d : Option Nat) : SrcOk (srcOf d) := by
  rintro l hl
  cases d with
  | none => cases hl
  | some r => cases hl; exact Nat.lt_trans (Nat.mod_lt _ (by decide)) (by decide)

theorem EntryExact.srcOk {os : List Occ} {c : ChipXY} {e : Entry} (h : EntryExact os c e) :
    ∀ s ∈ e.sources, SrcOk s := fun s hs => by
  obtain ⟨o, _, _, rfl⟩ := (h.sources_iff s).1 hs
  exact srcOk_srcOf _

/-- **What C04's lookup finds in a table computed from trees.**  For well-formed trees in the
documented range whose conversion returns `T`, any chip `ct` of `T` and any 32-bit packet key `k`: if
C04's first-match `lookup` on the converted table finds `e4`, then `e4` is the conversion of an entry
`e` of that chip that matches `k`, is the first such in table order, and its route word has exactly
the bits of the directions by which the tree nodes on that chip under `(e.key, e.mask)` leave it and
bits 0-5 and 24 of its sources word are exactly the links they arrive by (bit 24 for roots). -/
theorem treeTables_c04_lookup (nets : List Net) (hwf : ∀ n ∈ nets, n.tree.WF)
    (hdom : ∀ o ∈ allOccs nets, o.key < 4294967296 ∧ o.mask < 4294967296 ∧ ∀ r ∈ o.v.outs, r < 24)
    (T : Tables) (hT : treeTables nets = .ok T) (ct : ChipXY × List Entry) (hct : ct ∈ T)
    (k : Nat) (hk : k < 4294967296) (e4 : Rig.C04.Entry)
    (h : Rig.C04.lookup (ct.2.map toC04) (BitVec.ofNat 32 k) = some e4) :
    ∃ e, lookup ct.2 k = some e ∧ e ∈ ct.2 ∧ e4 = toC04 e ∧ e.matches k = true ∧
      (∀ b, e4.route.testBit b = true ↔ ∃ o ∈ allOccs nets, o.at ct.1 e.key e.mask ∧ b ∈ o.v.outs) ∧
      (e4.sources.testBit 24 = true ↔ ∃ o ∈ allOccs nets, o.at ct.1 e.key e.mask ∧ o.v.dir = none) ∧
      (∀ l, l < 6 → (e4.sources.testBit l = true ↔
          ∃ o ∈ allOccs nets, o.at ct.1 e.key e.mask ∧ srcOf o.v.dir = some l)) := by
  have hex := (tables_exact nets hwf T hT).1
  rw [toC04_lookup ct.2 k (fun e he => (tables_inRange _ T hex hdom ct hct e he).2) hk] at h
  cases hl : lookup ct.2 k with
  | none => rw [hl] at h; cases h
  | some e =>
    rw [hl] at h
    cases h
    have hmem : e ∈ ct.2 := List.mem_of_find?_eq_some hl
    have hfound := List.find?_some hl
    have hE := hex.entry hct hmem
    have hb := toC04_sources_bits e hE.srcOk
    refine ⟨e, rfl, hmem, rfl, hfound, fun b => (toC04_route_bits e b).trans (hE.route_iff b),
      hb.1.trans ((hE.sources_iff none).trans ?_), fun l hl6 =>
        (hb.2 l (Nat.ne_of_lt (Nat.lt_trans hl6 (by decide)))).trans (hE.sources_iff _)⟩
    simp only [srcOf, Option.map_eq_none_iff]

theorem findSome_block (f : Nat → Option Ent) (k app : Nat) (entries : List Entry) : ∀ b : Nat,
    (∀ i, i < entries.length → f (b + i) =
      if (entries.getD i dfltEntry).matches k then some (entOf app (entries.getD i dfltEntry)) else none) →
    (List.range' b entries.length).findSome? f = (lookup entries k).map (entOf app) := by
  induction entries with
  | nil => exact fun _ _ => rfl
  | cons e es ih =>
    intro b h
    rw [List.length_cons, List.range'_succ, List.findSome?_cons, show f b = _ from h 0 (Nat.succ_pos _),
      ih (b + 1) fun i hi => by
        rw [Nat.add_assoc, Nat.add_comm 1]
        exact h (i + 1) (Nat.succ_lt_succ hi)]
    simp only [List.getD_cons_zero, lookup, List.find?_cons]
    cases e.matches k <;> rfl

theorem findSome_range_block {β : Type} (f : Nat → Option β) {n b len : Nat} (hb : b + len ≤ n)
    (hout : ∀ j, j < n → ¬ (b ≤ j ∧ j < b + len) → f j = none) :
    (List.range n).findSome? f = (List.range' b len).findSome? f := by
  have hsplit : List.range n = List.range' 0 b ++ (List.range' b len ++ List.range' (b + len) (n - (b + len))) := by
    have h1 := @List.range'_append_1 0 b (len + (n - (b + len)))
    rw [Nat.zero_add, ← Nat.add_assoc, Nat.add_sub_cancel' hb] at h1
    rw [List.range_eq_range', List.range'_append_1, h1]
  rw [hsplit, List.findSome?_append, List.findSome?_append,
    (List.findSome?_eq_none_iff (l := List.range' 0 b)).2 fun j hj =>
      have hj : j < b := Nat.zero_add b ▸ (List.mem_range'_1.1 hj).2
      hout j (Nat.lt_of_lt_of_le hj (Nat.le_trans (Nat.le_add_right _ _) hb))
        fun hc => Nat.lt_irrefl _ (Nat.lt_of_lt_of_le hj hc.1),
    (List.findSome?_eq_none_iff (l := List.range' (b + len) _)).2 fun j hj =>
      have hj := List.mem_range'_1.1 hj
      hout j (Nat.add_sub_cancel' hb ▸ hj.2) fun hc => Nat.lt_irrefl _ (Nat.lt_of_lt_of_le hc.2 hj.1),
    Option.none_or, Option.or_none]

/-- **What the router does after a load.**  If no used row outside the loaded block matches key `k`,
the router's first-match decision for `k` is the table's first-match `lookup`, as the row the entry
became (same key, mask, route word; the application's id). -/
theorem loaded_router_lookup (s : Chip) (buf b app : Nat) (entries : List Entry) (k : Nat)
    (hb : b + entries.length ≤ rtrEntries)
    (hother : ∀ j, j < rtrEntries → ¬ (b ≤ j ∧ j < b + entries.length) → rowHit s.rows k j = none) :
    routerLookup (loadedChip s buf b app entries).rows k = (lookup entries k).map (entOf app) := by
  rw [routerLookup, findSome_range_block _ hb fun j hj hout => by
      rw [rowHit, loaded_rows_out s buf b app entries j hout]
      exact hother j hj hout,
    findSome_block _ k app entries b fun i hi => by
      simp only [rowHit, loaded_rows_in s buf b app entries i hi]
      rfl]

/-- **... and that is what C04's model computes**: the route word the router applies to a 32-bit key `k`
after the load is the route of C04's first-match `lookup` on the converted table (none iff none) - the
link between the router contents proved by `load_exact` and the tables C04's theorems speak about. -/
theorem loaded_router_lookup_c04 (s : Chip) (buf b app : Nat) (entries : List Entry) (k : Nat)
    (hb : b + entries.length ≤ rtrEntries)
    (hT : ∀ e ∈ entries, e.key < 4294967296 ∧ e.mask < 4294967296) (hk : k < 4294967296)
    (hother : ∀ j, j < rtrEntries → ¬ (b ≤ j ∧ j < b + entries.length) → rowHit s.rows k j = none) :
    (routerLookup (loadedChip s buf b app entries).rows k).map (·.route) =
      (Rig.C04.lookup (entries.map toC04) (BitVec.ofNat 32 k)).map (·.route) := by
  rw [loaded_router_lookup s buf b app entries k hb hother, toC04_lookup entries k hT hk]
  cases lookup entries k <;> rfl

/-- non-vacuity of `hother`: on a router without used rows no row matches anything; and the router
decision after loading two entries at rows 1, 2 for key 12 is the second entry -/
example : ∀ k j, rowHit exChip.rows k j = none := fun _ _ => rfl
example : routerLookup (loadedChip exChip 0x60001000 1 7
      [{ route := [0], key := 5, mask := 7, sources := [none] },
       { route := [8], key := 4, mask := 6, sources := [some 3, none] }]).rows 12 =
    some { route := 256, key := 4, mask := 6, app := 7, core := 0 } := by decide +kernel

/-- non-vacuity: an entry with all kinds of sources converts to the expected words and back -/
example : toC04 { route := [0, 8, 23], key := 5, mask := 4294967295, sources := [some 3, none] } =
    { route := 8388865, key := 5#32, mask := 4294967295#32, sources := 16777224 } := by decide
example : ofC04 { route := 8388865, key := 5#32, mask := 4294967295#32, sources := 16777224 } =
    { route := [0, 8, 23], key := 5, mask := 4294967295, sources := [some 3, none] } := by decide
example : ∃ e4, Rig.C04.lookup (([{ route := [0], key := 5, mask := 7, sources := [none] },
      { route := [8], key := 4, mask := 6, sources := [some 3, none] }] : List Entry).map toC04) (BitVec.ofNat 32 12)
      = some e4 ∧ e4.route = 256 :=
  ⟨toC04 { route := [8], key := 4, mask := 6, sources := [some 3, none] }, by decide, by decide⟩

end Rig.C10
