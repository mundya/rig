/-
C13 - translator tie: the methods of the file-like memory views (`SlicedMemoryIO` in
rig/machine_control/machine_controller.py) = the model functions the C13 theorems are about: `__init__` = `mkView`,
`__len__` = `View.len`, `address` = `View.address`, `_bytes_available` = `View.available`, `seek` = `doSeek`, the address
clipping of `__getitem__` = `sliceBounds` / `doSliceOrig`'s test of the step, `read` / `write` = `readCount` / `writeData`
and the offset update of `doRead` / `doWrite`.  The methods are translated with the object's integer attributes
(`_start_address`, `_end_address`, `_offset`; for `__init__` also the flag `closed`) passed as state; each generated
definition returns the method's result together with the final attribute values.  Methods decorated with
`@_if_not_closed` are translated for the case in which the guard passes; the guard itself is the model's `dead`.
`read` and `write` record the calls `warnings.warn`, `self._parent._perform_read(address, n)`,
`self._parent._perform_write(address, data)` as events (last component of the result) and take what `_perform_read`
returns as an input.
-/
import RigModel.Model.C13
import RigModel.Gen.PyFun
import Mathlib.Tactic.SplitIfs
import RigModel.Lemmas.PyCast

-- see Lemmas/PyCast.lean
set_option linter.unusedSimpArgs false
set_option linter.unusedTactic false
set_option linter.unreachableTactic false

namespace Rig.C13
open Rig.Gen Rig.PyLoops

/-- the integer attributes of a view, in the order the generated definitions take and return them -/
def View.attrs (v : View) : Int × Int × Int := (v.start, v.stop, v.offset)

theorem gen_init (s e o : Int) (c : Bool) (start stop : Int) :
    PyFun.SlicedMemoryIO_init s e o c start stop
      = ((mkView start stop).start, (mkView start stop).stop, (mkView start stop).offset, (mkView start stop).closed) := by
  simp only [PyFun.SlicedMemoryIO_init, mkView, py_ac]

theorem gen_len (v : View) : PyFun.SlicedMemoryIO_len v.start v.stop v.offset = (v.len, v.attrs) := by
  simp only [PyFun.SlicedMemoryIO_len, View.attrs, View.len, py_ac]

theorem gen_address (v : View) : PyFun.SlicedMemoryIO_address v.start v.stop v.offset = (v.address, v.attrs) := by
  simp only [PyFun.SlicedMemoryIO_address, View.attrs, View.address, py_ac]

/-- what the model's `stepView (.tell _)` answers -/
theorem gen_tell (v : View) : PyFun.SlicedMemoryIO_tell v.start v.stop v.offset = (v.offset, v.attrs) := by
  simp only [PyFun.SlicedMemoryIO_tell, View.attrs, py_ac]

theorem gen_bytes_available (v : View) :
    PyFun.SlicedMemoryIO_bytes_available v.start v.stop v.offset = (v.available, v.attrs) := by
  simp only [PyFun.SlicedMemoryIO_bytes_available, gen_address, View.attrs, View.available, py_ac]
  split <;> rfl

def View.withAttrs (v : View) (a : Int × Int × Int) : View := { v with start := a.1, stop := a.2.1, offset := a.2.2 }

/-- the model's `seek` is the generated `seek` behind the `_if_not_closed` guard -/
theorem gen_seek (w : World) (i : Nat) (v : View) (n whence : Int) :
    doSeek w i v n whence =
      if dead w v then fail w .osError
      else match PyFun.SlicedMemoryIO_seek v.start v.stop v.offset n whence with
        | .ok a => done (setView w i (v.withAttrs a)) .none
        | .error _ => fail w .valueError := by
  unfold doSeek PyFun.SlicedMemoryIO_seek
  -- the stored views are equal when the offsets are (second alternative below)
  have upd : ∀ o o' : Int, o = o' → done (setView w i { v with offset := o }) Ret.none
      = done (setView w i (v.withAttrs (v.start, v.stop, o'))) Ret.none := fun _ _ h => h ▸ rfl
  by_cases hd : dead w v = true
  · simp only [hd, if_true]
  · simp only [hd, if_false, Bool.false_eq_true]
    by_cases h0 : whence = 0
    · simp only [h0, if_true]; rfl
    by_cases h1 : whence = 1
    · simp only [h0, h1, if_true, if_false]
      first | rfl | exact upd _ _ (by omega)
    by_cases h2 : whence = 2
    · simp only [h0, h1, h2, if_true, if_false]
      first | rfl | exact upd _ _ (by omega)
    · simp only [h0, h1, h2, if_false]

/-- the result is the argument pair of the `SlicedMemoryIO(parent, start, end)` constructor call -/
theorem gen_getitem (v : View) (a b step : Option Int) :
    PyFun.SlicedMemoryIO_getitem v.start v.stop v.offset (a, b, step) =
      if step = none ∨ step = some 1 then .ok (sliceBounds v a b, v.attrs) else .error "ValueError" := by
  unfold PyFun.SlicedMemoryIO_getitem sliceBounds
  simp only [true_and]
  by_cases hs : step = none ∨ step = some 1
  · simp only [hs, if_true]
    cases a <;> cases b <;> simp only [View.attrs] <;> (try split_ifs) <;>
      first | rfl | (refine congrArg Except.ok (Prod.ext (Prod.ext ?_ ?_) rfl) <;> simp only [] <;> omega)
  · simp only [hs, if_false]

/-- the sliced view is built by the generated `__init__` from the pair the generated `__getitem__` returns -/
theorem gen_slice (w : World) (v : View) (a b step : Option Int) :
    doSliceOrig w v a b step =
      match PyFun.SlicedMemoryIO_getitem v.start v.stop v.offset (a, b, step) with
      | .ok (se, _) => ({ w with views := w.views ++ [mkView se.1 se.2] }, ⟨.view w.views.length, false, none⟩)
      | .error _ => fail w .valueError := by
  rw [gen_getitem]
  unfold doSliceOrig
  by_cases hs : step = none ∨ step = some 1
  · simp only [hs, if_true]
  · simp only [hs, if_false]

def bytesInt (d : List Nat) : List Int := d.map (fun (n : Nat) => (n : Int))

/-- the `TruncationWarning`, as the event the generated code records -/
def warnEv (b : Bool) : List PyFun.PyEvent := if b then [⟨"warn", [], []⟩] else []

/-- behind the `_if_not_closed` guard; `din` is what `_perform_read` returns.  `_perform_read(address, count)` is called
with the address BEFORE the offset moves, as the model's `doRead` does -/
theorem gen_read (v : View) (nBytes : Int) (din : List Int) :
    PyFun.SlicedMemoryIO_read v.start v.stop v.offset nBytes din =
      if (readCount v nBytes).2 ≤ 0 then ([], v.start, v.stop, v.offset, warnEv (readCount v nBytes).1)
      else (din, v.start, v.stop, v.offset + (readCount v nBytes).2,
            warnEv (readCount v nBytes).1 ++ [⟨"_perform_read", [v.address, (readCount v nBytes).2], []⟩]) := by
  first
  | (unfold PyFun.SlicedMemoryIO_read readCount
     simp only [gen_bytes_available, gen_address]
     generalize v.available = av
     generalize (if nBytes < 0 then av else nBytes) = n
     by_cases h : n > av
     · rw [if_pos h, if_pos h]; rfl
     · rw [if_neg h, if_neg h]; rfl)
  | (unfold PyFun.SlicedMemoryIO_read readCount
     simp only [gen_bytes_available, gen_address, warnEv]
     split_ifs <;> first | rfl | (simp_all; done) | (simp_all; omega))

theorem length_bytesInt (d : List Nat) : (bytesInt d).length = d.length := List.length_map _

/-- `bytes[:n]` -/
theorem pySlice_prefix (d : List Nat) (n : Int) : PyFun.pySlice (bytesInt d) 0 n = bytesInt (pyPrefix d n) := by
  rw [pySlice_zero, pyPrefix, bytesInt, bytesInt, List.length_map]
  split <;> rw [List.map_take]

/-- `_perform_write(address, data)` with the address before the offset moves -/
theorem gen_write (v : View) (d : List Nat) :
    PyFun.SlicedMemoryIO_write v.start v.stop v.offset (bytesInt d) =
      if (writeData v d).2.length = 0 then (0, v.start, v.stop, v.offset, warnEv (writeData v d).1)
      else (((writeData v d).2.length : Int), v.start, v.stop, v.offset + ((writeData v d).2.length : Int),
            warnEv (writeData v d).1 ++ [⟨"_perform_write", [v.address], bytesInt (writeData v d).2⟩]) := by
  first
  | (unfold PyFun.SlicedMemoryIO_write writeData
     simp only [gen_bytes_available, gen_address, length_bytesInt]
     generalize v.available = av
     by_cases h1 : (d.length : Int) > av
     · rw [if_pos h1, if_pos h1]
       simp only [pySlice_prefix, length_bytesInt, Int.natCast_eq_zero]
       rfl
     · rw [if_neg h1, if_neg h1]
       simp only [length_bytesInt, Int.natCast_eq_zero]
       rfl)
  | (unfold PyFun.SlicedMemoryIO_write writeData
     simp only [gen_bytes_available, gen_address, warnEv, length_bytesInt]
     by_cases h1 : (d.length : Int) > v.available <;> simp only [h1, if_true, if_false, List.nil_append]
     · rw [pySlice_prefix, length_bytesInt]
       by_cases h3 : (pyPrefix d v.available).length = 0
       · rw [if_pos h3]
         split
         · rfl
         · exfalso; omega
       · rw [if_neg h3]
         split
         · exfalso; omega
         · rfl
     · rw [length_bytesInt]
       by_cases h3 : d.length = 0
       · rw [if_pos h3]
         split
         · rfl
         · exfalso; omega
       · rw [if_neg h3]
         split
         · exfalso; omega
         · rfl)

example : PyFun.SlicedMemoryIO_getitem 100 200 0 (some 10, some (-20), none) = .ok ((110, 180), 100, 200, 0) := by
  decide

end Rig.C13
