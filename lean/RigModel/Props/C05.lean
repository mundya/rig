/-
C05 - allocated resource ranges are exact, in range, disjoint and unreserved.
-/
import RigModel.Model.C05
import RigModel.Lemmas.C05

namespace Rig.C05

/-- `Overlaps` (and the code's `slices_overlap`) means: the two ranges share an index;
in particular an empty range overlaps nothing -/
theorem overlaps_iff_common (a b : Slice) :
    Overlaps a b ↔ ∃ i : Int, a.start ≤ i ∧ i < a.stop ∧ b.start ≤ i ∧ i < b.stop := by
  rw [overlaps_iff]
  constructor
  · intro ⟨⟨h1, h3⟩, h2, h4⟩
    -- the larger of the two starts
    rcases Int.le_total a.start b.start with h | h
    · exact ⟨b.start, h, h3, Int.le_refl _, h4⟩
    · exact ⟨a.start, Int.le_refl _, h1, h, h2⟩
  · intro ⟨i, h1, h2, h3, h4⟩
    exact ⟨⟨Int.lt_of_le_of_lt h1 h2, Int.lt_of_le_of_lt h3 h2⟩,
      Int.lt_of_le_of_lt h1 h4, Int.lt_of_le_of_lt h3 h4⟩

/-- **Soundness.** Whatever the machine, placement, vertex order, requests, alignments
and reservation lists: an allocation returned by the allocator satisfies the property
(`Valid`): exactly the placed vertices; every request answered by one range of the exact
size, inside `[0, capacity of the chip]`, on the alignment, overlapping no global or
local reservation; ranges of different vertices on one chip disjoint. -/
theorem alloc_sound (inp : Input) (out : List (Vertex × List Entry)) (wf : WellFormed inp)
    (h : allocate inp = .ok out) : Valid inp (strip out) :=
  valid_of_chipsOk wf
    ((allocChips_ok (alignment_pos wf.alignPos) wf.demandNonneg _ (nodup_dedup _)).ok h)

/-- the `Served` clause of `Valid`, spelled out for one answered request -/
theorem alloc_sound_range (inp : Input) (out : List (Vertex × List Entry)) (wf : WellFormed inp)
    (h : allocate inp = .ok out) (v : Vertex) (xy : Chip) (rs : List (Res × Int)) (res : Res) (d : Int)
    (hp : (v, xy) ∈ inp.placements) (hq : (v, rs) ∈ inp.vr) (hrd : (res, d) ∈ rs) :
    ∃ s, (v, res, s) ∈ flat (strip out) ∧ s.stop - s.start = d ∧ 0 ≤ s.start ∧
      (∃ c, capacity inp.machine xy res = some c ∧ s.stop ≤ c) ∧
      s.start % alignment inp.constraints res = 0 ∧
      ∀ r ∈ reserved inp.constraints xy res, ¬ ∃ i : Int, s.start ≤ i ∧ i < s.stop ∧ r.start ≤ i ∧ i < r.stop := by
  obtain ⟨t, ht, h1, h2, hg⟩ := (alloc_sound inp out wf h).2.1 (v, xy) hp (v, rs) hq rfl (res, d) hrd
  obtain ⟨tv, tr, ts⟩ := t
  simp only at h1 h2 hg
  subst h1; subst h2
  refine ⟨ts, ht, hg.1, hg.2.1, hg.2.2.1, hg.2.2.2.1, ?_⟩
  intro r hr hex
  exact hg.2.2.2.2 r hr ((overlaps_iff_common _ _).2 hex)

/-- **Only failure.** On a well-formed input of the documented domain the allocator
returns an allocation or raises `InsufficientResourceError` for a resource on a chip that
holds a vertex - never another exception, and the proposal loop never runs out of fuel
(i.e. the `while` loop terminates). -/
theorem alloc_only_failure (inp : Input) (wf : WellFormed inp) (dom : InDomain inp) :
    (∃ out, allocate inp = .ok out) ∨
    ∃ res, ∃ p ∈ inp.placements, allocate inp = .error (.insufficient res p.2) := by
  have hs := allocate_outcome (Bad := fun _ _ => True) wf dom fun _ _ _ _ _ _ _ _ => trivial
  cases h : allocate inp with
  | ok out => exact .inl ⟨out, rfl⟩
  | error e =>
    obtain ⟨res, p, hp, rfl, -⟩ := hs.error h
    exact .inr ⟨res, p, hp, rfl⟩

/-- **Completeness, general form.** No alignment on the requested resources and, per chip
and resource, the total demand fits into the window between the reservations that touch
index 0 and the first reservation that starts above 0 (all non-empty reservations lie
outside that window; they may overlap each other, be empty or stick out of the range):
the allocator succeeds, and what it returns satisfies the property. -/
theorem alloc_complete_window (inp : Input) (wf : WellFormed inp) (dom : InDomain inp)
    (fit : ∀ p ∈ inp.placements, ∀ q ∈ inp.vr, q.1 = p.1 → ∀ rd ∈ q.2, FitsAt inp p.2 rd.1) :
    ∃ out, allocate inp = .ok out ∧ Valid inp (strip out) := by
  obtain ⟨out, h, -⟩ := ((allocate_outcome (Bad := fun _ _ => False) wf dom
    fun p hp q hq e rd hrd hn => hn (fit p hp q hq e rd hrd)).imp_error fun _ ⟨_, _, _, _, hF⟩ => hF).exists_ok
  exact ⟨out, h, alloc_sound inp out wf h⟩

/-- **Completeness (the clause of the property).** Without alignment constraints and with
reservations only at the two ends of each range, a feasible placement (the demand on
every chip fits between the reserved ends) is always allocated - no
`InsufficientResourceError` - and the result satisfies the property. -/
theorem alloc_complete (inp : Input) (wf : WellFormed inp) (dom : InDomain inp)
    (feas : Feasible inp) : ∃ out, allocate inp = .ok out ∧ Valid inp (strip out) :=
  alloc_complete_window inp wf dom
    (fun p hp q hq e rd hrd => (feas p hp q hq e rd hrd).fits)

/-- hypothesis of the completeness clause in the placers' own terms
(`place/utils.py: resources_after_reservation` subtracts the *magnitude* of every
reservation from the chip's resource): no alignment, every reservation inside the range
and at one of its ends, and the demand is at most capacity minus the reserved magnitudes -/
def PlacerFeasibleAt (inp : Input) (xy : Chip) (res : Res) : Prop :=
  alignment inp.constraints res = 1 ∧
  ∃ cap, capacity inp.machine xy res = some cap ∧
    (∀ r ∈ reserved inp.constraints xy res, Inside cap r ∧ AtEnd cap r) ∧
    demand inp xy res ≤ cap - reservedSize (reserved inp.constraints xy res)

/-- **Completeness in the placers' terms.** A placement that is feasible by the
placers' accounting is always allocated when there is no alignment constraint and the
reservations sit at the ends of the ranges. -/
theorem alloc_complete_placer_budget (inp : Input) (wf : WellFormed inp) (dom : InDomain inp)
    (feas : ∀ p ∈ inp.placements, ∀ q ∈ inp.vr, q.1 = p.1 → ∀ rd ∈ q.2,
      PlacerFeasibleAt inp p.2 rd.1) :
    ∃ out, allocate inp = .ok out ∧ Valid inp (strip out) := by
  apply alloc_complete_window inp wf dom
  intro p hp q hq e rd hrd
  obtain ⟨h1, cap, h2, h3, h4⟩ := feas p hp q hq e rd hrd
  have := window_ge_budget cap _ h3
  exact ⟨h1, cap, h2, by omega⟩

/-- **One range each.** In a returned allocation no (vertex, resource) pair has two ranges
(so `Served` gives *the* range of every request). -/
theorem alloc_unique (inp : Input) (out : List (Vertex × List Entry)) (wf : WellFormed inp)
    (h : allocate inp = .ok out) : ((flat (strip out)).map fun t => (t.1, t.2.1)).Nodup :=
  unique_of_chipsOk wf
    ((allocChips_ok (alignment_pos wf.alignPos) wf.demandNonneg _ (nodup_dedup _)).ok h)

/-- 2x1 machine, chip (1,0) has fewer cores; resource 0 reserved at both ends globally,
a local reservation on (0,0); three vertices on (0,0) (one zero-size), one on (1,0) -/
def exEnds : Input :=
  { vr := [(0, [(0, 3), (1, 10)]), (1, [(0, 0)]), (2, [(0, 2)]), (3, [(0, 4)])],
    machine := { width := 2, height := 1, chipResources := [(0, 10), (1, 100)],
                 exceptions := [((1, 0), [(0, 8), (1, 50)])], dead := [] },
    constraints := [.reserve 0 ⟨0, 1⟩ none, .reserve 0 ⟨0, 2⟩ (some (0, 0)), .other,
                    .reserve 0 ⟨7, 10⟩ none, .align 1 1],
    placements := [(0, (0, 0)), (3, (1, 0)), (2, (0, 0)), (1, (0, 0))] }

example : WellFormed exEnds ∧ InDomain exEnds ∧ Feasible exEnds := by decide +kernel

/-- the placers' accounting holds for `exEnds` without the overlapping local reservation -/
def exPlacer : Input :=
  { exEnds with constraints := [.reserve 0 ⟨0, 1⟩ none, .other, .reserve 0 ⟨7, 10⟩ (some (0, 0)),
                                .reserve 0 ⟨8, 8⟩ none] }

example : PlacerFeasibleAt exPlacer (0, 0) 0 :=
  ⟨by decide +kernel, 10, by decide +kernel, by decide +kernel, by decide +kernel⟩

example : (allocate exEnds).map strip = .ok
    [(0, [(0, ⟨2, 5⟩), (1, ⟨0, 10⟩)]), (2, [(0, ⟨5, 7⟩)]), (1, [(0, ⟨7, 7⟩)]), (3, [(0, ⟨1, 5⟩)])] := by
  rfl

/-- alignment 4 and an interior reservation: well-formed and in the domain (soundness and
only-failure apply), not `Feasible` -/
def exAlign : Input :=
  { exEnds with constraints := [.reserve 0 ⟨3, 5⟩ none, .align 0 4, .reserve 0 ⟨4, 6⟩ (some (0, 0))] }

example : WellFormed exAlign ∧ InDomain exAlign ∧ ¬ Feasible exAlign := by decide +kernel

example : allocate exAlign = .error (.insufficient 0 (0, 0)) := by rfl

end Rig.C05
