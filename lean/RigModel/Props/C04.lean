/-
C04 - table minimisation never changes where a matched key is routed.
-/
import RigModel.Lemmas.C04Top
import RigModel.Lemmas.C04Utils
import RigModel.Lemmas.C04Alias
import RigModel.Gen.C03Links
import RigModel.Lemmas.ExceptSat

namespace Rig.C04

deriving instance DecidableEq for Except

/-- Target clause of `remove_default_routes.minimise`: the table left by the loop, or
`MinimisationFailedError` with the target and the size reached. -/
theorem removeDefault_target (T : List Entry) (target : Option Nat) (check : Bool) :
    (removeDefault T target check = .ok (removeDefaultTable T check) ∧
      ∀ t, target = some t → (removeDefaultTable T check).length ≤ t) ∨
    (∃ t, target = some t ∧ t < (removeDefaultTable T check).length ∧
      removeDefault T target check = .error (.minFailed t (removeDefaultTable T check).length)) := by
  cases target with
  | none => exact Or.inl ⟨rfl, nofun⟩
  | some t =>
    simp only [removeDefault]
    by_cases h : t < (removeDefaultTable T check).length
    · exact Or.inr ⟨t, rfl, h, if_pos h⟩
    · exact Or.inl ⟨if_neg h, fun _ ht => Option.some.inj ht ▸ Nat.le_of_not_lt h⟩

theorem removeDefault_ok {T T' : List Entry} {target : Option Nat} {check : Bool}
    (h : removeDefault T target check = .ok T') :
    T' = removeDefaultTable T check ∧ ∀ t, target = some t → T'.length ≤ t := by
  rcases removeDefault_target T target check with ⟨h1, h2⟩ | ⟨_, _, _, h1⟩ <;> rw [h1] at h <;> cases h
  exact ⟨rfl, h2⟩

/-- For any table (no order, orthogonality or well-formedness assumed) and any target, a table returned by `remove_default_routes.minimise` with `check_for_aliases=True` routes every key
matched by the input identically: by the same first-matching entry, or by default routing when
the dropped entry went straight through from a single link. -/
theorem removeDefault_equiv (T T' : List Entry) (target : Option Nat)
    (h : removeDefault T target true = .ok T') : RouteEquiv T T' :=
  (removeDefault_ok h).1 ▸ removeDefaultTable_keyOk T

theorem removeDefault_length (T T' : List Entry) (target : Option Nat) (check : Bool)
    (h : removeDefault T target check = .ok T') : T'.Sublist T ∧ T'.length ≤ T.length := by
  have hs : T'.Sublist T := (removeDefault_ok h).1 ▸ rdLoop_sublist _ T
  exact ⟨hs, hs.length_le⟩

/-- non-vacuity: a straight-through entry (from west to east) is dropped, an entry for the
same keys from two links is kept. -/
example : removeDefault [⟨1, 5#32, 0xf#32, 8⟩, ⟨1, 6#32, 0xf#32, 8 + 16⟩] none true
    = .ok [⟨1, 6#32, 0xf#32, 8 + 16⟩] := by decide +kernel

/-- always through the first clause of `RouteEquiv`: the key is still matched -/
theorem inv_routeEquiv (T0 T : List Entry) (A : Aliases) (h : Inv T0 T A) : RouteEquiv T0 T := by
  intro k o ho
  obtain ⟨e, h1, h2, h3, _⟩ := h k o ho
  exact Or.inl ⟨e, h1, h2, h3⟩

theorem inv_init (T : List Entry) : Inv T T [] :=
  fun _ o ho => ⟨o, ho, rfl, bitSubset_refl _, o.km, List.mem_singleton.mpr rfl, (lookup_some_matches ho).1⟩

/-- `_Merge.apply` (new table and new alias dictionary, including the dictionary corner cases
where the merged key/mask equals a member's or an existing key) preserves the invariant of
ordered covering when the merge passes the up-check and the down-check, its insertion index is
within the table and splits it by generality (`InsOk`, true on generality-sorted tables) and its
members have one route (`SameRoute`).  No well-formedness of entries is needed. -/
theorem apply_equiv (T0 T : List Entry) (A : Aliases) (es : List Nat)
    (hinv : Inv T0 T A) (hins : (mkMerge T es).ins ≤ T.length)
    (hup : UpOk T (mkMerge T es)) (hdown : DownOk T A (mkMerge T es))
    (hio : InsOk T (mkMerge T es)) (hsr : SameRoute T es) :
    Inv T0 (applyMerge T (mkMerge T es) A).1 (applyMerge T (mkMerge T es) A).2 :=
  apply_inv T0 T A es hinv hins hup hdown hio hsr

/-- `UpOk` quantifies in this form over the entry at a position -/
local instance {α} (o : Option α) (p : α → Prop) [DecidablePred p] : Decidable (∀ a, o = some a → p a) :=
  inferInstanceAs (Decidable (∀ a ∈ o, p a))

/-- non-vacuity of `apply_equiv`: merging 0000 and 0001 (both -> E) in a three-entry table -/
example :
    let T : List Entry := [⟨1, 0#32, 0xf#32, 8⟩, ⟨1, 1#32, 0xf#32, 8⟩, ⟨2, 2#32, 0xe#32, 8⟩]
    (mkMerge T [0, 1]).ins ≤ T.length ∧ UpOk T (mkMerge T [0, 1]) ∧ DownOk T [] (mkMerge T [0, 1]) ∧
      InsOk T (mkMerge T [0, 1]) ∧ SameRoute T [0, 1] ∧
      (applyMerge T (mkMerge T [0, 1]) []).1 = [⟨1, 0#32, 0xe#32, 8⟩, ⟨2, 2#32, 0xe#32, 8⟩] := by
  unfold UpOk DownOk InsOk SameRoute
  decide +kernel

/-- On a generality-sorted table `_get_insertion_index` (binary search + linear scan, with the
empty-table repair) returns the first position whose generality is at least `g`. -/
theorem insertionIndex_correct (T : List Entry) (g : Nat) (hs : SortedGen T) :
    insertionIndex T g ≤ T.length ∧ (∀ e ∈ T.take (insertionIndex T g), e.gen < g) ∧
    (∀ e ∈ T.drop (insertionIndex T g), g ≤ e.gen) :=
  ⟨insertionIndex_le T g hs, insertionIndex_spec T g hs⟩

/-- On a generality-sorted table, whatever `_refine_merge` returns (down-check, up-check,
down-check again) is a merge of a subset of the initial members, and if its goodness still
exceeds `min_goodness` it passes the up-check and the down-check. -/
theorem refine_ok (T : List Entry) (A : Aliases) (minG : Int) (hs : SortedGen T) (h0 : 0 ≤ minG)
    (es : List Nat) (hv : ∀ i ∈ es, i < T.length) (m' : Merge)
    (h : refineMerge T A (mkMerge T es) minG = some m') :
    ∃ es', m' = mkMerge T es' ∧ (∀ i ∈ es', i ∈ es) ∧
      (m'.goodness > minG → UpOk T m' ∧ DownOk T A m') := by
  obtain ⟨es', h1, h2, h3⟩ := refineMerge_ok T A minG hs h0 es hv
  cases h1.symm.trans h
  exact ⟨es', rfl, fun i hi => h2.subset hi, h3⟩

/-- The loop always returns; the target only decides whether its result is handed back. -/
theorem orderedCovering_target (T : List Entry) (target : Option Nat) (A : Aliases) (noRaise : Bool) :
    ∃ r, ocLoop (T.length + 2) (sortTable T) target A = .ok r ∧
      orderedCovering T target A noRaise = match target with
        | some t => if !noRaise && r.1.length > t then .error (.minFailed t r.1.length) else .ok r
        | none => .ok r :=
  have ⟨r, h, _⟩ := ocLoop_sortTable (fun _ _ => True) (fun _ _ _ _ _ _ => trivial) T target A trivial
  ⟨r, h, by rw [orderedCovering, h]; rfl⟩

/-- `ordered_covering` terminates (every round of the down-check removes a member of the merge;
every applied merge shortens the table), for any table, target and alias dictionary: its only
error is `MinimisationFailedError`. -/
theorem orderedCovering_total (T : List Entry) (target : Option Nat) (A : Aliases) (noRaise : Bool) :
    orderedCovering T target A noRaise ≠ .error .fuel := by
  obtain ⟨r, _, h⟩ := orderedCovering_target T target A noRaise
  rw [h]
  cases target with
  | none => nofun
  | some t => dsimp only; split <;> nofun

/-- Target clause of `ordered_covering`: with a target and without `no_raise` the call returns a
table that meets the target, or raises `MinimisationFailedError(target, n)` with `n > target`. -/
theorem orderedCovering_target_total (T : List Entry) (t : Nat) (A : Aliases) :
    (∃ r, orderedCovering T (some t) A false = .ok r ∧ r.1.length ≤ t) ∨
    (∃ n, orderedCovering T (some t) A false = .error (.minFailed t n) ∧ t < n) := by
  obtain ⟨r, _, h⟩ := orderedCovering_target T (some t) A false
  rw [h]
  by_cases hl : r.1.length > t
  · exact Or.inr ⟨_, if_pos (by simpa using hl), hl⟩
  · exact Or.inl ⟨r, if_neg (by simpa using hl), Nat.le_of_not_lt hl⟩

/-- `ordered_covering` started on any table with an alias dictionary
that satisfies the invariant for the sorted table (e.g. the empty one) returns a generality-sorted table and dictionary that satisfy it again, never
longer than the input. -/
theorem orderedCovering_inv (T : List Entry) (target : Option Nat) (A : Aliases) (noRaise : Bool)
    (T' : List Entry) (A' : Aliases) (hA : Inv (sortTable T) (sortTable T) A)
    (h : orderedCovering T target A noRaise = .ok (T', A')) :
    Inv (sortTable T) T' A' ∧ SortedGen T' ∧ T'.length ≤ T.length := by
  obtain ⟨r, hr, hres⟩ := ocLoop_sortTable (Inv (sortTable T)) (fun _ _ _ => goodMerge_inv) T target A hA
  have : r = (T', A') := by
    rw [orderedCovering, hr] at h
    cases target with
    | none => cases h; rfl
    | some t => dsimp only at h; split at h <;> cases h; rfl
  subst this
  exact hres

theorem covers_of_inv {T T' : List Entry} {A' : Aliases} (hg : Good T) (h : Inv (sortTable T) T' A') :
    Covers T T' := fun k o ho =>
  let ⟨e, h1, h2, h3, _⟩ := h k o (lookup_sortTable hg k ▸ ho)
  ⟨e, h1, h2, h3⟩

/-- For a table that is orthogonal (in any order) or sorted by
generality, the table returned by `ordered_covering` (any target, `no_raise` or not) routes every
key matched by the input to the same route through a first-matching entry that lists the
original's sources; it is not longer than the input. -/
theorem orderedCovering_equiv (T : List Entry) (target : Option Nat) (noRaise : Bool)
    (T' : List Entry) (A' : Aliases) (hg : Good T)
    (h : orderedCovering T target [] noRaise = .ok (T', A')) :
    RouteEquiv T T' ∧ T'.length ≤ T.length := by
  obtain ⟨h1, _, h3⟩ := orderedCovering_inv T target [] noRaise T' A' (inv_init _) h
  exact ⟨fun k o ho => Or.inl (covers_of_inv hg h1 k o ho), h3⟩

theorem ocMinimise_eq (T : List Entry) (target : Option Nat) :
    ∃ r, orderedCovering T target [] true = .ok r ∧ ocMinimise T target = removeDefault r.1 target := by
  obtain ⟨r, _, h⟩ := orderedCovering_target T target [] true
  have : orderedCovering T target [] true = .ok r := by rw [h]; cases target <;> rfl
  exact ⟨r, this, by rw [ocMinimise, this]⟩

/-- what every stage of the chain owes for table `T` and a target: its only error is `MinimisationFailedError`
with that target; a returned table routes like `T`, is not longer and meets the target -/
def Meets (T : List Entry) (target : Option Nat) : Except Err (List Entry) → Prop :=
  Except.Sat (fun e => ∃ t n, target = some t ∧ e = .minFailed t n)
    (fun T' => (Good T → (∀ e ∈ T, e.sources ≠ 0) → RouteEquiv T T') ∧ T'.length ≤ T.length ∧
      ∀ t, target = some t → T'.length ≤ t)

theorem runMethod_meets (f : Method) (T : List Entry) (target : Option Nat) :
    Meets T target (runMethod f T target) := by
  -- the two `minimise` end with the target test of `remove_default_routes`
  have hrd : ∀ T0, (Good T → (∀ e ∈ T, e.sources ≠ 0) → RouteEquiv T (removeDefaultTable T0 true)) →
      (removeDefaultTable T0 true).length ≤ T.length → Meets T target (removeDefault T0 target) := fun T0 h1 h2 => by
    rcases removeDefault_target T0 target true with ⟨h, h3⟩ | ⟨t, ht, _, h⟩ <;> rw [h]
    · exact ⟨h1, h2, h3⟩
    · exact ⟨t, _, ht, rfl⟩
  cases f with
  | identity =>
    cases target with
    | none => exact ⟨fun _ _ => routeEquiv_refl T, Nat.le_refl _, nofun⟩
    | some t =>
      simp only [runMethod, identityMin]
      split
      · exact ⟨fun _ _ => routeEquiv_refl T, Nat.le_refl _, fun _ ht => Option.some.inj ht ▸ Nat.le_of_lt ‹_›⟩
      · exact ⟨t, _, rfl, rfl⟩
  | rd => exact hrd T (fun _ _ => removeDefaultTable_keyOk T) (rdLoop_sublist _ T).length_le
  | oc =>
    obtain ⟨r, hr, he⟩ := ocMinimise_eq T target
    obtain ⟨h1, _, h3⟩ := orderedCovering_inv T target [] true r.1 r.2 (inv_init _) hr
    rw [runMethod, he]
    exact hrd r.1 (fun hg hsrc => covers_then_equiv hsrc (covers_of_inv hg h1) (removeDefaultTable_keyOk r.1))
      (Nat.le_trans (rdLoop_sublist _ r.1).length_le h3)

theorem runMethod_equiv (f : Method) (T : List Entry) (target : Option Nat) (T' : List Entry)
    (hg : Good T) (hsrc : ∀ e ∈ T, e.sources ≠ 0) (h : runMethod f T target = .ok T') :
    RouteEquiv T T' ∧ T'.length ≤ T.length :=
  have ⟨h1, h2, _⟩ := (runMethod_meets f T target).ok h
  ⟨h1 hg hsrc, h2⟩

theorem runMethod_target (f : Method) (T : List Entry) (t : Nat) (T' : List Entry)
    (h : runMethod f T (some t) = .ok T') : T'.length ≤ t :=
  ((runMethod_meets f T (some t)).ok h).2.2 t rfl

theorem runMethod_total (f : Method) (T : List Entry) (target : Option Nat) :
    runMethod f T target ≠ .error .fuel := fun h =>
  have ⟨_, _, _, he⟩ := (runMethod_meets f T target).error h
  nomatch he

/-- `ordered_covering.minimise` (ordered covering, then default-route
removal): for an orthogonal or generality-sorted table whose entries all list at least one source
(`{None}` = unknown counts), the result routes every matched key identically - by a first match
with the same route listing the original's sources, or by default routing when the *original*
entry went straight through from a single link - and is not longer than the input. -/
theorem minimise_equiv (T : List Entry) (target : Option Nat) (T' : List Entry) (hg : Good T)
    (hsrc : ∀ e ∈ T, e.sources ≠ 0) (h : ocMinimise T target = .ok T') :
    RouteEquiv T T' ∧ T'.length ≤ T.length :=
  runMethod_equiv .oc T target T' hg hsrc h

/-- the `for f in methods` loop reports the smallest of the start value and the sizes the methods reported -/
theorem tryLoop_sat (T : List Entry) (t : Nat) (ms : List Method) (b0 : Nat) :
    Except.Sat (fun e => ∃ best, e = .minFailed t best ∧ best ≤ b0 ∧
        (∀ f ∈ ms, ∃ n, runMethod f T (some t) = .error (.minFailed t n) ∧ best ≤ n) ∧
        (best = b0 ∨ ∃ f ∈ ms, runMethod f T (some t) = .error (.minFailed t best)))
      (fun T' => Meets T (some t) (.ok T')) (tryLoop T t ms b0) := by
  induction ms generalizing b0 with
  | nil => exact ⟨b0, rfl, Nat.le_refl _, nofun, Or.inl rfl⟩
  | cons f rest ih =>
    have hf := runMethod_meets f T (some t)
    rw [tryLoop]
    cases hr : runMethod f T (some t) with
    | ok r => exact hf.ok hr
    | error e' =>
      obtain ⟨t', n, ht, rfl⟩ := hf.error hr
      cases ht
      have hmin : (if n < b0 then n else b0) ≤ b0 ∧ (if n < b0 then n else b0) ≤ n := by split <;> omega
      refine (ih _).imp_error fun _ ⟨best, he, h2, h3, h4⟩ => ⟨best, he, Nat.le_trans h2 hmin.1, ?_, ?_⟩
      · intro g hg
        rcases List.mem_cons.mp hg with rfl | hg
        · exact ⟨n, hr, Nat.le_trans h2 hmin.2⟩
        · exact h3 g hg
      · rcases h4 with h4 | ⟨g, hg, h4⟩
        · by_cases hlt : n < b0
          · exact Or.inr ⟨f, List.mem_cons_self, by rw [h4, if_pos hlt]; exact hr⟩
          · exact Or.inl (by rw [h4, if_neg hlt])
        · exact Or.inr ⟨g, List.mem_cons_of_mem _ hg, h4⟩

theorem minLoop_meets (T : List Entry) (ms : List Method) (best : Option (List Entry))
    (hb : ∀ b, best = some b → Meets T none (.ok b)) : Meets T none (minLoop T ms best) := by
  fun_induction minLoop T ms best with
  | case1 b => exact hb b rfl
  | case2 => exact runMethod_meets .identity T none
  | case3 f rest best e hf => exact (runMethod_meets f T none).error hf
  | case4 f rest r hf ih => exact ih fun _ h => Option.some.inj h ▸ (runMethod_meets f T none).ok hf
  | case5 f rest r hf b ih =>
    refine ih fun _ h => Option.some.inj h ▸ ?_
    split
    · exact (runMethod_meets f T none).ok hf
    · exact hb b rfl

theorem minimiseTable_meets (T : List Entry) (target : Option Nat) (methods : List Method) :
    Meets T target (minimiseTable T target methods) := by
  cases target with
  | some t => exact (tryLoop_sat T t _ _).imp_error fun _ ⟨best, he, _⟩ => ⟨t, best, rfl, he⟩
  | none => exact minLoop_meets T _ none nofun

/-- `minimise_table` with any list of the three modelled methods (the identity is always
tried first): a returned table comes from one of the methods, hence routes every matched key
identically and is not longer than the input; with a target it meets the target. -/
theorem minimiseTable_equiv (T : List Entry) (target : Option Nat) (methods : List Method)
    (T' : List Entry) (hg : Good T) (hsrc : ∀ e ∈ T, e.sources ≠ 0)
    (h : minimiseTable T target methods = .ok T') :
    RouteEquiv T T' ∧ T'.length ≤ T.length ∧ (∀ t, target = some t → T'.length ≤ t) := by
  have ⟨h1, h2⟩ := (minimiseTable_meets T target methods).ok h
  exact ⟨h1 hg hsrc, h2⟩

/-- With a target, the only error of `minimise_table` is `MinimisationFailedError` carrying that
target. -/
theorem minimiseTable_failure (T : List Entry) (t : Nat) (methods : List Method) (e : Err)
    (h : minimiseTable T (some t) methods = .error e) : ∃ best, e = .minFailed t best :=
  have ⟨_, n, ht, he⟩ := (minimiseTable_meets T (some t) methods).error h
  ⟨n, Option.some.inj ht ▸ he⟩

/-- When `minimise_table` fails for a target it reports the best size reached: every method (the identity included) failed with a size at least `best`, and `best` is
the table's own length or the size one of the methods reported. -/
theorem minimiseTable_best (T : List Entry) (t t0 best : Nat) (methods : List Method)
    (h : minimiseTable T (some t) methods = .error (.minFailed t0 best)) :
    t0 = t ∧ best ≤ T.length ∧
    (∀ f ∈ Method.identity :: methods, ∃ t' n, runMethod f T (some t) = .error (.minFailed t' n) ∧ best ≤ n) ∧
    (best = T.length ∨ ∃ f ∈ Method.identity :: methods, ∃ t', runMethod f T (some t) = .error (.minFailed t' best)) := by
  obtain ⟨_, he, h2, h3, h4⟩ := (tryLoop_sat T t (.identity :: methods) T.length).error h
  cases he
  exact ⟨rfl, h2, fun f hf => ⟨t, h3 f hf⟩, h4.imp id fun ⟨f, hf, h⟩ => ⟨f, hf, t, h⟩⟩

/-- The method chain's only error is `MinimisationFailedError`, and
without a target it always returns a table. -/
theorem minimiseTable_total (T : List Entry) (target : Option Nat) (methods : List Method) :
    minimiseTable T target methods ≠ .error .fuel ∧
    (target = none → ∃ T', minimiseTable T none methods = .ok T') := by
  refine ⟨fun h => ?_, fun _ => ?_⟩
  · obtain ⟨_, _, _, he⟩ := (minimiseTable_meets T target methods).error h
    cases he
  · obtain ⟨T', h, _⟩ := ((minimiseTable_meets T none methods).imp_error fun _ ⟨_, _, h, _⟩ => nomatch h).exists_ok
    exact ⟨T', h⟩

/-- Target clause of the method chain: with a target, `minimise_table` returns a table or raises
`MinimisationFailedError(target, best)` (`best`: `minimiseTable_best`); that a returned table
meets the target is the last clause of `minimiseTable_equiv`. -/
theorem minimiseTable_target_total (T : List Entry) (t : Nat) (methods : List Method) :
    (∃ T', minimiseTable T (some t) methods = .ok T') ∨
    (∃ best, minimiseTable T (some t) methods = .error (.minFailed t best)) := by
  cases h : minimiseTable T (some t) methods with
  | ok T' => exact Or.inl ⟨T', rfl⟩
  | error e => obtain ⟨b, rfl⟩ := minimiseTable_failure T t methods e h; exact Or.inr ⟨b, rfl⟩

/-- `minimise_tables`: every chip's table is minimised by
`minimise_table` with that chip's target; the result holds exactly the non-empty results (an
empty result means every matched key is default-routed, and the chip gets no table). -/
theorem minimiseTables_equiv (chips : List (Nat × List Entry × Option Nat)) (methods : List Method)
    (out : List (Nat × List Entry)) (h : minimiseTables chips methods = .ok out) :
    (∀ x ∈ chips, ∃ T', minimiseTable x.2.1 x.2.2 methods = .ok T' ∧ (T' = [] ∨ (x.1, T') ∈ out)) ∧
    (∀ y ∈ out, y.2 ≠ [] ∧ ∃ x ∈ chips, x.1 = y.1 ∧ minimiseTable x.2.1 x.2.2 methods = .ok y.2) := by
  fun_induction minimiseTables chips methods generalizing out with
  | case1 => cases h; exact ⟨nofun, nofun⟩
  | case2 => cases h
  | case3 => cases h
  | case4 chip T target rest methods r hr out' hout ih =>
    cases h
    obtain ⟨ih1, ih2⟩ := ih out' hout
    have ih2' := fun y hy => let ⟨h1, x, hx, h2⟩ := ih2 y hy; (⟨h1, x, List.mem_cons_of_mem _ hx, h2⟩ :
      y.2 ≠ [] ∧ ∃ x ∈ (chip, T, target) :: rest, x.1 = y.1 ∧ minimiseTable x.2.1 x.2.2 methods = Except.ok y.2)
    rw [List.forall_mem_cons]
    cases r with
    | nil => exact ⟨⟨⟨[], hr, Or.inl rfl⟩, ih1⟩, ih2'⟩
    | cons a l =>
      exact ⟨⟨⟨_, hr, Or.inr List.mem_cons_self⟩, fun x hx =>
          let ⟨T', h1, h2⟩ := ih1 x hx; ⟨T', h1, h2.imp id (List.mem_cons_of_mem _)⟩⟩,
        List.forall_mem_cons.mpr ⟨⟨nofun, _, List.mem_cons_self, rfl, hr⟩, ih2'⟩⟩

/-- When `minimise_tables` returns, every chip whose table
is orthogonal or generality-sorted (entries listing at least one source) got a table that routes
every matched key identically, is not longer and meets that chip's target; a chip is absent from
the result only if its minimised table is empty (every matched key is then default-routed). -/
theorem minimiseTables_routes (chips : List (Nat × List Entry × Option Nat)) (methods : List Method)
    (out : List (Nat × List Entry)) (h : minimiseTables chips methods = .ok out)
    (x : Nat × List Entry × Option Nat) (hx : x ∈ chips) (hg : Good x.2.1)
    (hsrc : ∀ e ∈ x.2.1, e.sources ≠ 0) :
    ∃ T', (T' = [] ∨ (x.1, T') ∈ out) ∧ RouteEquiv x.2.1 T' ∧ T'.length ≤ x.2.1.length ∧
      (∀ t, x.2.2 = some t → T'.length ≤ t) := by
  obtain ⟨T', h1, h2⟩ := (minimiseTables_equiv chips methods out h).1 x hx
  obtain ⟨h3, h4, h5⟩ := minimiseTable_equiv x.2.1 x.2.2 methods T' hg hsrc h1
  exact ⟨T', h2, h3, h4, h5⟩

/-- The only error of `minimise_tables` is the `MinimisationFailedError` that `minimise_table`
raises for one of the chips, carrying that chip and its target. -/
theorem minimiseTables_failure (chips : List (Nat × List Entry × Option Nat)) (methods : List Method)
    (chip : Nat) (e : Err) (h : minimiseTables chips methods = .error (chip, e)) :
    ∃ x ∈ chips, x.1 = chip ∧ minimiseTable x.2.1 x.2.2 methods = .error e ∧
      ∃ t best, x.2.2 = some t ∧ e = .minFailed t best := by
  fun_induction minimiseTables chips methods with
  | case1 => cases h
  | case2 c T target rest methods e' he =>
    cases h
    exact ⟨_, List.mem_cons_self, rfl, he, (minimiseTable_meets T target methods).error he⟩
  | case3 c T target rest methods r _ e' ho ih =>
    cases h
    obtain ⟨x, hx, h1⟩ := ih ho
    exact ⟨x, List.mem_cons_of_mem _ hx, h1⟩
  | case4 => cases h

/-! ## The oracle of the check is the specification -/

/-- `routeEquivBrute` - the function the check runs on every table returned
by the implementation, enumerating only the key bits that can make a difference - returns no
failing key exactly when `RouteEquiv T T'` holds over all 2^32 keys. -/
theorem oracle_decides (T T' : List Entry) : routeEquivBrute T T' = none ↔ RouteEquiv T T' := by
  rw [routeEquivBrute, brute_none_iff (T ++ T') (keyOkB T T')]
  · exact forall_congr' (keyOkB_iff T T')
  · intro k h
    rw [keyOkB, lookup_none_iff.mpr fun d hd => h d (List.mem_append_left _ hd)]
  · intro k k' h
    rw [keyOkB, keyOkB, lookup_congr fun e he => h e (List.mem_append_left _ he),
      lookup_congr fun e he => h e (List.mem_append_right _ he)]

/-- and a key it returns is a genuine counterexample -/
theorem oracle_counterexample (T T' : List Entry) (k : W) (h : routeEquivBrute T T' = some k) :
    ¬ KeyOk T T' k := by
  intro hk
  have := List.find?_some h
  rw [(keyOkB_iff T T' k).mpr hk] at this
  cases this

/-- non-vacuity of the chain: a generality-sorted table with known sources is minimised to one entry -/
example :
    let T : List Entry := [⟨4, 0#32, 0xf#32, 8⟩, ⟨4, 1#32, 0xf#32, 16⟩, ⟨4, 2#32, 0xf#32, 8⟩, ⟨4, 3#32, 0xf#32, 8⟩]
    SortedGen T ∧ (∀ e ∈ T, e.sources ≠ 0) ∧ minimiseTable T none = .ok [⟨4, 0#32, 0xc#32, 24⟩] := by
  unfold SortedGen
  decide +kernel

/-! ## The library's own equivalence checker `utils.table_is_subset_of`

`RouteSame a b` is `RouteEquiv a b` without the clause about source directions (the function never
looks at the sources of `b`).  `WellFormed a`: no key bit outside the mask.  -/

theorem wellFormed_iff (T : List Entry) : WellFormed T ↔ wellFormedB T = true := by
  simp only [WellFormed, wellFormedB, List.all_eq_true, beq_iff_eq]

/-- Without any hypothesis on the tables, `table_is_subset_of(a, b)` answers True exactly
when every entry that survives `expand_entries(a, ignore_xs=get_common_xs(b))` has its
*representative key* (the expanded entry's own `key`) routed by the first match of `b` to the
entry's route, or unmatched by `b` with the entry default-routable. -/
theorem tableIsSubsetOf_exact (a b : List Entry) :
    tableIsSubsetOf a b = true ↔ ∀ ee ∈ expandEntries a (some (commonXs b)), RepOk b ee := by
  simp only [tableIsSubsetOf, List.all_eq_true, subsetCheckOne_iff]

/-- For a well-formed orthogonal `a` (any `b`): True implies that every
key matched in `a` gets the same route from `b`'s first match, or is unmatched by `b` and
default-routed exactly as its entry of `a` routes it. -/
theorem tableIsSubsetOf_sound (a b : List Entry) (hw : WellFormed a) (ho : Orthogonal a)
    (h : tableIsSubsetOf a b = true) : RouteSame a b := by
  intro k e hl
  obtain ⟨hm, he⟩ := lookup_some_matches hl
  obtain ⟨ee, hee, hmk⟩ := expandGo_covers (commonXs b) bitsDown e k hm
  rcases dedupKeys_keeps _ [] ee (List.mem_flatMap.mpr ⟨e, he, hee⟩) with hs | ⟨ee', hk1, hk2⟩
  · cases hs
  · obtain ⟨e', he', hee'⟩ := mem_expandEntries (I := commonXs b) hk1
    -- both parents match the representative key
    obtain rfl : e = e' := orthogonal_unique ho he he' (expandGo_matches_key hee (hw e he))
      (hk2 ▸ expandGo_matches_key hee' (hw e' he'))
    obtain ⟨hr, hsrc, _⟩ := expandGo_spec hee'
    exact (repOk_congr hr hsrc (hk2 ▸ lookup_rep (fun _ => expandEntry_noX _ hee) hmk)).mp
      ((subsetCheckOne_iff ee' b).mp (List.all_eq_true.mp h ee' hk1))

/-- On a well-formed orthogonal `a` the function is exact for `RouteSame`. -/
theorem tableIsSubsetOf_iff (a b : List Entry) (hw : WellFormed a) (ho : Orthogonal a) :
    tableIsSubsetOf a b = true ↔ RouteSame a b := by
  refine ⟨tableIsSubsetOf_sound a b hw ho, fun h => ?_⟩
  refine List.all_eq_true.mpr fun ee hee => ?_
  obtain ⟨e, he, hex⟩ := mem_expandEntries hee
  obtain ⟨hr, hsrc, _⟩ := expandGo_spec hex
  exact (subsetCheckOne_iff ee b).mpr ((repOk_congr hr hsrc rfl).mpr
    (h ee.key e (orthogonal_lookup_mem ho he (expandGo_matches_key hex (hw e he)))))

theorem tableIsSubsetOf_of_routeEquiv (a b : List Entry) (hw : WellFormed a) (ho : Orthogonal a)
    (h : RouteEquiv a b) : tableIsSubsetOf a b = true :=
  (tableIsSubsetOf_iff a b hw ho).mpr (routeEquiv_routeSame h)

/-- How the check decides `RouteSame` on the code's answers: it is `RouteEquiv` against `b` with
every source direction listed, hence decided by `routeEquivBrute` (sources are bit sets below
2^25). -/
theorem routeSame_oracle (a b : List Entry) (h : ∀ e ∈ a, e.sources < 2 ^ 25) :
    RouteSame a b ↔ routeEquivBrute a (fullSources b) = none := by
  rw [oracle_decides]
  refine forall_congr' fun k => forall_congr' fun e => imp_congr_right fun he => ?_
  rw [lookup_fullSources]
  cases lookup b k <;>
    simp [bitSubset_full (h e (lookup_some_matches he).2)]

/-- The assertion used by the repository's minimiser tests,
`table_is_subset_of(table, minimise(table))`, follows from `RouteEquiv` for every well-formed
orthogonal table with listed sources and any method list. -/
theorem minimiseTable_passes_tableIsSubsetOf (T : List Entry) (target : Option Nat) (methods : List Method)
    (T' : List Entry) (hw : WellFormed T) (ho : Orthogonal T) (hsrc : ∀ e ∈ T, e.sources ≠ 0)
    (h : minimiseTable T target methods = .ok T') : tableIsSubsetOf T T' = true :=
  tableIsSubsetOf_of_routeEquiv T T' hw ho (minimiseTable_equiv T target methods T' (Or.inl ho) hsrc h).1

theorem minimise_passes_tableIsSubsetOf (T : List Entry) (target : Option Nat)
    (T' : List Entry) (hw : WellFormed T) (ho : Orthogonal T) (hsrc : ∀ e ∈ T, e.sources ≠ 0)
    (h : ocMinimise T target = .ok T') : tableIsSubsetOf T T' = true :=
  tableIsSubsetOf_of_routeEquiv T T' hw ho (minimise_equiv T target T' (Or.inl ho) hsrc h).1

/-- When `a` is well formed, `b` does route every key of `a`
identically and the function nevertheless answers False, the reason is always the same: a
surviving expanded entry `ee` (from entry `e` of `a`) whose representative key is first-matched
in `a` by a *different* entry `e0` with another route (or `e0` default-routable, `e` not) - so
`a` is not orthogonal, and `ee` was not dropped by the `seen_keys` filter although it is hidden
at that key. -/
theorem tableIsSubsetOf_false_on_equiv (a b : List Entry) (hw : WellFormed a) (hs : RouteSame a b)
    (h : tableIsSubsetOf a b = false) :
    ∃ ee ∈ expandEntries a (some (commonXs b)), ∃ e ∈ a, ee ∈ expandEntry (commonXs b) e ∧
      ∃ e0 ∈ a, lookup a ee.key = some e0 ∧ e0 ≠ e ∧ e.matches ee.key = true ∧
        (e0.route ≠ e.route ∨ (DefaultRouted e0 ∧ ¬ DefaultRouted e)) := by
  obtain ⟨ee, hee, hchk⟩ := List.all_eq_false.mp h
  obtain ⟨e, he, hex⟩ := mem_expandEntries hee
  have hm := expandGo_matches_key hex (hw e he)
  obtain ⟨hr, hsrc, _⟩ := expandGo_spec hex
  rw [subsetCheckOne_iff, repOk_congr hr hsrc rfl] at hchk
  cases hl : lookup a ee.key with
  | none => rw [lookup_none_iff.mp hl e he] at hm; cases hm
  | some e0 =>
    have h0 := hs ee.key e0 hl
    refine ⟨ee, hee, e, he, hex, e0, (lookup_some_matches hl).2, hl, fun h => hchk (h ▸ h0), hm, ?_⟩
    by_cases hre : e0.route = e.route
    · rw [hre] at h0
      exact Or.inr (h0.elim (fun h => absurd (Or.inl h) hchk) fun h => ⟨h.2, fun hd => hchk (Or.inr ⟨h.1, hd⟩)⟩)
    · exact Or.inl hre

/-- Not sound on overlapping tables.  `a = [XXX…X0 -> E, XXX…0X -> N]` (well formed, sorted by
generality), `b = [X…X -> E]`: every position is a common X of `b`, nothing is expanded, both
entries of `a` have key 0 and the second is dropped by the `seen_keys` filter although it alone
matches key 1.  The function answers True; key 1 goes N in `a` and E in `b`.  (Replayed on the
real code by the harness.) -/
theorem tableIsSubsetOf_unsound_overlapping :
    let a : List Entry := [⟨1, 0#32, 1#32, 2 ^ 24⟩, ⟨4, 0#32, 2#32, 2 ^ 24⟩]
    let b : List Entry := [⟨1, 0#32, 0#32, 2 ^ 24⟩]
    WellFormed a ∧ SortedGen a ∧ tableIsSubsetOf a b = true ∧ ¬ RouteSame a b := by
  refine ⟨by unfold WellFormed; decide +kernel, by unfold SortedGen; decide +kernel, by decide +kernel,
    fun h => absurd ((routeSame_oracle _ _ (by decide +kernel)).mp h) (by decide +kernel)⟩

/-- Not sound on ill-formed tables.  An entry with a key bit outside its mask matches nothing
but still claims its key in `seen_keys`: `a = [(E, key 1, mask 0), (N, key 1, mask 1)]` passes
`orthogonalB`, `b = [(E, key 1, mask 1)]`; the answer is True, key 1 goes N in `a` and E in `b`. -/
theorem tableIsSubsetOf_unsound_illformed :
    let a : List Entry := [⟨1, 1#32, 0#32, 2 ^ 24⟩, ⟨4, 1#32, 1#32, 2 ^ 24⟩]
    let b : List Entry := [⟨1, 1#32, 1#32, 2 ^ 24⟩]
    orthogonalB a = true ∧ tableIsSubsetOf a b = true ∧ ¬ RouteSame a b := by
  refine ⟨by decide +kernel, by decide +kernel,
    fun h => absurd ((routeSame_oracle _ _ (by decide +kernel)).mp h) (by decide +kernel)⟩

/-- Not complete on overlapping tables.  `a = [X0 -> E, X1 -> E, 1X -> N]` (sorted by
generality; the last entry is completely hidden), `b = [XX -> E]`: the tables route every key
identically - even `RouteEquiv a b` holds - but the function answers False, because the hidden
entry's representative key `10` was not seen before. -/
theorem tableIsSubsetOf_incomplete_overlapping :
    let a : List Entry := [⟨1, 0#32, 1#32, 2 ^ 24⟩, ⟨1, 1#32, 1#32, 2 ^ 24⟩, ⟨4, 2#32, 2#32, 2 ^ 24⟩]
    let b : List Entry := [⟨1, 0#32, 0#32, 2 ^ 24⟩]
    WellFormed a ∧ SortedGen a ∧ RouteEquiv a b ∧ tableIsSubsetOf a b = false := by
  refine ⟨by unfold WellFormed; decide +kernel, by unfold SortedGen; decide +kernel,
    (oracle_decides _ _).mp (by decide +kernel), by decide +kernel⟩

/-- the documented examples of `get_common_xs`, `expand_entries` and `table_is_subset_of`'s
default-route case, on the model (the harness replays all docstring examples on the code) -/
example : commonXs [⟨0, 4#32, 0xfffffffc#32, 0⟩, ⟨0, 2#32, 0xfffffff2#32, 0⟩] = 1#32 := by decide +kernel
example : (expandEntries [⟨0, 4#32, 0xfffffffc#32, 0⟩, ⟨0, 2#32, 0xfffffff2#32, 0⟩] none).map (fun e => (e.key, e.mask))
    = [(4#32, 0xfffffffe#32), (6#32, 0xfffffffe#32), (2#32, 0xfffffffe#32), (10#32, 0xfffffffe#32),
       (14#32, 0xfffffffe#32)] := by decide +kernel
example : tableIsSubsetOf [⟨4, 0#32, 0xf#32, 32⟩] [] = true := by decide +kernel

/-! ## The hypothesis `sources ≠ ∅` of `minimise_equiv` is necessary -/

/-- `T = [0000 -> E (sources = set()), 0001 -> E (from W)]` is
orthogonal and sorted; ordered covering merges both into `000X -> E` with sources `{W}`, which
default-route removal then drops: `minimise` returns the empty table, but the first entry never
listed the single link the packet must have come from, so the property's default-routing clause
does not hold for key 0000.  (`sources = set()` is outside the documented domain - `{None}` means
unknown; the harness replays this on the real code as an out-of-domain note.) -/
theorem minimise_needs_sources :
    let T : List Entry := [⟨1, 0#32, 0xf#32, 0⟩, ⟨1, 1#32, 0xf#32, 8⟩]
    Orthogonal T ∧ SortedGen T ∧ ocMinimise T none = .ok [] ∧ minimiseTable T none = .ok [] ∧
      ¬ RouteEquiv T [] := by
  refine ⟨?_, by unfold SortedGen; decide +kernel, by decide +kernel, by decide +kernel,
    fun h => absurd ((oracle_decides _ _).mpr h) (by decide +kernel)⟩
  refine List.pairwise_pair.mpr fun k ⟨h1, h2⟩ => ?_
  have := (beq_iff_eq.mp h1).symm.trans (beq_iff_eq.mp h2)
  revert this; decide

/-- The hypothesis of `orderedCovering_inv` on the alias dictionary is exactly `AliasCover` (on
the sorted table). -/
theorem userAliases_precondition (S : List Entry) (A : Aliases) : Inv S S A ↔ AliasCover S A := by
  refine ⟨fun h k o ho => ?_, fun h k o ho => ⟨o, ho, rfl, bitSubset_refl _, h k o ho⟩⟩
  obtain ⟨e, h1, _, _, h4⟩ := h k o ho
  cases ho.symm.trans h1
  exact h4

/-- The checker the harness runs on generated dictionaries decides that
precondition (over all 2^32 keys). -/
theorem aliasOracle_decides (S : List Entry) (A : Aliases) : aliasOkBrute S A = none ↔ Inv S S A := by
  rw [userAliases_precondition]; exact aliasOkBrute_none_iff

/-- a sufficient syntactic condition: every key/mask of the table that the dictionary lists is
among its own aliases -/
theorem userAliases_self (S : List Entry) (A : Aliases)
    (h : ∀ e ∈ S, ∀ v, alGet A e.km = some v → e.km ∈ v) : Inv S S A := by
  refine (userAliases_precondition S A).mpr fun k o ho => ?_
  obtain ⟨hm, hmem⟩ := lookup_some_matches ho
  refine ⟨o.km, ?_, hm⟩
  rw [alOf]
  cases hg : alGet A o.km with
  | none => exact List.mem_singleton.mpr rfl
  | some v => exact h o hmem v hg

/-- `ordered_covering(table, target, aliases, no_raise)` with a
user dictionary satisfying `AliasCover` on the sorted table: for an orthogonal or
generality-sorted table the returned table routes every matched key identically (first match,
same route, the original's sources listed), is sorted and not longer, and the returned dictionary
satisfies the invariant again. -/
theorem orderedCovering_userAliases (T : List Entry) (target : Option Nat) (A : Aliases) (noRaise : Bool)
    (T' : List Entry) (A' : Aliases) (hg : Good T) (hA : AliasCover (sortTable T) A)
    (h : orderedCovering T target A noRaise = .ok (T', A')) :
    RouteEquiv T T' ∧ T'.length ≤ T.length ∧ SortedGen T' ∧ Inv (sortTable T) T' A' := by
  obtain ⟨h1, h2, h3⟩ := orderedCovering_inv T target A noRaise T' A' ((userAliases_precondition _ _).mpr hA) h
  exact ⟨fun k o ho => Or.inl (covers_of_inv hg h1 k o ho), h3, h2, h1⟩

/-- Without `AliasCover` the conclusion can fail:
`T = [101 -> E, XX1 -> N, XX1 -> E]` (sorted by generality) with the dictionary
`{XX1: {X00}}` - the listed alias does not cover `XX1` - makes the down-check blind for the two
`XX1` entries; `ordered_covering` merges `101` with the *second* `XX1` entry and inserts the result
above the first one: key `001` went N and now goes E.  (Replayed on the real code by the harness.) -/
theorem userAliases_precondition_needed :
    let T : List Entry := [⟨1, 5#32, 7#32, 2 ^ 24⟩, ⟨4, 1#32, 1#32, 2 ^ 24⟩, ⟨1, 1#32, 1#32, 2 ^ 24⟩]
    let A : Aliases := [((1#32, 1#32), [(0#32, 3#32)])]
    let T' : List Entry := [⟨1, 1#32, 1#32, 2 ^ 24⟩, ⟨4, 1#32, 1#32, 2 ^ 24⟩]
    SortedGen T ∧ ¬ AliasCover (sortTable T) A ∧
      (∃ A', orderedCovering T none A true = .ok (T', A')) ∧ ¬ RouteEquiv T T' := by
  exact ⟨by unfold SortedGen; decide +kernel,
    fun h => absurd (aliasOkBrute_none_iff.mpr h) (by decide +kernel), ⟨[], by decide +kernel⟩,
    fun h => absurd ((oracle_decides _ _).mpr h) (by decide +kernel)⟩

/-- non-vacuity: a dictionary that splits `000X` into its two halves is valid, one that lists only
one half is not -/
example : AliasCover [⟨1, 0#32, 0xe#32, 8⟩] [((0#32, 0xe#32), [(0#32, 0xf#32), (1#32, 0xf#32)])] :=
  aliasOkBrute_none_iff.mp (by decide +kernel)
example : ¬ AliasCover [⟨1, 0#32, 0xe#32, 8⟩] [((0#32, 0xe#32), [(0#32, 0xf#32)])] :=
  fun h => absurd (aliasOkBrute_none_iff.mpr h) (by decide +kernel)

/-! ## `Routes` and `RoutingTableEntry` (entries.py) -/

/-- the enumeration as the source has it (independent of the definition order and of the names of
the core routes): 24 members with distinct names whose values are exactly 0..23, the six links
carry the hardware numbers E=0, NE=1, N=2, W=3, SW=4, S=5 (so that `(l + 3) % 6` is the opposite
link), and `sources` defaults to `{None}` -/
theorem routes_members :
    Rig.Gen.C04Routes.members.length = 24 ∧
    (List.range 24).all (fun v => (List.map (·.2) Rig.Gen.C04Routes.members).contains v) = true ∧
    (List.map (·.1) Rig.Gen.C04Routes.members).Nodup ∧
    [("east", 0), ("north_east", 1), ("north", 2), ("west", 3), ("south_west", 4), ("south", 5)].all
      (fun p => Rig.Gen.C04Routes.members.contains p) = true ∧
    Rig.Gen.C04Routes.defaultSources = [24] := by
  refine ⟨by decide, by decide +kernel, by decide +kernel, by decide +kernel, by decide⟩

theorem routesOfValue_ok : ∀ v, v < 24 → routesOfValue v = .ok v := by decide +kernel

theorem routesCore_eq (n : Int) :
    routesCore n = if 0 ≤ n ∧ n ≤ 17 then .ok (6 + n).toNat else .error .valueError := by
  rw [routesCore]
  by_cases h : 0 ≤ n ∧ n ≤ 17
  · rw [if_neg (not_not_intro h), if_pos h, routesOfValue_ok _ (by omega)]
  · rw [if_pos h, if_neg h]

/-- `Routes.core(n)` is `Routes(6 + n)` for 0 ≤ n ≤ 17 (and `ValueError` otherwise,
`routesCore_error`). -/
theorem routesCore_spec (n : Int) (r : Nat) :
    routesCore n = .ok r ↔ (0 ≤ n ∧ n ≤ 17 ∧ (r : Int) = 6 + n) := by
  rw [routesCore_eq]
  by_cases h : 0 ≤ n ∧ n ≤ 17
  · rw [if_pos h]
    exact ⟨fun hr => ⟨h.1, h.2, by cases hr; omega⟩, fun ⟨_, _, hr⟩ => congrArg _ (by omega)⟩
  · rw [if_neg h]
    exact ⟨nofun, fun ⟨h1, h2, _⟩ => absurd ⟨h1, h2⟩ h⟩

theorem routesCore_error (n : Int) : routesCore n = .error .valueError ↔ ¬ (0 ≤ n ∧ n ≤ 17) := by
  rw [routesCore_eq]
  by_cases h : 0 ≤ n ∧ n ≤ 17
  · rw [if_pos h]; exact ⟨nofun, fun h' => absurd h h'⟩
  · rw [if_neg h]; exact ⟨fun _ => h, fun _ => rfl⟩

/-- a core route is a core, not a link, has no opposite, and `core_num` gives the number back -/
theorem core_roundtrip (n : Nat) (hn : n ≤ 17) :
    routesCore n = .ok (6 + n) ∧ isCore (6 + n) = true ∧ isLink (6 + n) = false ∧
    coreNum (6 + n) = .ok n ∧ routeOpposite (6 + n) = .error .valueError := by
  refine ⟨(routesCore_spec n (6 + n)).mpr ⟨by omega, by omega, by omega⟩, ?_, ?_, ?_, ?_⟩
  · simp [isCore, isLink]
  · simp [isLink]
  · simp [coreNum, isCore, isLink]
  · simp [routeOpposite, isLink]

theorem link_spec (r : Nat) :
    (isLink r = true ↔ r < 6) ∧ (isLink r = true → coreNum r = .error .valueError) ∧
    (isLink r = true → ∃ r', routeOpposite r = .ok r' ∧ r' = (r + 3) % 6 ∧ isLink r' = true ∧
      routeOpposite r' = .ok r) := by
  have hop : ∀ r, r < 6 → routeOpposite r = .ok ((r + 3) % 6) ∧ isLink ((r + 3) % 6) = true ∧
      routeOpposite ((r + 3) % 6) = .ok r := by decide +kernel
  refine ⟨decide_eq_true_iff, fun h => ?_, fun h => ⟨_, (hop r (of_decide_eq_true h)).1, rfl,
    (hop r (of_decide_eq_true h)).2⟩⟩
  rw [coreNum, isCore, h]; rfl

/-- `Routes.opposite` agrees with `Links.opposite` (rig/links.py, translated for C03) -/
theorem routeOpposite_links :
    (List.range 6).map routeOpposite = Rig.Gen.C03Links.oppositeTable.map Except.ok := by decide

theorem bitsOf_testBit (l : List Nat) (i : Nat) : (bitsOf l).testBit i = l.contains i := by
  simp [bitsOf, Bits.testBit_foldl_or_pow]

/-- `RoutingTableEntry(route, key, mask[, sources])` validates nothing; route
and sources are stored as sets (order and duplicates do not matter); sources default to `{None}`;
`Routes.core(n)` in the route is bit 6 + n. -/
theorem mkEntry_spec (route : List Nat) (key mask : W) (sources : Option (List Nat)) :
    let e := mkEntry route key mask sources
    e.key = key ∧ e.mask = mask ∧ (∀ i, e.route.testBit i = route.contains i) ∧
    (∀ s, sources = some s → ∀ i, e.sources.testBit i = s.contains i) ∧
    (sources = none → e.sources = 2 ^ 24) := by
  refine ⟨rfl, rfl, fun i => bitsOf_testBit _ i, ?_, ?_⟩
  · intro s hs i; subst hs; exact bitsOf_testBit _ i
  · intro hs; subst hs; show bitsOf Rig.Gen.C04Routes.defaultSources = 2 ^ 24; decide

/-- the default-routing clause of the specification in terms of `Routes.opposite` -/
theorem defaultRouted_iff_opposite (e : Entry) :
    DefaultRouted e ↔ ∃ l sink, isLink l = true ∧ e.sources = bitsOf [l] ∧
      routeOpposite l = .ok sink ∧ e.route = bitsOf [sink] := by
  have hb : ∀ l, bitsOf [l] = 2 ^ l := fun l => Nat.zero_or _
  simp only [hb]
  constructor
  · rintro ⟨l, hl, hs, hr⟩
    obtain ⟨_, h1, rfl, _⟩ := (link_spec l).2.2 (decide_eq_true hl)
    exact ⟨l, _, decide_eq_true hl, hs, h1, hr⟩
  · rintro ⟨l, sink, hl, hs, ho, hr⟩
    obtain ⟨_, h1, rfl, _⟩ := (link_spec l).2.2 hl
    cases h1.symm.trans ho
    exact ⟨l, of_decide_eq_true hl, hs, hr⟩

end Rig.C04
