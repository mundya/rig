/-
C03 - a_star.  Chip geometry (a hop and the hop over the opposite link cancel); the `visited` map is a tree of working
links towards the sink (`VTree`), which the search loop keeps (`AInv`); the fuel `w * h + 1` is never exhausted (every
iteration expands a different in-range chip); `aStar_spec`: the three outcomes with all that is known of each.
-/
import RigModel.Model.C03
namespace Rig.C03.L
open Rig.Gen.C03Links

theorem chipOk_inRange {m : Machine} {c : Chip} (h : chipOk m c = true) : InRange m c := by
  simp only [chipOk, Bool.and_eq_true, decide_eq_true_eq] at h
  exact ⟨h.1.1.1.1, h.1.1.1.2, h.1.1.2, h.1.2⟩

theorem linkOk_chipOk {m : Machine} {c : Chip} {l : Nat} (h : linkOk m c l = true) : chipOk m c = true := by
  simp only [linkOk, Bool.and_eq_true] at h
  exact h.1

theorem inRange_toNat {m : Machine} {c : Chip} (hc : InRange m c) :
    c.1.toNat < m.w ∧ c.2.toNat < m.h ∧ ((c.1.toNat : Int), (c.2.toNat : Int)) = c :=
  ⟨(Int.toNat_lt hc.1).2 hc.2.1, (Int.toNat_lt hc.2.2.1).2 hc.2.2.2,
    Prod.ext (Int.toNat_of_nonneg hc.1) (Int.toNat_of_nonneg hc.2.2.1)⟩

theorem mem_linkOrder {l : Nat} : l ∈ linkOrder ↔ l < 6 :=
  ⟨(by decide : ∀ l, l ∈ linkOrder → l < 6) l, (by decide : ∀ l, l < 6 → l ∈ linkOrder) l⟩

theorem vec_opp : ∀ l, l < 6 → vec (opp l) = (-(vec l).1, -(vec l).2) := by decide

theorem emod_back (x a w : Int) (h0 : 0 ≤ x) (h1 : x < w) : ((x + a) % w + -a) % w = x := by
  rw [Int.emod_add_emod, Int.add_neg_cancel_right, Int.emod_eq_of_lt h0 h1]

theorem step_step (m : Machine) {c : Chip} {l l' : Nat} (h : vec l' = (-(vec l).1, -(vec l).2))
    (hc : InRange m c) : step m (step m c l) l' = c := by
  simp only [step, h, wrapC]
  exact Prod.ext (emod_back _ _ _ hc.1 hc.2.1) (emod_back _ _ _ hc.2.2.1 hc.2.2.2)

theorem step_back (m : Machine) (c : Chip) (l : Nat) (hl : l < 6) (hc : InRange m c) :
    step m (step m c (opp l)) l = c :=
  step_step m (by rw [vec_opp l hl, Int.neg_neg, Int.neg_neg]) hc

theorem step_opp (m : Machine) (c : Chip) (l : Nat) (hl : l < 6) (hc : InRange m c) :
    step m (step m c l) (opp l) = c :=
  step_step m (vec_opp l hl) hc

/-- a set of chips closed under "predecessor over a working link" contains every chip that reaches one of its
members -/
theorem reach_closed {m : Machine} {S : Chip → Prop}
    (hS : ∀ c l, l < 6 → chipOk m c = true → linkOk m (step m c (opp l)) l = true → S c → S (step m c (opp l)))
    {x y : Chip} (hr : Reach m x y) : S y → S x := by
  induction hr with
  | refl => exact id
  | @hop b l _ hl hk hc ih =>
    intro hy
    have hb := step_opp m b l hl (chipOk_inRange (linkOk_chipOk hk))
    have := hS _ l hl hc (by rw [hb]; exact hk) hy
    rw [hb] at this
    exact ih this

theorem has_cons (x : Chip × Option (Nat × Chip)) (v : Visited) (c : Chip) :
    Visited.has (x :: v) c = (x.1 == c || Visited.has v c) := by
  simp [Visited.has]

theorem look_cons (x : Chip × Option (Nat × Chip)) (v : Visited) (c : Chip) :
    Visited.look (x :: v) c = if x.1 == c then some x.2 else Visited.look v c := by
  simp only [Visited.look, List.find?]
  split <;> simp_all

theorem heapMin_mem : ∀ (r : Heap) (best : Int × Chip), heapMin best r ∈ best :: r
  | [], _ => List.mem_singleton.2 rfl
  | x :: r, best => by
    simp only [heapMin]
    split
    · exact List.mem_cons_of_mem _ (heapMin_mem r x)
    · exact (List.mem_cons.1 (heapMin_mem r best)).elim (fun h => List.mem_cons.2 (Or.inl h))
        fun h => List.mem_cons_of_mem _ (List.mem_cons_of_mem _ h)

theorem popMin_eq (hp : Heap) :
    (hp = [] ∧ popMin hp = none) ∨ ∃ mn, mn ∈ hp ∧ popMin hp = some (mn, hp.erase mn) := by
  cases hp with
  | nil => exact Or.inl ⟨rfl, rfl⟩
  | cons x r => exact Or.inr ⟨_, heapMin_mem r x, rfl⟩

/-- the loop body either leaves the state alone (dead link, or neighbour already visited) or visits the
neighbour `step m node (opp l)`, from which link `l` leads to `node` -/
theorem expand_cases (m : Machine) (heur : Chip → Int) (node : Chip) (st : Visited × Heap) (l : Nat) :
    (expand m heur node st l = st ∧
      (linkOk m (step m node (opp l)) l = true → st.1.has (step m node (opp l)) = true)) ∨
    (linkOk m (step m node (opp l)) l = true ∧ st.1.has (step m node (opp l)) = false ∧
      expand m heur node st l = ((step m node (opp l), some (l, node)) :: st.1,
        (heur (step m node (opp l)), step m node (opp l)) :: st.2)) := by
  cases hk : linkOk m (step m node (opp l)) l <;> cases hv : st.1.has (step m node (opp l)) <;>
    simp [expand, hk, hv]

theorem expand_has (m : Machine) (heur : Chip → Int) (node : Chip) (st : Visited × Heap) (l : Nat) :
    (∀ c, st.1.has c = true → (expand m heur node st l).1.has c = true) ∧
    (linkOk m (step m node (opp l)) l = true → (expand m heur node st l).1.has (step m node (opp l)) = true) := by
  rcases expand_cases m heur node st l with ⟨he, h⟩ | ⟨-, -, he⟩ <;> rw [he]
  · exact ⟨fun _ h => h, h⟩
  · exact ⟨fun c h => by rw [has_cons, h, Bool.or_true], fun _ => by rw [has_cons, beq_self_eq_true, Bool.true_or]⟩

theorem foldl_expand_has {m : Machine} {heur : Chip → Int} {node : Chip} {ls : List Nat} {l : Nat} (hl : l ∈ ls)
    (st : Visited × Heap) (hk : linkOk m (step m node (opp l)) l = true) :
    (ls.foldl (expand m heur node) st).1.has (step m node (opp l)) = true := by
  obtain ⟨pre, post, rfl⟩ := List.append_of_mem hl
  rw [List.foldl_append, List.foldl_cons]
  exact List.foldlRecOn post _ (motive := fun st' => st'.1.has (step m node (opp l)) = true)
    ((expand_has m heur node _ l).2 hk) fun st' h l' _ => (expand_has m heur node st' l').1 _ h

/-- what the loop body establishes for the popped chip `c`: it is no source and every chip with a working link into it
is visited -/
def Expanded (m : Machine) (sources : List Chip) (v : Visited) (c : Chip) : Prop :=
  sources.contains c = false ∧
  ∀ l, l < 6 → linkOk m (step m c (opp l)) l = true → v.has (step m c (opp l)) = true

def allChips (w h : Nat) : List Chip :=
  (List.range w).flatMap fun (x : Nat) => (List.range h).map fun (y : Nat) => ((x : Int), (y : Int))

theorem mem_allChips {m : Machine} {c : Chip} (hc : InRange m c) : c ∈ allChips m.w m.h := by
  obtain ⟨h1, h2, h3⟩ := inRange_toNat hc
  simp only [allChips, List.mem_flatMap, List.mem_range, List.mem_map]
  exact ⟨c.1.toNat, h1, c.2.toNat, h2, h3⟩

theorem inRange_card {m : Machine} (l : List Chip) (hn : l.Nodup) (hr : ∀ c, c ∈ l → InRange m c) :
    l.length ≤ m.w * m.h := by
  have : (allChips m.w m.h).length = m.w * m.h := by
    simp [allChips, List.length_flatMap, List.map_const', List.sum_replicate_nat]
  rw [← this]
  exact hn.length_le_of_subset fun c hc => mem_allChips (hr c hc)

/-- `VTree` (below) without the link facts -/
inductive VStruct (sink : Chip) : Visited → Prop
  | base : VStruct sink [(sink, none)]
  | cons {v : Visited} {n : Chip} {l : Nat} {p : Chip} : VStruct sink v → v.has p = true → v.has n = false →
      VStruct sink ((n, some (l, p)) :: v)

theorem vstruct_sink {sink : Chip} {v : Visited} (hv : VStruct sink v) : v.has sink = true := by
  induction hv with
  | base => rw [has_cons, beq_self_eq_true, Bool.true_or]
  | cons _ _ _ ih => rw [has_cons, ih, Bool.or_true]

theorem beq_of_fresh {v : Visited} {n c : Chip} (hn : v.has n = false) (hc : v.has c = true) : (n == c) = false :=
  beq_false_of_ne fun h => by rw [h, hc] at hn; cases hn

theorem vstruct_look_sink {sink : Chip} {v : Visited} (hv : VStruct sink v) : v.look sink = some none := by
  induction hv with
  | base => simp [Visited.look]
  | cons hv' _ hn ih => rw [look_cons, beq_of_fresh hn (vstruct_sink hv')]; exact ih

theorem vhas_iff (v : Visited) (c : Chip) : v.has c = true ↔ c ∈ v.map (·.1) := by
  simp only [Visited.has, List.any_eq_true, List.mem_map, beq_iff_eq]

inductive VTree (m : Machine) (sources : List Chip) (sink : Chip) : Visited → Prop
  | base : VTree m sources sink [(sink, none)]
  | cons {v : Visited} {n : Chip} {l : Nat} {p : Chip} : VTree m sources sink v → v.has p = true →
      v.has n = false → l < 6 → linkOk m n l = true → step m n l = p → sources.contains p = false →
      VTree m sources sink ((n, some (l, p)) :: v)

theorem VTree.vstruct {m : Machine} {sources : List Chip} {sink : Chip} {v : Visited}
    (h : VTree m sources sink v) : VStruct sink v := by
  induction h with
  | base => exact .base
  | cons _ hp hn _ _ _ _ ih => exact .cons ih hp hn

theorem VTree.keys {m : Machine} {sources : List Chip} {sink : Chip} {v : Visited} (hsink : InRange m sink)
    (h : VTree m sources sink v) : (v.map (·.1)).Nodup ∧ ∀ c, v.has c = true → InRange m c := by
  induction h with
  | base =>
    refine ⟨by simp, fun c hc => ?_⟩
    obtain rfl : sink = c := by simpa [Visited.has] using hc
    exact hsink
  | cons _ _ hn _ hk _ _ ih =>
    refine ⟨List.nodup_cons.2 ⟨fun hmem => (by rw [← vhas_iff, hn] at hmem; cases hmem), ih.1⟩, fun c hc => ?_⟩
    rw [has_cons, Bool.or_eq_true, beq_iff_eq] at hc
    exact hc.elim (fun h => h ▸ chipOk_inRange (linkOk_chipOk hk)) (ih.2 c)

/-- search state while `cur` is being expanded (`none`: between two iterations) -/
structure AInv (m : Machine) (sources : List Chip) (sink : Chip) (cur : Option Chip) (v : Visited) (hp : Heap) :
    Prop where
  tree : VTree m sources sink v
  heap : ∀ e, e ∈ hp → v.has e.2 = true
  done : ∀ c, v.has c = true → c ∈ hp.map (·.2) ∨ cur = some c ∨ Expanded m sources v c

/-- `hk`: the fuel inequality of `aStarLoop_spec`; the heap grows no more than the visited map does -/
theorem expand_inv {m : Machine} {sources : List Chip} {sink : Chip} {heur : Chip → Int} {node : Chip}
    (hnode : InRange m node) (hns : sources.contains node = false) {l : Nat} (hl : l < 6) {st : Visited × Heap}
    (hc : AInv m sources sink (some node) st.1 st.2) (hv : st.1.has node = true) {k f : Nat}
    (hk : k + st.2.length ≤ f + st.1.length) :
    AInv m sources sink (some node) (expand m heur node st l).1 (expand m heur node st l).2 ∧
    (expand m heur node st l).1.has node = true ∧
    k + (expand m heur node st l).2.length ≤ f + (expand m heur node st l).1.length := by
  have hmono := (expand_has m heur node st l).1
  rcases expand_cases m heur node st l with ⟨he, -⟩ | ⟨hlk, hfresh, he⟩ <;> rw [he] at hmono ⊢
  · exact ⟨hc, hv, hk⟩
  · refine ⟨⟨.cons hc.tree hv hfresh hl hlk (step_back m node l hl hnode) hns, fun e he => ?_, fun c h => ?_⟩,
      hmono _ hv, Nat.succ_le_succ hk⟩
    · exact (List.mem_cons.1 he).elim (fun h => by rw [h, has_cons, beq_self_eq_true, Bool.true_or])
        fun h => hmono _ (hc.heap e h)
    · rw [has_cons, Bool.or_eq_true, beq_iff_eq] at h
      rcases h with rfl | h
      · exact Or.inl List.mem_cons_self
      · rcases hc.done c h with h | h | h
        · exact Or.inl (List.mem_cons_of_mem _ h)
        · exact Or.inr (Or.inl h)
        · exact Or.inr (Or.inr ⟨h.1, fun l hl hk => hmono _ (h.2 l hl hk)⟩)

theorem aStarLoop_spec {m : Machine} {sources : List Chip} {sink : Chip} {heur : Chip → Int}
    (hsink : InRange m sink) :
    ∀ (fuel : Nat) (v : Visited) (hp : Heap), AInv m sources sink none v hp →
      m.w * m.h + hp.length ≤ fuel + v.length →
      ∃ sel v' hp', aStarLoop m heur sources fuel v hp = .ok (sel, v') ∧ AInv m sources sink none v' hp' ∧
        match sel with
        | none => hp' = []
        | some s => v'.has s = true ∧ sources.contains s = true := by
  intro fuel
  induction fuel with
  | zero =>
    intro v hp hs hf
    have hcard := inRange_card (m := m) (v.map (·.1)) (hs.tree.keys hsink).1
      fun c hc => (hs.tree.keys hsink).2 c ((vhas_iff v c).2 hc)
    simp only [List.length_map] at hcard
    obtain rfl : hp = [] := List.eq_nil_of_length_eq_zero (by omega)
    exact ⟨none, v, [], rfl, hs, rfl⟩
  | succ fuel ih =>
    intro v hp hs hf
    rcases popMin_eq hp with ⟨rfl, h0⟩ | ⟨⟨d, node⟩, hmem, h0⟩ <;> simp only [aStarLoop, h0]
    · exact ⟨none, v, [], rfl, hs, rfl⟩
    · have hnode : v.has node = true := hs.heap (d, node) hmem
      by_cases hsrc : sources.contains node = true
      · rw [if_pos hsrc]
        exact ⟨some node, v, hp, rfl, hs, hnode, hsrc⟩
      · rw [if_neg hsrc]
        have hns : sources.contains node = false := eq_false_of_ne_true hsrc
        have hs' : AInv m sources sink (some node) v (hp.erase (d, node)) := by
          refine ⟨hs.tree, fun e he => hs.heap e (List.mem_of_mem_erase he), fun c h => ?_⟩
          rcases hs.done c h with h | h | h
          · obtain ⟨e, he, rfl⟩ := List.mem_map.1 h
            by_cases hen : e = (d, node)
            · exact Or.inr (Or.inl (by rw [hen]))
            · exact Or.inl (List.mem_map.2 ⟨e, (List.mem_erase_of_ne hen).2 he, rfl⟩)
          · cases h
          · exact Or.inr (Or.inr h)
        obtain ⟨f1, -, f2⟩ := List.foldlRecOn linkOrder (expand m heur node) (b := (v, hp.erase (d, node)))
          (motive := fun st => AInv m sources sink (some node) st.1 st.2 ∧ st.1.has node = true ∧
            m.w * m.h + st.2.length ≤ fuel + st.1.length)
          ⟨hs', hnode, by
            have := List.length_erase_of_mem hmem; have := List.length_pos_of_mem hmem; simp only; omega⟩
          fun st hst l hl => expand_inv ((hs.tree.keys hsink).2 _ hnode) hns (mem_linkOrder.1 hl) hst.1 hst.2.1
            hst.2.2
        refine ih _ _ ⟨f1.tree, f1.heap, fun c h => ?_⟩ f2
        rcases f1.done c h with h | h | h
        · exact Or.inl h
        · obtain rfl : node = c := by simpa using h
          exact Or.inr (Or.inr ⟨hns, fun l hl => foldl_expand_has (mem_linkOrder.2 hl) _⟩)
        · exact Or.inr (Or.inr h)

/-- the walk reads a map `V` that agrees with `v` on the chips of `v`, so that the induction over the growth of `v` leaves
the function's argument alone -/
theorem reconstruct_spec {m : Machine} {sources : List Chip} {sink : Chip} {v V : Visited}
    (hv : VTree m sources sink v) (hV : ∀ c, v.has c = true → V.look c = v.look c) :
    ∀ (c : Chip), v.has c = true → c ≠ sink → ∀ fuel, v.length ≤ fuel + 1 →
      ∃ d q r, v.look c = some (some (d, q)) ∧ reconstruct V sink fuel c = .ok r ∧
        chainTo m sink ((d, c) :: r) = true ∧ (r.map (·.2)).Nodup ∧
        ∀ e, e ∈ r → v.has e.2 = true ∧ e.2 ≠ c ∧ e.2 ≠ sink ∧ sources.contains e.2 = false := by
  induction hv with
  | base => intro c hc hne; simp [Visited.has] at hc; exact absurd hc.symm hne
  | @cons v n l p hv' hp hn hl hlk hst hps ih =>
    have hold : ∀ x, v.has x = true → Visited.has ((n, some (l, p)) :: v) x = true ∧ x ≠ n :=
      fun x hx => ⟨by rw [has_cons, hx, Bool.or_true], fun e => by rw [e, hn] at hx; cases hx⟩
    have hV' : ∀ x, v.has x = true → V.look x = v.look x := fun x hx => by
      rw [hV x (hold x hx).1, look_cons, beq_of_fresh hn hx]; rfl
    intro c hc hne fuel hf
    have hf' : v.length ≤ fuel := Nat.le_of_succ_le_succ hf
    by_cases hnc : n = c
    · subst hnc
      have hvlen : 0 < v.length := by cases hv' <;> exact Nat.succ_pos _
      obtain ⟨f, rfl⟩ := Nat.exists_eq_succ_of_ne_zero (Nat.ne_of_gt (Nat.lt_of_lt_of_le hvlen hf'))
      have hc' : V.look n = some (some (l, p)) := by rw [hV n hc, look_cons, beq_self_eq_true]; rfl
      refine ⟨l, p, ?_⟩
      simp only [reconstruct, hc', look_cons, beq_self_eq_true, if_true, true_and]
      by_cases hpk : p = sink
      · exact ⟨[], by simp [hpk, pure, Except.pure], by simp [chainTo, hl, hlk, hst, hpk], List.nodup_nil, nofun⟩
      · obtain ⟨d, q, r, a1, a2, a3, a4, a5⟩ := ih hV' p hp hpk f hf'
        refine ⟨(d, p) :: r, ?_, ?_, List.nodup_cons.2 ⟨fun hm => ?_, a4⟩, fun e he => ?_⟩
        · simp [hpk, hV' p hp, a1, a2, bind, Except.bind, pure, Except.pure]
        · simp only [chainTo, a3, hl, hlk, hst, decide_true, beq_self_eq_true, Bool.and_self]
        · obtain ⟨e, he, heq⟩ := List.mem_map.1 hm
          exact (a5 e he).2.1 heq
        · rcases List.mem_cons.1 he with rfl | he
          · exact ⟨(hold p hp).1, (hold p hp).2, hpk, hps⟩
          · exact ⟨(hold _ (a5 e he).1).1, (hold _ (a5 e he).1).2, (a5 e he).2.2⟩
    · rw [has_cons, beq_eq_false_iff_ne.2 hnc, Bool.false_or] at hc
      obtain ⟨d, q, r, a1, a2, a3, a4, a5⟩ := ih hV' c hc hne fuel (Nat.le_succ_of_le hf')
      exact ⟨d, q, r, by rw [look_cons, beq_eq_false_iff_ne.2 hnc]; exact a1, a2, a3, a4,
        fun e he => ⟨(hold _ (a5 e he).1).1, (a5 e he).2⟩⟩

/-- the middle outcome: a `TypeError` of the code when the sink itself is a source (the walk back starts at a chip
without predecessor) -/
theorem aStar_spec (m : Machine) (sink hsrc : Chip) (sources : List Chip) (wrap : Bool) (hsink : InRange m sink) :
    (aStar sink hsrc sources m wrap = .error .disconnected ∧ ∀ s, s ∈ sources → ¬ Reach m s sink) ∨
    (sources.contains sink = true ∧ aStar sink hsrc sources m wrap = .error .typeError) ∨
    ∃ path, aStar sink hsrc sources m wrap = .ok path ∧ pathOk m sources sink path = true ∧
      (path.map (·.2)).Nodup ∧ sink ∉ path.map (·.2) := by
  obtain ⟨sel, v, hp', hloop, hinv, hsel⟩ := aStarLoop_spec (m := m) (sources := sources)
    (heur := fun n => dist wrap m.w m.h n hsrc) hsink (m.w * m.h + 1) [(sink, none)]
    [(dist wrap m.w m.h sink hsrc, sink)]
    ⟨.base, by simp [Visited.has], fun c h => by
      obtain rfl : sink = c := by simpa [Visited.has] using h
      exact Or.inl List.mem_cons_self⟩ (by simp)
  cases sel with
  | none =>
    subst hsel
    refine Or.inl ⟨by simp only [aStar, bind, Except.bind, hloop], fun s hs hreach => ?_⟩
    -- the search ran out of nodes: the visited set is closed under "predecessor over a working link"
    have hex : ∀ c, v.has c = true → Expanded m sources v c := fun c hc =>
      ((hinv.done c hc).resolve_left List.not_mem_nil).resolve_left nofun
    have := (hex s (reach_closed (S := fun c => v.has c = true) (fun c l hl _ hk hc => (hex c hc).2 l hl hk)
      hreach (vstruct_sink hinv.tree.vstruct))).1
    rw [List.contains_iff_mem.2 hs] at this
    cases this
  | some s =>
    obtain ⟨h1, h2⟩ := hsel
    by_cases hne : s = sink
    · subst hne
      exact Or.inr (Or.inl ⟨h2, by simp only [aStar, bind, Except.bind, hloop, vstruct_look_sink hinv.tree.vstruct]⟩)
    · obtain ⟨d, q, r, hl, hr, a3, a4, a5⟩ := reconstruct_spec hinv.tree (fun _ _ => rfl) s h1 hne v.length (Nat.le_succ _)
      refine Or.inr (Or.inr ⟨(d, s) :: r, by simp only [aStar, bind, Except.bind, hloop, hl, hr, pure, Except.pure],
        ?_, List.nodup_cons.2 ⟨fun hm => ?_, a4⟩, fun hm => ?_⟩)
      · simp only [pathOk, a3, h2, Bool.true_and, List.all_eq_true, Bool.not_eq_true']
        exact fun e he => (a5 e he).2.2.2
      · obtain ⟨e, he, heq⟩ := List.mem_map.1 hm
        exact (a5 e he).2.1 heq
      · rcases List.mem_cons.1 hm with h | hm
        · exact hne h.symm
        · obtain ⟨e, he, heq⟩ := List.mem_map.1 hm
          exact (a5 e he).2.2.1 heq

theorem aStar_path (m : Machine) (sink hsrc : Chip) (sources : List Chip) (wrap : Bool)
    (path : List (Nat × Chip)) (hsink : InRange m sink)
    (h : aStar sink hsrc sources m wrap = .ok path) : pathOk m sources sink path = true := by
  obtain ⟨h', _⟩ | ⟨_, h'⟩ | ⟨_, h', hp, _⟩ := aStar_spec m sink hsrc sources wrap hsink <;> rw [h] at h'
  · cases h'
  · cases h'
  · cases h'; exact hp

/-- `hns`: as in `avoid_dead_links`, where the sources are the chips outside the subtree of the sink -/
theorem aStar_only_disconnected (m : Machine) (sink hsrc : Chip) (sources : List Chip) (wrap : Bool)
    (hsink : InRange m sink) (hns : sources.contains sink = false) (e : Err)
    (h : aStar sink hsrc sources m wrap = .error e) : e = .disconnected := by
  rcases aStar_spec m sink hsrc sources wrap hsink with ⟨h', _⟩ | ⟨hm, _⟩ | ⟨_, h', _⟩
  · rw [h'] at h; exact (Except.error.inj h).symm
  · rw [hm] at hns; cases hns
  · rw [h'] at h; cases h

theorem aStar_complete (m : Machine) (sink hsrc : Chip) (sources : List Chip) (wrap : Bool)
    (hsink : InRange m sink) (h : aStar sink hsrc sources m wrap = .error .disconnected) :
    ∀ s, s ∈ sources → ¬ Reach m s sink := by
  rcases aStar_spec m sink hsrc sources wrap hsink with ⟨_, h'⟩ | ⟨_, h'⟩ | ⟨_, h', _⟩
  · exact h'
  · rw [h'] at h; cases h
  · rw [h'] at h; cases h

end Rig.C03.L
