/-
C14 - lists: `maxList`, association lists with distinct keys.
-/
import RigModel.Model.C14
import RigModel.Lemmas.Assoc
import RigModel.Lemmas.Lists

namespace Rig.C14

theorem maxList_ge (l : List Nat) (x : Nat) (hx : x ∈ l) : x ≤ maxList l := Lists.le_foldl_max hx

theorem maxList_mem (l : List Nat) (hl : l ≠ []) : maxList l ∈ l := Lists.foldl_max_mem hl

theorem maxList_congr (l1 l2 : List Nat) (h : ∀ a, a ∈ l1 ↔ a ∈ l2) : maxList l1 = maxList l2 :=
  Nat.le_antisymm (Lists.foldl_max_le_iff.2 fun x hx => maxList_ge l2 x ((h x).1 hx))
    (Lists.foldl_max_le_iff.2 fun x hx => maxList_ge l1 x ((h x).2 hx))

theorem lookup_none_of_not_mem {β : Type} (l : List ((Nat × Nat) × β)) (k : Nat × Nat)
    (h : k ∉ l.map (·.1)) : l.lookup k = none :=
  Assoc.lookup_eq_none_iff.2 h

theorem exists_mem_iff_lookup {β : Type} (l : List ((Nat × Nat) × β)) (hnd : (l.map (·.1)).Nodup) (k : Nat × Nat)
    (P : β → Prop) : (∃ v, (k, v) ∈ l ∧ P v) ↔ ∃ v, l.lookup k = some v ∧ P v := by
  simp only [Assoc.mem_iff_lookup hnd]

theorem keys_filterMap_sublist {α β γ : Type} (l : List (α × β)) (f : α × β → Option (α × γ))
    (hf : ∀ e e', f e = some e' → e'.1 = e.1) : ((l.filterMap f).map (·.1)).Sublist (l.map (·.1)) := by
  induction l with
  | nil => exact List.Sublist.slnil
  | cons e t ih =>
    rw [List.filterMap_cons]
    cases h : f e with
    | none => exact ih.cons _
    | some e' => rw [List.map_cons, List.map_cons, hf e e' h]; exact ih.cons_cons _

end Rig.C14
