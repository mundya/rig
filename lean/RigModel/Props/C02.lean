/-
C02 - every placer returns a feasible, constraint-respecting placement or fails with a
documented error.  Also: the chip scan terminates (`seqPlace_terminates`); under the unit-demand
hypothesis every placer succeeds (`*_complete_unit`); `hilbert(level)` fills its square and
`hilbert_chip_order` covers the machine; the harness check is `Feasible` (`validPlacement_iff`);
examples at the end show the hypotheses satisfiable.
-/
import RigModel.Lemmas.C02Merge2
import RigModel.Lemmas.C02Prepare
import RigModel.Lemmas.C02Greedy
import RigModel.Lemmas.C02SA
import RigModel.Lemmas.C02Hilbert

namespace Rig.C02

/-- the documented domain of the placers: `vertices_resources` is a dictionary (distinct keys) of
the caller's own vertices, requirements and chip resources are non-negative -/
structure WF (vr : VR) (cs : List Constraint) (m : Machine) : Prop where
  nodup : (keys vr).Nodup
  original : Original vr cs
  nonnegVR : NonNegVR vr
  nonnegCap : NonNegCap m

/-- no same-chip group has location constraints to two different chips ("consistent mixes" of
constraints): stated on the constraint list after the groups have been merged -/
def Consistent (vr : VR) (cs : List Constraint) : Prop :=
  ∀ vr' cs' subs, applySame vr cs = .ok (vr', cs', subs) → LocConsistent cs'

/-- reservations lie inside the resources of every chip (documented precondition of
`ReserveResourceConstraint`); only needed when there is no vertex at all, in which case
`sequential.place` and `sa.place` return `{}` without looking at the constraints; and no location
constraint (it could only name a vertex that does not exist) -/
def EmptyOK (vr : VR) (cs : List Constraint) (m : Machine) : Prop :=
  vr = [] → (∀ c, m.ok c = true → ∀ i, i < (cap m c).length → reserved cs c i ≤ dem (cap m c) i) ∧
    ∀ v c, Constraint.loc v c ∉ cs

private theorem feasible_empty {cs : List Constraint} {m : Machine} (h : EmptyOK [] cs m) :
    Feasible [] cs m [] where
  keysNodup := .nil
  placed := nofun
  onlyVertices := nofun
  capacity c hc i hi := by simpa [load] using (h rfl).1 c hc i hi
  location v c hvc := absurd hvc ((h rfl).2 v c)
  sameChip _ _ _ _ _ _ := rfl

/-! All three placers first merge the same-chip groups (`applySame`) and run the constraint loop
(`prepareLoop`) on the merged problem `vr' cs'`; a placement loop then extends the placements `fixed`
of the location-constrained vertices, and `finalise` expands the merged vertices again. -/

private theorem inv_after_prepare {vr' : VR} {cs' : List Constraint} {m m' : Machine} {fixed : Placement}
    (hn : (keys vr').Nodup) (hnn : NonNegVR vr') (hc : NonNegCap m)
    (h : prepareLoop vr' cs' m [] = .ok (m', fixed)) :
    Inv vr' m (fun c i => reserved cs' c i) m' fixed :=
  (Inv.prepare hn hnn cs' _ m [] m' fixed (Inv.init vr' m hc) h).congr_rsv fun _ _ => Int.zero_add _

/-- what is known when the prefix has succeeded -/
private structure Prepared (vr : VR) (cs : List Constraint) (m : Machine) (vr' : VR) (cs' : List Constraint)
    (subs : List (List Vtx)) (m' : Machine) (fixed : Placement) : Prop where
  merge : MergeOut m vr cs [] vr' cs' subs
  nonneg : NonNegVR vr'
  inv : Inv vr' m (fun c i => reserved cs' c i) m' fixed
  loc : ∀ v c, Constraint.loc v c ∈ cs' → aget fixed v = some c

section
variable {vr vr' : VR} {cs cs' : List Constraint} {m m' : Machine} {subs : List (List Vtx)} {fixed : Placement}

private theorem Prepared.of (wf : WF vr cs m) (hcons : Consistent vr cs)
    (hA : applySame vr cs = .ok (vr', cs', subs)) (hP : prepareLoop vr' cs' m [] = .ok (m', fixed)) :
    Prepared vr cs m vr' cs' subs m' fixed :=
  have O := applySame_spec m wf.nodup wf.original hA
  ⟨O, O.nonneg wf.nonnegVR, inv_after_prepare O.inv.nodup (O.nonneg wf.nonnegVR) wf.nonnegCap hP,
    prepare_loc hP (hcons _ _ _ hA)⟩

private theorem Prepared.finish (P : Prepared vr cs m vr' cs' subs m' fixed) {mf : Machine} {pf : Placement}
    (I : Inv vr' m (fun c i => reserved cs' c i) mf pf)
    (hmono : ∀ v c, aget fixed v = some c → aget pf v = some c)
    (hall : ∀ v ∈ keys vr', (aget pf v).isSome) :
    ∃ p, finalise subs pf = .ok p ∧ Feasible vr cs m p := by
  have hst : SameTrivial cs' := fun vs hvs => by
    obtain ⟨j, hj, e⟩ := List.getElem_of_mem hvs
    exact P.merge.inv.const j hj vs (e ▸ List.getElem?_eq_getElem hj)
  exact P.merge.back pf (feasible_of_inv I hall (fun v c hvc => hmono v c (P.loc v c hvc)) hst)

private theorem Prepared.run (P : Prepared vr cs m vr' cs' subs m' fixed) {L : List Chip} {vs : List Vtx}
    {r : M Placement} (G : Greedy (fun _ p => p) vr' fixed L m' fixed vs r)
    (hcover : ∀ v ∈ keys vr', v ∈ vs ∨ (aget fixed v).isSome) :
    (r >>= finalise subs).Sat (fun e => (∀ v ∈ vs, v ∈ keys vr') → (∀ c ∈ L, m'.ok c = true) → e = .insufficient)
      (Feasible vr cs m) := by
  cases r with
  | error e => exact Except.Sat.of_error fun hin hok => G.doc hin hok
  | ok pf =>
    obtain ⟨mf, _, rfl, If, keep, all, sm⟩ := G.inv P.merge.inv.nodup P.nonneg P.inv
    obtain ⟨p, hp, F⟩ := P.finish If (fun v c hv => (keep v (hv ▸ rfl)).trans hv) fun v hv =>
      (hcover v hv).elim (all v) (sm v)
    show (finalise subs _).Sat _ _
    rw [hp]
    exact F

/-- `sequential.place` once the chips and the vertex order are known -/
private def seqTail (vr' : VR) (subs : List (List Vtx)) (m' : Machine) (fixed : Placement) (chips : List Chip)
    (order : List Vtx) : M Placement :=
  if chips.isEmpty then .error .insufficient else seqLoop vr' chips order 0 m' fixed >>= finalise subs

private theorem seqTail_cases (vr' : VR) (subs : List (List Vtx)) (m' : Machine) (fixed : Placement)
    (chips : List Chip) (order : List Vtx) :
    chips = [] ∧ seqTail vr' subs m' fixed chips order = .error .insufficient ∨
    chips ≠ [] ∧ ∃ r, Greedy (fun _ p => p) vr' fixed chips m' fixed order r ∧
      seqTail vr' subs m' fixed chips order = r >>= finalise subs := by
  unfold seqTail
  split
  · exact .inl ⟨List.isEmpty_iff.1 ‹_›, rfl⟩
  · exact .inr ⟨mt List.isEmpty_iff.2 ‹_›, _, seqLoop_greedy (mt List.isEmpty_iff.2 ‹_›) order 0 m' fixed fun _ h => h, rfl⟩

private theorem Prepared.seqTail (P : Prepared vr cs m vr' cs' subs m' fixed) {chips : List Chip}
    {order : List Vtx} (hcover : ∀ v ∈ keys vr', v ∈ order) :
    (seqTail vr' subs m' fixed chips order).Sat
      (fun e => (∀ v ∈ order, v ∈ keys vr') → (∀ c ∈ chips, m'.ok c = true) → e = .insufficient)
      (Feasible vr cs m) := by
  rcases seqTail_cases vr' subs m' fixed chips order with ⟨_, e⟩ | ⟨_, r, G, e⟩ <;> rw [e]
  · exact Except.Sat.of_error fun _ _ => rfl
  · exact P.run G fun v hv => .inl (hcover v hv)

private theorem Prepared.rand (P : Prepared vr cs m vr' cs' subs m' fixed) (picks : List Chip) :
    let x := randLoop vr' picks ((keys vr').filter fun v => !(aget fixed v).isSome) m'.chips m' fixed
    x = .error .badOracle ∨ (x >>= finalise subs).Sat (· = .insufficient) (Feasible vr cs m) := by
  refine (randLoop_greedy (vr := vr') (fixed := fixed) picks _ m'.chips m' fixed fun v hv => by
    simpa using (List.mem_filter.1 hv).2).imp id fun G => ?_
  refine (P.run G fun v hv => ?_).imp_error fun e he =>
    he (fun v hv => (List.mem_filter.1 hv).1) fun c hc => (mem_chips_iff m' c).1 hc
  cases hx : aget fixed v with
  | none => exact .inl (List.mem_filter.2 ⟨hv, by rw [hx]; rfl⟩)
  | some x => exact .inr rfl

private theorem sa_initial_facts {rsv : Chip → Nat → Int} {m'' : Machine} {init : Placement}
    {locs : List Chip} {vs : List Vtx}
    (hn' : (keys vr').Nodup) (hnn' : NonNegVR vr') (I0 : Inv vr' m rsv m' fixed)
    (hI : initialPlacement vr' m' locs vs = .ok (m'', init))
    (hvs : ∀ v ∈ keys vr', v ∈ vs ∨ v ∈ keys fixed) :
    Inv vr' m rsv m'' (mergeP init fixed) ∧
    (∀ v c, aget fixed v = some c → aget (mergeP init fixed) v = some c) ∧
    (∀ v ∈ keys vr', (aget (mergeP init fixed) v).isSome) := by
  cases locs with
  | nil => cases hI
  | cons c0 rest =>
    have hcap' : NonNegCap m' := fun c hc i => I0.nonneg c (I0.ok_eq c ▸ hc) i
    obtain ⟨_, _, e, I2, _, hall2, _⟩ :=
      ((show initLoop vr' vs c0 rest m' [] = _ from hI) ▸
        initLoop_greedy (vr := vr') (fixed := []) vs c0 rest m' [] fun _ _ => rfl).inv hn' hnn' (Inv.init vr' m' hcap')
    cases e
    have hget := fun v => aget_mergeP fixed init v I0.pnodup
    refine ⟨Inv.compose hnn' I0 I2, fun v c hv => by rw [hget v, hv], fun v hv => ?_⟩
    rw [hget v]
    cases hx : aget fixed v with
    | some c => rfl
    | none =>
      exact hall2 v ((hvs v hv).resolve_right (aget_none_iff.1 hx))

/-- `sa.place` after the constraint loop -/
private def saTail (vr' : VR) (subs : List (List Vtx)) (m' : Machine) (fixed : Placement) (locs : List Chip)
    (vs : List Vtx) (steps : Option (List Step)) : M (Placement × List Bool) := do
  let (m'', init) ← initialPlacement vr' m' locs vs
  let p0 := mergeP init fixed
  match steps with
  | none => do
    let p ← finalise subs p0
    pure (p, [])
  | some sts => do
    let l2v ← mkL2v m'' p0
    let (s, fl) ← saRun vr' (keys fixed) sts { m := m'', p := p0, l2v := l2v } []
    let p ← finalise subs s.p
    pure (p, fl)

private theorem saPlace_eq (vr : VR) (cs : List Constraint) (m : Machine) (locs : List Chip) (vs : List Vtx)
    (steps : Option (List Step)) :
    saPlace vr cs m locs vs steps = if vr.length = 0 then .ok ([], []) else
      applySame vr cs >>= fun (vr', cs', subs) => prepareLoop vr' cs' m [] >>= fun (m', fixed) =>
        saTail vr' subs m' fixed locs vs steps := rfl

/-- `F` is what `finalise` makes of a placement that keeps the invariant: `Feasible` for the sound and documented
theorems, `True` (nothing merged) for the complete ones, which have no `WF`. -/
private theorem sa_tail {rsv : Chip → Nat → Int} {F : Placement → Prop} {locs : List Chip} {vs : List Vtx}
    {steps : Option (List Step)} (hn' : (keys vr').Nodup) (hnn' : NonNegVR vr') (I0 : Inv vr' m rsv m' fixed)
    (hvs : ∀ v ∈ keys vr', v ∈ vs ∨ v ∈ keys fixed)
    (hfin : ∀ mf pf, Inv vr' m rsv mf pf → (∀ v c, aget fixed v = some c → aget pf v = some c) →
      (∀ v ∈ keys vr', (aget pf v).isSome) → ∃ p, finalise subs pf = .ok p ∧ F p) :
    (saTail vr' subs m' fixed locs vs steps).Sat
      (fun e => (initialPlacement vr' m' locs vs = .error e ∧
          ((∀ c ∈ locs, m'.ok c = true) → (∀ v ∈ vs, v ∈ keys vr') → e = .insufficient)) ∨
        steps ≠ none ∧ ((∀ sts, steps = some sts → ∀ st ∈ sts, st.src ∈ keys vr') → e = .badOracle))
      fun r => F r.1 ∧ (steps = none → r.2 = []) := by
  unfold saTail
  cases hI : initialPlacement vr' m' locs vs with
  | error e =>
    refine Except.Sat.of_error (.inl ⟨rfl, fun hlocs hvs2 => ?_⟩)
    cases locs with
    | nil => cases hI; rfl
    | cons c0 rest =>
      exact ((show initLoop vr' vs c0 rest m' [] = _ from hI) ▸
        initLoop_greedy (vr := vr') (fixed := []) vs c0 rest m' [] fun _ _ => rfl).doc hvs2 hlocs
  | ok x =>
    obtain ⟨m'', init⟩ := x
    obtain ⟨I, hmono, hall⟩ := sa_initial_facts hn' hnn' I0 hI hvs
    cases steps with
    | none =>
      obtain ⟨p, hp, hF⟩ := hfin _ _ I hmono hall
      show (finalise subs _ >>= _).Sat _ _
      rw [hp]
      exact Except.Sat.of_ok ⟨hF, fun _ => rfl⟩
    | some sts =>
      refine ((mkL2v_sat (mergeP init fixed) _).imp_error fun _ hE => absurd (fun vc hvc => ?_) hE).bind
        fun l2v hL _ => ?_
      · -- a placed vertex sits on a working chip, and every working chip has a list
        have hok : m''.ok vc.2 = true := I.ok_eq _ ▸ I.pok vc.1 vc.2 ((mem_iff_aget I.pnodup vc.1 vc.2).1 hvc)
        simp only [keys, List.map_map, List.mem_map, Function.comp]
        exact ⟨vc.2, (mem_chips_iff m'' vc.2).2 hok, rfl⟩
      refine ((SAInv.run_sat hn' sts _ [] (SAInv.start (keys fixed) I hL)).imp_error fun e hE => .inr ⟨nofun, fun hs =>
        hE I.pvr fun st hst => (aget_isSome_iff _ _).1 (hall _ (hs sts rfl st hst))⟩).bind fun r _ J => ?_
      obtain ⟨s, fl⟩ := r
      obtain ⟨p, hp, hF⟩ := hfin _ _ (J.toInv I)
        (fun v c hv => (J.fixedUnmoved v ((aget_isSome_iff fixed v).1 (hv ▸ rfl))).trans (hmono v c hv))
        fun v hv => (aget_isSome_iff _ _).2 ((J.pkeys v).2 ((aget_isSome_iff _ _).1 (hall v hv)))
      show (finalise subs _ >>= _).Sat _ _
      rw [hp]
      exact Except.Sat.of_ok ⟨hF, nofun⟩

end

/-- **Sequential placer (hence Hilbert, RCM, breadth-first).**  For EVERY vertex order that
lists each vertex and EVERY chip order, a returned placement is feasible. -/
theorem seqPlace_sound (vr : VR) (cs : List Constraint) (m : Machine)
    (vertexOrder : Option (List Vtx)) (chipOrder : Option (List Chip)) (p : Placement)
    (wf : WF vr cs m) (hcons : Consistent vr cs) (hempty : EmptyOK vr cs m)
    (hvo : ∀ vo, vertexOrder = some vo → ∀ v ∈ keys vr, v ∈ vo)
    (h : seqPlace vr cs m vertexOrder chipOrder = .ok p) : Feasible vr cs m p := by
  unfold seqPlace at h
  split at h
  · rename_i h0
    obtain rfl := List.eq_nil_of_length_eq_zero h0
    cases h
    exact feasible_empty hempty
  · obtain ⟨⟨vr', cs', subs⟩, hA, h⟩ := Except.bind_eq_ok h
    obtain ⟨⟨m', fixed⟩, hP, h⟩ := Except.bind_eq_ok h
    have P := Prepared.of wf hcons hA hP
    cases vertexOrder with
    | none => exact (P.seqTail fun v hv => hv).ok h
    | some vo =>
      obtain ⟨order, hS, h⟩ := Except.bind_eq_ok h
      exact (P.seqTail (P.merge.order vo order (hvo vo rfl) hS)).ok h

/-- **Random placer.**  For EVERY sequence of chips the random number generator may draw. -/
theorem randPlace_sound (vr : VR) (cs : List Constraint) (m : Machine) (picks : List Chip) (p : Placement)
    (wf : WF vr cs m) (hcons : Consistent vr cs)
    (h : randPlace vr cs m picks = .ok p) : Feasible vr cs m p := by
  obtain ⟨⟨vr', cs', subs⟩, hA, h⟩ := Except.bind_eq_ok h
  obtain ⟨⟨m', fixed⟩, hP, h⟩ := Except.bind_eq_ok h
  rcases (Prepared.of wf hcons hA hP).rand picks with e | R
  · cases (congrArg (· >>= finalise subs) e).symm.trans h
  · exact R.ok h

/-- **Annealer (Python kernel), whole run.**  For EVERY outcome of the two shuffles (`locs` =
shuffled chips, `vs` = shuffled movable vertices, which must list every vertex that is not fixed)
and, when the kernel is used, for EVERY list of proposals `steps` (source vertex, destination chip,
accept bit - i.e. whatever the RNG draws, the temperature and the cost function are), a placement
returned by `sa.place` is feasible.  `steps = none` is the "trivial solution" return. -/
theorem saPlace_sound (vr : VR) (cs : List Constraint) (m : Machine) (locs : List Chip)
    (vs : List Vtx) (steps : Option (List Step)) (p : Placement) (fl : List Bool)
    (wf : WF vr cs m) (hcons : Consistent vr cs) (hempty : EmptyOK vr cs m)
    (hvs : ∀ vr' cs' subs m' fixed, applySame vr cs = .ok (vr', cs', subs) →
      prepareLoop vr' cs' m [] = .ok (m', fixed) → ∀ v ∈ keys vr', v ∈ vs ∨ v ∈ keys fixed)
    (h : saPlace vr cs m locs vs steps = .ok (p, fl)) : Feasible vr cs m p := by
  rw [saPlace_eq] at h
  split at h
  · rename_i h0
    obtain rfl := List.eq_nil_of_length_eq_zero h0
    cases h
    exact feasible_empty hempty
  · obtain ⟨⟨vr', cs', subs⟩, hA, h⟩ := Except.bind_eq_ok h
    obtain ⟨⟨m', fixed⟩, hP, h⟩ := Except.bind_eq_ok h
    have P := Prepared.of wf hcons hA hP
    exact ((sa_tail P.merge.inv.nodup P.nonneg P.inv (hvs _ _ _ _ _ hA hP) fun _ _ I hm ha => P.finish I hm ha).ok h).1

/-- **Annealer: initial placement and the "trivial solution" return.**  The case `steps = none` of
`saPlace_sound`: what `sa.place` returns when the kernel is not used; the same placement is the
kernel's starting state otherwise. -/
theorem saPlace_initial_sound (vr : VR) (cs : List Constraint) (m : Machine) (locs : List Chip)
    (vs : List Vtx) (p : Placement) (fl : List Bool)
    (wf : WF vr cs m) (hcons : Consistent vr cs) (hempty : EmptyOK vr cs m)
    (hvs : ∀ vr' cs' subs m' fixed, applySame vr cs = .ok (vr', cs', subs) →
      prepareLoop vr' cs' m [] = .ok (m', fixed) → ∀ v ∈ keys vr', v ∈ vs ∨ v ∈ keys fixed)
    (h : saPlace vr cs m locs vs none = .ok (p, fl)) : Feasible vr cs m p :=
  saPlace_sound vr cs m locs vs none p fl wf hcons hempty hvs h

/-- **Annealing step invariant.**  `SAInv vr fixed p0 m0 tot s` says of a kernel state `s` (working
machine, placements, location -> vertices lookup): for every working chip `c` and resource `i`,
free[c][i] = tot c i - (sum of the demands of the vertices placed on c) and free[c][i] >= 0, where
`tot` does not change over time; every fixed (location-constrained) vertex is where the initial
placement `p0` put it; exactly the vertices of `p0` are placed, each on a working chip; the lookup
`l2v[c]` lists exactly (and once) the vertices placed on `c`.  One `_step` of the Python kernel
(`_get_candidate_swap`, the return-fit test, `_swap`, the revert) preserves it for EVERY proposal
(source vertex, destination chip, accept bit). -/
theorem saStep_inv (vr : VR) (fixed : List Vtx) (p0 : Placement) (m0 : Machine) (tot : Chip → Nat → Int)
    (s s' : SA) (src : Vtx) (dst : Chip) (accept f : Bool)
    (hn : (keys vr).Nodup) (I : SAInv vr fixed p0 m0 tot s)
    (h : saStep vr fixed s src dst accept = .ok (s', f)) : SAInv vr fixed p0 m0 tot s' :=
  (I.step_sat hn).ok h

/-- ... hence every run of the kernel, over EVERY proposal list -/
theorem saRun_inv (vr : VR) (fixed : List Vtx) (p0 : Placement) (m0 : Machine) (tot : Chip → Nat → Int)
    (steps : List Step) (s s' : SA) (fl fl' : List Bool)
    (hn : (keys vr).Nodup) (I : SAInv vr fixed p0 m0 tot s)
    (h : saRun vr fixed steps s fl = .ok (s', fl')) : SAInv vr fixed p0 m0 tot s' :=
  (SAInv.run_sat hn steps s fl I).ok h

/-- the state `PythonKernel.__init__` builds from a placement satisfying the placers' resource
invariant satisfies the annealing invariant (so the hypothesis of `saStep_inv` is not vacuous) -/
theorem saStart_inv (vr : VR) (m m2 : Machine) (rsv : Chip → Nat → Int) (p0 : Placement) (fixed : List Vtx)
    (l2v : List (Chip × List Vtx)) (I : Inv vr m rsv m2 p0) (h : mkL2v m2 p0 = .ok l2v) :
    SAInv vr fixed p0 m2 (fun c i => dem (cap m2 c) i + load vr p0 c i) { m := m2, p := p0, l2v := l2v } :=
  SAInv.start fixed I h

/-- the documented domain of the placers, second part: constraints mention only vertices of
`vertices_resources`; every resource exception (also one recorded for a dead chip) lists the machine's
resources; reservations name a resource of the machine and, when per-chip, a working chip -/
structure InDomain (vr : VR) (cs : List Constraint) (m : Machine) : Prop where
  known : Known vr cs
  excLen : ∀ e ∈ m.exc, e.2.length = m.res.length
  resIdx : ∀ r amt at_, Constraint.reserve r amt at_ ∈ cs → r < m.res.length
  resOk : ∀ r amt c, Constraint.reserve r amt (some c) ∈ cs → m.ok c = true

section
variable {vr vr' : VR} {cs cs' : List Constraint} {m m' : Machine} {subs : List (List Vtx)} {fixed : Placement}

private theorem prefix_doc (dom : InDomain vr cs m) :
    (∀ e, applySame vr cs ≠ .error e) ∧
    ∀ vr' cs' subs, applySame vr cs = .ok (vr', cs', subs) →
      ∀ p e, prepareLoop vr' cs' m p = .error e → e = .insufficient ∨ e = .invalidConstraint := by
  obtain ⟨⟨out, hout⟩, h2⟩ := applySameLoop_dom cs.length 0 vr cs [] dom.known
  refine ⟨fun e he => (by cases hout.symm.trans he), fun vr' cs' subs hA p e he => ?_⟩
  obtain ⟨k, hr⟩ := h2 vr' cs' subs hA
  refine prepareLoop_doc (n := m.res.length) cs' m p k ⟨rfl, dom.excLen⟩ (fun r a at_ hmem => ?_) e he
  have hmem' := hr r a at_ hmem
  exact ⟨dom.resIdx r a at_ hmem', fun c hc => dom.resOk r a c (hc ▸ hmem')⟩

end

/-- **Sequential placer: only the documented errors.**  Under the documented domain the sequential
placer (default vertex order or a custom order that is a permutation of the vertices, EVERY chip
order - hence Hilbert, RCM, breadth-first) fails with `InsufficientResourceError` or
`InvalidConstraintError` only - never KeyError / IndexError / ValueError, never by running out of
scan steps. -/
theorem seqPlace_documented (vr : VR) (cs : List Constraint) (m : Machine)
    (vertexOrder : Option (List Vtx)) (chipOrder : Option (List Chip)) (e : Err)
    (wf : WF vr cs m) (hcons : Consistent vr cs) (dom : InDomain vr cs m)
    (hvo : ∀ vo, vertexOrder = some vo → vo.Nodup ∧ ∀ v, v ∈ vo ↔ v ∈ keys vr)
    (h : seqPlace vr cs m vertexOrder chipOrder = .error e) : e = .insufficient ∨ e = .invalidConstraint := by
  obtain ⟨d1, d2⟩ := prefix_doc dom
  unfold seqPlace at h
  split at h
  · cases h
  rcases Except.bind_eq_error h with hA | ⟨⟨vr', cs', subs⟩, hA, h⟩
  · exact absurd hA (d1 e)
  rcases Except.bind_eq_error h with hP | ⟨⟨m', fixed⟩, hP, h⟩
  · exact d2 _ _ _ hA _ _ hP
  have P := Prepared.of wf hcons hA hP
  have hok : ∀ c ∈ (chipOrder.getD m'.chips).filter m'.ok, m'.ok c = true := fun c hc => (List.mem_filter.1 hc).2
  cases vertexOrder with
  | none => exact .inl ((P.seqTail fun _ hv => hv).error h (fun _ hv => hv) hok)
  | some vo =>
    obtain ⟨hvn, hvm⟩ := hvo vo rfl
    obtain ⟨order, hS, _, ho⟩ := P.merge.orderOk vo hvn hvm
    rcases Except.bind_eq_error h with hS' | ⟨order', hS', h⟩
    · cases hS.symm.trans hS'
    · cases hS.symm.trans hS'
      exact .inl ((P.seqTail fun v hv => (ho v).2 hv).error h (fun v hv => (ho v).1 hv) hok)

/-- **Random placer: only the documented errors**, for EVERY sequence of draws (`BadOracle` is the
model's answer to a sequence of draws the RNG cannot produce, not an exception of the code). -/
theorem randPlace_documented (vr : VR) (cs : List Constraint) (m : Machine) (picks : List Chip) (e : Err)
    (wf : WF vr cs m) (hcons : Consistent vr cs) (dom : InDomain vr cs m)
    (h : randPlace vr cs m picks = .error e) :
    e = .insufficient ∨ e = .invalidConstraint ∨ e = .badOracle := by
  obtain ⟨d1, d2⟩ := prefix_doc dom
  rcases Except.bind_eq_error h with hA | ⟨⟨vr', cs', subs⟩, hA, h⟩
  · exact absurd hA (d1 e)
  rcases Except.bind_eq_error h with hP | ⟨⟨m', fixed⟩, hP, h⟩
  · exact (d2 _ _ _ hA _ _ hP).imp_right .inl
  rcases (Prepared.of wf hcons hA hP).rand picks with e' | R
  · cases (congrArg (· >>= finalise subs) e').symm.trans h; exact .inr (.inr rfl)
  · exact .inl (R.error h)

private theorem saPlace_doc {vr : VR} {cs : List Constraint} {m : Machine} {locs : List Chip}
    {vs : List Vtx} {steps : Option (List Step)} {e : Err}
    (wf : WF vr cs m) (hcons : Consistent vr cs) (dom : InDomain vr cs m)
    (hlocs : ∀ c ∈ locs, m.ok c = true)
    (hvs : ∀ vr' cs' subs m' fixed, applySame vr cs = .ok (vr', cs', subs) →
      prepareLoop vr' cs' m [] = .ok (m', fixed) →
      (∀ v ∈ keys vr', v ∈ vs ∨ v ∈ keys fixed) ∧ ∀ v ∈ vs, v ∈ keys vr')
    (hsteps : ∀ sts, steps = some sts → ∀ vr' cs' subs, applySame vr cs = .ok (vr', cs', subs) →
      ∀ st ∈ sts, st.src ∈ keys vr')
    (h : saPlace vr cs m locs vs steps = .error e) :
    e = .insufficient ∨ e = .invalidConstraint ∨ (e = .badOracle ∧ steps ≠ none) := by
  obtain ⟨d1, d2⟩ := prefix_doc dom
  rw [saPlace_eq] at h
  split at h
  · cases h
  rcases Except.bind_eq_error h with hA | ⟨⟨vr', cs', subs⟩, hA, h⟩
  · exact absurd hA (d1 e)
  rcases Except.bind_eq_error h with hP | ⟨⟨m', fixed⟩, hP, h⟩
  · exact (d2 _ _ _ hA _ _ hP).imp_right .inl
  have P := Prepared.of wf hcons hA hP
  obtain ⟨hvs1, hvs2⟩ := hvs _ _ _ _ _ hA hP
  rcases (sa_tail P.merge.inv.nodup P.nonneg P.inv hvs1 fun _ _ I hm ha => P.finish I hm ha).error h with
    ⟨_, hi⟩ | ⟨hne, hb⟩
  · exact .inl (hi (fun c hc => P.inv.ok_eq c ▸ hlocs c hc) hvs2)
  · exact .inr (.inr ⟨hb fun sts hs => hsteps sts hs _ _ _ hA, hne⟩)

/-- **Annealer, initial placement / trivial-solution path: only the documented errors**, for EVERY
outcome of the two shuffles (`locs` a list of working chips, `vs` a list of the movable vertices). -/
theorem saPlace_initial_documented (vr : VR) (cs : List Constraint) (m : Machine) (locs : List Chip)
    (vs : List Vtx) (e : Err)
    (wf : WF vr cs m) (hcons : Consistent vr cs) (dom : InDomain vr cs m)
    (hlocs : ∀ c ∈ locs, m.ok c = true)
    (hvs : ∀ vr' cs' subs m' fixed, applySame vr cs = .ok (vr', cs', subs) →
      prepareLoop vr' cs' m [] = .ok (m', fixed) →
      (∀ v ∈ keys vr', v ∈ vs ∨ v ∈ keys fixed) ∧ ∀ v ∈ vs, v ∈ keys vr')
    (h : saPlace vr cs m locs vs none = .error e) : e = .insufficient ∨ e = .invalidConstraint :=
  (saPlace_doc (steps := none) wf hcons dom hlocs hvs nofun h).imp_right (·.resolve_right (·.2 rfl))

/-- **Annealing kernel: one step raises nothing.**  In a state satisfying the invariant, with every
placed vertex in `vertices_resources`, for EVERY proposal whose source vertex is one of the placed
vertices, `_step` (with `_get_candidate_swap`,
`_swap` and the revert) performs no failing lookup: the model's only failure is `BadOracle` (the
proposal is not a possible draw: a fixed source vertex, or a destination equal to the source chip). -/
theorem saStep_documented (vr : VR) (fixed : List Vtx) (p0 : Placement) (m0 : Machine) (tot : Chip → Nat → Int)
    (s : SA) (src : Vtx) (dst : Chip) (accept : Bool) (e : Err)
    (hn : (keys vr).Nodup) (I : SAInv vr fixed p0 m0 tot s) (hpvr : ∀ v ∈ keys p0, v ∈ keys vr)
    (hsrc : src ∈ keys p0)
    (h : saStep vr fixed s src dst accept = .error e) : e = .badOracle :=
  (I.step_sat hn).error h hpvr hsrc

/-- **Annealer (Python kernel), whole run: only the documented errors**, for EVERY outcome of the two
shuffles and EVERY proposal list over the vertices (`BadOracle`: the proposal list is not a possible
sequence of draws). -/
theorem saPlace_documented (vr : VR) (cs : List Constraint) (m : Machine) (locs : List Chip)
    (vs : List Vtx) (steps : Option (List Step)) (e : Err)
    (wf : WF vr cs m) (hcons : Consistent vr cs) (dom : InDomain vr cs m)
    (hlocs : ∀ c ∈ locs, m.ok c = true)
    (hvs : ∀ vr' cs' subs m' fixed, applySame vr cs = .ok (vr', cs', subs) →
      prepareLoop vr' cs' m [] = .ok (m', fixed) →
      (∀ v ∈ keys vr', v ∈ vs ∨ v ∈ keys fixed) ∧ ∀ v ∈ vs, v ∈ keys vr')
    (hsteps : ∀ sts, steps = some sts → ∀ vr' cs' subs, applySame vr cs = .ok (vr', cs', subs) →
      ∀ st ∈ sts, st.src ∈ keys vr')
    (h : saPlace vr cs m locs vs steps = .error e) :
    e = .insufficient ∨ e = .invalidConstraint ∨ e = .badOracle :=
  (saPlace_doc wf hcons dom hlocs hvs hsteps h).imp_right (.imp_right And.left)

/-- **The oracle is the specification.**  The decidable check the harness runs on every placement
returned by the implementation is equivalent to `Feasible`. -/
theorem validPlacement_iff (vr : VR) (cs : List Constraint) (m : Machine) (p : Placement) :
    validPlacement vr cs m p = true ↔ Feasible vr cs m p := by
  have h1 : ∀ {b : Bool} {s : String} {x : Option String},
      (if (!b) = true then some s else x).isNone = true ↔ b = true ∧ x.isNone = true := by
    intro b s x; cases b <;> simp
  have h2 : (keys vr).all (vertexOk m p) = true ↔ ∀ v, v ∈ keys vr → ∃ c, aget p v = some c ∧ m.ok c = true := by
    refine List.all_eq_true.trans (forall₂_congr fun v _ => ?_)
    unfold vertexOk
    cases aget p v <;> simp
  have h3 : ((keys p).all fun v => (keys vr).contains v) = true ↔ ∀ v, v ∈ keys p → v ∈ keys vr := by
    simp only [List.all_eq_true, List.contains_iff_mem]
  have h4 : (m.chips.all (chipFits vr cs m p)) = true ↔
      ∀ c, m.ok c = true → ∀ i, i < (cap m c).length → load vr p c i + reserved cs c i ≤ dem (cap m c) i := by
    simp only [chipFits, List.all_eq_true, mem_chips_iff, List.mem_range, decide_eq_true_eq]
  have h5 : cs.all (constraintOk p) = true ↔
      (∀ v c, Constraint.loc v c ∈ cs → aget p v = some c) ∧
      (∀ vs, Constraint.same vs ∈ cs → ∀ a ∈ vs, ∀ b ∈ vs, aget p a = aget p b) := by
    rw [List.all_eq_true]
    refine ⟨fun h => ⟨fun v c hvc => of_decide_eq_true (h _ hvc),
      fun vs hvs => by simpa only [constraintOk, List.all_eq_true, decide_eq_true_eq] using h _ hvs⟩,
      fun ⟨h1, h2⟩ k hk => ?_⟩
    cases k with
    | loc v c => exact decide_eq_true (h1 v c hk)
    | same vs => simpa only [constraintOk, List.all_eq_true, decide_eq_true_eq] using h2 vs hk
    | _ => rfl
  unfold validPlacement checkPlacement
  simp only [h1, h2, h3, h4, h5, decide_eq_true_eq, Option.isNone_none, and_true]
  exact ⟨fun ⟨a, b, c, d, e, f⟩ => ⟨a, b, c, d, e, f⟩, fun F => ⟨F.1, F.2, F.3, F.4, F.5, F.6⟩⟩

/-- **Termination (sequential family).**  The model's only unbounded loop, the cyclic chip scan
with the `last_successful_chip` stop rule, is run with the step bound `len(chips)` per vertex;
for every input the bound is never exhausted: each vertex tries at most every chip once.  (All
other loops of `sequential.place` are `for` loops over finite lists and are structurally
recursive in the model.) -/
theorem seqPlace_terminates (vr : VR) (cs : List Constraint) (m : Machine)
    (vertexOrder : Option (List Vtx)) (chipOrder : Option (List Chip)) :
    seqPlace vr cs m vertexOrder chipOrder ≠ .error .fuel := by
  unfold seqPlace
  split
  · nofun
  refine Except.bind_ne_error (applySameLoop_no_fuel _ _ _ _ _) fun ⟨vr', cs', subs⟩ =>
    Except.bind_ne_error (prepareLoop_no_fuel _ _ _ _) fun ⟨m', fixed⟩ => ?_
  have tail : ∀ order, seqTail vr' subs m' fixed ((chipOrder.getD m'.chips).filter m'.ok) order ≠ .error .fuel :=
    fun order => by
      rcases seqTail_cases vr' subs m' fixed _ order with ⟨_, e⟩ | ⟨_, r, G, e⟩ <;> rw [e]
      · nofun
      · exact Except.bind_ne_error (fun h => (h ▸ G).ne_fuel) fun _ => finaliseFrom_no_fuel _ _ _
  cases vertexOrder with
  | none => exact tail _
  | some vo => exact Except.bind_ne_error (substOrder_no_fuel _ _ _) tail

section
variable {vr : VR} {cs : List Constraint} {m m' : Machine} {fixed : Placement} {r0 : Nat}
  (hnodup : (keys vr).Nodup) (hcap : NonNegCap m) (hnosame : ∀ vs, Constraint.same vs ∉ cs)
  (hunit : ∀ v d, (v, d) ∈ vr → UnitDem r0 d) (hprep : prepareLoop vr cs m [] = .ok (m', fixed))
include hnodup hcap hnosame hunit hprep

private theorem unit_setup :
    applySame vr cs = .ok (vr, cs, []) ∧ NonNegVR vr ∧ Inv vr m (fun c i => reserved cs c i) m' fixed ∧
    NonNegCap m' ∧ ∀ v ∈ keys vr, ∃ d, aget vr v = some d ∧ UnitDem r0 d := by
  have hnn : NonNegVR vr := fun v d hvd => (hunit v d hvd).nonneg
  have I := inv_after_prepare hnodup hnn hcap hprep
  refine ⟨applySameLoop_noSame vr cs [] hnosame _ _, hnn, I, fun c hc => I.nonneg c (I.ok_eq c ▸ hc),
    fun v hv => ?_⟩
  obtain ⟨d, hd⟩ := Option.isSome_iff_exists.1 ((aget_isSome_iff vr v).2 hv)
  exact ⟨d, hd, hunit v d (aget_some_mem hd)⟩

private theorem saPlace_unit {locs : List Chip} {vs : List Vtx} {steps : Option (List Step)}
    (hlocs : locs.Perm m'.chips)
    (hvs : vs.Perm ((keys vr).filter fun v => !(aget fixed v).isSome))
    (hne : m'.chips ≠ [])
    (hsuff : needOf fixed vr r0 (keys vr) ≤ total m' m'.chips r0)
    (hsteps : ∀ sts, steps = some sts → ∀ st ∈ sts, st.src ∈ keys vr) :
    (∃ p fl, saPlace vr cs m locs vs steps = .ok (p, fl) ∧ (steps = none → fl = [])) ∨
      steps ≠ none ∧ saPlace vr cs m locs vs steps = .error .badOracle := by
  obtain ⟨hA, hnn, I0, hNN, hunit'⟩ := unit_setup hnodup hcap hnosame hunit hprep
  rw [saPlace_eq]
  split
  · exact .inl ⟨[], [], rfl, fun _ => rfl⟩
  rw [hA]
  show (∃ p fl, (prepareLoop vr cs m [] >>= _) = .ok (p, fl) ∧ _) ∨ _ ∧ (prepareLoop vr cs m [] >>= _) = _
  rw [hprep]
  have S := sa_tail (subs := []) (F := fun _ => True) (locs := locs) (vs := vs) (steps := steps) hnodup hnn I0
    (fun v hv => by
      cases hx : aget fixed v with
      | none => exact .inl (hvs.mem_iff.2 (List.mem_filter.2 ⟨hv, by rw [hx]; rfl⟩))
      | some c => exact .inr ((aget_isSome_iff fixed v).1 (hx ▸ rfl)))
    fun _ pf _ _ _ => ⟨pf, rfl, trivial⟩
  cases hr : saTail vr [] m' fixed locs vs steps with
  | ok r => exact .inl ⟨r.1, r.2, hr, (S.ok hr).2⟩
  | error e =>
    rcases S.error hr with ⟨hI, _⟩ | ⟨hne', hb⟩
    · rw [needOf_filter, ← needOf_perm _ _ _ hvs, ← total_perm m' r0 hlocs] at hsuff
      cases locs with
      | nil => exact absurd hlocs.symm.eq_nil hne
      | cons c0 rest =>
        obtain ⟨out, hout⟩ := (initLoop_greedy (vr := vr) (fixed := []) vs c0 rest m' [] fun _ _ => rfl).complete
          (hlocs.nodup_iff.2 (chips_nodup m')) (List.cons_ne_nil _ _)
          (fun c hc => (mem_chips_iff m' c).1 (hlocs.mem_iff.1 hc)) hNN
          (fun v hv => hunit' v (List.mem_filter.1 (hvs.mem_iff.1 hv)).1) hsuff
        cases hout.symm.trans hI
    · exact .inr ⟨hne', hb hsteps ▸ hr⟩

end

/-- **Completeness (sequential family) under the unit-demand hypothesis.**  If there are no
same-chip groups, every vertex needs nothing but 0 or 1 unit of one resource `r0`, the constraint
loop succeeds (location-constrained vertices fit on their chips after the reservations), the chip
order lists at least one working chip and no working chip twice, and the total free amount of `r0`
on the listed chips covers the vertices still to be placed, then the sequential placer succeeds -
for EVERY vertex order over known vertices and EVERY such chip order (hence Hilbert / RCM /
breadth-first whenever their chip order covers the free capacity). -/
theorem seqPlace_complete_unit (vr : VR) (cs : List Constraint) (m m' : Machine) (fixed : Placement)
    (vertexOrder : Option (List Vtx)) (chipOrder : Option (List Chip)) (r0 : Nat)
    (hnodup : (keys vr).Nodup) (hcap : NonNegCap m)
    (hnosame : ∀ vs, Constraint.same vs ∉ cs)
    (hunit : ∀ v d, (v, d) ∈ vr → UnitDem r0 d)
    (hprep : prepareLoop vr cs m [] = .ok (m', fixed))
    (hknown : ∀ v ∈ vertexOrder.getD (keys vr), v ∈ keys vr)
    (hnd : ((chipOrder.getD m'.chips).filter m'.ok).Nodup)
    (hne : (chipOrder.getD m'.chips).filter m'.ok ≠ [])
    (hsuff : needOf fixed vr r0 (vertexOrder.getD (keys vr)) ≤
      total m' ((chipOrder.getD m'.chips).filter m'.ok) r0) :
    ∃ p, seqPlace vr cs m vertexOrder chipOrder = .ok p := by
  obtain ⟨hA, _, _, hNN, hunit'⟩ := unit_setup hnodup hcap hnosame hunit hprep
  obtain ⟨pf, tail⟩ : ∃ pf, seqTail vr [] m' fixed ((chipOrder.getD m'.chips).filter m'.ok)
      (vertexOrder.getD (keys vr)) = .ok pf := by
    rcases seqTail_cases vr [] m' fixed _ (vertexOrder.getD (keys vr)) with ⟨e, _⟩ | ⟨_, r, G, e⟩
    · exact absurd e hne
    · obtain ⟨pf, rfl⟩ := G.complete hnd hne (fun c hc => (List.mem_filter.1 hc).2) hNN
        (fun v hv => hunit' v (hknown v hv)) hsuff
      exact ⟨pf, e⟩
  unfold seqPlace
  split
  · exact ⟨[], rfl⟩
  · refine ⟨pf, ?_⟩
    rw [hA]
    show (prepareLoop vr cs m [] >>= _) = _
    rw [hprep]
    cases vertexOrder <;> exact tail

/-- **Completeness (random placer) under the unit-demand hypothesis.**  Same hypotheses as
`seqPlace_complete_unit` (the chip list is `list(machine)`): for EVERY sequence of draws the random
placer succeeds - the only other outcome of the model is `BadOracle`, i.e. the sequence of draws is
not one the RNG can produce (a chip outside the remaining candidates, or too few draws). -/
theorem randPlace_complete_unit (vr : VR) (cs : List Constraint) (m m' : Machine) (fixed : Placement)
    (picks : List Chip) (r0 : Nat)
    (hnodup : (keys vr).Nodup) (hcap : NonNegCap m)
    (hnosame : ∀ vs, Constraint.same vs ∉ cs)
    (hunit : ∀ v d, (v, d) ∈ vr → UnitDem r0 d)
    (hprep : prepareLoop vr cs m [] = .ok (m', fixed))
    (hne : m'.chips ≠ [])
    (hsuff : needOf fixed vr r0 (keys vr) ≤ total m' m'.chips r0) :
    (∃ p, randPlace vr cs m picks = .ok p) ∨ randPlace vr cs m picks = .error .badOracle := by
  obtain ⟨hA, _, _, hNN, hunit'⟩ := unit_setup hnodup hcap hnosame hunit hprep
  unfold randPlace
  simp only [hA, hprep, bind, Except.bind]
  rw [needOf_filter] at hsuff
  cases hL : randLoop vr picks (List.filter (fun v => !(aget fixed v).isSome) (keys vr)) m'.chips m' fixed with
  | ok pf => exact .inl ⟨pf, rfl⟩
  | error e =>
    rcases randLoop_greedy (vr := vr) (fixed := []) picks _ m'.chips m' fixed fun _ _ => rfl with e' | G
    · cases e'.symm.trans hL; exact .inr rfl
    · obtain ⟨_, e'⟩ := G.complete (chips_nodup m') hne (fun c hc => (mem_chips_iff m' c).1 hc) hNN
        (fun v hv => hunit' v (List.mem_filter.1 hv).1) hsuff
      cases e'.symm.trans hL

/-- **Completeness (annealer's initial placement) under the unit-demand hypothesis.**  Same
hypotheses; for EVERY outcome of the two shuffles (`locs` a permutation of `list(machine)`, `vs` a
permutation of the movable vertices) the initial placement - which is what `sa.place` returns on the
trivial-solution path and what the kernel starts from - succeeds. -/
theorem saPlace_initial_complete_unit (vr : VR) (cs : List Constraint) (m m' : Machine) (fixed : Placement)
    (locs : List Chip) (vs : List Vtx) (r0 : Nat)
    (hnodup : (keys vr).Nodup) (hcap : NonNegCap m)
    (hnosame : ∀ vs, Constraint.same vs ∉ cs)
    (hunit : ∀ v d, (v, d) ∈ vr → UnitDem r0 d)
    (hprep : prepareLoop vr cs m [] = .ok (m', fixed))
    (hlocs : locs.Perm m'.chips)
    (hvs : vs.Perm ((keys vr).filter fun v => !(aget fixed v).isSome))
    (hne : m'.chips ≠ [])
    (hsuff : needOf fixed vr r0 (keys vr) ≤ total m' m'.chips r0) :
    ∃ p, saPlace vr cs m locs vs none = .ok (p, []) := by
  rcases saPlace_unit (steps := none) hnodup hcap hnosame hunit hprep hlocs hvs hne hsuff nofun with
    ⟨p, fl, h, hfl⟩ | ⟨h, _⟩
  · exact ⟨p, hfl rfl ▸ h⟩
  · exact absurd rfl h

/-- **Completeness (annealer with the Python kernel, whole run) under the unit-demand hypothesis.**
Same hypotheses; for EVERY outcome of the shuffles and EVERY proposal list over the vertices
`sa.place` succeeds (`BadOracle`: the proposal list is not a possible sequence of draws). -/
theorem saPlace_complete_unit (vr : VR) (cs : List Constraint) (m m' : Machine) (fixed : Placement)
    (locs : List Chip) (vs : List Vtx) (steps : Option (List Step)) (r0 : Nat)
    (hnodup : (keys vr).Nodup) (hcap : NonNegCap m)
    (hnosame : ∀ vs, Constraint.same vs ∉ cs)
    (hunit : ∀ v d, (v, d) ∈ vr → UnitDem r0 d)
    (hprep : prepareLoop vr cs m [] = .ok (m', fixed))
    (hlocs : locs.Perm m'.chips)
    (hvs : vs.Perm ((keys vr).filter fun v => !(aget fixed v).isSome))
    (hne : m'.chips ≠ [])
    (hsuff : needOf fixed vr r0 (keys vr) ≤ total m' m'.chips r0)
    (hsteps : ∀ sts, steps = some sts → ∀ st ∈ sts, st.src ∈ keys vr) :
    (∃ p fl, saPlace vr cs m locs vs steps = .ok (p, fl)) ∨
      saPlace vr cs m locs vs steps = .error .badOracle :=
  (saPlace_unit hnodup hcap hnosame hunit hprep hlocs hvs hne hsuff hsteps).imp
    (fun ⟨p, fl, h, _⟩ => ⟨p, fl, h⟩) And.right

private theorem cover_conds {m' : Machine} {co : List Chip} (r0 : Nat) (hnd : co.Nodup)
    (hcov : ∀ c, m'.ok c = true → c ∈ co) (hne : m'.chips ≠ []) :
    (co.filter m'.ok).Nodup ∧ co.filter m'.ok ≠ [] ∧ total m' (co.filter m'.ok) r0 = total m' m'.chips r0 := by
  have hmem : ∀ c, c ∈ co.filter m'.ok ↔ m'.ok c = true := fun c =>
    List.mem_filter.trans ⟨And.right, fun h => ⟨hcov c h, h⟩⟩
  have hnd' := hnd.sublist (List.filter_sublist (p := m'.ok))
  obtain ⟨c, hc⟩ := List.exists_mem_of_ne_nil _ hne
  exact ⟨hnd', List.ne_nil_of_mem ((hmem c).2 ((mem_chips_iff m' c).1 hc)), total_cover m' r0 _ hnd' hmem⟩

/-- **Completeness with the default chip order** (`list(machine)`: sequential and breadth-first
placers) - `seqPlace_complete_unit` with the hypotheses on the chip order discharged. -/
theorem seqPlace_complete_unit_default (vr : VR) (cs : List Constraint) (m m' : Machine) (fixed : Placement)
    (vertexOrder : Option (List Vtx)) (r0 : Nat)
    (hnodup : (keys vr).Nodup) (hcap : NonNegCap m)
    (hnosame : ∀ vs, Constraint.same vs ∉ cs)
    (hunit : ∀ v d, (v, d) ∈ vr → UnitDem r0 d)
    (hprep : prepareLoop vr cs m [] = .ok (m', fixed))
    (hknown : ∀ v ∈ vertexOrder.getD (keys vr), v ∈ keys vr)
    (hne : m'.chips ≠ [])
    (hsuff : needOf fixed vr r0 (vertexOrder.getD (keys vr)) ≤ total m' m'.chips r0) :
    ∃ p, seqPlace vr cs m vertexOrder none = .ok p := by
  obtain ⟨h1, h2, h3⟩ := cover_conds r0 (chips_nodup m') (fun c h => (mem_chips_iff m' c).2 h) hne
  exact seqPlace_complete_unit vr cs m m' fixed vertexOrder none r0 hnodup hcap hnosame hunit hprep hknown
    h1 h2 (h3 ▸ hsuff)

/-- **The model of `hilbert(level)` is a Hilbert curve**: for EVERY level it visits every point of
the `2^level x 2^level` square, and no point twice (in particular it has no point with a negative
coordinate). -/
theorem hilbert_curve_exact (L : Nat) :
    (hilbertPts L).Nodup ∧
    ∀ q : Int × Int, q ∈ hilbertPts L ↔ 0 ≤ q.1 ∧ q.1 < 2 ^ L ∧ 0 ≤ q.2 ∧ q.2 < 2 ^ L :=
  hilbertPts_spec L

/-- **Hilbert chip-order coverage**: for EVERY `w x h` machine `hilbert_chip_order` lists every chip
of the machine, and no chip twice. -/
theorem hilbert_covers (w h : Nat) :
    (hilbertChips w h).Nodup ∧ ∀ x y, x < w → y < h → (x, y) ∈ hilbertChips w h := by
  refine ⟨hilbertChips_nodup w h, fun x y hx hy => ?_⟩
  rw [hilbertChips, mem_chips_hilbertPts]
  have := (clog2_spec (max w h)).1
  simp only
  omega

/-- **Completeness of the Hilbert placer under the unit-demand hypothesis** - `seqPlace_complete_unit`
with the coverage hypotheses on the chip order discharged: the total is that of `list(machine)`. -/
theorem hilbertPlace_complete_unit (vr : VR) (cs : List Constraint) (m m' : Machine) (fixed : Placement)
    (vertexOrder : Option (List Vtx)) (r0 : Nat)
    (hnodup : (keys vr).Nodup) (hcap : NonNegCap m)
    (hnosame : ∀ vs, Constraint.same vs ∉ cs)
    (hunit : ∀ v d, (v, d) ∈ vr → UnitDem r0 d)
    (hprep : prepareLoop vr cs m [] = .ok (m', fixed))
    (hknown : ∀ v ∈ vertexOrder.getD (keys vr), v ∈ keys vr)
    (hne : m'.chips ≠ [])
    (hsuff : needOf fixed vr r0 (vertexOrder.getD (keys vr)) ≤ total m' m'.chips r0) :
    ∃ p, seqPlace vr cs m vertexOrder (some (hilbertChips m.w m.h)) = .ok p := by
  obtain ⟨hw, hh, _⟩ := prepareLoop_shape hprep
  obtain ⟨hnd, hcov⟩ := hilbert_covers m.w m.h
  obtain ⟨h1, h2, h3⟩ := cover_conds (m' := m') r0 hnd (fun c h => by
    simp only [Machine.ok, Bool.and_eq_true, decide_eq_true_eq, hw, hh] at h
    exact hcov c.1 c.2 h.1.1 h.1.2) hne
  exact seqPlace_complete_unit vr cs m m' fixed vertexOrder _ r0 hnodup hcap hnosame hunit hprep hknown
    h1 h2 (h3 ▸ hsuff)

/-! ### non-vacuity: a problem with a same-chip group whose two members both have a location constraint
(to the same chip), a global reservation, a resource exception, a custom vertex order and chip order
satisfies every hypothesis, and the placers succeed on it -/
section example_
open Vtx Constraint

private def exVR : VR := [(o 0, [1, 0]), (o 1, [1, 2]), (o 2, [0, 1])]
private def exCS : List Constraint := [same [o 0, o 1], loc (o 1) (1, 0), reserve 1 1 none, loc (o 0) (1, 0)]
private def exM : Machine := { w := 2, h := 1, res := [5, 8], exc := [((0, 0), [1, 2])], dead := [] }

private theorem dem_nonneg_of_all (d : Res) (h : ∀ x ∈ d, 0 ≤ x) (i : Nat) : 0 ≤ dem d i :=
  dem_nonneg_of_over (List.any_eq_false.2 fun x hx => by simpa using h x hx) i

private theorem exWF : WF exVR exCS exM where
  nodup := by decide
  original := by
    refine ⟨fun v hv => ?_, fun c hc => ?_⟩
    · simp [exVR, keys] at hv; rcases hv with rfl | rfl | rfl <;> trivial
    · simp [exCS] at hc
      rcases hc with rfl | rfl | rfl | rfl
      · intro v hv; simp at hv; rcases hv with rfl | rfl <;> trivial
      · trivial
      · trivial
      · trivial
  nonnegVR := by
    intro v d h i
    apply dem_nonneg_of_all
    simp [exVR] at h
    rcases h with ⟨_, rfl⟩ | ⟨_, rfl⟩ | ⟨_, rfl⟩ <;> decide
  nonnegCap := by
    intro c _ i
    apply dem_nonneg_of_all
    simp only [cap, exM, aget]
    split <;> decide

private theorem exApply : applySame exVR exCS = .ok ([(o 2, [0, 1]), (m 0, [2, 2])],
    [same [m 0, m 0], loc (m 0) (1, 0), reserve 1 1 none, loc (m 0) (1, 0)], [[o 0, o 1]]) := by rfl

private theorem exPrefix {vr' : VR} {cs' : List Constraint} {subs : List (List Vtx)} {m' : Machine} {fixed : Placement}
    (hA : applySame exVR exCS = .ok (vr', cs', subs)) (hP : prepareLoop vr' cs' exM [] = .ok (m', fixed)) :
    vr' = [(o 2, [0, 1]), (m 0, [2, 2])] ∧ fixed = [(m 0, (1, 0))] := by
  cases exApply.symm.trans hA
  have e2 : prepareLoop [(o 2, [0, 1]), (m 0, [2, 2])]
      [same [m 0, m 0], loc (m 0) (1, 0), reserve 1 1 none, loc (m 0) (1, 0)] exM [] =
      .ok ({ exM with res := [5, 7], exc := [((0, 0), [1, 1]), ((1, 0), [1, 3])] }, [(m 0, (1, 0))]) := by rfl
  cases e2.symm.trans hP
  exact ⟨rfl, rfl⟩

private theorem exCons : Consistent exVR exCS := by
  intro vr' cs' subs h v c c' hc hc'
  cases exApply.symm.trans h
  simp at hc hc'
  rw [hc.2, hc'.2]

private theorem exEmpty : EmptyOK exVR exCS exM := nofun

/-- an evaluation `x = .ok a` as a Boolean test for the kernel: `by rfl` has the elaborator evaluate `x` first,
which is slower already on the small examples and hopeless on the annealing run below -/
private theorem okEq {α : Type} [DecidableEq α] (x : M α) (a : α)
    (h : (match x with | .ok r => decide (r = a) | .error _ => false) = true) : x = .ok a := by
  cases x with
  | error e => cases h
  | ok r => exact congrArg _ (of_decide_eq_true h)

example : Feasible exVR exCS exM [(o 2, (1, 0)), (o 0, (1, 0)), (o 1, (1, 0))] :=
  seqPlace_sound exVR exCS exM (some [o 2, o 1, o 0]) (some [(1, 0), (0, 0)]) _ exWF exCons exEmpty
    (by intro vo h v hv; injection h with h; subst h; simp [exVR, keys] at hv; rcases hv with rfl | rfl | rfl <;> simp)
    (okEq _ _ (by decide +kernel))

example : Feasible exVR exCS exM [(o 2, (1, 0)), (o 0, (1, 0)), (o 1, (1, 0))] :=
  randPlace_sound exVR exCS exM [(1, 0), (0, 0)] _ exWF exCons (okEq _ _ (by decide +kernel))

example : Feasible exVR exCS exM [(o 2, (0, 0)), (o 0, (1, 0)), (o 1, (1, 0))] :=
  saPlace_initial_sound exVR exCS exM [(0, 0), (1, 0)] [o 2] _ [] exWF exCons exEmpty
    (by
      intro vr' cs' subs m' fixed hA hP v hv
      obtain ⟨rfl, rfl⟩ := exPrefix hA hP
      simp [keys] at hv ⊢
      rcases hv with rfl | rfl <;> simp)
    (okEq _ _ (by decide +kernel))

private theorem exDom : InDomain exVR exCS exM where
  known := by
    intro c hc
    simp [exCS] at hc
    rcases hc with rfl | rfl | rfl | rfl
    · intro v hv; simp at hv; rcases hv with rfl | rfl <;> simp [exVR, keys]
    · simp [CKnown, exVR, keys]
    · trivial
    · simp [CKnown, exVR, keys]
  excLen := by intro e he; simp [exM] at he; subst he; rfl
  resIdx := by
    intro r amt at_ h; simp [exCS] at h; obtain ⟨rfl, _, _⟩ := h; simp [exM]
  resOk := by intro r amt c h; simp [exCS] at h

example (co : Option (List Chip)) (e : Err) (h : seqPlace exVR exCS exM none co = .error e) :
    e = .insufficient ∨ e = .invalidConstraint :=
  seqPlace_documented exVR exCS exM none co e exWF exCons exDom nofun h

example (co : Option (List Chip)) (e : Err) (h : seqPlace exVR exCS exM (some [o 2, o 0, o 1]) co = .error e) :
    e = .insufficient ∨ e = .invalidConstraint :=
  seqPlace_documented exVR exCS exM _ co e exWF exCons exDom
    (by intro vo h; injection h with h; subst h; exact ⟨by decide, by
      intro v; simp only [exVR, keys, List.map_cons, List.map_nil, List.mem_cons, List.not_mem_nil, or_false]
      constructor <;> (intro h; rcases h with h | h | h <;> simp [h])⟩) h

example (picks : List Chip) (e : Err) (h : randPlace exVR exCS exM picks = .error e) :
    e = .insufficient ∨ e = .invalidConstraint ∨ e = .badOracle :=
  randPlace_documented exVR exCS exM picks e exWF exCons exDom h

private def saVR : VR := [(o 0, [1]), (o 1, [1]), (o 2, [1]), (o 3, [1])]
private def saM : Machine := { w := 2, h := 1, res := [2], exc := [], dead := [] }

private theorem saApply {vr' : VR} {cs' : List Constraint} {subs : List (List Vtx)}
    (h : applySame saVR [loc (o 3) (1, 0)] = .ok (vr', cs', subs)) :
    vr' = saVR ∧ cs' = [loc (o 3) (1, 0)] := by
  have e : applySame saVR [loc (o 3) (1, 0)] = .ok (saVR, [loc (o 3) (1, 0)], []) := by rfl
  cases e.symm.trans h
  exact ⟨rfl, rfl⟩

/-- an annealing run with a swap that displaces a movable vertex (skipping the fixed one on the
destination chip), a reverted swap and an accepted one -/
example : Feasible saVR [loc (o 3) (1, 0)] saM [(o 0, (0, 0)), (o 1, (1, 0)), (o 2, (0, 0)), (o 3, (1, 0))] :=
  saPlace_sound saVR [loc (o 3) (1, 0)] saM [(0, 0), (1, 0)] [o 0, o 1, o 2]
    (some [⟨o 0, (1, 0), true⟩, ⟨o 1, (1, 0), false⟩, ⟨o 1, (1, 0), true⟩]) _ [true, true, true]
    ⟨by decide,
     ⟨fun v hv => by simp [saVR, keys] at hv; rcases hv with rfl | rfl | rfl | rfl <;> trivial,
      fun c hc => by simp at hc; subst hc; trivial⟩,
     by
      intro v d h i; apply dem_nonneg_of_all
      simp [saVR] at h
      rcases h with ⟨_, rfl⟩ | ⟨_, rfl⟩ | ⟨_, rfl⟩ | ⟨_, rfl⟩ <;> decide,
     by
      intro c _ i; apply dem_nonneg_of_all
      simp only [cap, saM, aget]; decide⟩
    (by
      intro vr' cs' subs h v c c' hc hc'
      obtain ⟨_, rfl⟩ := saApply h
      simp at hc hc'
      rw [hc.2, hc'.2])
    nofun
    (by
      intro vr' cs' subs m' fixed hA hP v hv
      obtain ⟨rfl, rfl⟩ := saApply hA
      have e2 : prepareLoop saVR [loc (o 3) (1, 0)] saM [] =
          .ok ({ saM with exc := [((1, 0), [1])] }, [(o 3, (1, 0))]) := by rfl
      cases e2.symm.trans hP
      simp [keys, saVR] at hv ⊢
      rcases hv with rfl | rfl | rfl | rfl <;> simp)
    (okEq _ _ (by decide +kernel))

example (e : Err)
    (h : saPlace exVR exCS exM [(0, 0), (1, 0)] [o 2] (some [⟨o 2, (1, 0), true⟩, ⟨o 2, (0, 0), false⟩]) = .error e) :
    e = .insufficient ∨ e = .invalidConstraint ∨ e = .badOracle :=
  saPlace_documented exVR exCS exM _ _ _ e exWF exCons exDom
    (by intro c hc; simp at hc; rcases hc with rfl | rfl <;> rfl)
    (by
      intro vr' cs' subs m' fixed hA hP
      obtain ⟨rfl, rfl⟩ := exPrefix hA hP
      simp [keys])
    (by
      intro sts hs vr' cs' subs hA st hst
      injection hs with hs; subst hs
      cases exApply.symm.trans hA
      simp at hst
      rcases hst with rfl | rfl <;> simp [keys])
    h

/-- the specification is not trivially true: the same problem with every vertex on the small chip -/
example : ¬ Feasible exVR exCS exM [(o 2, (0, 0)), (o 0, (0, 0)), (o 1, (0, 0))] := by
  rw [← validPlacement_iff]; decide

private def unVR : VR := [(o 0, [1]), (o 1, [1]), (o 2, [0])]
private def unCS : List Constraint := [loc (o 0) (0, 0), reserve 0 1 none]
private def unM : Machine := { w := 2, h := 1, res := [2], exc := [], dead := [] }
/-- `unM` after the constraint loop: one unit reserved on every chip, `o 0` placed on `(0, 0)` -/
private def unM' : Machine := { unM with res := [1], exc := [((0, 0), [0])] }

private theorem unCapNN : NonNegCap unM := by
  intro c _ i; apply dem_nonneg_of_all
  simp only [cap, unM, aget]; decide

private theorem unUnit : ∀ v d, (v, d) ∈ unVR → UnitDem 0 d := by
  intro v d h
  simp [unVR] at h
  rcases h with ⟨_, rfl⟩ | ⟨_, rfl⟩ | ⟨_, rfl⟩
  all_goals
    refine ⟨fun i hi => ?_, by simp [dem]⟩
    cases i with
    | zero => exact absurd rfl hi
    | succ j => rfl

private theorem unNoSame : ∀ vs, Constraint.same vs ∉ unCS := by
  intro vs h; simp [unCS] at h

private theorem unNodup : (keys unVR).Nodup := by decide

private theorem unPrep : prepareLoop unVR unCS unM [] = .ok (unM', [(o 0, (0, 0))]) := by rfl

private theorem unNe : unM'.chips ≠ [] := by decide +kernel

private theorem unSuff : needOf [(o 0, (0, 0))] unVR 0 (keys unVR) ≤ total unM' unM'.chips 0 := by decide +kernel

private theorem unLocs : [((1, 0) : Chip), (0, 0)].Perm unM'.chips := by decide +kernel

private theorem unVs : [o 2, o 1].Perm ((keys unVR).filter fun v => !(aget [(o 0, ((0, 0) : Chip))] v).isSome) := by
  decide +kernel

/-- a problem in which the capacity is used up exactly (one free unit left for the one movable vertex
that needs a unit) -/
example : ∃ p, seqPlace unVR unCS unM none none = .ok p :=
  seqPlace_complete_unit_default unVR unCS unM unM' [(o 0, (0, 0))]
    none 0 unNodup unCapNN unNoSame unUnit unPrep (by intro v hv; exact hv) unNe unSuff

example (picks : List Chip) :
    (∃ p, randPlace unVR unCS unM picks = .ok p) ∨ randPlace unVR unCS unM picks = .error .badOracle :=
  randPlace_complete_unit unVR unCS unM unM' [(o 0, (0, 0))]
    picks 0 unNodup unCapNN unNoSame unUnit unPrep unNe unSuff

example : ∃ p, saPlace unVR unCS unM [(1, 0), (0, 0)] [o 2, o 1] none = .ok (p, []) :=
  saPlace_initial_complete_unit unVR unCS unM unM' [(o 0, (0, 0))]
    [(1, 0), (0, 0)] [o 2, o 1] 0 unNodup unCapNN unNoSame unUnit unPrep unLocs unVs unNe unSuff

/-- the Hilbert order of a 3 x 2 machine (level 2: the curve of the 4 x 4 square) -/
example : hilbertChips 3 2 = [(0, 0), (1, 0), (1, 1), (0, 1), (0, 2), (0, 3), (1, 3), (1, 2), (2, 2), (2, 3),
    (3, 3), (3, 2), (3, 1), (2, 1), (2, 0), (3, 0)] := by decide +kernel

example : ∃ p, seqPlace unVR unCS unM none (some (hilbertChips unM.w unM.h)) = .ok p :=
  hilbertPlace_complete_unit unVR unCS unM unM' [(o 0, (0, 0))]
    none 0 unNodup unCapNN unNoSame unUnit unPrep (by intro v hv; exact hv) unNe unSuff

example : (∃ p fl, saPlace unVR unCS unM [(1, 0), (0, 0)] [o 2, o 1] (some [⟨o 1, (0, 0), true⟩]) = .ok (p, fl)) ∨
    saPlace unVR unCS unM [(1, 0), (0, 0)] [o 2, o 1] (some [⟨o 1, (0, 0), true⟩]) = .error .badOracle :=
  saPlace_complete_unit unVR unCS unM unM' [(o 0, (0, 0))]
    [(1, 0), (0, 0)] [o 2, o 1] _ 0 unNodup unCapNN unNoSame unUnit unPrep unLocs unVs unNe unSuff
    (by intro sts h st hst; injection h with h; subst h; simp at hst; subst hst; simp [unVR, keys])

end example_

end Rig.C02
