/-
C01 - `place_and_route_wrapper` delivers, starting from the SystemInfo.

`model_pipeline_delivers` (Props/C01Pipe.lean) starts from a Machine and constraints given by the caller.  Here
`wrapperPipeline` (Model/C01Wrap.lean) composes C14's `buildMachine`, `coreConstraints` and `targetLengths` with
`modelPipeline` through an explicit type bridge (`wrapper_pipeline_delivers`, which adds `AllocIdle`: cores reserved by
`build_core_constraints` are never allocated); `deprecated_pipeline_delivers` is the delivery statement for the
deprecated `wrapper()`.  `probed_wrapper_delivers` starts one step earlier, from the machine state that
`get_system_info` probes (C14 `get_system_info_exact`).
-/
import RigModel.Lemmas.C01Wrap
import RigModel.Props.C01Pipe
import RigModel.Props.C14

namespace Rig.C01Wrap
open Rig.C01 Rig.C01Pipe
open Rig.C03 (Chip chipOk linkOk)
open Rig.C14 (SysInfo ChipInfo PMachine buildMachine busy)
open Rig.Gen.C14 (APPSTATE_IDLE)

/-- the SystemInfo is a dictionary of chips inside its extent (what `get_system_info` returns: C14
`get_system_info_exact`), a SpiNNaker chip has at most 18 cores, and every record has one state per core (what
`get_chip_info` returns: `core_states[:num_cores]`) -/
structure SIDomain (si : SysInfo) : Prop where
  wf : si.WF
  cores18 : ∀ xy ci, (xy, ci) ∈ si.chips → ci.numCores ≤ 18
  states : ∀ xy ci, (xy, ci) ∈ si.chips → ci.coreStates.length = ci.numCores

/-- the caller's arguments: `Rig.C01Pipe.Domain` in the caller's own vocabulary - a device link is a link the
SystemInfo does not report working (`(x, y, link) in system_info` is false) -/
structure WDomain (si : SysInfo) (wp : WProblem) : Prop where
  vrNodup : (wp.vr.map (·.1)).Nodup
  resNodup : ∀ q ∈ wp.vr, (q.2.map (·.1)).Nodup
  demandNonneg : ∀ q ∈ wp.vr, ∀ rd ∈ q.2, 0 ≤ rd.2
  alignPos : ∀ r a, PC.align r a ∈ wp.cs → 1 ≤ a
  endpointIsLink : ∀ v r, PC.endpoint v r ∈ wp.cs → r < 6
  endpointDead : ∀ v r, PC.endpoint v r ∈ wp.cs → ∃ c, PC.loc v c ∈ wp.cs ∧ si.hasLink c.1 c.2 r = false
  keysDisjoint : wp.nets.Pairwise (fun a b => Rig.C04.intersect a.key a.mask b.key b.mask = false)

/-- the placer's domain (`PlacerDomain` without the non-negativity of the chip resources, which holds for every
machine derived from a SystemInfo: `L.nonnegCap`) -/
structure WPlacerDomain (si : SysInfo) (wp : WProblem) (pl : Placer) : Prop where
  consistent : Rig.C02.Consistent (vr02 (problemOf si wp)) (cs02 (problemOf si wp))
  emptyOK : Rig.C02.EmptyOK (vr02 (problemOf si wp)) (cs02 (problemOf si wp)) (problemOf si wp).m2
  oracle : match pl with
    | .seq vo _ => ∀ o, vo = some o → ∀ v ∈ Rig.C02.keys (vr02 (problemOf si wp)), v ∈ o
    | .rand _ => True
    | .sa _ vs _ => ∀ vr' cs' subs m' fixed,
        Rig.C02.applySame (vr02 (problemOf si wp)) (cs02 (problemOf si wp)) = .ok (vr', cs', subs) →
        Rig.C02.prepareLoop vr' cs' (problemOf si wp).m2 [] = .ok (m', fixed) →
        ∀ v ∈ Rig.C02.keys vr', v ∈ vs ∨ v ∈ Rig.C02.keys fixed

theorem domain_of_sysinfo {si : SysInfo} {wp : WProblem} (hsi : SIDomain si) (dom : WDomain si wp) :
    Domain (problemOf si wp) where
  vrNodup := dom.vrNodup
  resNodup := dom.resNodup
  demandNonneg := dom.demandNonneg
  alignPos := fun r a h => dom.alignPos r a (L.mem_constraintsOf h fun _ _ _ h => nomatch h)
  cores18 := by
    intro xy c h
    obtain ⟨c', ci, _, hci, rfl⟩ := L.capacity_described hsi.wf wp h
    exact Int.ofNat_le.2 (hsi.cores18 _ _ hci)
  endpointIsLink := fun v r h => dom.endpointIsLink v r (L.mem_constraintsOf h fun _ _ _ h => nomatch h)
  endpointDead := by
    intro v r h
    have h' := L.mem_constraintsOf h fun _ _ _ h => nomatch h
    obtain ⟨c, hloc, hdead⟩ := dom.endpointDead v r h'
    exact ⟨c, List.mem_append_right _ hloc,
      L.link_dead_of_not_reported hsi.wf wp (dom.endpointIsLink v r h') hdead⟩
  keysDisjoint := dom.keysDisjoint

theorem placerDomain_of_sysinfo {si : SysInfo} {wp : WProblem} {pl : Placer} (hpl : WPlacerDomain si wp pl) :
    PlacerDomain (problemOf si wp) pl where
  nonnegCap := L.nonnegCap si wp
  consistent := hpl.consistent
  emptyOK := hpl.emptyOK
  oracle := hpl.oracle

/-- with at least one vertex the `EmptyOK` hypothesis of the placers is vacuous -/
theorem emptyOK_of_vertices (si : SysInfo) (wp : WProblem) (h : wp.vr ≠ []) :
    Rig.C02.EmptyOK (vr02 (problemOf si wp)) (cs02 (problemOf si wp)) (problemOf si wp).m2 := by
  intro he
  exfalso
  apply h
  simpa [vr02, problemOf] using he

/-- The machine the packets travel on is the machine the SystemInfo describes: for a well-formed
SystemInfo, a chip is a working chip of `machine3 (problemOf si wp)` iff it has natural coordinates and a record in
the SystemInfo, and link `l < 6` of it is a working link iff that record lists `l` among the working links. -/
theorem machine_is_sysinfo (si : SysInfo) (wp : WProblem) (hwf : si.WF) :
    (∀ xy : Chip, chipOk (machine3 (problemOf si wp)) xy = true ↔ ∃ c ci, xy = chipZ c ∧ (c, ci) ∈ si.chips) ∧
    (∀ (c : Nat × Nat) (l : Nat), l < 6 →
      (linkOk (machine3 (problemOf si wp)) (chipZ c) l = true ↔ ∃ ci, (c, ci) ∈ si.chips ∧ l ∈ ci.links)) := by
  obtain ⟨_, _, hchip, hlink, _⟩ := Rig.C14.build_machine_exact si hwf
  refine ⟨fun xy => ⟨fun h => ?_, ?_⟩, fun c l hl => ?_⟩
  · obtain ⟨c, rfl, hok⟩ := L.chipOk_nat h
    obtain ⟨ci, hci⟩ := (hchip c.1 c.2).1 hok
    exact ⟨c, ci, rfl, hci⟩
  · rintro ⟨c, ci, rfl, hci⟩
    rw [L.chipOk_bridge]
    exact (hchip c.1 c.2).2 ⟨ci, hci⟩
  · rw [L.linkOk_bridge]
    exact hlink c.1 c.2 l hl

/-- **C14 `reservations_partition` + C05 `alloc_sound`**: on the machine and constraints derived from the SystemInfo,
whatever the allocator returns for a feasible placement hands out only cores the SystemInfo has and reports idle -/
theorem alloc_idle {si : SysInfo} {wp : WProblem} (hsi : SIDomain si) (dom : WDomain si wp)
    {p : Rig.C02.Placement} (hn : (Rig.C02.keys p).Nodup)
    {a : List (Rig.C05.Vertex × List Rig.C05.Entry)}
    (ha : Rig.C05.allocate (input05 (problemOf si wp) p) = .ok a) :
    AllocIdle si p (Rig.C05.strip a) := by
  intro v c sl hp hsl i hi1 hi2
  have hv := Rig.C05.alloc_sound _ _ (Rig.C01Pipe.L.wellFormed05 (domain_of_sysinfo hsi dom) hn) ha
  obtain ⟨xy, d, hxy, _, _, ⟨k, hk, hle⟩, _, hres⟩ := goodRange_of_valid hv (Rig.C01Pipe.L.coresOf_flat hsl)
  obtain ⟨c', hc', rfl⟩ := Rig.C01Pipe.L.mem_pl05.1 hxy
  cases hp.symm.trans ((Rig.C02.aget_eq_lookup p _).trans ((Rig.Assoc.mem_iff_lookup hn).1 hc'))
  obtain ⟨c2, ci, hc2, hci, rfl⟩ := L.capacity_described hsi.wf wp hk
  cases Rig.C01.L.chipZ_inj hc2
  have hlt : i < ci.numCores := Int.ofNat_lt.1 (Int.lt_of_lt_of_le hi2 hle)
  refine ⟨ci, hci, hlt, L.idle_of_not_busy (hsi.states _ _ hci ▸ hlt) ?_⟩
  -- a busy core is covered by a reservation, which the allocator keeps clear of
  cases hb : busy ci i with
  | false => rfl
  | true =>
    obtain ⟨r, hr, happ, hr1, hr2⟩ := L.busy_covered hsi.wf.1
      (fun xy ci' h' => hsi.states _ _ h' ▸ hsi.cores18 _ _ h') hci hb
    exact (hres ⟨r.start, r.stop⟩ (L.reservation_reserved (cs := wp.cs) hr happ)
      ((Rig.C05.overlaps_iff_common _ _).2 ⟨i, hi1, hi2, Int.ofNat_le.2 hr1, Int.ofNat_lt.2 hr2⟩)).elim

theorem mem_range_shift {a b i : Nat} : i ∈ (List.range (b - a)).map (· + a) ↔ a ≤ i ∧ i < b := by
  simp only [List.mem_map, List.mem_range]
  exact ⟨fun ⟨j, hj, he⟩ => he ▸ ⟨Nat.le_add_left a j, Nat.add_lt_of_lt_sub hj⟩,
    fun h => ⟨i - a, Nat.sub_lt_sub_right h.1 h.2, Nat.sub_add_cancel h.1⟩⟩

theorem coreBad_none (si : SysInfo) (hnd : (si.chips.map (·.1)).Nodup) (v : Nat) (c : Nat × Nat) (i : Nat) :
    (match si.chips.lookup c with
      | some ci => if i < ci.numCores && ci.coreStates[i]? == some APPSTATE_IDLE then none else some (v, c, i)
      | none => some (v, c, i)) = none ↔
    ∃ ci, (c, ci) ∈ si.chips ∧ i < ci.numCores ∧ ci.coreStates[i]? = some APPSTATE_IDLE := by
  constructor
  · intro h
    split at h
    · rename_i ci hl
      split at h
      · rename_i hc
        simp only [Bool.and_eq_true, decide_eq_true_eq, beq_iff_eq] at hc
        exact ⟨ci, Rig.Assoc.mem_of_lookup hl, hc⟩
      · cases h
    · cases h
  · rintro ⟨ci, hci, h1, h2⟩
    rw [(Rig.Assoc.mem_iff_lookup hnd).1 hci]
    simp [h1, h2]

/-- one (vertex, chip, range): the cores of the range that are absent or not idle -/
theorem badCores_nil_iff (si : SysInfo) (hnd : (si.chips.map (·.1)).Nodup) (v : Nat) (c : Nat × Nat) (sl : Rig.C05.Slice) :
    (((List.range (sl.stop.toNat - sl.start.toNat)).map (· + sl.start.toNat)).filterMap fun i =>
        match si.chips.lookup c with
        | some ci => if i < ci.numCores && ci.coreStates[i]? == some APPSTATE_IDLE then none else some (v, c, i)
        | none => some (v, c, i)) = [] ↔
    ∀ i : Nat, sl.start ≤ (i : Int) → (i : Int) < sl.stop →
      ∃ ci, (c, ci) ∈ si.chips ∧ i < ci.numCores ∧ ci.coreStates[i]? = some APPSTATE_IDLE := by
  rw [List.filterMap_eq_nil_iff]
  simp only [mem_range_shift, coreBad_none si hnd, Int.toNat_le, Int.lt_toNat, and_imp]

/-- **oracle = specification**: the decided `allocIdleB` (what the harness evaluates on the placements and
allocations the implementation returned) is `AllocIdle` (what `wrapper_pipeline_delivers` proves), for every
SystemInfo with distinct keys -/
theorem allocIdleB_iff (si : SysInfo) (hnd : (si.chips.map (·.1)).Nodup) (p : Rig.C02.Placement) (A : Rig.C05.Alloc) :
    allocIdleB si p A = true ↔ AllocIdle si p A := by
  unfold allocIdleB allocBad AllocIdle
  rw [List.isEmpty_iff, List.flatMap_eq_nil_iff]
  constructor
  · intro h v c sl hp hsl
    have hm := Rig.C02.aget_some_mem hp
    have := h _ hm
    simp only [hp, hsl] at this
    exact (badCores_nil_iff si hnd v c sl).1 this
  · intro h vc hvc
    obtain ⟨vt, c0⟩ := vc
    cases vt with
    | m k => rfl
    | o v =>
      simp only
      split
      · rename_i c sl hp hsl
        exact (badCores_nil_iff si hnd v c sl).2 (h v c sl hp hsl)
      · rfl

/-- C01 for `place_and_route_wrapper`, starting from the SystemInfo.

For every SystemInfo in the documented domain, every application in the documented domain, every placer of C02 with
every oracle input, every radius, every per-net oracle, every list of minimisation methods (the targets are the
SystemInfo's free router entries): IF `wrapperPipeline si wp ...` returns `out` THEN, with
`pb = problemOf si wp` (machine = `build_machine(si)`, constraints = `build_core_constraints(si) + constraints`):

* the placement is what the placer returned on `pb` and is `Feasible` there;
* for every net (in order) the net was routed from the chip of its source to its sinks as placed, allocated and
  endpoint-constrained, and for every key matching its key/mask the packet injected at the source chip is
  `Delivered` on the final tables: exactly one copy to every allocated core of every sink, exactly one exit on every
  endpoint link, nothing else, never dropped, only working links between working chips, never circulating - where
  working chips and links of `machine3 pb` are exactly those the SystemInfo reports (`machine_is_sysinfo`);
* `AllocIdle`: every core in the core range allocated to any placed vertex exists on its chip and is reported idle by
  the SystemInfo (never the monitor, never a core running an application, never a core beyond `num_cores`). -/
theorem wrapper_pipeline_delivers (si : SysInfo) (wp : WProblem) (placer : Placer) (radius : Nat)
    (orc : List NetOracle) (methods : List Rig.C04.Method) (out : Out)
    (hsi : SIDomain si) (dom : WDomain si wp) (hpl : WPlacerDomain si wp placer)
    (h : wrapperPipeline si wp placer radius orc methods = .ok out) :
    runPlacer (problemOf si wp) placer = .ok out.placement ∧
    Rig.C02.Feasible (vr02 (problemOf si wp)) (cs02 (problemOf si wp)) (problemOf si wp).m2 out.placement ∧
    List.Forall₂ (fun (n : ANet) (q : PNet) =>
        NetOf (problemOf si wp) out.placement out.alloc n q ∧
        ∀ k : W, k &&& n.mask = n.key →
          Delivered (deliver (machine3 (problemOf si wp)) (devLinks (problemOf si wp) out.placement)
              (tableAt out.final) k q.src)
            (sinkCores q.sinks) (sinkExits q.sinks))
      wp.nets out.nets ∧
    AllocIdle si out.placement out.alloc := by
  obtain ⟨h1, h2, ⟨a, ha, hs⟩, h3⟩ := (modelPipeline_result (problemOf si wp) placer radius orc
    (some (methods, targetsOf si)) (domain_of_sysinfo hsi dom) (placerDomain_of_sysinfo hpl)).ok h
  exact ⟨h1, h2, h3, hs ▸ alloc_idle hsi dom h2.keysNodup ha⟩

theorem wrapper_pipeline_no_flag (si : SysInfo) (wp : WProblem) (placer : Placer) (radius : Nat)
    (orc : List NetOracle) (methods : List Rig.C04.Method) (out : Out)
    (hsi : SIDomain si) (dom : WDomain si wp) (hpl : WPlacerDomain si wp placer)
    (h : wrapperPipeline si wp placer radius orc methods = .ok out) :
    ∀ q ∈ out.nets, ∀ k : W, k &&& q.mask = q.key →
      flags (deliver (machine3 (problemOf si wp)) (devLinks (problemOf si wp) out.placement)
        (tableAt out.final) k q.src) = [] :=
  model_pipeline_no_flag _ placer radius orc _ out (domain_of_sysinfo hsi dom) (placerDomain_of_sysinfo hpl) h

/-- The wrapper model fails only as documented: the placer's own error (C02: `seqPlace/randPlace/saPlace_documented`),
or after a feasible placement one of the failures of `afterPlace_only_failure` - the allocator's error, a net naming
an unplaced vertex, `MachineHasDisconnectedSubregion` and that only when the machine the SystemInfo describes is not strongly connected,
`MinimisationFailedError` (a table does not fit the chip's free router entries), an impossible oracle.  In particular
`routing_tree_to_tables` never raises `MultisourceRouteError` inside the wrapper. -/
theorem wrapper_only_failure (si : SysInfo) (wp : WProblem) (placer : Placer) (radius : Nat)
    (orc : List NetOracle) (methods : List Rig.C04.Method) (e : PErr)
    (hsi : SIDomain si) (dom : WDomain si wp) (hpl : WPlacerDomain si wp placer)
    (h : wrapperPipeline si wp placer radius orc methods = .error e) :
    (∃ e', runPlacer (problemOf si wp) placer = .error e' ∧ e = .place e') ∨
      DocumentedFailure (problemOf si wp) e :=
  (modelPipeline_result (problemOf si wp) placer radius orc (some (methods, targetsOf si))
    (domain_of_sysinfo hsi dom) (placerDomain_of_sysinfo hpl)).error h

theorem mem_deprecatedConstraints {cs : List PC} {coreRes sdramRes : Nat} {rm al : Bool} {pc : PC}
    (h : pc ∈ deprecatedConstraints cs coreRes sdramRes rm al) (hr : ∀ r s a, pc ≠ .reserve r s a)
    (ha : pc ≠ .align sdramRes 4) : pc ∈ cs := by
  simp only [deprecatedConstraints, List.mem_append] at h
  rcases h with (h | h) | h
  · exact h
  · cases rm <;> simp at h
    exact absurd h (hr _ _ _)
  · cases al <;> simp at h
    exact absurd h ha

/-- the constraints the deprecated wrapper appends keep the problem in the domain -/
theorem domain_deprecated {pb : Problem} (dom : Domain pb) (sdramRes : Nat) (rm al : Bool) :
    Domain { pb with cs := deprecatedConstraints pb.cs pb.coreRes sdramRes rm al } where
  vrNodup := dom.vrNodup
  resNodup := dom.resNodup
  demandNonneg := dom.demandNonneg
  alignPos := fun r a h => (Decidable.em (PC.align r a = .align sdramRes 4)).elim
    (fun he => by cases he; decide)
    fun he => dom.alignPos r a (mem_deprecatedConstraints h (fun _ _ _ h => nomatch h) he)
  cores18 := dom.cores18
  endpointIsLink := fun v r h =>
    dom.endpointIsLink v r (mem_deprecatedConstraints h (fun _ _ _ h => nomatch h) fun h => nomatch h)
  endpointDead := fun v r h =>
    have ⟨c, hc, hd⟩ := dom.endpointDead v r (mem_deprecatedConstraints h (fun _ _ _ h => nomatch h) fun h => nomatch h)
    ⟨c, List.mem_append_left _ (List.mem_append_left _ hc), hd⟩
  keysDisjoint := dom.keysDisjoint

/-- C01 for the deprecated `wrapper()`: Machine and constraints are the caller's,
core 0 is reserved when `reserve_monitor`, SDRAM is aligned to 4 when `align_sdram`, tables are built by
`build_routing_tables` (default routes removed).  For every problem in the documented domain (the placer's domain
stated on the augmented constraint list) IF the pipeline returns THEN every packet of every net is `Delivered` on
the returned tables. -/
theorem deprecated_pipeline_delivers (pb : Problem) (sdramRes : Nat) (rm al : Bool) (placer : Placer)
    (radius : Nat) (orc : List NetOracle) (out : Out) (dom : Domain pb)
    (hpl : PlacerDomain { pb with cs := deprecatedConstraints pb.cs pb.coreRes sdramRes rm al } placer)
    (h : deprecatedPipeline pb sdramRes rm al placer radius orc = .ok out) :
    List.Forall₂ (fun (n : ANet) (q : PNet) =>
        NetOf { pb with cs := deprecatedConstraints pb.cs pb.coreRes sdramRes rm al } out.placement out.alloc n q ∧
        ∀ k : W, k &&& n.mask = n.key →
          Delivered (deliver (machine3 pb)
              (devLinks { pb with cs := deprecatedConstraints pb.cs pb.coreRes sdramRes rm al } out.placement)
              (tableAt out.final) k q.src)
            (sinkCores q.sinks) (sinkExits q.sinks))
      pb.nets out.nets :=
  (model_pipeline_delivers _ placer radius orc _ out (domain_deprecated dom sdramRes rm al) hpl h).2.2

open Rig.C14 (MachineState Rd getSystemInfo) in
/-- Every probed machine is in the domain: what `get_system_info` returns on a machine state served as the machine
specification says (C14 `get_system_info_exact`) satisfies `SIDomain` -/
theorem sidomain_of_probe (m : MachineState) (rd : Rd) (hs : m.Serves rd) (hl : ∃ xy, m.listed xy = true) :
    getSystemInfo rd m.probe = .ok m.sysInfo ∧ SIDomain m.sysInfo := by
  obtain ⟨h1, hwf, _⟩ := Rig.C14.get_system_info_exact m rd hs hl
  exact ⟨h1, hwf, fun xy ci h => (Rig.C14.sysInfo_states m hs.chipsWF xy ci h).2,
    fun xy ci h => (Rig.C14.sysInfo_states m hs.chipsWF xy ci h).1⟩

open Rig.C14 (MachineState Rd getSystemInfo) in
/-- From the machine to the delivered packets: probe a machine (`get_system_info`), hand the description to
`place_and_route_wrapper`: if the wrapper model returns, every packet is delivered on the final tables and every
allocated core is idle in the description, which is the machine's state (stated by C14 `probe_views_exact`, not used
here) -/
theorem probed_wrapper_delivers (m : MachineState) (rd : Rd) (hs : m.Serves rd) (hl : ∃ xy, m.listed xy = true)
    (wp : WProblem) (placer : Placer) (radius : Nat) (orc : List NetOracle) (methods : List Rig.C04.Method) (out : Out) :
    ∃ si, getSystemInfo rd m.probe = .ok si ∧
      (WDomain si wp → WPlacerDomain si wp placer →
        wrapperPipeline si wp placer radius orc methods = .ok out →
        List.Forall₂ (fun (n : ANet) (q : PNet) =>
            NetOf (problemOf si wp) out.placement out.alloc n q ∧
            ∀ k : W, k &&& n.mask = n.key →
              Delivered (deliver (machine3 (problemOf si wp)) (devLinks (problemOf si wp) out.placement)
                  (tableAt out.final) k q.src)
                (sinkCores q.sinks) (sinkExits q.sinks))
          wp.nets out.nets ∧
        AllocIdle si out.placement out.alloc) := by
  obtain ⟨h1, hd⟩ := sidomain_of_probe m rd hs hl
  exact ⟨m.sysInfo, h1, fun dom hpl h => (wrapper_pipeline_delivers _ wp placer radius orc methods out hd dom hpl h).2.2⟩

open Rig.C14 (MachineState Rd getSystemInfo) in
/-- ... and in the vocabulary of the machine state: a core that `AllocIdle` admits on the probed description is a
working core of the machine's chip that is not busy (`ChipState.busyCore`, the predicate of C14's
`probe_to_machine_exact`) -/
theorem allocIdle_machine_state (m : MachineState) (p : Rig.C02.Placement) (A : Rig.C05.Alloc)
    (h : AllocIdle m.sysInfo p A) :
    ∀ v c sl, Rig.C02.aget p (.o v) = some c → Rig.C01Pipe.coresOf A 0 v = some sl →
      ∀ i : Nat, sl.start ≤ (i : Int) → (i : Int) < sl.stop →
        ∃ st, m.listed c = true ∧ m.chips.lookup c = some st ∧ i < st.cores ∧ st.busyCore i = false := by
  intro v c sl hp hsl i h1 h2
  obtain ⟨ci, hci, hlt, hidle⟩ := h v c sl hp hsl i h1 h2
  obtain ⟨st, hl, hst, rfl⟩ := (Rig.C14.mem_sysInfo m c ci).1 hci
  refine ⟨st, hl, hst, hlt, ?_⟩
  rw [← Rig.C14.busy_chipView, Rig.C14.busy, hidle]
  exact bne_self_eq_false _

/-! ## non-vacuity: a concrete SystemInfo and application in the domain, run through `wrapperPipeline`

The example of Props/C01Pipe.lean, starting from a SystemInfo: 5x1 chips, 3 cores per chip except (2,0) with 4; core 0
(monitor) runs on every chip - a GLOBAL reservation -, core 2 of (2,0) runs an application - a reservation for that chip
only -; link east of (4,0) is not reported working (a device hangs there); chip (1,0) has one free router entry, so its
table must shrink (default-route removal).  Same vertices, nets and oracle inputs as `exPb`. -/

def exCI (n : Nat) (st links : List Nat) (rtr : Nat) : ChipInfo :=
  { numCores := n, coreStates := st, links := links, sdram := 100, sram := 0, rtr := rtr, ethUp := false,
    ip := [0, 0, 0, 0], ethChip := (0, 0) }

def exSI : SysInfo :=
  { width := 5, height := 1,
    chips := [((0, 0), exCI 3 [7, 15, 15] [0, 1, 2, 3, 4, 5] 1023), ((1, 0), exCI 3 [7, 15, 15] [0, 1, 2, 3, 4, 5] 1),
              ((2, 0), exCI 4 [7, 15, 7, 15] [0, 1, 2, 3, 4, 5] 1023), ((3, 0), exCI 3 [7, 15, 15] [0, 1, 2, 3, 4, 5] 1023),
              ((4, 0), exCI 3 [7, 15, 15] [1, 2, 3, 4, 5] 1023)] }

def exWP : WProblem :=
  { vr := [(0, [(0, 2), (1, 10)]), (1, [(0, 2)]), (2, []), (3, [(0, 1)])],
    cs := [.loc 2 (4, 0), .endpoint 2 0],
    nets := [{ src := 0, sinks := [3, 3], key := 4#32, mask := 6#32 },
             { src := 1, sinks := [0, 1, 2], key := 2#32, mask := 6#32 }] }

def exWRun : Except PErr Out := wrapperPipeline exSI exWP (.seq none none) 1 exOrc [.rd, .oc]

/-- the wrapper derives one global and one chip-specific reservation, four resource exceptions and the dead link -/
example : constraintsOf exSI exWP.cs =
      [.reserve 0 ⟨0, 1⟩ none, .reserve 0 ⟨2, 3⟩ (some (2, 0)), .loc 2 (4, 0), .endpoint 2 0] ∧
    buildMachine exSI = PMachine.mk 5 1 4 100 0
      [((0, 0), 3, 100, 0), ((1, 0), 3, 100, 0), ((3, 0), 3, 100, 0), ((4, 0), 3, 100, 0)] [] [(4, 0, 0)] := by
  decide +kernel

def exWCheck (out : Out) : Bool :=
  decide (out.placement = [(.o 2, (4, 0)), (.o 0, (0, 0)), (.o 1, (1, 0)), (.o 3, (2, 0))]) &&
  decide (out.alloc = [(2, []), (0, [(0, ⟨1, 3⟩), (1, ⟨0, 10⟩)]), (1, [(0, ⟨1, 3⟩)]), (3, [(0, ⟨1, 2⟩)])]) &&
  decide (out.final = exFinal) && decide (out.final ≠ tables04 out.T10) &&
  allocIdleB exSI out.placement out.alloc

/-- the wrapper model returns on the example: placement, allocation, final tables (the table of chip (1,0) shrank to its
one free entry) and the decided `AllocIdle` - by evaluation in the kernel -/
theorem exw_runs : ∃ out, exWRun = .ok out ∧ exWCheck out = true :=
  Rig.C01Pipe.L.ok_of_check (by decide +kernel)

theorem exw_sidomain : SIDomain exSI where
  wf := ⟨by decide, fun xy ci h =>
    (by decide : ∀ e ∈ exSI.chips, e.1.1 < exSI.width ∧ e.1.2 < exSI.height) (xy, ci) h⟩
  cores18 := fun xy ci h => (by decide : ∀ e ∈ exSI.chips, e.2.numCores ≤ 18) (xy, ci) h
  states := fun xy ci h => (by decide : ∀ e ∈ exSI.chips, e.2.coreStates.length = e.2.numCores) (xy, ci) h

theorem exw_domain : WDomain exSI exWP where
  vrNodup := ex_domain.vrNodup
  resNodup := ex_domain.resNodup
  demandNonneg := ex_domain.demandNonneg
  alignPos := by intro r a h; simp [exWP] at h
  endpointIsLink := by
    intro v r h
    simp [exWP] at h
    omega
  endpointDead := by
    intro v r h
    simp [exWP] at h
    obtain ⟨rfl, rfl⟩ := h
    exact ⟨(4, 0), by simp [exWP], by decide⟩
  keysDisjoint := ex_domain.keysDisjoint

theorem exw_placerDomain : WPlacerDomain exSI exWP (.seq none none) where
  consistent := Rig.C01Pipe.L.consistent_of_applySame rfl fun v c c' hc hc' => by
    have e2 : cs02 (problemOf exSI exWP) =
        [.reserve 0 1 none, .reserve 0 1 (some (2, 0)), .loc (.o 2) (4, 0), .endpoint (.o 2)] := by decide +kernel
    rw [e2] at hc hc'
    simp at hc hc'
    rw [hc.2, hc'.2]
  emptyOK := emptyOK_of_vertices exSI exWP nofun
  oracle := by intro o h; cases h

/-- the conclusion of `wrapper_pipeline_delivers` for the example, through the theorem -/
example : ∃ out, exWRun = .ok out ∧
    List.Forall₂ (fun (n : ANet) (q : PNet) =>
        NetOf (problemOf exSI exWP) out.placement out.alloc n q ∧
        ∀ k : W, k &&& n.mask = n.key →
          Delivered (deliver (machine3 (problemOf exSI exWP)) (devLinks (problemOf exSI exWP) out.placement)
              (tableAt out.final) k q.src)
            (sinkCores q.sinks) (sinkExits q.sinks))
      exWP.nets out.nets ∧
    AllocIdle exSI out.placement out.alloc := by
  obtain ⟨out, h, _⟩ := exw_runs
  exact ⟨out, h, (wrapper_pipeline_delivers exSI exWP _ _ _ _ out exw_sidomain exw_domain exw_placerDomain h).2.2⟩

end Rig.C01Wrap
