/-
Generated `Int` code against `Nat` for the translator-tie modules (Props/CxxGen.lean).  The translator maps Python's
`& | ^ << >>` on unbounded ints to Mathlib's two's-complement `Int.land/lor/xor` and shifts: `testBit` extensionality
for these; then the members of the simp set `py_cast` for operators, tests and numerals; `%` / `//` by a numeral.
-/
import Mathlib.Data.Int.Bitwise
import Mathlib.Data.Nat.Bitwise
import RigModel.Lemmas.PyNormAttr

namespace Rig.IntBits

theorem testBit_natCast (n i : Nat) : (n : Int).testBit i = n.testBit i := rfl

theorem eq_of_testBit_eq {a b : Int} (h : ∀ i, a.testBit i = b.testBit i) : a = b := by
  -- a natural and a negative number differ at a bit beyond both
  have big : ∀ m n : Nat, m.testBit (m + n) = false ∧ n.testBit (m + n) = false := fun m n =>
    ⟨Nat.testBit_eq_false_of_lt (Nat.lt_of_le_of_lt (Nat.le_add_right m n) Nat.lt_two_pow_self),
      Nat.testBit_eq_false_of_lt (Nat.lt_of_le_of_lt (Nat.le_add_left n m) Nat.lt_two_pow_self)⟩
  cases a <;> cases b <;> rename_i m n
  · exact congrArg _ (Nat.eq_of_testBit_eq h)
  · have := h (m + n); simp [Int.testBit, big m n] at this
  · have := h (m + n); simp [Int.testBit, big m n] at this
  · exact congrArg _ (Nat.eq_of_testBit_eq fun i => by simpa [Int.testBit] using h i)

private theorem testBit_zero' (i : Nat) : (0 : Int).testBit i = false := by
  show Nat.testBit 0 i = false
  simp

private theorem testBit_one_shiftLeft (i j : Nat) : ((1 : Int) <<< i).testBit j = decide (i = j) := by
  have : ((1 : Int) <<< i) = ((2 ^ i : Nat) : Int) := by
    rw [Int.shiftLeft_eq]; simp
  rw [this, testBit_natCast, Nat.testBit_two_pow]

theorem land_one_shiftLeft_ne_zero (z : Int) (i : Nat) :
    Int.land z ((1 : Int) <<< i) ≠ 0 ↔ z.testBit i = true := by
  constructor
  · intro h
    by_contra hb
    apply h
    apply eq_of_testBit_eq
    intro j
    rw [Int.testBit_land, testBit_one_shiftLeft, testBit_zero']
    by_cases hij : i = j
    · subst hij; simpa using hb
    · simp [hij]
  · intro h e
    have := congrArg (fun t => Int.testBit t i) e
    simp [Int.testBit_land, testBit_one_shiftLeft, testBit_zero', h] at this

/-! Rewriting with these (the simp set `py_cast`) turns a generated `Int` expression over casts of naturals into the
cast of the same `Nat` expression.  `simp` rewrites arguments first, so numerals are casts (`lit_natCast`) by the time
an operator is reached: a further member is stated on arguments of that form (`↑(a + n)`, `↑0`), and a fact with a
numeral on its left side is cited with `↓`. -/

theorem land_natCast (a b : Nat) : Int.land (a : Int) (b : Int) = ((a &&& b : Nat) : Int) := rfl
theorem lor_natCast (a b : Nat) : Int.lor (a : Int) (b : Int) = ((a ||| b : Nat) : Int) := rfl
theorem xor_natCast (a b : Nat) : Int.xor (a : Int) (b : Int) = ((a ^^^ b : Nat) : Int) := rfl
theorem shl_natCast (a k : Nat) : (a : Int) <<< k = ((a <<< k : Nat) : Int) := (Int.natCast_shiftLeft a k).symm
theorem shr_natCast (a k : Nat) : (a : Int) >>> k = ((a >>> k : Nat) : Int) := rfl
theorem lit_natCast (n : Nat) [n.AtLeastTwo] : (OfNat.ofNat n : Int) = ((OfNat.ofNat n : Nat) : Int) := rfl
theorem zero_natCast : (0 : Int) = ((0 : Nat) : Int) := rfl
theorem one_natCast : (1 : Int) = ((1 : Nat) : Int) := rfl
theorem sub_natCast (a b : Nat) (h : b ≤ a) : (a : Int) - (b : Int) = ((a - b : Nat) : Int) :=
  (Int.ofNat_sub h).symm
theorem add_natCast (a b : Nat) : (a : Int) + (b : Int) = ((a + b : Nat) : Int) := (Int.natCast_add a b).symm
theorem mul_natCast (a b : Nat) : (a : Int) * (b : Int) = ((a * b : Nat) : Int) := (Int.natCast_mul a b).symm
theorem min_natCast (a b : Nat) : min (a : Int) (b : Int) = ((min a b : Nat) : Int) := by omega
theorem max_natCast (a b : Nat) : max (a : Int) (b : Int) = ((max a b : Nat) : Int) := by omega

/-! Tests; equations, not `↔`: an attribute on `Int.ofNat_le` itself adds `Int.ofNat_le._simp_2`, which clashes with
the one of Mathlib.Tactic.Zify wherever both are imported. -/

theorem lt_natCast (a b : Nat) : ((a : Int) < (b : Int)) = (a < b) := propext Int.ofNat_lt
theorem le_natCast (a b : Nat) : ((a : Int) ≤ (b : Int)) = (a ≤ b) := propext Int.ofNat_le
theorem eq_natCast (a b : Nat) : ((a : Int) = (b : Int)) = (a = b) := propext Int.natCast_inj
theorem gt_natCast (a b : Nat) : ((a : Int) > (b : Int)) = (b < a) := propext Int.ofNat_lt
theorem ge_natCast (a b : Nat) : ((a : Int) ≥ (b : Int)) = (b ≤ a) := propext Int.ofNat_le
theorem nat_lt_zero (a : Nat) : (a < 0) = False := eq_false (Nat.not_lt_zero a)
theorem nat_zero_le (a : Nat) : (0 ≤ a) = True := eq_true (Nat.zero_le a)

/-! Python's `%` and `//`. -/

theorem fmod_natCast (a b : Nat) : Int.fmod (a : Int) (b : Int) = ((a % b : Nat) : Int) :=
  Int.fmod_eq_emod_of_nonneg _ (Int.natCast_nonneg b)
theorem fdiv_natCast (a b : Nat) : Int.fdiv (a : Int) (b : Int) = ((a / b : Nat) : Int) :=
  Int.fdiv_eq_ediv_of_nonneg _ (Int.natCast_nonneg b)

attribute [py_cast] shl_natCast shr_natCast land_natCast lor_natCast xor_natCast lit_natCast zero_natCast one_natCast
  sub_natCast add_natCast mul_natCast min_natCast max_natCast lt_natCast le_natCast eq_natCast gt_natCast ge_natCast
  nat_lt_zero nat_zero_le fmod_natCast fdiv_natCast Int.toNat_natCast

/-- by a numeral, on any integer (`no_index`: `simp` would not find a numeral under the pattern `OfNat.ofNat n`) -/
theorem fmod_lit (a : Int) (n : Nat) [n.AtLeastTwo] : Int.fmod a (no_index (OfNat.ofNat n)) = a % (OfNat.ofNat n) :=
  Int.fmod_eq_emod_of_nonneg a (Int.natCast_nonneg n)
theorem fdiv_lit (a : Int) (n : Nat) [n.AtLeastTwo] : Int.fdiv a (no_index (OfNat.ofNat n)) = a / (OfNat.ofNat n) :=
  Int.fdiv_eq_ediv_of_nonneg a (Int.natCast_nonneg n)

end Rig.IntBits
