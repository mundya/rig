/-
The hypotheses of the C09 theorems; what a flood fill, the read-back pass and the count shortcut preserve of
the machine during a load.
-/
import RigModel.Lemmas.C09Machine
import RigModel.Lemmas.Lists
import Mathlib.Data.List.Nodup
import Mathlib.Data.List.Perm.Subperm

namespace Rig.C09
open Rig.Gen.Load

/-- `==` on cores is equality (stated once: the instance search behind `beq_iff_eq` is slow for `Core`) -/
theorem Core.beq_eq_true {k l : Core} : (k == l) = true ↔ k = l := beq_iff_eq

theorem Core.beq_eq_false {k l : Core} : (k == l) = false ↔ k ≠ l := beq_eq_false_iff_ne

theorem Core.beq_self (k : Core) : (k == k) = true := BEq.rfl

/-- `u` is a part of the request for binary `a`: same file, a subset of its cores -/
def SubApp (u a : App) : Prop :=
  u.name = a.name ∧ u.image = a.image ∧ ∀ x y p, wants u x y p = true → wants a x y p = true

def SubList (unl apps : List App) : Prop := ∀ u ∈ unl, ∃ a ∈ apps, SubApp u a

/-- contract of `compress_flood_fill_regions` (property C12) on the maps the loop can produce:
core masks fit 18 bits and, on the chips of the machine, the pairs select exactly the targets -/
def CompressOK (mc : MCfg) (c : Ctl) (apps : List App) : Prop :=
  ∀ t, (∃ a ∈ apps, ∀ x y p, wantsT t x y p = true → wants a x y p = true) →
    (∀ rm ∈ c.compress t, rm.2 < 262144) ∧
    ∀ x y p, (x, y) ∈ mc.chips → p < 18 → selectsCore (c.compress t) x y p = wantsT t x y p

/-- hypotheses of the C09 theorems (Props/C09.lean lists them): 1024 bytes = the 8-bit word count of a data packet,
255 blocks = the 8-bit block count of the start packet -/
structure Valid (mc : MCfg) (c : Ctl) (apps : List App) : Prop where
  hb : 4 ≤ c.buf
  hb4 : 4 ∣ c.buf
  hbmax : c.buf ≤ 1024
  happ : c.appId < 256
  hv : ∀ x y, mc.vcpuBase x y < 4294967296
  himg : ∀ a ∈ apps, 4 ∣ a.image.length ∧ a.image.length ≤ 255 * c.buf
  hchips : mc.chips.Nodup
  hin : ∀ a ∈ apps, ∀ x y p, wants a x y p = true → (x, y) ∈ mc.chips ∧ p < 18
  hdisj : ∀ a ∈ apps, ∀ b ∈ apps, ∀ x y p, wants a x y p = true → wants b x y p = true → a = b
  hcomp : CompressOK mc c apps

/-- no core waits under this app id and no requested core waits at all -/
def PreClean (m0 : MState) (apps : List App) (appId : Nat) : Prop :=
  ∀ x y p, (m0.core x y p).state = stWait →
    (m0.core x y p).app ≠ appId ∧ ∀ a ∈ apps, wants a x y p = false

theorem SubList.refl (apps : List App) : SubList apps apps := fun u hu => ⟨u, hu, rfl, rfl, fun _ _ _ h => h⟩

theorem PreClean.not_wait {m0 : MState} {apps : List App} {appId : Nat} (hpre : PreClean m0 apps appId) {a : App}
    (ha : a ∈ apps) {x y p : Nat} (hw : wants a x y p = true) : (m0.core x y p).state ≠ stWait :=
  fun hst => Bool.false_ne_true (((hpre x y p hst).2 a ha).symm.trans hw)

/-- the core contents after loading `a`: waiting, under the app id, with the whole image -/
def ld (appId : Nat) (a : App) : Core := ⟨stWait, appId, a.image⟩

/-- the read of the base address between head and tail of the fill does not touch the machine -/
theorem floodFillOne_m (mc : MCfg) (c : Ctl) (flags : Nat) (s : Sim) (a : App) :
    ∃ base, (floodFillOne mc c flags s a).m = runP mc s.m
      ((fillHead c (nextNn s.nn * 2) a ++ fillTail c (nextNn s.nn * 2) base flags a).map decode) :=
  ⟨_, by rw [floodFillOne, sendAll_m, readMem_m, sendAll_m, List.map_append, runP_append]⟩

/-- one step of the history of the machine during a load: every core is unchanged or is a
requested core that holds its binary in `m'` -/
def FillStep (apps : List App) (appId : Nat) (m m' : MState) : Prop :=
  ∀ x y p, m'.core x y p = m.core x y p ∨ ∃ a ∈ apps, wants a x y p = true ∧ m'.core x y p = ld appId a

theorem FillStep.trans {apps : List App} {appId : Nat} {m1 m2 m3 : MState}
    (h1 : FillStep apps appId m1 m2) (h2 : FillStep apps appId m2 m3) : FillStep apps appId m1 m3 := by
  intro x y p
  rcases h2 x y p with h | h
  · rw [h]; exact h1 x y p
  · exact Or.inr h

theorem FillStep.wait_mono {apps : List App} {appId : Nat} {m m' : MState} (hs : FillStep apps appId m m')
    (x y p : Nat) (h : (m.core x y p).state = stWait) : (m'.core x y p).state = stWait := by
  rcases hs x y p with e | ⟨a, _, _, e⟩ <;> rw [e]
  exacts [h, rfl]

theorem floodFill_step (mc : MCfg) (c : Ctl) (apps : List App) (hv : Valid mc c apps) :
    ∀ (unl : List App), SubList unl apps → ∀ s : Sim,
      FillStep apps c.appId s.m (floodFill mc c true s unl).m
  | [], _, _ => fun _ _ _ => .inl rfl
  | u :: us, hsub, s => by
    obtain ⟨a, ha, hu⟩ := hsub u List.mem_cons_self
    refine FillStep.trans (m2 := (floodFillOne mc c flagWait s u).m) (fun x y p => ?_)
      (floodFill_step mc c apps hv us (fun u' hu' => hsub u' (List.mem_cons_of_mem _ hu')) _)
    -- one fill: the requests decode to a well-formed fill, which loads the selected cores of the chips that take
    -- part; on the machine the pairs select only requested cores (`CompressOK`)
    have hb0 : 0 < c.buf := Nat.lt_of_lt_of_le (by decide) hv.hb
    obtain ⟨hi4, hilen⟩ := hv.himg a ha
    rw [← hu.2.1] at hi4 hilen
    obtain ⟨hmask, hsel⟩ := hv.hcomp u.targets ⟨a, ha, hu.2.2⟩
    obtain ⟨base, hm⟩ := floodFillOne_m mc c flagWait s u
    rw [hm, fill_decode c u _ base flagWait (nextNn_lt _) hb0 hv.hbmax hv.happ (by decide) hilen hmask,
      (run_fill mc c.buf _ base c.appId flagWait _ u.image hb0 hv.hb4 hi4 s.m).2 x y p]
    split
    · next h =>
      simp only [Bool.and_eq_true, List.contains_iff_mem, decide_eq_true_eq] at h
      exact .inr ⟨a, ha, hu.2.2 x y p ((hsel x y p h.1.1.1 h.1.2).symm.trans h.2), by rw [hu.2.1]; rfl⟩
    · exact .inl rfl

/-- machine invariant of the call: a core no map requests is as before the call; a requested core is either
loaded with its binary or as before the call -/
def Inv (apps : List App) (appId : Nat) (m0 m : MState) : Prop :=
  (∀ x y p, (∀ a ∈ apps, wants a x y p = false) → m.core x y p = m0.core x y p) ∧
  (∀ a ∈ apps, ∀ x y p, wants a x y p = true → m.core x y p = ld appId a ∨ m.core x y p = m0.core x y p)

theorem Inv.refl (apps : List App) (appId : Nat) (m : MState) : Inv apps appId m m :=
  ⟨fun _ _ _ _ => rfl, fun _ _ _ _ _ _ => .inr rfl⟩

theorem Inv.step {mc : MCfg} {c : Ctl} {apps : List App} (hv : Valid mc c apps) {m0 m m' : MState}
    (hi : Inv apps c.appId m0 m) (hs : FillStep apps c.appId m m') : Inv apps c.appId m0 m' := by
  refine ⟨fun x y p hn => ?_, fun a ha x y p hw => ?_⟩
  · rcases hs x y p with h | ⟨a, ha, hw, _⟩
    · rw [h]; exact hi.1 x y p hn
    · rw [hn a ha] at hw; exact absurd hw (by simp)
  · rcases hs x y p with h | ⟨b, hb, hwb, h⟩
    · rw [h]; exact hi.2 a ha x y p hw
    · have := hv.hdisj a ha b hb x y p hw hwb
      subst this; exact Or.inl h

/-- the unloaded map names exactly the requested cores that do not hold their binary -/
def Tracks (apps : List App) (appId : Nat) (m : MState) (unl : List App) : Prop :=
  ∀ a ∈ apps, ∀ x y p, wants a x y p = true →
    (m.core x y p ≠ ld appId a ↔ ∃ u ∈ unl, SubApp u a ∧ wants u x y p = true)

theorem SubList.filt {unl apps : List App} (hsub : SubList unl apps) (core : Nat → Nat → Nat → Core) :
    SubList (filtApps core unl) apps := fun u' hu' => by
  obtain ⟨u, hu, rfl⟩ := List.mem_map.mp (List.mem_filter.mp hu').1
  obtain ⟨a, ha, hua⟩ := hsub u hu
  exact ⟨a, ha, hua.1, hua.2.1, fun x y p hw => hua.2.2 x y p ((wantsT_filt ..).mp hw).1⟩

theorem wants_filtApps (core : Nat → Nat → Nat → Core) (unl : List App) (x y p : Nat) :
    (∃ u' ∈ filtApps core unl, wants u' x y p = true) ↔
      (∃ u ∈ unl, wants u x y p = true) ∧ (core x y p).state ≠ stWait := by
  constructor
  · rintro ⟨u', hu', hw⟩
    obtain ⟨u, hu, rfl⟩ := List.mem_map.mp (List.mem_filter.mp hu').1
    exact ⟨⟨u, hu, ((wantsT_filt ..).mp hw).1⟩, ((wantsT_filt ..).mp hw).2⟩
  · rintro ⟨⟨u, hu, hw⟩, hn⟩
    have hw' : wantsT (filtTargets core u.targets) x y p = true := (wantsT_filt ..).mpr ⟨hw, hn⟩
    obtain ⟨t, ht, _⟩ := List.any_eq_true.mp hw'
    exact ⟨_, List.mem_filter.mpr ⟨List.mem_map.mpr ⟨u, hu, rfl⟩, decide_eq_true (List.length_pos_of_mem ht)⟩, hw'⟩

theorem SubList.named {mc : MCfg} {c : Ctl} {apps unl : List App} (hv : Valid mc c apps) (hsub : SubList unl apps)
    {a u : App} (ha : a ∈ apps) (hu : u ∈ unl) {x y p : Nat} (hw : wants a x y p = true) (hwu : wants u x y p = true) :
    SubApp u a := by
  obtain ⟨a', ha', hsa⟩ := hsub u hu
  exact hv.hdisj a ha a' ha' x y p hw (hsa.2.2 x y p hwu) ▸ hsa

theorem mem_allCores (chips : List (Nat × Nat)) (x y p : Nat) :
    (x, y, p) ∈ allCores chips ↔ (x, y) ∈ chips ∧ p < 18 := by
  simp only [allCores, List.mem_flatMap, List.mem_map, List.mem_range, Prod.mk.injEq]
  constructor
  · rintro ⟨c, hc, q, hq, rfl, rfl, rfl⟩; exact ⟨hc, hq⟩
  · rintro ⟨hc, hp⟩; exact ⟨(x, y), hc, p, hp, rfl, rfl, rfl⟩

theorem allCores_nodup (chips : List (Nat × Nat)) (h : chips.Nodup) : (allCores chips).Nodup :=
  Lists.nodup_flatMap_map id (fun _ => List.range 18) (fun (c : Nat × Nat) p => (c.1, c.2, p)) chips (by rwa [List.map_id])
    (fun _ _ => List.nodup_range) fun _ _ _ _ heq =>
      ⟨Prod.ext (Prod.mk.inj heq).1 (Prod.mk.inj (Prod.mk.inj heq).2).1, (Prod.mk.inj (Prod.mk.inj heq).2).2⟩

def reqCores (apps : List App) : List (Nat × Nat × Nat) :=
  apps.flatMap fun a => a.targets.flatMap fun t => t.2.2.map fun p => (t.1, t.2.1, p)

theorem coreCount_eq (apps : List App) : coreCount apps = (reqCores apps).length := by
  simp only [coreCount, reqCores, List.length_flatMap, List.length_map]

theorem mem_reqCores (apps : List App) (x y p : Nat) :
    (x, y, p) ∈ reqCores apps ↔ ∃ a ∈ apps, wants a x y p = true := by
  simp only [reqCores, List.mem_flatMap, List.mem_map, Prod.mk.injEq, wants, List.any_eq_true,
    Bool.and_eq_true, beq_iff_eq, List.contains_iff_mem]
  constructor
  · rintro ⟨a, ha, t, ht, q, hq, rfl, rfl, rfl⟩; exact ⟨a, ha, t, ht, ⟨rfl, rfl⟩, hq⟩
  · rintro ⟨a, ha, t, ht, ⟨rfl, rfl⟩, hq⟩; exact ⟨a, ha, t, ht, p, hq, rfl, rfl, rfl⟩

/-- the count one state yields on the machine -/
def cnt1 (mc : MCfg) (core : Nat → Nat → Nat → Core) (st appId : Nat) : Nat :=
  (allCores mc.chips).countP fun c => matchesApp (core c.1 c.2.1 c.2.2) st appId

/-- the count shortcut's test -/
def CountEq (mc : MCfg) (c : Ctl) (apps : List App) (m : MState) : Prop :=
  coreCount apps = cnt1 mc m.core stWait c.appId

theorem count_full {mc : MCfg} {c : Ctl} {apps : List App} (hch : mc.chips.Nodup) {m0 m : MState}
    (hpre : PreClean m0 apps c.appId) (hi : Inv apps c.appId m0 m) (hcnt : CountEq mc c apps m) :
    ∀ a ∈ apps, ∀ x y p, wants a x y p = true → m.core x y p = ld c.appId a := by
  -- a core that waits under the app id has changed during the load, so it is requested and holds its binary
  have hne : ∀ x y p, matchesApp (m.core x y p) stWait c.appId = true → m.core x y p ≠ m0.core x y p :=
    fun x y p hP heq => by
      rw [heq, matchesApp, Bool.and_eq_true, beq_iff_eq, beq_iff_eq] at hP
      exact (hpre x y p hP.1).1 hP.2
  have hsubset : (allCores mc.chips).filter (fun k => matchesApp (m.core k.1 k.2.1 k.2.2) stWait c.appId) ⊆
      (reqCores apps).filter fun k => matchesApp (m.core k.1 k.2.1 k.2.2) stWait c.appId := fun ⟨x, y, p⟩ hk => by
    rw [List.mem_filter] at hk ⊢
    exact ⟨(mem_reqCores ..).mpr (Classical.by_contradiction fun hex => hne x y p hk.2
      (hi.1 x y p fun a ha => Bool.eq_false_iff.mpr fun hw => hex ⟨a, ha, hw⟩)), hk.2⟩
  -- as many of them as requested cores: every requested core is one
  have hle := (((allCores_nodup _ hch).filter _).subperm hsubset).length_le
  rw [← List.countP_eq_length_filter, ← cnt1, ← hcnt, coreCount_eq] at hle
  have hall := List.length_filter_eq_length_iff.mp (Nat.le_antisymm (List.length_filter_le ..) hle)
  exact fun a ha x y p hw =>
    (hi.2 a ha x y p hw).resolve_right (hne x y p (hall _ ((mem_reqCores ..).mpr ⟨a, ha, hw⟩)))

end Rig.C09
