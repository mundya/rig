/-
C13 - file-like memory views behave as bounded files and stay in their region.

The model is the code WITH fixes/c13-memoryio-confinement.diff and fixes/c13-getitem-closed.diff
applied; `orig_read_escapes_below` / `orig_write_escapes_above` / `orig_slice_of_closed_view_is_open`
show what the code before the patches does, `fix_conservative` / `getitem_fix_conservative` that
they change nothing while the position is inside the view / on a live view, `seek_end_sign` states
the known finding about `seek(n, 2)`.

All theorems quantify over every world (any number of views, any memory, any flags), so
"for every history" statements follow for the worlds reachable from a fresh `MemoryIO`
(`mkRoot`, `allocAsFilelike`) through `step_WF`.
-/
import RigModel.Lemmas.C13

namespace Rig.C13

/-- **A slice covers exactly the clipped sub-range it names**: `view[a:b]` (step `None` or 1)
creates, without touching memory or any existing view, a fresh open view at position 0 whose range
is `view.start + [lo, lo + max 0 (hi - lo))` where `(lo, hi, 1) = slice(a, b).indices(len(view))`
as CPython computes them (on a live view; on a closed view / freed allocation slicing raises
OSError: `dead_after_close`, `no_access_after_free`). -/
theorem slice_exact (w : World) (i : Nat) (v : View) (a b st : Option Int)
    (hv : w.views[i]? = some v) (hlive : dead w v = false) (hwf : v.start ≤ v.stop)
    (hst : st = none ∨ st = some 1) :
    step w (.slice i a b st) =
      ({ w with views := w.views ++ [specSlice v a b] }, ⟨.view w.views.length, false, none⟩) := by
  rw [step_of_view hv]
  simp only [stepView, doSlice, doSliceOrig, hlive, Bool.false_eq_true, if_false, hst, if_true]
  rw [slice_bounds_exact v hwf a b]

/-- the named sub-range lies inside the parent view (also for negative, reversed and
out-of-range bounds) -/
theorem slice_within_parent (v : View) (h : v.start ≤ v.stop) (a b : Option Int) :
    Within v.start v.stop (specSlice v a b) := by
  obtain ⟨h0, h1, h2⟩ := sliceRange_bounds (len := v.len) (Int.sub_nonneg_of_le h) a b
  exact ⟨Int.le_add_of_nonneg_right h0, Int.add_le_add_left h1 _, Int.add_le_of_le_sub_left h2⟩

/-- on a live view a slice step other than `None` and 1 (`hst` of `slice_exact`) raises ValueError -/
theorem slice_step_rejected (w : World) (i : Nat) (v : View) (a b : Option Int) (s : Int)
    (hv : w.views[i]? = some v) (hlive : dead w v = false) (hs : s ≠ 1) :
    step w (.slice i a b (some s)) = (w, ⟨.err .valueError, false, none⟩) := by
  rw [step_of_view hv]
  simp [stepView, doSlice, doSliceOrig, hlive, hs, fail]

/-- **Confinement, one call.** Whatever the state of the world (positions anywhere, any
nesting of slices), a controller access issued by a call on view `op.target` is a non-empty
range inside that view's `[start, stop)`, on the allocation's chip, through core 0; the only
`sdram_free` is issued by the owner (view 0) for its own start address. -/
theorem step_confined (w : World) (op : Op) (a : Access) (h : (step w op).2.access = some a) :
    ∃ v, w.views[op.target]? = some v ∧ Confined w.x w.y v a ∧
      (∀ addr x y, a = .free addr x y → op.target = 0) :=
  (step_framed w op).access a h

/-- a fresh `MemoryIO(start, stop)` satisfies the invariant for `[start, max start stop)` -/
theorem mkRoot_WF (x y : Nat) (start stop : Int) (m : Mem) :
    WF start (max start stop) (mkRoot x y start stop m) := by
  refine ⟨⟨_, rfl, rfl, rfl⟩, fun v hv => ?_⟩
  cases List.mem_singleton.mp hv
  exact ⟨Int.le_refl _, Int.le_max_left .., Int.le_refl _⟩

/-- **Slices of slices stay inside the allocation**: the invariant "view 0 spans `[lo, hi)` and
every view (to any slicing depth) is a well-formed range inside it" is preserved by every call. -/
theorem step_WF (lo hi : Int) (w : World) (op : Op) (h : WF lo hi w) : WF lo hi (step w op).1 := by
  obtain ⟨⟨r, hr, hrs, hre⟩, hall⟩ := h
  have h0 : 0 < w.views.length := (List.getElem?_eq_some_iff.mp hr).1
  unfold WF
  cases (step_framed w op).views with
  | same hs => rw [hs]; exact ⟨⟨r, hr, hrs, hre⟩, hall⟩
  | @upd v _ _ hv _ hs =>
    rw [hs, List.getElem?_set]
    refine ⟨?_, fun u hu => ?_⟩
    · split
      · rw [‹op.target = 0›] at hv ⊢
        cases hr.symm.trans hv
        exact ⟨_, if_pos h0, hrs, hre⟩
      · exact ⟨r, hr, hrs, hre⟩
    · rcases List.mem_or_eq_of_mem_set hu with hu | rfl
      · exact hall u hu
      · exact hall v (List.mem_of_getElem? hv)
  | @app v a b hv hs =>
    rw [hs, List.getElem?_append_left h0]
    refine ⟨⟨r, hr, hrs, hre⟩, fun u hu => ?_⟩
    rcases List.mem_append.mp hu with hu | hu
    · exact hall u hu
    · cases List.mem_singleton.mp hu
      have hv := hall v (List.mem_of_getElem? hv)
      have hu := slice_bounds_exact v hv.2.1 a b ▸ slice_within_parent v hv.2.1 a b
      exact ⟨Int.le_trans hv.1 hu.1, hu.2.1, Int.le_trans hu.2.2 hv.2.2⟩

theorem step_in_alloc (lo hi : Int) (w : World) (op : Op) (hwf : WF lo hi w) (a : Access)
    (h : (step w op).2.access = some a) : Confined w.x w.y ⟨lo, hi, 0, false⟩ a := by
  obtain ⟨v, hv, hc, hfree⟩ := step_confined w op a h
  refine confined_mono _ _ lo hi v a (hwf.2 v (List.mem_of_getElem? hv)) (fun ad x' y' e => ?_) hc
  obtain ⟨r, hr, hrs, -⟩ := hwf.1
  cases hr.symm.trans (hfree ad x' y' e ▸ hv)
  exact hrs

/-- the same for every call of a history (`run_confined` for any well-formed world) -/
theorem run_in_alloc (lo hi : Int) (ops : List Op) (w : World) (h : WF lo hi w) :
    ∀ o ∈ (run w ops).1, ∀ a, o.access = some a → Confined w.x w.y ⟨lo, hi, 0, false⟩ a :=
  (run_inv (I := fun u => WF lo hi u ∧ u.x = w.x ∧ u.y = w.y)
    (fun u op ⟨h, hx, hy⟩ => ⟨⟨step_WF lo hi u op h, (step_framed u op).x.trans hx, (step_framed u op).y.trans hy⟩,
      hx ▸ hy ▸ step_in_alloc lo hi u op h⟩) ops w ⟨h, rfl, rfl⟩).2

/-- **Confinement, all histories**: every access of every history on a fresh `MemoryIO(start, stop)` and its slices
lies in `[start, max start stop)`. -/
theorem run_confined (x y : Nat) (start stop : Int) (m : Mem) (ops : List Op) :
    ∀ o ∈ (run (mkRoot x y start stop m) ops).1, ∀ a, o.access = some a →
      Confined x y ⟨start, max start stop, 0, false⟩ a :=
  run_in_alloc start (max start stop) ops _ (mkRoot_WF x y start stop m)

/-- the same for views obtained from `sdram_alloc_as_filelike(size)` with `0 ≤ size` (`sdram_alloc_for_vertices`:
`size = sdramStop - sdramStart`; allocation at `base`): every access lies in `[base, base + size)` -/
theorem run_confined_alloc (x y : Nat) (base size : Int) (hs : 0 ≤ size) (m : Mem) (ops : List Op) :
    ∀ o ∈ (run (allocAsFilelike x y base size m) ops).1, ∀ a, o.access = some a →
      Confined x y ⟨base, base + size, 0, false⟩ a :=
  Int.max_eq_right (Int.le_add_of_nonneg_right hs) ▸ run_confined x y base (base + size) m ops

/-- **Bounded file.** Every read / write / seek / tell / flush / address on a live view
(except `seek(n, 2)` with `n ≠ 0`, finding `seek-from-end-sign`) does exactly what the same
call does on a fixed-length file holding the bytes of the view's range: same return value,
truncation warning exactly when fewer bytes are transferred than requested, position advanced
by the bytes transferred, the view's bytes afterwards are the file's bytes, one controller
access of exactly the transferred bytes at the position (none when nothing is transferred),
every address outside the view's range keeps its content, no other view changes.
This includes calls whose transfer FAILS (`readFail`, `writeFail`: the controller raises): the
controller's error is raised, the position does not move, a failed read delivers nothing, a
failed write leaves in the view exactly the bytes the machine stored before the fault. -/
theorem step_refines_file (w : World) (op : Op) (v : View) (hv : w.views[op.target]? = some v)
    (hlive : dead w v = false) (hwf : v.start ≤ v.stop) (hio : op.isIO = true)
    (hk : ∀ i n, op = .seek i n 2 → n = 0) :
    ∃ s, specIO v (absFile w.mem v) op = some s ∧ Refines w op.target v s (step w op) := by
  rw [step_of_view hv]
  cases op with
  | read i n => exact (read_refines w i v hv hlive hwf n).1
  | write i d => exact (write_refines w i v hv hlive hwf d 0).1
  | readFail i n => exact (read_refines w i v hv hlive hwf n).2
  | writeFail i d j => exact (write_refines w i v hv hlive hwf d j).2
  | seek i n wh => exact seek_refines w i v hv hlive hwf n wh (fun h => hk i n (by rw [h]))
  | tell i | flush i =>
    simp only [stepView, if_neg (ne_true_of_eq_false hlive)]
    exact ⟨_, rfl, Refines.quiet hv ..⟩
  | address i =>
    simp only [stepView, if_neg (ne_true_of_eq_false hlive), View.address]
    rw [Int.add_comm]
    exact ⟨_, rfl, Refines.quiet hv ..⟩
  | _ => cases hio

/-- **Bounded file, whole histories.** Any sequence of reads, writes (also failing ones), seeks (from start / current,
or from the end with offset 0), `tell`, `address` and `flush` on one live view returns, call by call, exactly
what the same sequence returns on a fixed-length file initialised with the bytes of the view's
range (values, truncation warnings; positions through `tell`). -/
theorem run_refines_file (ops : List Op) : ∀ (w : World) (i : Nat) (v : View),
    w.views[i]? = some v → dead w v = false → v.start ≤ v.stop →
    (∀ op ∈ ops, op.isIO = true ∧ op.target = i ∧ ∀ j n, op = .seek j n 2 → n = 0) →
    (run w ops).1.map (fun o => (o.ret, o.warn)) = specRun v (absFile w.mem v).data ops := by
  induction ops with
  | nil => intro w i v _ _ _ _; rfl
  | cons op ops ih =>
    intro w i v hv hlive hwf hall
    obtain ⟨hio, rfl, hk⟩ := hall op (List.mem_cons_self ..)
    obtain ⟨s, hs, hout, hviews, hdata, -, hfreed, -, -⟩ := step_refines_file w op v hv hlive hwf hio hk
    obtain ⟨hps, hpe, hpc⟩ := specIO_post v _ op s hs
    have := ih (step w op).1 op.target s.post
      (by rw [hviews]; exact List.getElem?_set_self (List.getElem?_eq_some_iff.mp hv).1)
      (by unfold dead at *; rw [hfreed, hpc]; exact hlive) (by omega)
      (fun o ho => hall o (List.mem_cons_of_mem _ ho))
    rw [show absFile w.mem v = ⟨(absFile w.mem v).data, v.offset⟩ from rfl] at hs
    simp only [run, List.map_cons, specRun, hs, this, hdata, hout]

/-- **A failed read moves nothing** (any world, any position, live or dead view): when the
controller's read raises, the world is exactly what it was - position, bounds, flags of every view
and memory - and the call either raised the controller's error or no transfer was needed and it is
an ordinary `read`. -/
theorem failed_read_moves_nothing (w : World) (i : Nat) (n : Int) :
    (step w (.readFail i n)).1 = w ∧
    ((step w (.readFail i n)).2.ret = .err .transferError ∨ step w (.readFail i n) = step w (.read i n)) := by
  unfold step
  simp only [Op.target]
  split
  · exact ⟨rfl, Or.inr rfl⟩
  · rename_i v _
    simp only [stepView]
    -- the plain call takes the path of the failing one
    fun_cases doReadFail w i v n
    · exact ⟨rfl, .inr (by rw [doRead, if_pos ‹_›])⟩
    · exact ⟨rfl, .inr (by rw [doRead, if_neg ‹_›, ‹readCount v n = _›]; exact (if_pos ‹_›).symm)⟩
    · exact ⟨rfl, .inl rfl⟩

/-- **A failed write moves nothing**: when the controller's write raises after storing the first
`j` bytes it was handed, no view changes (position, bounds, flags), the allocation is not freed,
and memory outside the view's range is untouched (what the machine stored lies inside it). -/
theorem failed_write_moves_nothing (w : World) (i : Nat) (d : List Nat) (j : Nat) :
    (step w (.writeFail i d j)).1.views = w.views ∧ (step w (.writeFail i d j)).1.freed = w.freed ∧
    (∀ v, w.views[i]? = some v → ∀ a, a < v.start ∨ v.stop ≤ a →
      (step w (.writeFail i d j)).1.mem a = w.mem a) ∧
    ((step w (.writeFail i d j)).2.ret = .err .transferError ∨
      step w (.writeFail i d j) = step w (.write i d)) := by
  unfold step
  simp only [Op.target]
  split
  · exact ⟨rfl, rfl, fun _ _ _ _ => rfl, Or.inr rfl⟩
  · rename_i v hv
    simp only [stepView]
    fun_cases doWriteFail w i v d j
    · exact ⟨rfl, rfl, fun _ _ _ _ => rfl, .inr (by rw [doWrite, if_pos ‹_›])⟩
    · exact ⟨rfl, rfl, fun _ _ _ _ => rfl,
        .inr (by rw [doWrite, if_neg ‹_›, ‹writeData v d = _›]; exact (if_pos ‹_›).symm)⟩
    · rename_i warn d' hd' h0
      refine ⟨rfl, rfl, fun u hu a ha => ?_, .inl rfl⟩
      cases hv.symm.trans hu
      have hc := confined_write w.x w.y v d' h0 (by have := writeData_le v d; rwa [hd'] at this)
      have hlj := List.length_take_le' j d'
      apply writeMem_outside
      unfold Confined at hc
      omega

/-- **A failed free frees nothing**: when the controller's `sdram_free` raises, the world is
exactly what it was (the allocation is not marked freed, every view stays usable, `free()` can be
called again); the call raised the controller's error or never reached the controller. -/
theorem failed_free_moves_nothing (w : World) (i : Nat) :
    (step w (.freeFail i)).1 = w ∧
    ((step w (.freeFail i)).2.ret = .err .transferError ∨ step w (.freeFail i) = step w (.free i)) := by
  unfold step
  simp only [Op.target]
  split
  · exact ⟨rfl, Or.inr rfl⟩
  · rename_i v _
    simp only [stepView]
    fun_cases doFreeFail w i v
    · exact ⟨rfl, .inr (by rw [doFree, if_pos ‹_›])⟩
    · exact ⟨rfl, .inr (by rw [doFree, if_neg ‹_›, if_pos ‹_›])⟩
    · exact ⟨rfl, .inl rfl⟩

/-- a read that advanced the position before the transfer would break this: the failed
`read(4)` at position 4 of a 24-byte view leaves the position at 8 although nothing was
transferred; the code (and the file specification) leave it at 4 -/
theorem early_offset_update_breaks_failed_read :
    let w : World := ⟨1, 2, false, [⟨1000, 1024, 4, false⟩], fun _ => 0⟩
    let v : View := ⟨1000, 1024, 4, false⟩
    (doReadFailEarly w 0 v 4).1.views = [⟨1000, 1024, 8, false⟩] ∧
    (step w (.readFail 0 4)).1.views = [v] ∧
    (step w (.readFail 0 4)).2 = ⟨.err .transferError, false, some (.read 1004 4 1 2 0)⟩ ∧
    (specIO v ⟨List.replicate 24 0, 4⟩ (.readFail 0 4)).map (·.post) = some v := by
  decide

/-- **Reads return the bytes last written** (through whichever view they were written):
memory holds the written bytes at the written addresses and is unchanged elsewhere. -/
theorem read_back (m : Mem) (a : Int) (d : List Nat) :
    readMem (writeMem m a d) a d.length = d ∧
    ∀ x, x < a ∨ a + (d.length : Int) ≤ x → writeMem m a d x = m x :=
  ⟨read_after_write m a d, fun x h => writeMem_outside m a d x h⟩

/-- the oracle's linear cut of the observed window is the file of the view (`absFile`) whenever the
view's range lies inside the window -/
theorem absFileWin_eq (base : Int) (before : List Nat) (v : View)
    (h : base ≤ v.start ∧ v.start ≤ v.stop ∧ v.stop ≤ base + (before.length : Int)) :
    absFileWin base before v = absFile (winMem base before) v := by
  have := readMem_winMem base before (v.start - base).toNat v.len.toNat (by unfold View.len; omega)
  rw [Int.toNat_of_nonneg (Int.sub_nonneg_of_le h.1), Int.add_comm, Int.sub_add_cancel] at this
  exact congrArg (File.mk · v.offset) this.symm

/-- on an allocation that is not freed, `close()` of an existing view leaves it closed -/
theorem close_closes (w : World) (i : Nat) (v : View) (hv : w.views[i]? = some v) (hf : w.freed = false) :
    ClosedAt (step w (.close i)).1 i := by
  rw [step_of_view hv]
  simp only [stepView, doClose, dead, hf, Bool.or_false]
  by_cases hc : v.closed = true
  · rw [if_pos hc]; exact ⟨v, hv, hc⟩
  · rw [if_neg hc, if_neg hc]
    exact ⟨_, List.getElem?_set_self (List.getElem?_eq_some_iff.mp hv).1, rfl⟩

/-- **Closed views are dead**: once view `i` is closed, after any further history every
read / write / seek / tell / flush / address on it AND every slicing of it (`view[a:b:s]`,
`view[k]`) raises OSError, changes nothing (no new view) and issues no controller access. -/
theorem dead_after_close (w : World) (i : Nat) (h : ClosedAt w i) (ops : List Op) (op : Op)
    (hio : op.mustFail = true) (ht : op.target = i) :
    step (run w ops).2 op = ((run w ops).2, ⟨.err .osError, false, none⟩) := by
  obtain ⟨v, hv, hc⟩ := (run_inv (Q := fun _ => True) (fun w op h => ⟨step_closedAt w op i h, trivial⟩) ops w h).1
  exact step_dead _ op v (by rw [ht]; exact hv) (by simp [dead, hc]) hio

/-- `free()` on the live owner frees the allocation (one `sdram_free` of its start) -/
theorem free_frees (w : World) (r : View) (hr : w.views[0]? = some r) (hf : w.freed = false) :
    (step w (.free 0)).1.freed = true ∧
    (step w (.free 0)).2 = ⟨.none, false, some (.free r.start w.x w.y)⟩ := by
  rw [step_of_view hr]
  simp [stepView, doFree, hf]

/-- **Freed allocations are dead**: once the owner is freed, after any further history
(i) no call on any view of the allocation ever issues a controller access again and
(ii) every read / write / seek / tell / flush / address on any view and every slicing of any
view raises OSError (and creates no view). -/
theorem no_access_after_free (w : World) (h : w.freed = true) (ops : List Op) :
    (∀ o ∈ (run w ops).1, o.access = none) ∧
    (∀ op v, (run w ops).2.views[op.target]? = some v → op.mustFail = true →
      step (run w ops).2 op = ((run w ops).2, ⟨.err .osError, false, none⟩)) := by
  have hr := run_inv (Q := (·.access = none)) (fun w op h => (step_framed w op).freed h) ops w h
  exact ⟨hr.2, fun op v hv hio => step_dead _ op v hv (by simp [dead, hr.1]) hio⟩

/-- **Leaving a with-block closes the view, however the block was left** (normally or through an
exception; as `io.BytesIO` and real files do): `__exit__` is `close()`. -/
theorem exit_block_is_close (w : World) (i : Nat) (raised : Bool) :
    step w (.exitBlock i raised) = step w (.close i) := by
  unfold step
  simp only [Op.target]
  split <;> rfl

/-- ... so after a with-block on a live view - left normally or by an exception - the view is dead
for the rest of any history: every read / write / seek / tell / flush / address / slicing on it
raises OSError, changes nothing and issues no controller access. -/
theorem dead_after_block (w : World) (i : Nat) (v : View) (raised : Bool) (hv : w.views[i]? = some v)
    (hf : w.freed = false) (ops : List Op) (op : Op) (hio : op.mustFail = true) (ht : op.target = i) :
    step (run (step w (.exitBlock i raised)).1 ops).2 op =
      ((run (step w (.exitBlock i raised)).1 ops).2, ⟨.err .osError, false, none⟩) := by
  rw [exit_block_is_close]
  exact dead_after_close _ i (close_closes w i v hv hf) ops op hio ht

/-- entering a block does nothing (and is not guarded by the code) -/
theorem enter_is_noop (w : World) (i : Nat) (v : View) (hv : w.views[i]? = some v) :
    step w (.enter i) = (w, ⟨.view i, false, none⟩) := by
  rw [step_of_view hv]
  simp [stepView, done]

/-- a call under "warnings are errors" is the ordinary call, or - exactly when the ordinary call
would issue a TruncationWarning - raises it and leaves the world untouched -/
theorem stepS_cases (w : World) (op : Op) (strict : Bool) :
    (stepS w op strict = step w op ∧ (strict = false ∨ (step w op).2.warn = false)) ∨
    (stepS w op strict = (w, ⟨.err .truncation, true, none⟩) ∧ strict = true ∧ (step w op).2.warn = true) := by
  fun_cases stepS w op strict
  · rename_i h
    exact .inl ⟨rfl, .inr (by unfold step; rw [h])⟩
  · rename_i v hv h
    rw [step_of_view hv, warn_eq_strictFails]
    exact .inr ⟨rfl, Bool.and_eq_true_iff.mp h⟩
  · rename_i v hv h
    rw [step_of_view hv, warn_eq_strictFails]
    refine .inl ⟨rfl, ?_⟩
    cases strict
    · exact .inl rfl
    · exact .inr (Bool.eq_false_iff.mpr h)

/-- **Bounded file under "warnings are errors".** With `TruncationWarning` turned into an exception,
every file operation on a live view refines `strictSpec` of the file specification: a call that
would be truncated raises, transfers nothing and moves nothing; every other call is as in
`step_refines_file`. -/
theorem strict_refines_file (w : World) (op : Op) (v : View) (hv : w.views[op.target]? = some v)
    (hlive : dead w v = false) (hwf : v.start ≤ v.stop) (hio : op.isIO = true)
    (hk : ∀ i n, op = .seek i n 2 → n = 0) :
    ∃ s, specIO v (absFile w.mem v) op = some s ∧
      Refines w op.target v (strictSpec v (absFile w.mem v) s) (stepS w op true) := by
  obtain ⟨s, hs, hR⟩ := step_refines_file w op v hv hlive hwf hio hk
  refine ⟨s, hs, ?_⟩
  have hwarn : (step w op).2.warn = s.warn := by rw [hR.1]
  rcases stepS_cases w op true with ⟨h1, h2⟩ | ⟨h1, -, h3⟩
  · rw [h1, strictSpec, if_neg (by rw [← hwarn, h2.resolve_left nofun]; exact Bool.false_ne_true)]
    exact hR
  · have : s.warn = true := hwarn ▸ h3
    rw [h1, strictSpec, if_pos this]
    exact this ▸ Refines.quiet hv ..

/-- the invariant is kept by one call under "warnings are errors": the world stays well-formed
(a strict call is the ordinary call or touches nothing) -/
theorem stepS_WF (lo hi : Int) (w : World) (op : Op) (strict : Bool) (h : WF lo hi w) :
    WF lo hi (stepS w op strict).1 := by
  rcases stepS_cases w op strict with ⟨h1, _⟩ | ⟨h1, _⟩
  · rw [h1]; exact step_WF lo hi w op h
  · rw [h1]; exact h

/-- every access of a call under "warnings are errors" is confined to the view it is made on -/
theorem stepS_confined (w : World) (op : Op) (strict : Bool) (a : Access)
    (h : (stepS w op strict).2.access = some a) :
    ∃ v, w.views[op.target]? = some v ∧ Confined w.x w.y v a := by
  rcases stepS_cases w op strict with ⟨h1, _⟩ | ⟨h1, _⟩
  · rw [h1] at h
    obtain ⟨v, hv, hc, _⟩ := step_confined w op a h
    exact ⟨v, hv, hc⟩
  · rw [h1] at h; cases h

/-- the code before the fix: `seek(-4); read(2)` on a 10-byte view at 1000 reads 2 bytes at 996 -/
theorem orig_read_escapes_below :
    let v : View := ⟨1000, 1010, -4, false⟩
    readCountOrig v 2 = (false, 2) ∧ v.address = 996 ∧ ¬ Confined 1 2 v (.read v.address 2 1 2 0) ∧
    -- and `read()` reads 14 bytes from 996
    readCountOrig v (-1) = (false, 14) ∧ ¬ Confined 1 2 v (.read v.address 14 1 2 0) ∧
    -- the fixed code transfers nothing (with a warning when bytes were requested)
    readCount v 2 = (true, 0) ∧ readCount v (-1) = (false, 0) := by
  decide

/-- the code before the fix: `seek(13); write(8 bytes)` on a 10-byte view writes 5 bytes at 1013;
`seek(-4); write(4 bytes)` writes them at 996 -/
theorem orig_write_escapes_above :
    let v : View := ⟨1000, 1010, 13, false⟩
    let u : View := ⟨1000, 1010, -4, false⟩
    writeDataOrig v [1, 2, 3, 4, 5, 6, 7, 8] = (true, [1, 2, 3, 4, 5]) ∧ v.address = 1013 ∧
    ¬ Confined 1 2 v (.write v.address [1, 2, 3, 4, 5] 1 2 0) ∧
    writeDataOrig u [97, 98, 99, 100] = (false, [97, 98, 99, 100]) ∧
    ¬ Confined 1 2 u (.write u.address [97, 98, 99, 100] 1 2 0) ∧
    writeData v [1, 2, 3, 4, 5, 6, 7, 8] = (true, []) ∧ writeData u [97, 98, 99, 100] = (true, []) := by
  decide

/-- the code before fixes/c13-getitem-closed.diff: slicing a CLOSED view succeeds and returns a
fresh open view (through which memory can be accessed again); the guarded code raises OSError -/
theorem orig_slice_of_closed_view_is_open :
    let w : World := ⟨1, 2, false, [⟨1000, 1010, 3, true⟩], fun _ => 0⟩
    let v : View := ⟨1000, 1010, 3, true⟩
    (doSliceOrig w v (some 2) (some 5) none).2 = ⟨.view 1, false, none⟩ ∧
    (doSliceOrig w v (some 2) (some 5) none).1.views = [v, ⟨1002, 1005, 0, false⟩] ∧
    (step w (.slice 0 (some 2) (some 5) none)).2 = ⟨.err .osError, false, none⟩ ∧
    (step w (.slice 0 (some 2) (some 5) none)).1.views = [v] := by
  decide

/-- the guard changes nothing for live views -/
theorem getitem_fix_conservative (w : World) (v : View) (a b st : Option Int) (h : dead w v = false) :
    doSlice w v a b st = doSliceOrig w v a b st := by
  simp [doSlice, h]

/-- the fix changes nothing while the position is inside the view -/
theorem fix_conservative (v : View) (h0 : 0 ≤ v.offset) (h1 : v.offset ≤ v.len) (n : Int) (d : List Nat) :
    readCount v n = readCountOrig v n ∧ writeData v d = writeDataOrig v d := by
  have ha : v.available = v.stop - v.address := by
    unfold View.available View.address View.len at *; split <;> omega
  have key : ∀ k : Int, (k > v.stop - v.address) = (v.address + k > v.stop) :=
    fun k => propext ⟨fun _ => by omega, fun _ => by omega⟩
  simp only [readCount, readCountOrig, writeData, writeDataOrig, ha, key, and_self]

/-- `seek(n, 2)`: the code moves to `len - n`, a file moves to `len + n`; they agree only for `n = 0`
(known finding `seek-from-end-sign`) -/
theorem seek_end_sign (w : World) (i : Nat) (v : View) (n : Int) (hd : dead w v = false)
    (hwf : v.start ≤ v.stop) :
    (doSeek w i v n 2).1 = setView w i { v with offset := v.len - n } ∧
    (File.seek (absFile w.mem v) n 2).map (·.pos) = some (v.len + n) ∧
    (v.len - n = v.len + n ↔ n = 0) := by
  refine ⟨by simp [doSeek, hd, done, View.len], ?_, by omega⟩
  simp [File.seek, absFile_len w.mem v hwf]

/-- a live, well-formed view exists and issues real accesses (`step_refines_file`, `step_confined`) -/
example : let w := mkRoot 1 2 1000 1010 (fun _ => 7)
    w.views[(Op.read 0 4).target]? = some (mkView 1000 1010) ∧ dead w (mkView 1000 1010) = false ∧
    (mkView 1000 1010).start ≤ (mkView 1000 1010).stop ∧ (Op.read 0 4).isIO = true ∧
    (step w (.read 0 4)).2 = ⟨.bytes [7, 7, 7, 7], false, some (.read 1000 4 1 2 0)⟩ := by
  decide

/-- truncation at the end: 4 bytes written at position 8 of a 10-byte view -> 2 written, warning -/
example : let w := (step (mkRoot 1 2 1000 1010 (fun _ => 7)) (.seek 0 8 0)).1
    (step w (.write 0 [1, 2, 3, 4])).2 = ⟨.int 2, true, some (.write 1008 [1, 2] 1 2 0)⟩ := by
  decide

/-- the file specification is not degenerate: seek, truncated read, write, relative seek, truncated write -/
example : specRun (mkView 1000 1004) [1, 2, 3, 4]
      [.seek 0 2 0, .read 0 5, .write 0 [9], .seek 0 (-1) 1, .write 0 [8, 8], .seek 0 0 0, .read 0 (-1)]
    = [(.none, false), (.bytes [3, 4], true), (.int 0, true), (.none, false), (.int 1, true),
       (.none, false), (.bytes [1, 2, 3, 8], false)] := by decide

/-- histories with failing transfers: a failed read, tell, the retry, a write failing after one
byte, tell, read everything back -/
example : specRun (mkView 1000 1004) [1, 2, 3, 4]
      [.readFail 0 2, .tell 0, .read 0 2, .writeFail 0 [9, 9, 9] 1, .tell 0, .seek 0 0 0, .read 0 (-1)]
    = [(.err .transferError, false), (.int 0, false), (.bytes [1, 2], false),
       (.err .transferError, true), (.int 2, false), (.none, false), (.bytes [1, 2, 9, 4], false)] := by
  decide

/-- a nested slice with negative bounds: `f[2:9][-4:-1]` of a view at 1000 is `[1005, 1008)` -/
example : specSlice (specSlice (mkView 1000 1010) (some 2) (some 9)) (some (-4)) (some (-1))
    = ⟨1005, 1008, 0, false⟩ := by decide

/-- `ClosedAt` and `freed` are reachable (`dead_after_close`, `no_access_after_free`) -/
example : ClosedAt (step (mkRoot 1 2 1000 1010 (fun _ => 7)) (.close 0)).1 0 :=
  close_closes _ 0 (mkView 1000 1010) rfl rfl
example : (step (mkRoot 1 2 1000 1010 (fun _ => 7)) (.free 0)).1.freed = true :=
  (free_frees _ (mkView 1000 1010) rfl rfl).1

/-- slicing is among the operations that fail after close (`dead_after_close` with a slice) -/
example : step (step (mkRoot 1 2 1000 1010 (fun _ => 7)) (.close 0)).1 (.slice 0 (some 1) none none)
    = ((step (mkRoot 1 2 1000 1010 (fun _ => 7)) (.close 0)).1, ⟨.err .osError, false, none⟩) :=
  dead_after_close (step (mkRoot 1 2 1000 1010 (fun _ => 7)) (.close 0)).1 0
    (close_closes (mkRoot 1 2 1000 1010 (fun _ => 7)) 0 (mkView 1000 1010) rfl rfl) []
    (.slice 0 (some 1) none none) rfl rfl

/-- a with-block left by an exception closes the view; the next read fails -/
example : let w := mkRoot 1 2 1000 1010 (fun _ => 7)
    (run w [.enter 0, .read 0 2, .exitBlock 0 true, .read 0 2, .slice 0 none none none]).1 =
      [⟨.view 0, false, none⟩, ⟨.bytes [7, 7], false, some (.read 1000 2 1 2 0)⟩, ⟨.none, false, none⟩,
       ⟨.err .osError, false, none⟩, ⟨.err .osError, false, none⟩] := by decide

/-- warnings as errors: the truncated read raises and moves nothing, the in-range read is ordinary -/
example : let w := (step (mkRoot 1 2 1000 1010 (fun _ => 7)) (.seek 0 8 0)).1
    (runS w [(.read 0 4, true), (.tell 0, true), (.read 0 2, true)]).1 =
      [⟨.err .truncation, true, none⟩, ⟨.int 8, false, none⟩,
       ⟨.bytes [7, 7], false, some (.read 1008 2 1 2 0)⟩] := by decide

/-- `WF` holds of a world with slices (`step_WF`, `run_confined`) -/
example : WF 1000 1010 (run (mkRoot 1 2 1000 1010 (fun _ => 7))
    [.slice 0 (some 2) (some 9) none, .slice 1 (some (-4)) none none, .seek 2 (-3) 0]).2 := by
  have h := mkRoot_WF 1 2 1000 1010 (fun _ => 7)
  have hm : max (1000 : Int) 1010 = 1010 := by decide
  rw [hm] at h
  simp only [run]
  exact step_WF _ _ _ _ (step_WF _ _ _ _ (step_WF _ _ _ _ h))

end Rig.C13
