/-
C12 - the region tree: `holds`, `Inv`, `add_core`, the traversal, the insertion loop.  Core Lean only.
-/
import RigModel.Lemmas.C12Word
import RigModel.Lemmas.Assoc

namespace Rig.C12

theorem getD_set {α} (l : List α) (i j : Nat) (a d : α) :
    (l.set i a).getD j d = if i = j ∧ i < l.length then a else l.getD j d := by
  simp only [List.getD_eq_getElem?_getD, List.getElem?_set]
  by_cases h : i = j
  · subst h; by_cases h2 : i < l.length <;> simp [h2]
  · simp [h]

theorem getD_replicate {α} (n i : Nat) (a : α) : (List.replicate n a).getD i a = a := by
  simp only [List.getD_eq_getElem?_getD, List.getElem?_replicate]; split <;> rfl

theorem lt_of_getD_some {α} (l : List (Option α)) (i : Nat) (c : α) (h : l.getD i none = some c) :
    i < l.length := by
  by_cases hi : i < l.length
  · exact hi
  · simp [List.getD_eq_getElem?_getD, List.getElem?_eq_none (Nat.le_of_not_lt hi)] at h

theorem getD_of_getElem? (ls : List Nat) (q m : Nat) (h : ls[q]? = some m) : ls.getD q 0 = m := by
  simp [List.getD_eq_getElem?_getD, h]

theorem getElem?_of_lt (ls : List Nat) (q : Nat) (h : q < ls.length) : ls[q]? = some (ls.getD q 0) := by
  simp [List.getD_eq_getElem?_getD, List.getElem?_eq_getElem h]

def RTree.x0 : RTree → Nat | .mk a _ _ _ _ => a
def RTree.y0 : RTree → Nat | .mk _ a _ _ _ => a
def RTree.lv : RTree → Nat | .mk _ _ a _ _ => a

/-- the set of (chip, core) a node stands for (the first argument is fuel: the number of levels from the node down,
`Inv_lv`) -/
def holds : Nat → RTree → Nat → Nat → Nat → Prop
  | 0, _, _, _, _ => False
  | d + 1, .mk x0 y0 lv ls subs, x, y, p =>
    inSq x0 y0 lv x y ∧ p < 18 ∧
    ((ls.getD p 0).testBit (subIndex lv x y) = true ∨
      ∃ c, subs.getD (subIndex lv x y) none = some c ∧ holds d c x y p)

/-- the invariant at one node with `d` levels below it, the invariant `InvC` and the set `holdsC` of the children
being parameters (instantiated at `Inv d`, `holds d`, which makes `Inv` structurally recursive) -/
def NodeOK (d : Nat) (InvC : RTree → Prop) (holdsC : RTree → Nat → Nat → Nat → Prop)
    (x0 y0 lv : Nat) (ls : List Nat) (subs : List (Option RTree)) : Prop :=
  lv + d = 3 ∧ x0 % scale lv = 0 ∧ y0 % scale lv = 0 ∧ x0 + scale lv ≤ 256 ∧ y0 + scale lv ≤ 256 ∧
  ls.length = 18 ∧ (∀ p, ls.getD p 0 < 2 ^ 16) ∧ subs.length = (if lv = 3 then 0 else 16) ∧
  ∀ i c, subs.getD i none = some c →
    c.x0 = x0 + scale lv / 4 * (i % 4) ∧ c.y0 = y0 + scale lv / 4 * (i / 4) ∧ InvC c ∧
    ∀ p, (ls.getD p 0).testBit i = true → ∀ x y, ¬ holdsC c x y p

/-- the tree invariant: well placed, masks 16 bit, a block bit set for core `p`
means the child holds nothing for `p`, and no node below the root is left with
all sixteen bits set -/
def Inv : Nat → RTree → Prop
  | 0, _ => False
  | d + 1, .mk x0 y0 lv ls subs =>
    NodeOK d (Inv d) (holds d) x0 y0 lv ls subs ∧ (lv ≠ 0 → ∀ p, ls.getD p 0 ≠ 0xffff)

theorem Inv_lv : ∀ d t, Inv d t → t.lv + d = 4
  | 0, _, h => by simp [Inv] at h
  | d + 1, .mk x0 y0 lv ls subs, h => by
    have := h.1.1; simp only [RTree.lv]; omega

theorem holds_inSq : ∀ d t x y p, holds d t x y p → inSq t.x0 t.y0 t.lv x y ∧ p < 18
  | 0, _, _, _, _, h => by simp [holds] at h
  | d + 1, .mk x0 y0 lv ls subs, x, y, p, h => ⟨h.1, h.2.1⟩

theorem new_subs_getD (lv i : Nat) :
    (if lv < 3 then List.replicate 16 (none : Option RTree) else []).getD i none = none := by
  split
  · exact getD_replicate _ _ _
  · rfl

theorem holds_new {d x0 y0 lv x y p : Nat} : ¬ holds d (RTree.new x0 y0 lv) x y p := by
  cases d with
  | zero => simp [holds]
  | succ d =>
    simp only [RTree.new, holds, getD_replicate, new_subs_getD]
    rintro ⟨_, _, h | ⟨c, h, _⟩⟩
    · simp at h
    · simp at h

theorem Inv_new (d x0 y0 lv : Nat) (h1 : lv + d = 3) (hx : x0 % scale lv = 0) (hy : y0 % scale lv = 0)
    (hx1 : x0 + scale lv ≤ 256) (hy1 : y0 + scale lv ≤ 256) : Inv (d + 1) (RTree.new x0 y0 lv) := by
  simp only [RTree.new, Inv, NodeOK, getD_replicate, new_subs_getD]
  refine ⟨⟨h1, hx, hy, hx1, hy1, by simp, ?_, ?_, ?_⟩, ?_⟩
  · intro p; decide
  · by_cases h : lv = 3
    · simp [h]
    · have : lv < 3 := by omega
      simp [h, this]
  · intro i c h; simp at h
  · intro _ p; decide

/-- the tail of `add_core`: clear a complete mask below the root and report it -/
def finish (x0 y0 lv : Nat) (ls : List Nat) (subs : List (Option RTree)) (p : Nat) : RTree × Bool :=
  if ls.getD p 0 == 0xffff && lv != 0 then (.mk x0 y0 lv (ls.set p 0) subs, true)
  else (.mk x0 y0 lv ls subs, false)

/-- `locally_selected[p] |= 1 << s`, done (`b`) or not -/
def orBit (ls : List Nat) (p s : Nat) (b : Bool) : List Nat :=
  if b then ls.set p (ls.getD p 0 ||| 1 <<< s) else ls

theorem orBit_length (ls : List Nat) (p s : Nat) (b : Bool) : (orBit ls p s b).length = ls.length := by
  unfold orBit; split <;> simp

theorem orBit_testBit {ls : List Nat} {p : Nat} (hp : p < ls.length) (s : Nat) (b : Bool) (q i : Nat) :
    ((orBit ls p s b).getD q 0).testBit i =
      ((ls.getD q 0).testBit i || (b && decide (p = q) && decide (s = i))) := by
  cases b
  · simp [orBit]
  · simp only [orBit, if_true, getD_set, hp, and_true]
    by_cases hpq : p = q
    · subst hpq; rw [if_pos rfl, testBit_or_bit]; simp
    · simp [hpq]

theorem orBit_ne {ls : List Nat} {p s : Nat} {b : Bool} {q : Nat} (h : q ≠ p) :
    (orBit ls p s b).getD q 0 = ls.getD q 0 := by
  unfold orBit; split
  · rw [getD_set, if_neg (fun e => h e.1.symm)]
  · rfl

theorem orBit_lt {ls : List Nat} {p s : Nat} (hp : p < ls.length) (hs : s < 16) (b : Bool)
    (h : ∀ q, ls.getD q 0 < 2 ^ 16) (q : Nat) : (orBit ls p s b).getD q 0 < 2 ^ 16 := by
  apply Nat.lt_pow_two_of_testBit
  intro i hi
  rw [orBit_testBit hp, Bits.testBit_false_of_lt (h q) hi,
    show decide (s = i) = false from decide_eq_false (by omega), Bool.and_false, Bool.or_false]

theorem addCore_unfold (d x0 y0 lv : Nat) (ls : List Nat) (subs : List (Option RTree)) (x y p : Nat)
    (hin : inSq x0 y0 lv x y) (hp : p < 18) :
    addCore (d + 1) (.mk x0 y0 lv ls subs) x y p =
      (if lv = 3 then
          .ok (finish x0 y0 lv (orBit ls p (subIndex lv x y) true) subs p)
        else if (ls.getD p 0).testBit (subIndex lv x y) = false then
          match addCore d (match subs.getD (subIndex lv x y) none with
              | some c => c
              | none => RTree.new (x0 + scale lv / 4 * (subIndex lv x y % 4))
                          (y0 + scale lv / 4 * (subIndex lv x y / 4)) (lv + 1)) x y p with
          | .error e => .error e
          | .ok (c', full) =>
            .ok (finish x0 y0 lv (orBit ls p (subIndex lv x y) full) (subs.set (subIndex lv x y) (some c')) p)
        else .ok (finish x0 y0 lv ls subs p)) := by
  obtain ⟨a, b, c, e⟩ := hin
  have hr : ¬ (p > 17 ∨ x < x0 ∨ x ≥ x0 + scale lv ∨ y < y0 ∨ y ≥ y0 + scale lv) := by omega
  rw [addCore, if_neg hr]
  simp only [and_bit_eq_zero]
  -- in every case what is left is `(if c then .ok a else .ok b) = .ok (if c then a else b)`, up to evaluation
  by_cases h3 : lv = 3
  · subst h3; exact (apply_ite Except.ok _ _ _).symm
  · rw [if_neg h3, if_neg (by simpa using h3)]
    cases (ls.getD p 0).testBit (subIndex lv x y)
    · cases addCore d _ x y p with
      | error e => rfl
      | ok v => obtain ⟨c', full⟩ := v; cases full <;> exact (apply_ite Except.ok _ _ _).symm
    · exact (apply_ite Except.ok _ _ _).symm

/-- what `add_core(x, y, p)` returning `full` makes of `t`: the invariant, the same square, and the set held grows by
exactly `(x, y, p)` - when `full`, the square's cores `p` are taken out of `t'` and reported instead -/
def AddPost (d : Nat) (t : RTree) (x y p : Nat) (t' : RTree) (full : Bool) : Prop :=
  Inv d t' ∧ t'.x0 = t.x0 ∧ t'.y0 = t.y0 ∧ t'.lv = t.lv ∧ (t.lv = 0 → full = false) ∧
  (∀ x' y' p', (holds d t' x' y' p' ∨ (full = true ∧ p' = p ∧ inSq t.x0 t.y0 t.lv x' y')) ↔
     (holds d t x' y' p' ∨ (x' = x ∧ y' = y ∧ p' = p))) ∧
  (full = true → ∀ x' y', ¬ holds d t' x' y' p)

/-- "mid": the node `(ls1, subs1)` after `add_core` has updated the point's block, before its tail `finish` -/
theorem post_of_mid {d x0 y0 lv : Nat} {ls ls1 : List Nat} {subs subs1 : List (Option RTree)}
    {x y p : Nat}
    (hN1 : NodeOK d (Inv d) (holds d) x0 y0 lv ls1 subs1) (hp : p < 18)
    (hq : lv ≠ 0 → ∀ q, q ≠ p → ls1.getD q 0 ≠ 0xffff)
    (hmid : ∀ x' y' p', holds (d + 1) (.mk x0 y0 lv ls1 subs1) x' y' p' ↔
      (holds (d + 1) (.mk x0 y0 lv ls subs) x' y' p' ∨ (x' = x ∧ y' = y ∧ p' = p))) :
    ∃ t' full, (Except.ok (finish x0 y0 lv ls1 subs1 p) : Except Err (RTree × Bool)) = .ok (t', full) ∧
      AddPost (d + 1) (.mk x0 y0 lv ls subs) x y p t' full := by
  obtain ⟨h1, hx, hy, hx1, hy1, hlen, hlt, hsl, hch⟩ := hN1
  by_cases hc : (ls1.getD p 0 == 0xffff && lv != 0) = true
  · refine ⟨_, _, by rw [finish, if_pos hc], ?_⟩
    simp only [Bool.and_eq_true, beq_iff_eq, bne_iff_ne, ne_eq] at hc
    obtain ⟨hf, hl0⟩ := hc
    have hbits : ∀ x' y', (ls1.getD p 0).testBit (subIndex lv x' y') = true :=
      fun x' y' => (eq_ffff _ (hlt p)).1 hf _ (subIndex_lt ..)
    have hget : ∀ q, (ls1.set p 0).getD q 0 = if p = q then 0 else ls1.getD q 0 := by
      intro q; rw [getD_set, hlen]; simp only [hp, and_true]
    have hsub : ∀ q i, ((ls1.set p 0).getD q 0).testBit i = true → (ls1.getD q 0).testBit i = true := by
      intro q i h; rw [hget] at h; split at h
      · simp at h
      · exact h
    refine ⟨⟨⟨h1, hx, hy, hx1, hy1, by simpa using hlen, ?_, hsl, ?_⟩, ?_⟩, rfl, rfl, rfl,
      fun h => absurd h hl0, fun x' y' p' => ?_, fun _ x' y' => ?_⟩
    · intro q; rw [hget]; split
      · decide
      · exact hlt q
    · exact fun i c hic => ⟨(hch i c hic).1, (hch i c hic).2.1, (hch i c hic).2.2.1,
        fun q hqb => (hch i c hic).2.2.2 q (hsub q i hqb)⟩
    · intro _ q; rw [hget]; split
      · decide
      · next hne => exact hq hl0 q (fun e => hne e.symm)
    · -- for `p` the node stood for its whole square and afterwards for nothing; other cores are untouched
      rw [← hmid]
      simp only [holds, hget]
      by_cases hpp : p = p'
      · subst hpp
        simp only [if_true, Nat.zero_testBit, Bool.false_eq_true, false_or, true_and, hbits, true_or, and_true]
        exact ⟨fun h => h.elim (fun h => ⟨h.1, hp⟩) (fun h => ⟨h, hp⟩), fun h => Or.inr h.1⟩
      · have hpp' : ¬ p' = p := fun e => hpp e.symm
        simp only [if_neg hpp, hpp', false_and, and_false, or_false]
    · simp only [holds, hget, if_true, Nat.zero_testBit, Bool.false_eq_true, false_or]
      rintro ⟨_, _, c, hc1, hc2⟩
      exact (hch _ c hc1).2.2.2 p (hbits x' y') x' y' hc2
  · refine ⟨_, _, by rw [finish, if_neg hc], ?_⟩
    simp only [Bool.and_eq_true, beq_iff_eq, bne_iff_ne, ne_eq, not_and, Decidable.not_not] at hc
    refine ⟨⟨⟨h1, hx, hy, hx1, hy1, hlen, hlt, hsl, hch⟩, fun hl0 q => ?_⟩, rfl, rfl, rfl, fun _ => rfl,
      fun x' y' p' => ?_, nofun⟩
    · by_cases hqp : q = p
      · subst hqp; exact fun hf => hl0 (hc hf)
      · exact hq hl0 q hqp
    · simp only [Bool.false_eq_true, false_and, or_false]; exact hmid x' y' p'

/-- what block `k` contributes: its bit for the core, or what the child there holds -/
def blk (d : Nat) (ls : List Nat) (subs : List (Option RTree)) (k x y p : Nat) : Prop :=
  (ls.getD p 0).testBit k = true ∨ ∃ c, subs.getD k none = some c ∧ holds d c x y p

theorem mid_of_block {d x0 y0 lv : Nat} {ls ls1 : List Nat} {subs subs1 : List (Option RTree)} {x y p : Nat}
    (hin : inSq x0 y0 lv x y) (hp : p < 18)
    (hbit : ∀ q k, k ≠ subIndex lv x y → (ls1.getD q 0).testBit k = (ls.getD q 0).testBit k)
    (hsub : ∀ k, k ≠ subIndex lv x y → subs1.getD k none = subs.getD k none)
    (hs : ∀ x' y' p', inSq x0 y0 lv x' y' → subIndex lv x' y' = subIndex lv x y →
      (blk d ls1 subs1 (subIndex lv x y) x' y' p' ↔
        (blk d ls subs (subIndex lv x y) x' y' p' ∨ (x' = x ∧ y' = y ∧ p' = p))))
    (x' y' p' : Nat) :
    holds (d + 1) (.mk x0 y0 lv ls1 subs1) x' y' p' ↔
      (holds (d + 1) (.mk x0 y0 lv ls subs) x' y' p' ∨ (x' = x ∧ y' = y ∧ p' = p)) := by
  show _ ∧ _ ∧ blk d ls1 subs1 _ x' y' p' ↔ (_ ∧ _ ∧ blk d ls subs _ x' y' p') ∨ _
  by_cases hk : subIndex lv x' y' = subIndex lv x y
  · rw [hk]
    constructor
    · rintro ⟨a, b, h⟩
      exact ((hs x' y' p' a hk).1 h).imp (fun h => ⟨a, b, h⟩) id
    · rintro (⟨a, b, h⟩ | ⟨rfl, rfl, rfl⟩)
      · exact ⟨a, b, (hs x' y' p' a hk).2 (Or.inl h)⟩
      · exact ⟨hin, hp, (hs _ _ _ hin rfl).2 (Or.inr ⟨rfl, rfl, rfl⟩)⟩
  · have : blk d ls1 subs1 (subIndex lv x' y') x' y' p' ↔ blk d ls subs (subIndex lv x' y') x' y' p' := by
      unfold blk; rw [hbit _ _ hk, hsub _ hk]
    rw [this]
    exact ⟨Or.inl, fun h => h.elim id (fun ⟨a, b, _⟩ => absurd (by rw [a, b]) hk)⟩

theorem addCore_spec : ∀ d t x y p, Inv d t → inSq t.x0 t.y0 t.lv x y → p < 18 →
    ∃ t' full, addCore d t x y p = .ok (t', full) ∧ AddPost d t x y p t' full
  | 0, t, _, _, _, h, _, _ => by simp [Inv] at h
  | d + 1, .mk x0 y0 lv ls subs, x, y, p, hI, hin, hp => by
    simp only [RTree.x0, RTree.y0, RTree.lv] at hin
    obtain ⟨hN, hnf⟩ := hI
    have hN' := hN
    obtain ⟨h1, hx, hy, hx1, hy1, hlen, hlt, hsl, hch⟩ := hN
    rw [addCore_unfold _ _ _ _ _ _ _ _ _ hin hp]
    have hpl : p < ls.length := by omega
    have hs16 := subIndex_lt lv x y
    have hbit : ∀ b q k, k ≠ subIndex lv x y →
        ((orBit ls p (subIndex lv x y) b).getD q 0).testBit k = (ls.getD q 0).testBit k := by
      intro b q k hk
      rw [orBit_testBit hpl, decide_eq_false (Ne.symm hk), Bool.and_false, Bool.or_false]
    by_cases h3 : lv = 3
    · -- level 3: the block is the chip itself
      rw [if_pos h3]
      subst h3
      have hnil : subs = [] := List.eq_nil_of_length_eq_zero (by simpa using hsl)
      subst hnil
      refine post_of_mid
        ⟨h1, hx, hy, hx1, hy1, (orBit_length ..).trans hlen, orBit_lt hpl hs16 _ hlt, hsl,
          fun i c hic => by simp at hic⟩
        hp (fun _ q hqp => by rw [orBit_ne hqp]; exact hnf (by decide) q)
        (mid_of_block hin hp (hbit true) (fun _ _ => rfl) ?_)
      intro x' y' p' a hk
      obtain ⟨rfl, rfl⟩ := (leaf_point x0 y0 x y x' y' hx hy hin a).1 hk.symm
      unfold blk
      rw [orBit_testBit hpl]
      simp only [List.getD_nil, reduceCtorEq, false_and, exists_false, or_false, decide_true, Bool.true_and,
        Bool.and_true, Bool.or_eq_true, decide_eq_true_eq, true_and, eq_comm (a := p)]
    · rw [if_neg h3]
      have hl3 : lv < 3 := by omega
      have hsl16 : subs.length = 16 := by simpa [h3] using hsl
      by_cases hb : (ls.getD p 0).testBit (subIndex lv x y) = false
      · -- recurse into the child
        rw [if_pos hb]
        generalize hs : subIndex lv x y = s at *
        have hc0 : ∃ c0, (match subs.getD s none with
              | some c => c
              | none => RTree.new (x0 + scale lv / 4 * (s % 4)) (y0 + scale lv / 4 * (s / 4)) (lv + 1)) = c0 ∧
            Inv d c0 ∧ c0.x0 = x0 + scale lv / 4 * (s % 4) ∧ c0.y0 = y0 + scale lv / 4 * (s / 4) ∧
            (∀ x' y' p', holds d c0 x' y' p' ↔ ∃ c, subs.getD s none = some c ∧ holds d c x' y' p') ∧
            (∀ q, (ls.getD q 0).testBit s = true → ∀ x' y', ¬ holds d c0 x' y' q) := by
          cases hsub : subs.getD s none with
          | some c =>
            obtain ⟨a, b, c1, c2⟩ := hch s c hsub
            exact ⟨c, rfl, c1, a, b,
              fun x' y' p' => ⟨fun h => ⟨c, rfl, h⟩, fun ⟨c', e, h⟩ => by cases e; exact h⟩, c2⟩
          | none =>
            obtain ⟨d', rfl⟩ : ∃ d', d = d' + 1 := ⟨d - 1, by omega⟩
            have ax := child_align x0 lv (s % 4) hl3 hx (by omega)
            have ay := child_align y0 lv (s / 4) hl3 hy (by omega)
            refine ⟨_, rfl, Inv_new d' _ _ _ (by omega) ax.1 ay.1 (ax.2 hx1) (ay.2 hy1), rfl, rfl, ?_, ?_⟩
            · intro x' y' p'; constructor
              · intro h; exact absurd h holds_new
              · rintro ⟨c, e, _⟩; simp at e
            · intro q _ x' y'; exact holds_new
        obtain ⟨c0, hc0e, hc0I, hc0x, hc0y, hc0h, hc0b⟩ := hc0
        rw [hc0e]
        have hc0lv : c0.lv = lv + 1 := by have := Inv_lv d c0 hc0I; omega
        have hcsq : ∀ x' y', inSq c0.x0 c0.y0 c0.lv x' y' ↔ (inSq x0 y0 lv x' y' ∧ subIndex lv x' y' = s) := by
          intro x' y'; rw [hc0x, hc0y, hc0lv]; exact child_inSq x0 y0 lv s x' y' (Nat.le_of_lt hl3) hx hy hs16
        obtain ⟨c', fullc, heq, hI', hx', hy', hlv', _, hhold, hnone⟩ :=
          addCore_spec d c0 x y p hc0I ((hcsq x y).2 ⟨hin, hs⟩) hp
        rw [heq]
        have hsub1 : ∀ i, (subs.set s (some c')).getD i none = if s = i then some c' else subs.getD i none := by
          intro i; rw [getD_set, hsl16]; simp only [hs16, and_true]
        refine post_of_mid
          ⟨h1, hx, hy, hx1, hy1, (orBit_length ..).trans hlen, orBit_lt hpl hs16 _ hlt, by simpa using hsl, ?_⟩
          hp (fun hl0 q hqp => by rw [orBit_ne hqp]; exact hnf hl0 q)
          (mid_of_block hin hp (by rw [hs]; exact hbit fullc) (by intro k hk; rw [hs] at hk; rw [hsub1, if_neg (Ne.symm hk)]) ?_)
        · intro i c hic
          rw [hsub1] at hic
          by_cases hsi : s = i
          · subst hsi
            rw [if_pos rfl] at hic
            cases hic
            refine ⟨hx'.trans hc0x, hy'.trans hc0y, hI', ?_⟩
            intro q hq x' y' hh
            rw [orBit_testBit hpl] at hq
            by_cases hqp : p = q
            · subst hqp
              cases fullc with
              | true => exact hnone rfl x' y' hh
              | false => rw [hb] at hq; exact Bool.noConfusion hq
            · have hq' : (ls.getD q 0).testBit s = true := by simpa [hqp] using hq
              rcases (hhold x' y' q).1 (Or.inl hh) with h | ⟨_, _, h⟩
              · exact hc0b q hq' x' y' h
              · exact hqp h.symm
          · rw [if_neg hsi] at hic
            obtain ⟨a, b, c1, c2⟩ := hch i c hic
            exact ⟨a, b, c1, fun q hq => c2 q (by rwa [hbit fullc q i (Ne.symm hsi)] at hq)⟩
        · -- block `s`: the bit the parent may have set, and the child
          intro x' y' p' a hk
          rw [hs] at hk ⊢
          have key := hhold x' y' p'
          simp only [(hcsq x' y').2 ⟨a, hk⟩, and_true] at key
          unfold blk
          rw [hsub1, if_pos rfl, orBit_testBit hpl, ← hc0h]
          simp only [Option.some.injEq, exists_eq_left', decide_true, Bool.and_true, Bool.or_eq_true,
            Bool.and_eq_true, decide_eq_true_eq, eq_comm (a := p)]
          rw [or_assoc, or_comm (b := holds d c' x' y' p'), key, or_assoc]
      · -- block already selected for this core
        rw [if_neg hb]
        have hb' : (ls.getD p 0).testBit (subIndex lv x y) = true := by simpa using hb
        exact post_of_mid hN' hp (fun hl0 q _ => hnf hl0 q)
          (mid_of_block hin hp (fun _ _ _ => rfl) (fun _ _ => rfl) fun x' y' p' _ _ =>
            ⟨Or.inl, fun h => h.elim id fun ⟨_, _, e⟩ => Or.inl (e ▸ hb')⟩)

/-- the value under key `m`, 0 when absent (`defaultdict(lambda: 0)`) -/
def dget : List (Nat × Nat) → Nat → Nat
  | [], _ => 0
  | (k, v) :: rest, m => if k = m then v else dget rest m

theorem dget_eq_lookup (g : List (Nat × Nat)) (m : Nat) : dget g m = (g.lookup m).getD 0 := by
  induction g with
  | nil => rfl
  | cons hd t ih => obtain ⟨k, v⟩ := hd; simp only [dget, ih, Assoc.lookup_cons, beq_iff_eq]; split <;> rfl

theorem dictOr_eq_upsert (g : List (Nat × Nat)) (k v : Nat) :
    dictOr g k v = Assoc.upsert g k fun o => o.getD 0 ||| v := by
  induction g with
  | nil => rfl
  | cons hd t ih => obtain ⟨k', v'⟩ := hd; simp only [dictOr, Assoc.upsert, ih, beq_iff_eq]; rfl

theorem dget_dictOr (g : List (Nat × Nat)) (k v m : Nat) :
    dget (dictOr g k v) m = if k = m then dget g k ||| v else dget g m := by
  simp only [dget_eq_lookup, dictOr_eq_upsert, Assoc.lookup_upsert, beq_iff_eq]; split <;> rfl

theorem mem_keys_dictOr (g : List (Nat × Nat)) (k v m : Nat) :
    m ∈ (dictOr g k v).map Prod.fst ↔ (m ∈ g.map Prod.fst ∨ m = k) := by
  rw [dictOr_eq_upsert, or_comm]; exact Assoc.mem_keys_upsert g k m _

theorem dictOr_nodup (g : List (Nat × Nat)) (k v : Nat) (h : (g.map Prod.fst).Nodup) :
    ((dictOr g k v).map Prod.fst).Nodup := by
  rw [dictOr_eq_upsert]; exact Assoc.nodup_keys_upsert g k _ h

theorem mem_iff_dget (g : List (Nat × Nat)) (m cm : Nat) (hn : (g.map Prod.fst).Nodup) :
    ((m, cm) ∈ g ↔ (m ∈ g.map Prod.fst ∧ dget g m = cm)) := by
  rw [Assoc.mem_iff_lookup hn, dget_eq_lookup, ← Assoc.lookup_isSome_iff]
  cases g.lookup m <;> simp

/-- core `q`, among the first `k` of `L`, has the nonzero mask `m` -/
def InGroup (L : List Nat) (k m q : Nat) : Prop := q < k ∧ L[q]? = some m ∧ m ≠ 0

/-- state of the grouping loop after cores `0 .. k-1` of `L` -/
def GroupOK (L : List Nat) (k : Nat) (g : List (Nat × Nat)) : Prop :=
  (g.map Prod.fst).Nodup ∧ (∀ m, m ∈ g.map Prod.fst ↔ ∃ q, InGroup L k m q) ∧
  ∀ m q, (dget g m).testBit q = true ↔ InGroup L k m q

theorem groupOK_step (L : List Nat) (k m : Nat) (g : List (Nat × Nat)) (hk : L[k]? = some m)
    (h : GroupOK L k g) : GroupOK L (k + 1) (if m != 0 then dictOr g m (1 <<< k) else g) := by
  obtain ⟨ha, hb, hc⟩ := h
  have hstep : ∀ m' q, InGroup L (k + 1) m' q ↔ (InGroup L k m' q ∨ (k = q ∧ m = m' ∧ m ≠ 0)) := by
    intro m' q
    unfold InGroup
    constructor
    · rintro ⟨a, b, c⟩
      by_cases hq : k = q
      · subst hq; rw [hk] at b; cases b; exact Or.inr ⟨rfl, rfl, c⟩
      · exact Or.inl ⟨by omega, b, c⟩
    · rintro (⟨a, b, c⟩ | ⟨rfl, rfl, c⟩)
      · exact ⟨by omega, b, c⟩
      · exact ⟨Nat.lt_succ_self _, hk, c⟩
  by_cases hm : m = 0
  · subst hm
    rw [if_neg (by decide)]
    refine ⟨ha, fun m' => ?_, fun m' q => ?_⟩
    · rw [hb]; simp only [hstep, ne_eq, not_true, and_false, or_false]
    · rw [hc]; simp only [hstep, ne_eq, not_true, and_false, or_false]
  · rw [if_pos (by simpa using hm)]
    refine ⟨dictOr_nodup g m _ ha, fun m' => ?_, fun m' q => ?_⟩
    · rw [mem_keys_dictOr, hb]
      simp only [hstep]
      constructor
      · rintro (⟨q, h⟩ | rfl)
        · exact ⟨q, Or.inl h⟩
        · exact ⟨k, Or.inr ⟨rfl, rfl, hm⟩⟩
      · rintro ⟨q, h | ⟨_, e, _⟩⟩
        · exact Or.inl ⟨q, h⟩
        · exact Or.inr e.symm
    · rw [dget_dictOr, hstep]
      split
      · next e => subst e; rw [testBit_or_bit, Bool.or_eq_true, hc, decide_eq_true_eq]; simp only [hm, ne_eq, not_false_eq_true, and_true]
      · next e => rw [hc]; simp only [e, false_and, and_false, or_false]

theorem groupCores_spec (L : List Nat) : ∀ (rest : List Nat) (k : Nat) (g : List (Nat × Nat)),
    (∃ pre, L = pre ++ rest ∧ pre.length = k) → GroupOK L k g →
    GroupOK L L.length (groupCores rest k g)
  | [], k, g, ⟨pre, h1, h2⟩, h => by
    simp at h1; subst h1; subst h2; exact h
  | m :: rest, k, g, ⟨pre, h1, h2⟩, h => by
    simp only [groupCores]
    apply groupCores_spec L rest (k + 1)
    · exact ⟨pre ++ [m], by simp [h1], by simp [h2]⟩
    · apply groupOK_step L k m g _ h
      subst h1; subst h2; simp

theorem groupCores_ok (L : List Nat) : GroupOK L L.length (groupCores L 0 []) :=
  groupCores_spec L L 0 [] ⟨[], rfl, rfl⟩
    ⟨List.nodup_nil, fun m => ⟨nofun, fun ⟨_, h, _⟩ => (Nat.not_lt_zero _ h).elim⟩,
      fun m q => ⟨fun h => (by rw [dget, Nat.zero_testBit] at h; cases h), fun h => (Nat.not_lt_zero _ h.1).elim⟩⟩

/-- the pairs a node yields for itself -/
def locPairs (x0 y0 lv : Nat) (ls : List Nat) : List (Nat × Nat) :=
  (sortPairs (groupCores ls 0 [])).map fun mc => ((x0 <<< 24 ||| y0 <<< 16 ||| lv <<< 16) ||| mc.1, mc.2)

theorem countSel_append (a b : List (Nat × Nat)) (x y p : Nat) :
    countSel (a ++ b) x y p = countSel a x y p + countSel b x y p := by
  simp [countSel, List.countP_append]

/-- `out` selects every point of `S` by exactly one pair and nothing else (`Exact` for a set); no pair void, masks 18 bit -/
def Covers (out : List (Nat × Nat)) (S : Nat → Nat → Nat → Prop) : Prop :=
  (∀ x y p, (S x y p → countSel out x y p = 1) ∧ (¬ S x y p → countSel out x y p = 0)) ∧
  ∀ pr, pr ∈ out → (∃ x y p, sel pr x y p = true) ∧ pr.2 < 2 ^ 18

namespace Covers
variable {a b : List (Nat × Nat)} {A B : Nat → Nat → Nat → Prop}

theorem nil (h : ∀ x y p, ¬ A x y p) : Covers [] A :=
  ⟨fun x y p => ⟨fun h' => absurd h' (h x y p), fun _ => rfl⟩, nofun⟩

theorem congr (h : Covers a A) (e : ∀ x y p, A x y p ↔ B x y p) : Covers a B :=
  ⟨fun x y p => by rw [← e]; exact h.1 x y p, h.2⟩

theorem single {pr : Nat × Nat} (h1 : ∃ x y p, sel pr x y p = true) (h2 : pr.2 < 2 ^ 18) :
    Covers [pr] fun x y p => sel pr x y p = true :=
  ⟨fun x y p => ⟨fun h => by simp [countSel, h], fun h => by simp [countSel, h]⟩,
    fun _ h => List.mem_singleton.1 h ▸ ⟨h1, h2⟩⟩

theorem append (ha : Covers a A) (hb : Covers b B) (hd : ∀ x y p, A x y p → ¬ B x y p) :
    Covers (a ++ b) fun x y p => A x y p ∨ B x y p := by
  refine ⟨fun x y p => ?_, fun pr h => (List.mem_append.1 h).elim (ha.2 pr) (hb.2 pr)⟩
  obtain ⟨a1, a0⟩ := ha.1 x y p
  obtain ⟨b1, b0⟩ := hb.1 x y p
  rw [countSel_append]
  constructor
  · rintro (h | h)
    · rw [a1 h, b0 (hd x y p h)]
    · rw [a0 fun h' => hd x y p h' h, b1 h]
  · intro h
    rw [a0 fun h' => h (.inl h'), b0 fun h' => h (.inr h')]

theorem flatMap {ι : Type} (f : ι → List (Nat × Nat)) (T : ι → Nat → Nat → Nat → Prop) :
    ∀ l : List ι, l.Nodup → (∀ i, i ∈ l → Covers (f i) (T i)) →
      (∀ i j x y p, i ∈ l → j ∈ l → T i x y p → T j x y p → i = j) →
      Covers (l.flatMap f) fun x y p => ∃ i, i ∈ l ∧ T i x y p
  | [], _, _, _ => nil fun _ _ _ ⟨_, h, _⟩ => nomatch h
  | i :: l, hnd, hc, hd => by
    rw [List.nodup_cons] at hnd
    rw [List.flatMap_cons]
    refine ((hc i List.mem_cons_self).append
      (flatMap f T l hnd.2 (fun j hj => hc j (List.mem_cons_of_mem _ hj)) fun a b x y p ha hb =>
        hd a b x y p (List.mem_cons_of_mem _ ha) (List.mem_cons_of_mem _ hb)) ?_).congr ?_
    · rintro x y p hi ⟨j, hj, hS⟩
      exact hnd.1 (hd i j x y p List.mem_cons_self (List.mem_cons_of_mem _ hj) hi hS ▸ hj)
    · intro x y p
      simp only [List.mem_cons, exists_eq_or_imp]

theorem perm (h : a.Perm b) (ha : Covers a A) : Covers b A :=
  ⟨fun x y p => by unfold countSel; rw [← h.countP_eq]; exact ha.1 x y p, fun pr hp => ha.2 pr (h.mem_iff.2 hp)⟩

end Covers

theorem locPairs_covers {d x0 y0 lv : Nat} {InvC : RTree → Prop} {holdsC : RTree → Nat → Nat → Nat → Prop}
    {ls : List Nat} {subs : List (Option RTree)} (hN : NodeOK d InvC holdsC x0 y0 lv ls subs) :
    Covers (locPairs x0 y0 lv ls) fun x y p =>
      inSq x0 y0 lv x y ∧ p < 18 ∧ (ls.getD p 0).testBit (subIndex lv x y) = true := by
  obtain ⟨h1, hx, hy, hx1, hy1, hlen, hlt, _⟩ := hN
  have hl : lv ≤ 3 := Nat.le.intro h1
  obtain ⟨ga, gb, gc⟩ := groupCores_ok ls
  rw [hlen] at gb gc
  unfold locPairs sortPairs
  refine Covers.perm ((List.mergeSort_perm _ pairLe).map _).symm ?_
  generalize groupCores ls 0 [] = g at ga gb gc ⊢
  -- an entry `(m, cm)` of the grouping: `m ≠ 0` is the mask of some core, `cm` the set of the cores with mask `m`
  have hkey : ∀ mc, mc ∈ g → dget g mc.1 = mc.2 ∧ ∃ q, q < 18 ∧ ls[q]? = some mc.1 ∧ mc.1 ≠ 0 := fun mc hmc =>
    have h := (mem_iff_dget g mc.1 mc.2 ga).1 hmc
    ⟨h.2, (gb _).1 h.1⟩
  have h16 : ∀ mc, mc ∈ g → mc.1 < 2 ^ 16 := fun mc hmc =>
    have ⟨q, _, hq, _⟩ := (hkey mc hmc).2
    getD_of_getElem? ls q mc.1 hq ▸ hlt q
  have hsel : ∀ mc, mc ∈ g → ∀ x y p,
      sel ((x0 <<< 24 ||| y0 <<< 16 ||| lv <<< 16) ||| mc.1, mc.2) x y p = true ↔
        (inSq x0 y0 lv x y ∧ mc.1.testBit (subIndex lv x y) = true) ∧ p < 18 ∧ ls[p]? = some mc.1 := by
    intro mc hmc x y p
    rw [sel, Bool.and_eq_true, selects_code x0 y0 lv mc.1 x y hl hx hy hx1 hy1 (h16 mc hmc), ← (hkey mc hmc).1, gc]
    exact and_congr_right fun _ => ⟨fun h => ⟨h.1, h.2.1⟩, fun h => ⟨h.1, h.2, (hkey mc hmc).2.elim fun _ h => h.2.2⟩⟩
  rw [List.map_eq_flatMap]
  refine (Covers.flatMap (fun mc : Nat × Nat => [((x0 <<< 24 ||| y0 <<< 16 ||| lv <<< 16) ||| mc.1, mc.2)]) _ g
    (ga.of_map Prod.fst fun _ _ h e => h (e ▸ rfl)) (fun mc hmc => Covers.single ?_ ?_) ?_).congr ?_
  · -- not void: a set bit of the mask gives a block, the entry a core
    obtain ⟨q, hq18, hq, hne⟩ := (hkey mc hmc).2
    obtain ⟨i, hi⟩ := Nat.exists_testBit_of_ne_zero hne
    have hi16 : i < 16 := Nat.lt_of_not_le fun h => by rw [Bits.testBit_false_of_lt (h16 mc hmc) h] at hi; cases hi
    obtain ⟨x, y, hin, hsub⟩ := block_point x0 y0 lv i hl hx hy hi16
    exact ⟨x, y, q, (hsel mc hmc x y q).2 ⟨⟨hin, hsub ▸ hi⟩, hq18, hq⟩⟩
  · exact Nat.lt_pow_two_of_testBit _ fun j hj =>
      Bool.eq_false_iff.2 fun hc => Nat.not_lt_of_le hj ((gc mc.1 j).1 ((hkey mc hmc).1 ▸ hc)).1
  · -- two entries selecting the same core have the same key
    intro mc mc' x y p hmc hmc' h h'
    have e := Option.some.inj (((hsel mc hmc x y p).1 h).2.2.symm.trans ((hsel mc' hmc' x y p).1 h').2.2)
    exact Prod.ext e ((hkey mc hmc).1.symm.trans (e ▸ (hkey mc' hmc').1))
  · intro x y p
    constructor
    · rintro ⟨mc, hmc, h⟩
      obtain ⟨⟨a, b⟩, c, e⟩ := (hsel mc hmc x y p).1 h
      exact ⟨a, c, getD_of_getElem? ls p mc.1 e ▸ b⟩
    · rintro ⟨a, c, b⟩
      have hp := getElem?_of_lt ls p (by omega)
      have hcm := (mem_iff_dget g _ _ ga).2
        ⟨(gb _).2 ⟨p, c, hp, fun e => by rw [e, Nat.zero_testBit] at b; cases b⟩, rfl⟩
      exact ⟨_, hcm, (hsel _ hcm x y p).2 ⟨⟨a, b⟩, c, hp⟩⟩

/-- what one child contributes to the list of its parent -/
def childEmit (d : Nat) (subs : List (Option RTree)) (i : Nat) : List (Nat × Nat) :=
  match subs.getD i none with
  | none => []
  | some c => emit d c

theorem emit_succ (d x0 y0 lv : Nat) (ls : List Nat) (subs : List (Option RTree)) :
    emit (d + 1) (.mk x0 y0 lv ls subs) =
      locPairs x0 y0 lv ls ++ (if lv < 3 then childOrder.flatMap (childEmit d subs) else []) := by
  simp only [emit]; rfl

theorem emit_covers : ∀ d t, Inv d t → Covers (emit d t) (holds d t)
  | 0, t, h => by simp [Inv] at h
  | d + 1, .mk x0 y0 lv ls subs, hI => by
    have hloc := locPairs_covers hI.1
    obtain ⟨⟨h1, hx, hy, _, _, _, _, hsl, hch⟩, _⟩ := hI
    rw [emit_succ]
    have hBin : ∀ i c x y p, subs.getD i none = some c → holds d c x y p →
        lv < 3 ∧ i ∈ childOrder ∧ inSq x0 y0 lv x y ∧ subIndex lv x y = i ∧ p < 18 := by
      intro i c x y p hic hh
      have hi := lt_of_getD_some subs i c hic
      have hl3 : lv < 3 := Nat.lt_of_le_of_ne (by omega) fun h3 => by rw [hsl, if_pos h3] at hi; omega
      have hi16 : i < 16 := by rwa [hsl, if_neg (Nat.ne_of_lt hl3)] at hi
      obtain ⟨a, b, c1, _⟩ := hch i c hic
      have hclv : c.lv = lv + 1 := by have := Inv_lv d c c1; omega
      obtain ⟨hsq, hp⟩ := holds_inSq d c x y p hh
      rw [a, b, hclv, child_inSq x0 y0 lv i x y (Nat.le_of_lt hl3) hx hy hi16] at hsq
      exact ⟨hl3, (by decide : ∀ i, i < 16 → i ∈ childOrder) i hi16, hsq.1, hsq.2, hp⟩
    have hchild : ∀ i, Covers (childEmit d subs i) fun x y p => ∃ c, subs.getD i none = some c ∧ holds d c x y p := by
      intro i
      unfold childEmit
      cases hsub : subs.getD i none with
      | none => exact Covers.nil fun _ _ _ ⟨_, e, _⟩ => nomatch e
      | some c =>
        exact (emit_covers d c (hch i c hsub).2.2.1).congr fun _ _ _ =>
          ⟨fun h => ⟨c, rfl, h⟩, fun ⟨_, e, h⟩ => Option.some.inj e ▸ h⟩
    have hrest : Covers (if lv < 3 then childOrder.flatMap (childEmit d subs) else []) fun x y p =>
        inSq x0 y0 lv x y ∧ p < 18 ∧ ∃ c, subs.getD (subIndex lv x y) none = some c ∧ holds d c x y p := by
      split
      · refine (Covers.flatMap _ _ childOrder (by decide) (fun i _ => hchild i)
          fun i j x y p _ _ ⟨c, e, h⟩ ⟨c', e', h'⟩ =>
            (hBin i c x y p e h).2.2.2.1.symm.trans (hBin j c' x y p e' h').2.2.2.1).congr fun x y p => ⟨?_, ?_⟩
        · rintro ⟨i, _, c, e, h⟩
          obtain ⟨_, _, a, rfl, b⟩ := hBin i c x y p e h
          exact ⟨a, b, c, e, h⟩
        · rintro ⟨_, _, c, e, h⟩
          exact ⟨_, (hBin _ c x y p e h).2.1, c, e, h⟩
      · next hl3 => exact Covers.nil fun x y p ⟨_, _, c, e, h⟩ => hl3 (hBin _ c x y p e h).1
    refine (hloc.append hrest ?_).congr fun x y p =>
      ((and_congr_right fun _ => and_or_left).trans and_or_left).symm
    rintro x y p ⟨_, _, hbit⟩ ⟨_, _, c, e, h⟩
    exact (hch _ c e).2.2.2 p hbit x y h

/-- a top-level tree: the invariant at level 0 with base (0, 0) -/
def RootOK (t : RTree) : Prop := Inv 4 t ∧ t.x0 = 0 ∧ t.y0 = 0 ∧ t.lv = 0

/-- the documented domain: chips 0..255 x 0..255, cores 0..17 -/
def InRange (c : Int × Int × Int) : Prop :=
  0 ≤ c.1 ∧ c.1 < 256 ∧ 0 ≤ c.2.1 ∧ c.2.1 < 256 ∧ 0 ≤ c.2.2 ∧ c.2.2 < 18

def toNat3 (c : Int × Int × Int) : Nat × Nat × Nat := (c.1.toNat, c.2.1.toNat, c.2.2.toNat)

/-- a top-level tree that holds exactly the cores of the list `cs` -/
def Stands (t : RTree) (cs : List (Int × Int × Int)) : Prop :=
  RootOK t ∧ ∀ x y p, holds 4 t x y p ↔ (x, y, p) ∈ cs.map toNat3

theorem stands_new : Stands (RTree.new 0 0 0) [] :=
  ⟨⟨Inv_new 3 0 0 0 rfl (by decide) (by decide) (by decide) (by decide), rfl, rfl, rfl⟩,
    fun _ _ _ => ⟨fun h => absurd h holds_new, fun h => nomatch h⟩⟩

theorem stands_add {t : RTree} {cs : List (Int × Int × Int)} (c : Int × Int × Int)
    (ht : Stands t cs) (hc : InRange c) :
    ∃ t', addCore 4 t c.1.toNat c.2.1.toNat c.2.2.toNat = .ok (t', false) ∧ addRoot t c.1 c.2.1 c.2.2 = .ok t' ∧
      Stands t' (cs ++ [c]) := by
  obtain ⟨⟨hI, h0x, h0y, h0l⟩, hh⟩ := ht
  obtain ⟨a1, a2, b1, b2, c1, c2⟩ := hc
  have hin : inSq t.x0 t.y0 t.lv c.1.toNat c.2.1.toNat := by
    rw [h0x, h0y, h0l]; simp only [inSq, scale]; omega
  obtain ⟨t', full, heq, hI', hx', hy', hl', hfull, hhold, _⟩ :=
    addCore_spec 4 t c.1.toNat c.2.1.toNat c.2.2.toNat hI hin (by omega)
  cases hfull h0l
  have hneg : ¬ (c.1 < 0 ∨ c.2.1 < 0 ∨ c.2.2 < 0) := by omega
  refine ⟨t', heq, by rw [addRoot, if_neg hneg, heq], ⟨hI', hx'.trans h0x, hy'.trans h0y, hl'.trans h0l⟩, fun x y p => ?_⟩
  have := hhold x y p
  simp only [Bool.false_eq_true, false_and, or_false] at this
  rw [this, hh, List.map_append, List.mem_append, List.map_singleton, List.mem_singleton, toNat3,
    Prod.mk.injEq, Prod.mk.injEq]

theorem stands_exact {t : RTree} {cs : List (Int × Int × Int)} (h : Stands t cs) :
    Exact (cs.map toNat3) (emit 4 t) := by
  intro x y p
  have hc := ((emit_covers 4 t h.1.1).congr h.2).1 x y p
  split
  · next hm => exact hc.1 hm
  · next hm => exact hc.2 hm

theorem addCore_root_err (t : RTree) (c : Int × Int × Int) (ht : RootOK t) (hc : ¬ InRange c)
    (hneg : ¬ (c.1 < 0 ∨ c.2.1 < 0 ∨ c.2.2 < 0)) :
    addCore 4 t c.1.toNat c.2.1.toNat c.2.2.toNat = .error .valueError := by
  obtain ⟨x0, y0, lv, ls, subs⟩ := t
  obtain ⟨_, rfl, rfl, rfl⟩ := ht
  rw [addCore, if_pos]
  obtain ⟨a, ha⟩ := Int.eq_ofNat_of_zero_le (Int.not_lt.1 fun h => hneg (Or.inl h))
  obtain ⟨b, hb⟩ := Int.eq_ofNat_of_zero_le (Int.not_lt.1 fun h => hneg (Or.inr (Or.inl h)))
  obtain ⟨p, hp⟩ := Int.eq_ofNat_of_zero_le (Int.not_lt.1 fun h => hneg (Or.inr (Or.inr h)))
  rw [InRange, ha, hb, hp] at hc
  rw [ha, hb, hp, show scale 0 = 256 from rfl]
  simp only [Int.toNat_natCast]
  omega

theorem addRoot_err (t : RTree) (c : Int × Int × Int) (ht : RootOK t) (hc : ¬ InRange c) :
    addRoot t c.1 c.2.1 c.2.2 = .error .valueError := by
  unfold addRoot
  split
  · rfl
  · next hneg => rw [addCore_root_err t c ht hc hneg]

theorem foldlM_spec : ∀ (ts : List (Int × Int × Int)) {t0 : RTree} {cs : List (Int × Int × Int)},
    Stands t0 cs → (∀ c, c ∈ ts → InRange c) →
    ∃ t, ts.foldlM (fun t c => addRoot t c.1 c.2.1 c.2.2) t0 = .ok t ∧ Stands t (cs ++ ts)
  | [], t0, _, h0, _ => ⟨t0, rfl, by rwa [List.append_nil]⟩
  | c :: ts, _, _, h0, hr => by
    obtain ⟨t1, _, e1, h1⟩ := stands_add c h0 (hr c List.mem_cons_self)
    obtain ⟨t, e, h⟩ := foldlM_spec ts h1 (fun c' hc' => hr c' (List.mem_cons_of_mem _ hc'))
    exact ⟨t, by rw [List.foldlM_cons, e1]; exact e, by rwa [List.append_assoc] at h⟩

theorem foldlM_err : ∀ (ts : List (Int × Int × Int)) {t0 : RTree} {cs : List (Int × Int × Int)},
    Stands t0 cs → (∃ c, c ∈ ts ∧ ¬ InRange c) →
    ts.foldlM (fun t c => addRoot t c.1 c.2.1 c.2.2) t0 = .error .valueError
  | [], _, _, _, ⟨c, h, _⟩ => nomatch h
  | c :: ts, t0, _, h0, ⟨c', hm, hn⟩ => by
    rw [List.foldlM_cons]
    by_cases hc : InRange c
    · obtain ⟨t1, _, e1, h1⟩ := stands_add c h0 hc
      rw [e1]
      refine foldlM_err ts h1 ⟨c', ?_, hn⟩
      rcases List.mem_cons.1 hm with rfl | hm
      · exact absurd hc hn
      · exact hm
    · rw [addRoot_err t0 c h0.1 hc]; rfl

theorem sortPairs_sorted (l : List (Nat × Nat)) :
    (sortPairs l).Pairwise (fun a b => pairLe a b = true) := by
  apply List.pairwise_mergeSort
  · intro a b c h1 h2
    simp only [pairLe, Bool.or_eq_true, Bool.and_eq_true, decide_eq_true_eq, beq_iff_eq] at *
    omega
  · intro a b
    simp only [pairLe, Bool.or_eq_true, Bool.and_eq_true, decide_eq_true_eq, beq_iff_eq]
    omega

theorem strict_of_sorted_nodup (l : List (Nat × Nat))
    (h1 : l.Pairwise (fun a b => pairLe a b = true)) (h2 : l.Nodup) : StrictlyIncreasing l := by
  unfold StrictlyIncreasing
  have := h1.and h2
  refine this.imp ?_
  intro a b ⟨hle, hne⟩
  simp only [pairLe, Bool.or_eq_true, Bool.and_eq_true, decide_eq_true_eq, beq_iff_eq] at hle
  unfold pairLt
  have : a.1 ≠ b.1 ∨ a.2 ≠ b.2 := by
    by_cases h : a.1 = b.1
    · right; intro h'; exact hne (Prod.ext h h')
    · left; exact h
  omega

theorem key_lt {a b : Nat × Nat} {k : Nat} (h : pairLt a b) (ha : a.2 < 2 ^ k) :
    a.1 * 2 ^ k + a.2 < b.1 * 2 ^ k + b.2 := by
  rcases h with h | ⟨h1, h2⟩
  · have := Nat.mul_le_mul_right (2 ^ k) (Nat.succ_le_of_lt h)
    rw [Nat.succ_mul] at this; omega
  · rw [h1]; omega

theorem nodup_of_exact (out : List (Nat × Nat))
    (hne : ∀ pr, pr ∈ out → ∃ x y p, sel pr x y p = true)
    (hle : ∀ x y p, countSel out x y p ≤ 1) : out.Nodup := by
  rw [List.nodup_iff_count]
  intro a
  by_cases ha : a ∈ out
  · obtain ⟨x, y, p, hs⟩ := hne a ha
    refine Nat.le_trans ?_ (hle x y p)
    rw [List.count_eq_countP]
    unfold countSel
    apply List.countP_mono_left
    intro pr _ h
    have : pr = a := by simpa using h
    rw [this]; exact hs
  · have : List.count a out = 0 := List.count_eq_zero.2 ha
    omega

theorem sorted_emit {t : RTree} {cs : List (Int × Int × Int)} (h : Stands t cs) :
    Exact (cs.map toNat3) (sortPairs (emit 4 t)) ∧ StrictlyIncreasing (sortPairs (emit 4 t)) ∧
      ∀ pr, pr ∈ sortPairs (emit 4 t) → pr.2 < 2 ^ 18 := by
  have hperm := List.mergeSort_perm (emit 4 t) pairLe
  have hc := (emit_covers 4 t h.1.1).perm hperm.symm
  have hex : Exact (cs.map toNat3) (sortPairs (emit 4 t)) := fun x y p =>
    (hperm.countP_eq _).trans (stands_exact h x y p)
  refine ⟨hex, ?_, fun pr hpr => (hc.2 pr hpr).2⟩
  refine strict_of_sorted_nodup _ (sortPairs_sorted _) (nodup_of_exact _ (fun pr hpr => (hc.2 pr hpr).1) ?_)
  intro x y p; rw [hex x y p]; split <;> omega

theorem compress_spec (ts : List (Int × Int × Int)) (hr : ∀ c, c ∈ ts → InRange c) :
    ∃ t, compress ts = .ok (sortPairs (emit 4 t)) ∧ Stands t ts := by
  obtain ⟨t, e, h⟩ := foldlM_spec ts stands_new hr
  exact ⟨t, by simp only [compress, buildTree, e], h⟩

end Rig.C12
