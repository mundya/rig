/-
C11 - hexagonal mesh and torus path functions return true shortest paths.
-/
import RigModel.Lemmas.C11
import RigModel.Lemmas.C11Hexagons
import RigModel.Lemmas.C11Search
import RigModel.Lemmas.C11Links

namespace Rig.C11

/-- **Link tables.** The tables generated from rig/links.py agree with the hexagonal neighbourhood:
six links 0..5, `to_vector` is the specification's vector, `from_vector` inverts it, the opposite
link has the negated vector and `opposite` is an involution. -/
theorem links_consistent :
    allLinks = [0, 1, 2, 3, 4, 5] ∧
    (∀ l, l < 6 → toVector l = specVec l) ∧
    (∀ l, l < 6 → ∀ v, toVector l = some v → fromVector v.1 v.2 = some l) ∧
    (∀ l, l < 6 → ∀ v, toVector l = some v → toVector (opposite l) = some (-v.1, -v.2)) ∧
    (∀ l, l < 6 → opposite (opposite l) = l ∧ opposite l < 6 ∧ opposite l ≠ l) ∧
    hexSteps = (List.range 6).filterMap specVec := by
  decide

/-- **Lipschitz.** The hexagonal norm changes by at most one over each of the six unit steps. -/
theorem hexLen_unit_step (x y : Int) (d : P2) (h : d ∈ hexSteps) :
    hexLen (x + d.1) (y + d.2) ≤ hexLen x y + 1 ∧ hexLen x y ≤ hexLen (x + d.1) (y + d.2) + 1 := by
  have h1 := hexLen_add_le x y d.1 d.2
  have h2 := hexLen_add_le (x + d.1) (y + d.2) (-d.1) (-d.2)
  rw [hexLen_neg, Int.add_neg_cancel_right, Int.add_neg_cancel_right] at h2
  rw [hexLen_of_step d h] at h1 h2
  exact ⟨h1, h2⟩

theorem meshLen_eq_hexLen (s d : V3) :
    meshLen s d = hexLen ((proj d).1 - (proj s).1) ((proj d).2 - (proj s).2) := by
  rw [show (proj d).1 - (proj s).1 = d.x - s.x - (d.z - s.z) by simp only [proj]; omega,
    show (proj d).2 - (proj s).2 = d.y - s.y - (d.z - s.z) by simp only [proj]; omega, hexLen_sub]
  simp only [meshLen, ite_gt_eq_max, ite_lt_eq_min]

/-- the hexagonal distance is the graph distance of the mesh -/
theorem hexDist_is_graph_distance (c p : P2) : IsDist none none c p (hexDist c p).toNat := by
  refine ⟨?_, fun m r => ?_⟩
  · have := reach_mesh_upper c (p.1 - c.1) (p.2 - c.2)
    rwa [show (c.1 + (p.1 - c.1), c.2 + (p.2 - c.2)) = p by ext <;> simp <;> omega] at this
  · have := reach_mesh_lower r
    simp only [hexDist]; omega

/-- **Mesh length = graph distance**, for all three-axis representations of source and destination:
there is a walk of exactly `meshLen` hops between the two chips and no walk is shorter. -/
theorem meshLen_eq_dist (s d : V3) :
    0 ≤ meshLen s d ∧ IsDist none none (proj s) (proj d) (meshLen s d).toNat := by
  rw [meshLen_eq_hexLen]
  exact ⟨hexLen_nonneg _ _, hexDist_is_graph_distance (proj s) (proj d)⟩

/-- **Torus length = graph distance** in the `w × h` hexagonal torus, for every width and height ≥ 1
(including 1 and 2) and all three-axis representations. -/
theorem torusLen_eq_dist (s d : V3) (w h : Int) (hw : 1 ≤ w) (hh : 1 ≤ h) :
    ∃ n : Nat, torusLen s d w h = .ok (n : Int) ∧
      IsDist (some w) (some h) (projT s w h) (projT d w h) n := by
  have hw' : 0 < w := by omega
  have hh' : 0 < h := by omega
  obtain ⟨h0, hd⟩ := torus_dist (proj s) (proj d) w h hw' hh'
  refine ⟨_, ?_, hd⟩
  have : ¬ (w = 0 ∨ h = 0) := by omega
  simp only [torusLen, this, if_false, torusLenCore_eq s d w h hw' hh']
  congr 1
  omega

/-- `shortest_torus_path_length` raises exactly when width or height is zero (which error is not stated) -/
theorem torusLen_error (s d : V3) (w h : Int) :
    (∃ e, torusLen s d w h = .error e) ↔ (w = 0 ∨ h = 0) := by
  simp only [torusLen]
  split <;> simp_all

/-- non-vacuity: on the 1 x 2 torus the two chips are one hop apart -/
example : torusLen ⟨0, 0, 0⟩ ⟨0, 1, 0⟩ 1 2 = .ok 1 := by rfl

/-- **minimise_xyz** keeps the 2-D displacement, makes the median component zero, and the
resulting `|x|+|y|+|z|` is the hexagonal norm (= graph distance) of the displacement. -/
theorem minimise_xyz_spec (v : V3) :
    proj (minimiseXyz v) = proj v ∧ Minimal (minimiseXyz v) ∧
    absSum (minimiseXyz v) = hexLen (proj v).1 (proj v).2 :=
  minimise_spec v

theorem toXyz_proj (p : P2) : proj (toXyz p) = p := by simp [proj, toXyz]

/-- **Mesh vector.** `shortest_mesh_path` has exactly `shortest_mesh_path_length` hops and leads from
the source chip to the destination chip. -/
theorem meshPath_ok (s d : V3) :
    absSum (meshPath s d) = meshLen s d ∧
    ((proj s).1 + (proj (meshPath s d)).1, (proj s).2 + (proj (meshPath s d)).2) = proj d := by
  obtain ⟨hp, _, ha⟩ := minimise_spec ⟨d.x - s.x, d.y - s.y, d.z - s.z⟩
  simp only [meshPath]
  rw [ha, hp, meshLen_eq_hexLen]
  simp only [proj]
  refine ⟨by congr 1 <;> omega, by ext <;> simp <;> omega⟩

/-- **Torus vector**, for every outcome of the four `random.random()` tie-break draws (`k_i / den`)
and every spiral count `random.randint` can return: the vector has exactly
`shortest_torus_path_length` hops and lands on the destination modulo (w, h). -/
theorem torusPath_ok (s d : V3) (w h : Int) (hw : 1 ≤ w) (hh : 1 ≤ h) (den k0 k1 k2 k3 t : Nat)
    (h0 : k0 < den) (h1 : k1 < den) (h2 : k2 < den) (h3 : k3 < den) :
    ∃ v, torusPath s d w h den k0 k1 k2 k3 t = .ok v ∧
      torusLen s d w h = .ok (absSum v) ∧
      ((proj s).1 + (proj v).1 - (proj d).1) % w = 0 ∧
      ((proj s).2 + (proj v).2 - (proj d).2) % h = 0 := by
  have := torusPathCore_ok s d w h (by omega) (by omega) den k0 k1 k2 k3 t h0 h1 h2 h3
  have hz : ¬ (w = 0 ∨ h = 0) := by omega
  refine ⟨_, by simp only [torusPath, hz, if_false], ?_, this.2.1, this.2.2⟩
  simp only [torusLen, hz, if_false, this.1]

/-- every integer of `[lo, hi]` is an outcome of the model's `randint` for some oracle input `t` (in
particular every spiral count) -/
theorem randint_surjective (lo hi r : Int) (h1 : lo ≤ r) (h2 : r ≤ hi) :
    ∃ t : Nat, randint lo hi t = r := by
  refine ⟨(r - lo).toNat, ?_⟩
  simp only [randint]
  have : ((r - lo).toNat : Int) = r - lo := by omega
  rw [this, Int.emod_eq_of_lt (by omega) (by omega)]; omega

/-- non-vacuity: 5 x 1 torus, a spiral is drawn -/
example : torusPath ⟨0, 0, 0⟩ ⟨3, 0, 0⟩ 5 1 4 0 0 3 3 1 = .ok ⟨-1, 0, 1⟩ := by rfl

/-- **Longest dimension first**, for every outcome of the three `random.random()` draws (i.e. every
legal dimension order, ties included), any start, with or without wrap-around on either axis:
the call returns (no KeyError) a path of exactly `|x|+|y|+|z|` hops in which every hop leads from the
previous chip through the link it is labelled with, ending at `start + vector` (modulo width/height).
Width or height 0 is outside the claim about rig: there Python raises ZeroDivisionError, the model does
not reduce. -/
theorem ldf_walk (v : V3) (start : P2) (w h : Option Int) (den k0 k1 k2 : Nat)
    (h0 : k0 < den) (h1 : k1 < den) (h2 : k2 < den) :
    ∃ path, ldf v start w h den k0 k1 k2 = .ok path ∧ ldfOk v start w h path = true := by
  obtain ⟨upath, hp, hw, hl, he⟩ := ldf_image v start w h den k0 k1 k2 h0 h1 h2
  have hL := lastPos_wrap w h upath (p' := start) rfl
  rw [he] at hL
  refine ⟨_, hp, ?_⟩
  simp only [ldfOk, walkOk_wrap _ rfl hw, List.length_map, hl, Bool.true_and, Bool.and_eq_true, beq_iff_eq,
    congr?_iff, true_and]
  exact ⟨congrArg Prod.fst hL, congrArg Prod.snd hL⟩

/-- what `ldfOk` means: a walk of the graph with `|x|+|y|+|z|` hops whose end is congruent to start + vector -/
theorem ldfOk_meaning (v : V3) (start : P2) (w h : Option Int) (path : List (Nat × P2))
    (hok : ldfOk v start w h path = true) :
    Reach w h path.length start (lastPos start path) ∧ (path.length : Int) = absSum v ∧
    congr? (lastPos start path).1 (start.1 + v.x - v.z) w = true ∧
    congr? (lastPos start path).2 (start.2 + v.y - v.z) h = true := by
  simp only [ldfOk, Bool.and_eq_true, beq_iff_eq] at hok
  obtain ⟨⟨⟨h1, h2⟩, h3⟩, h4⟩ := hok
  exact ⟨walkOk_reach w h start path h1, h2, h3, h4⟩

/-- non-vacuity: a tie between two dimensions on a 3 x 3 torus, wrapping on both axes -/
example : ldf ⟨2, -2, 0⟩ (2, 0) (some 3) (some 3) 2 1 1 0 =
    .ok [(0, (0, 0)), (0, (1, 0)), (5, (1, 2)), (5, (1, 1))] := by rfl

/-- **Concentric hexagons.** For every radius and centre the generated list is duplicate-free,
contains exactly the chips within hexagonal (= graph) distance `radius` of the centre, lists them
nearest ring first, and has `1 + 3 r (r + 1)` elements. -/
theorem hexagons_exact (radius : Nat) (c : P2) :
    (concentricHexagons radius c).Nodup ∧
    (∀ p, p ∈ concentricHexagons radius c ↔ hexDist c p ≤ radius) ∧
    (concentricHexagons radius c).Pairwise (fun a b => hexDist c a ≤ hexDist c b) ∧
    (concentricHexagons radius c).length = 1 + 3 * radius * (radius + 1) := by
  obtain ⟨hm, hn, hp, hl⟩ := rings_spec c radius 1 c (by omega) (by ext <;> simp)
  have h0 := hexDist_self c
  simp only [concentricHexagons, Int.toNat_natCast]
  refine ⟨?_, fun p => ?_, ?_, ?_⟩
  · refine List.nodup_cons.2 ⟨fun hc => ?_, hn⟩
    have := (hm c).1 hc
    omega
  · rw [List.mem_cons, hm]
    have := hexDist_nonneg c p
    constructor
    · rintro (rfl | h) <;> omega
    · intro h
      by_cases hz : hexDist c p = 0
      · exact .inl (hexDist_eq_zero c p hz)
      · exact .inr (by omega)
  · refine List.pairwise_cons.2 ⟨fun b _ => ?_, hp⟩
    rw [h0]; exact hexDist_nonneg c b
  · have h2 : 3 * radius * (radius + 1) = 3 * (radius * radius) + 3 * radius := by
      rw [Nat.mul_add, Nat.mul_assoc]; omega
    rw [List.length_cons, h2]
    simp only [Nat.mul_one] at hl
    omega

/-- a negative radius yields just the centre (the loop body never runs) -/
theorem hexagons_negative (radius : Int) (c : P2) (h : radius < 0) : concentricHexagons radius c = [c] := by
  have : radius.toNat = 0 := by omega
  simp [concentricHexagons, this, rings]

example : concentricHexagons 1 (0, 0) = [(0, 0), (0, -1), (1, 0), (1, 1), (0, 1), (-1, 0), (-1, -1)] := by rfl

/-- **from_vector across wrap-around.** On any torus with width and height ≥ 3 (the documented domain of
`Links.from_vector`), for every chip and every link, the raw coordinate difference to the neighbour the
link leads to - including differences of magnitude w-1 / h-1 across the wrap - is mapped back to that link. -/
theorem fromVector_wrap (w h : Int) (hw : 3 ≤ w) (hh : 3 ≤ h) (a : P2)
    (hx : 0 ≤ a.1 ∧ a.1 < w) (hy : 0 ≤ a.2 ∧ a.2 < h) (l : Nat) (d : P2) (hl : specVec l = some d) :
    fromVector ((a.1 + d.1) % w - a.1) ((a.2 + d.2) % h - a.2) = some l := by
  obtain ⟨_, r1, r2, hlk⟩ := specVec_facts l (specVec_lt hl) d hl
  rw [fromVector_norm, normWrap_step a.1 d.1 w hx.1 hx.2 hw r1, normWrap_step a.2 d.2 h hy.1 hy.2 hh r2]
  exact hlk

/-- **Graph-search oracle = graph distance.** The decidable test `distIs` that the driver runs on the
implementation's reported lengths decides exactly `IsDist`. -/
theorem oracle_distIs_iff (w h : Option Int) (a b : P2) (n : Nat) :
    distIs w h a b n = true ↔ IsDist w h a b n := by
  simp only [distIs, Bool.and_eq_true, Bool.or_eq_true, List.contains_iff_mem, beq_iff_eq,
    Bool.not_eq_true', IsDist]
  have hc : ∀ k, (ballLe w h a k).contains b = false ↔ ¬ b ∈ ballLe w h a k := by
    intro k; rw [← List.contains_iff_mem]; simp
  rw [hc, mem_ballLe, mem_ballLe]
  constructor
  · rintro ⟨⟨m, hm, r⟩, hmin⟩
    have hlow : ∀ m', Reach w h m' a b → n ≤ m' := by
      intro m' r'
      rcases hmin with h0 | hnot
      · omega
      · exact Nat.le_of_not_lt fun hlt => hnot ⟨m', by omega, r'⟩
    have : m = n := by have := hlow m r; omega
    subst this
    exact ⟨r, hlow⟩
  · rintro ⟨r, hlow⟩
    refine ⟨⟨n, Nat.le_refl n, r⟩, ?_⟩
    by_cases h0 : n = 0
    · exact .inl h0
    · right
      rintro ⟨m, hm, r'⟩
      have := hlow m r'
      omega

/-- a level the level search returns is the graph distance (nothing is stated for the answer `none`) -/
theorem oracle_levelOf_isDist (w h : Option Int) (a p : P2) (n r : Nat)
    (hr : levelOf p (ballsFrom w h n [a]) 0 = some r) : IsDist w h a p r := by
  obtain ⟨j, hj1, hj2, hj3⟩ := ballsFrom_levelOf w h a p n 0 0 r hr
  have : r = j := by omega
  subst this
  rw [← oracle_distIs_iff]
  simp only [distIs, Bool.and_eq_true, Bool.or_eq_true, beq_iff_eq, Bool.not_eq_true']
  refine ⟨by simpa using hj2, ?_⟩
  by_cases h0 : r = 0
  · exact .inl h0
  · right
    have := hj3 (r - 1) (by omega)
    simpa using this

/-- **links_between** returns (never KeyError) exactly the links that, by the hexagonal neighbourhood,
lead from `a` to `b` with wrap-around and are working on the machine. -/
theorem linksBetween_exact (a b : P2) (m : Mach) :
    linksBetween a b m = some (specLinksBetween a b m) := by
  unfold linksBetween specLinksBetween
  rw [links_consistent.1]
  exact lb_foldr a b m [0, 1, 2, 3, 4, 5] toVector_spec

theorem specLinksBetween_mem (a b : P2) (m : Mach) (l : Nat) :
    l ∈ specLinksBetween a b m ↔
      l < 6 ∧ ∃ d, specVec l = some d ∧ stepTo (some m.w) (some m.h) a d = b ∧ m.hasLink a l = true := by
  simp only [specLinksBetween, List.mem_filter, List.mem_range]
  cases specVec l <;> simp

/-- **Opposite link returns.** On a torus with positive width and height, taking link `l` from an in-range
chip and then the opposite link from the chip reached leads back. -/
theorem opposite_returns (w h : Int) (hw : 0 < w) (hh : 0 < h) (a : P2)
    (hx : 0 ≤ a.1 ∧ a.1 < w) (hy : 0 ≤ a.2 ∧ a.2 < h) (l : Nat) (d : P2) (hl : specVec l = some d) :
    ∃ d', specVec (opposite l) = some d' ∧
      stepTo (some w) (some h) (stepTo (some w) (some h) a d) d' = a := by
  have hl6 := specVec_lt hl
  obtain ⟨_, h1, _, h3, h4, _⟩ := links_consistent
  have ho := h3 l hl6 d ((h1 l hl6).trans hl)
  rw [h1 _ (h4 l hl6).2.1] at ho
  refine ⟨_, ho, ?_⟩
  rw [stepTo_some hw hh, stepTo_some hw hh]
  simp only
  rw [Int.emod_add_emod, Int.emod_add_emod, Int.add_neg_cancel_right, Int.add_neg_cancel_right,
    Int.emod_eq_of_lt hx.1 hx.2, Int.emod_eq_of_lt hy.1 hy.2]

/-- **The torus vector, walked longest-dimension-first, is a shortest route.** For every outcome of all
seven random draws and every spiral count: walking the vector returned by `shortest_torus_path` from the
source chip visits adjacent chips through the labelled links, takes exactly `shortest_torus_path_length`
hops (the graph distance, by `torusLen_eq_dist`) and ends exactly on the destination chip. -/
theorem torus_vector_walk (s d : V3) (w h : Int) (hw : 1 ≤ w) (hh : 1 ≤ h)
    (den k0 k1 k2 k3 t : Nat) (h0 : k0 < den) (h1 : k1 < den) (h2 : k2 < den) (h3 : k3 < den)
    (den' j0 j1 j2 : Nat) (g0 : j0 < den') (g1 : j1 < den') (g2 : j2 < den') :
    ∃ v path, torusPath s d w h den k0 k1 k2 k3 t = .ok v ∧
      ldf v (projT s w h) (some w) (some h) den' j0 j1 j2 = .ok path ∧
      torusLen s d w h = .ok (path.length : Int) ∧
      walkOk (some w) (some h) (projT s w h) path = true ∧
      lastPos (projT s w h) path = projT d w h ∧
      Reach (some w) (some h) path.length (projT s w h) (projT d w h) := by
  have hw' : 0 < w := by omega
  have hh' : 0 < h := by omega
  obtain ⟨v, hv, hlen, hcx, hcy⟩ := torusPath_ok s d w h hw hh den k0 k1 k2 k3 t h0 h1 h2 h3
  obtain ⟨upath, hp, hwalk, hl, hend⟩ := ldf_image v (projT s w h) (some w) (some h) den' j0 j1 j2 g0 g1 g2
  have hfix : wrapP (some w) (some h) (projT s w h) = projT s w h := by
    rw [wrapP_pos hw' hh']; simp only [projT, Int.emod_emod_of_dvd _ (Int.dvd_refl _)]
  have hwalk' := walkOk_wrap (w := some w) (h := some h) upath (p' := projT s w h) rfl hwalk
  have he : lastPos (projT s w h) (upath.map (wrapE (some w) (some h))) = projT d w h := by
    rw [← lastPos_fixed _ _ upath hfix, lastPos_wrap _ _ upath rfl, hend, wrapP_pos hw' hh']
    simp only [projT, proj] at hcx hcy ⊢
    exact Prod.ext (emod_add_of_sub hcx) (emod_add_of_sub hcy)
  exact ⟨v, _, hv, hp, by rw [List.length_map, hl]; exact hlen, hwalk', he, he ▸ walkOk_reach _ _ _ _ hwalk'⟩

end Rig.C11
