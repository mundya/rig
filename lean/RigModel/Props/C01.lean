/-
C01 - multicast packets reach exactly the cores of their net's sinks.

`deliver m dev T k src` (Model/C01.lean) is what the machine `m` with tables `T` and device links
`dev` does with a packet with key `k` injected at chip `src`: the list of events (core deliveries,
exits over device links, and the flags dropped / deadHop / loop / fuelOut).
`Delivered evs cores exits` is the statement of C01 for one packet: `evs` is duplicate free and
consists of exactly one delivery per expected core and one exit per expected device link - hence no
flag, nothing missing, nothing extra, nothing twice.
-/
import RigModel.Model.C01
import RigModel.Lemmas.C01
import RigModel.Lemmas.C01Pipe
import RigModel.Props.C03
import RigModel.Props.C04
import RigModel.Model.C02
import RigModel.Model.C05

namespace Rig.C01
open Rig.C03 (Chip Machine chipOk linkOk Tree)

/-- smoke test of the semantics: chip (0,0) sends key 5 east, chip (1,0) delivers to cores 0 and 1 -/
theorem deliver_example :
    deliver { w := 2, h := 1, deadChips := [], deadLinks := [] } []
      (tableAt [((0, 0), [{ route := 1, key := 5#32, mask := 7#32, sources := 2 ^ 24 }]),
                ((1, 0), [{ route := 192, key := 5#32, mask := 7#32, sources := 8 }])]) 5#32 (0, 0)
      = [.core (1, 0) 0, .core (1, 0) 1] := by decide +kernel

theorem nodupEv_iff (l : List Ev) : nodupEv l = true ↔ l.Nodup := Lists.nodupB_iff rfl (fun _ _ => rfl) l

theorem evAllowed_iff (ec ex : List (Chip × Nat)) (ev : Ev) :
    evAllowed ec ex ev = true ↔ (∃ x ∈ ec, ev = .core x.1 x.2) ∨ (∃ x ∈ ex, ev = .exit x.1 x.2) := by
  constructor
  · intro h
    cases ev with
    | core c p => exact Or.inl ⟨(c, p), List.contains_iff_mem.1 h, rfl⟩
    | exit c l => exact Or.inr ⟨(c, l), List.contains_iff_mem.1 h, rfl⟩
    | _ => cases h
  · rintro (⟨x, hx, rfl⟩ | ⟨x, hx, rfl⟩) <;> exact List.contains_iff_mem.2 hx

/-- **The oracle is the specification.**  The executable check the harness applies to the events
computed from the implementation's tables decides `Delivered`. -/
theorem deliveredB_iff (evs : List Ev) (ec ex : List (Chip × Nat)) :
    deliveredB evs ec ex = true ↔ Delivered evs ec ex := by
  simp only [deliveredB, Delivered, Bool.and_eq_true, nodupEv_iff, List.all_eq_true, evAllowed_iff,
    List.contains_iff_mem, and_assoc]
  refine and_congr_right fun _ => ⟨fun ⟨h1, h2, h3⟩ ev => ⟨h1 ev, ?_⟩, fun h => ⟨fun ev => (h ev).1,
    fun x hx => (h _).2 (Or.inl ⟨x, hx, rfl⟩), fun x hx => (h _).2 (Or.inr ⟨x, hx, rfl⟩)⟩⟩
  rintro (⟨x, hx, rfl⟩ | ⟨x, hx, rfl⟩)
  exacts [h2 x hx, h3 x hx]

theorem delivered_no_flag {evs : List Ev} {ec ex : List (Chip × Nat)} (h : Delivered evs ec ex) :
    flags evs = [] := by
  simp only [flags, List.filter_eq_nil_iff]
  intro ev hev
  rcases (h.2 ev).1 hev with ⟨x, _, rfl⟩ | ⟨x, _, rfl⟩ <;> simp [Ev.isFlag]

/-- If the tables agree with a routing tree for key `k` (`Agrees`: every node's
chip looks `k` up to exactly the node's out-set, hops are working links between working adjacent
chips, leaf links are device links, chips differ from the path so far), the chips of the tree are
distinct and the fuel covers the tree, then a packet arriving at the root produces exactly the
events the tree stands for (`treeEvs`: one delivery per leaf core route, one exit per leaf link
route), each exactly once, and no flag: nothing dropped, no dead hop, no circulation. -/
theorem deliver_of_tree (m : Machine) (dev : List (Chip × Nat)) (T : Chip → List Entry) (k : W)
    (t : Tree) (fuel : Nat) (path : List Chip) (arr : Option Nat)
    (ha : Agrees m dev T k path t) (hn : t.chips.Nodup) (hf : t.chips.length ≤ fuel) :
    (visit m dev T k fuel path t.chip arr).Nodup ∧
    (∀ ev, ev ∈ visit m dev T k fuel path t.chip arr ↔ ev ∈ treeEvs t) ∧
    flags (visit m dev T k fuel path t.chip arr) = [] :=
  have h := L.visit_tree t fuel path arr ha hn hf
  ⟨h.1, h.2, L.flags_nil_of_treeEvs h.2⟩

theorem deliver_of_tree_root (m : Machine) (dev : List (Chip × Nat)) (T : Chip → List Entry) (k : W) (t : Tree)
    (ha : Agrees m dev T k [] t) (hn : t.chips.Nodup) (hf : t.chips.length ≤ m.w * m.h + 1) :
    (deliver m dev T k t.chip).Nodup ∧ (∀ ev, ev ∈ deliver m dev T k t.chip ↔ ev ∈ treeEvs t) ∧
    flags (deliver m dev T k t.chip) = [] :=
  deliver_of_tree m dev T k t _ [] none ha hn hf

/-- If at every chip the two tables are `RouteEquiv` in C04's sense (every key
matched by `T c` is matched in `T' c` by an entry with the same route and at least its sources, or
is matched by nothing in `T' c` and the old entry was single-source, single-route, link to opposite
link) and on `T` every state the packet reaches is matched by an entry that lists the way it
arrived (`Covered`), then the packet does exactly the same on `T'`: the same events in the same
order.  The induction carries the arrival direction, which is what makes the default route of a
chip whose entry was removed reproduce that entry. -/
theorem deliver_congr (m : Machine) (dev : List (Chip × Nat)) (T T' : Chip → List Entry) (k : W) (src : Chip)
    (heq : ∀ c, Rig.C04.RouteEquiv (T c) (T' c))
    (hcov : Covered m dev T k (m.w * m.h + 1) [] src none) :
    deliver m dev T' k src = deliver m dev T k src :=
  L.visit_congr heq _ _ _ _ hcov

/-- tables built from a tree (`Agrees`, and the sources list the arrival links: `SrcListed`) cover
every state the packet reaches: the hypothesis of `deliver_congr` holds for them -/
theorem covered_of_tree (m : Machine) (dev : List (Chip × Nat)) (T : Chip → List Entry) (k : W) (t : Tree)
    (fuel : Nat) (path : List Chip) (arr : Option Nat)
    (ha : Agrees m dev T k path t) (hs : SrcListed T k arr t) : Covered m dev T k fuel path t.chip arr :=
  L.covered_of_agrees t fuel path arr ha hs

/-- **Delivery survives minimisation.**  Tables `T` agree with the tree and list the arrival links;
`T'` is per-chip RouteEquiv to `T` (what C04 proves of `minimise_tables`): the packet injected at the
root is delivered on `T'` exactly to the leaves of the tree, each once, no flag. -/
theorem deliver_minimised (m : Machine) (dev : List (Chip × Nat)) (T T' : Chip → List Entry) (k : W) (t : Tree)
    (ha : Agrees m dev T k [] t) (hs : SrcListed T k none t)
    (hn : t.chips.Nodup) (hf : t.chips.length ≤ m.w * m.h + 1)
    (heq : ∀ c, Rig.C04.RouteEquiv (T c) (T' c)) :
    (deliver m dev T' k t.chip).Nodup ∧ (∀ ev, ev ∈ deliver m dev T' k t.chip ↔ ev ∈ treeEvs t) ∧
    flags (deliver m dev T' k t.chip) = [] := by
  rw [deliver_congr m dev T T' k t.chip heq (covered_of_tree m dev T k t _ [] none ha hs)]
  exact deliver_of_tree_root m dev T k t ha hn hf

/-- The statement of C01 from the stage properties.

Given, for the nets of an application on machine `m` with device links `dev`:
* (C02, feasible placement) every net's source is placed on a working chip;
* (C05, exact allocation within the chip's resources; devices) every sink with cores has its
  allocated range inside cores 0..17, every sink with a route-endpoint constraint names a link
  that carries a device, and device links are not working links of the machine model;
* (C03) every net's routing tree is a `ValidTree` for its source chip and sinks;
* nets have pairwise non-intersecting key/masks;
* (C10) `routing_tree_to_tables` (model `treeTables`) returned the tables `T10` for these trees;
* (C04) the tables finally loaded, `T'`, are per chip `RouteEquiv` to them (what `minimise_tables`
  guarantees for every method chain and target);
then for every net and every key that matches the net's key/mask, the packet injected at the
source chip is delivered exactly once to every allocated core of every sink and leaves exactly once
on every endpoint link, reaches nothing else, is never dropped, crosses only working links between
working chips and never circulates (`Delivered`, for which see `delivered_no_flag`). -/
theorem pipeline_delivery (m : Machine) (dev : List (Chip × Nat)) (nets : List PNet)
    (T10 : Rig.C10.Tables) (T' : Chip → List Entry)
    (hplace : ∀ n ∈ nets, chipOk m n.src = true)
    (halloc : ∀ n ∈ nets, ∀ s ∈ n.sinks, (s.kind = 1 → s.b ≤ 18) ∧ (s.kind = 2 → s.a < 6 ∧ (s.chip, s.a) ∈ dev))
    (hdev : ∀ d ∈ dev, linkOk m d.1 d.2 = false)
    (htree : ∀ n ∈ nets, Rig.C03.ValidTree m n.src n.sinks n.tree)
    (hkeys : nets.Pairwise (fun a b => Rig.C04.intersect a.key a.mask b.key b.mask = false))
    (htab : Rig.C10.treeTables (nets.map PNet.net10) = .ok T10)
    (hmin : ∀ c, Rig.C04.RouteEquiv (tableAt (tables04 T10) c) (T' c)) :
    ∀ n ∈ nets, ∀ k : W, k &&& n.mask = n.key →
      Delivered (deliver m dev T' k n.src) (sinkCores n.sinks) (sinkExits n.sinks) := by
  intro n hn k hk
  have hv := htree n hn
  have hag := L.agrees_of_stages hplace halloc hdev htree hkeys htab hn hk
  have hfuel : n.tree.chips.length ≤ m.w * m.h + 1 :=
    Nat.le_succ_of_le (Rig.C03.L.inRange_card n.tree.chips hv.distinct fun c hc =>
      Rig.C03.L.chipOk_inRange (L.valid_chips_ok hv (hplace n hn) c hc))
  have hd := deliver_minimised m dev (tableAt (tables04 T10)) T' k n.tree hag.1 hag.2 hv.distinct hfuel hmin
  rw [hv.rooted] at hd
  exact L.delivered_of_leaves hv (fun s hs h2 => ((halloc n hn s hs).2 h2).1) hd.1 hd.2.1

/-! ## non-vacuity: a concrete pipeline satisfies every hypothesis of `pipeline_delivery`

3x1 machine, a device on the east link of chip (2,0).  Net A (key 4, mask 6: bit 0 is don't-care)
goes (0,0) -> (1,0) -> (2,0) to cores 1,2 and to the device; net B (key 2, mask 6) stays on chip
(1,0).  The minimised tables drop A's entry on (1,0) (it is default-routable) - so the example
exercises the default route, a device exit, a don't-care bit and two nets. -/

def exM : Machine := { w := 3, h := 1, deadChips := [], deadLinks := [((2, 0), 0)] }
def exDev : List (Chip × Nat) := [((2, 0), 0)]
def exA : PNet :=
  { key := 4#32, mask := 6#32, src := (0, 0),
    sinks := [{ v := 1, chip := (2, 0), kind := 1, a := 1, b := 3 }, { v := 2, chip := (2, 0), kind := 2, a := 0, b := 0 }],
    tree := .node (0, 0) [(0, .node (1, 0) [(0, .node (2, 0) [] [(some 7, 1), (some 8, 1), (some 0, 2)])] [])] [] }
def exB : PNet :=
  { key := 2#32, mask := 6#32, src := (1, 0),
    sinks := [{ v := 3, chip := (1, 0), kind := 1, a := 4, b := 5 }],
    tree := .node (1, 0) [] [(some 10, 3)] }
def exT10 : Rig.C10.Tables :=
  [((0, 0), [{ route := [0], key := 4, mask := 6, sources := [none] }]),
   ((1, 0), [{ route := [0], key := 4, mask := 6, sources := [some 3] },
             { route := [10], key := 2, mask := 6, sources := [none] }]),
   ((2, 0), [{ route := [7, 8, 0], key := 4, mask := 6, sources := [some 3] }])]
/-- the minimised tables: chip (1,0) keeps only net B's entry -/
def exT' (c : Chip) : List Entry :=
  if c = (1, 0) then [{ route := 2 ^ 10, key := 2#32, mask := 6#32, sources := 2 ^ 24 }]
  else tableAt (tables04 exT10) c

theorem ex_hyps :
    (∀ n ∈ [exA, exB], chipOk exM n.src = true) ∧
    (∀ n ∈ [exA, exB], ∀ s ∈ n.sinks, (s.kind = 1 → s.b ≤ 18) ∧ (s.kind = 2 → s.a < 6 ∧ (s.chip, s.a) ∈ exDev)) ∧
    (∀ d ∈ exDev, linkOk exM d.1 d.2 = false) ∧
    (∀ n ∈ [exA, exB], Rig.C03.ValidTree exM n.src n.sinks n.tree) ∧
    [exA, exB].Pairwise (fun a b => Rig.C04.intersect a.key a.mask b.key b.mask = false) ∧
    Rig.C10.treeTables ([exA, exB].map PNet.net10) = .ok exT10 ∧
    (∀ c, Rig.C04.RouteEquiv (tableAt (tables04 exT10) c) (exT' c)) := by
  refine ⟨by decide, fun n hn => ?_, by decide, fun n hn => (Rig.C03.validTree_iff _ _ _ _).1 ?_, by decide,
    by decide +kernel, fun c => ?_⟩
  · simp only [List.mem_cons, List.not_mem_nil, or_false] at hn
    rcases hn with rfl | rfl <;> decide
  · exact (by decide +kernel : ∀ n ∈ [exA, exB], Rig.C03.validTree exM n.src n.sinks n.tree = true) n hn
  · by_cases h : c = (1, 0)
    · subst h
      exact (Rig.C04.oracle_decides _ _).1 (by decide +kernel)
    · simp only [exT', h, if_false]
      exact Rig.C04.routeEquiv_refl _

/-- the conclusion for the example, through the theorem: both fillings of A's don't-care bit reach
cores 1 and 2 of chip (2,0) and the device, B's key reaches core 4 of chip (1,0) -/
example : ∀ n ∈ [exA, exB], ∀ k : W, k &&& n.mask = n.key →
    Delivered (deliver exM exDev exT' k n.src) (sinkCores n.sinks) (sinkExits n.sinks) :=
  pipeline_delivery exM exDev [exA, exB] exT10 exT' ex_hyps.1 ex_hyps.2.1 ex_hyps.2.2.1 ex_hyps.2.2.2.1
    ex_hyps.2.2.2.2.1 ex_hyps.2.2.2.2.2.1 ex_hyps.2.2.2.2.2.2

/-- and directly, by evaluation: key 5 (don't-care bit set) on the minimised tables -/
example : deliver exM exDev exT' 5#32 (0, 0) = [.core (2, 0) 1, .core (2, 0) 2, .exit (2, 0) 0] := by decide +kernel

/-- non-vacuity of `Agrees` / `SrcListed` / `Covered` (hypotheses of `deliver_of_tree`, `deliver_congr`):
they hold for the example's unminimised tables and net A's tree (through the composition lemmas) -/
example : ∀ k : W, k &&& exA.mask = exA.key →
    Agrees exM exDev (tableAt (tables04 exT10)) k [] exA.tree ∧ SrcListed (tableAt (tables04 exT10)) k none exA.tree ∧
    Covered exM exDev (tableAt (tables04 exT10)) k (exM.w * exM.h + 1) [] exA.src none := by
  intro k hk
  obtain ⟨hplace, halloc, hdev, htree, hkeys, htab, _⟩ := ex_hyps
  have hag := L.agrees_of_stages hplace halloc hdev htree hkeys htab (n := exA) (by simp) hk
  exact ⟨hag.1, hag.2, covered_of_tree _ _ _ _ exA.tree _ [] none hag.1 hag.2⟩

/-! ## bridges from the placement and allocation properties

`pipeline_delivery` uses the placement and the allocation through two facts only; both follow from
the stage predicates of C02 and C05. -/

/-- the machine of C03/C01 that has the chips of a C02 machine (links as given) -/
def machineOf02 (m2 : Rig.C02.Machine) (deadLinks : List (Chip × Nat)) : Machine :=
  { w := m2.w, h := m2.h, deadChips := m2.dead.map chipZ, deadLinks := deadLinks }

/-- **C02 ⇒ `hplace`.**  In a feasible placement (C02 `Feasible`) every vertex is on a working chip
of the machine - in particular the source of every net. -/
theorem placement_bridge (vr : Rig.C02.VR) (cs : List Rig.C02.Constraint) (m2 : Rig.C02.Machine)
    (p : Rig.C02.Placement) (dl : List (Chip × Nat)) (hf : Rig.C02.Feasible vr cs m2 p) :
    ∀ v ∈ Rig.C02.keys vr, ∃ c, Rig.C02.aget p v = some c ∧ chipOk (machineOf02 m2 dl) (chipZ c) = true := by
  intro v hv
  obtain ⟨c, hc, hok⟩ := hf.placed v hv
  exact ⟨c, hc, (L.chipOk_chipZ m2.w m2.h m2.dead dl c).trans hok⟩

theorem goodRange_of_valid {inp : Rig.C05.Input} {out : Rig.C05.Alloc} (hv : Rig.C05.Valid inp out)
    {t : Rig.C05.Vertex × Rig.C05.Res × Rig.C05.Slice} (ht : t ∈ Rig.C05.flat out) :
    ∃ xy d, (t.1, xy) ∈ inp.placements ∧ Rig.C05.GoodRange inp xy t.2.1 d t.2.2 := by
  obtain ⟨⟨v, xy⟩, hp, rfl, q, _, _, ⟨r, d⟩, _, rfl, hg⟩ := hv.2.2.1 t ht
  exact ⟨xy, d, hp, hg⟩

/-- **C05 ⇒ `halloc` (cores).**  In a valid allocation (C05 `Valid`) every range handed out for a
resource lies inside `0 .. capacity` of the chip the vertex is placed on; for the cores resource of
a SpiNNaker chip (capacity at most 18) the allocated cores are cores 0..17. -/
theorem allocation_bridge (inp : Rig.C05.Input) (out : Rig.C05.Alloc) (coreRes : Rig.C05.Res)
    (hv : Rig.C05.Valid inp out)
    (hcap : ∀ xy c, Rig.C05.capacity inp.machine xy coreRes = some c → c ≤ 18) :
    ∀ t ∈ Rig.C05.flat out, t.2.1 = coreRes → 0 ≤ t.2.2.start ∧ t.2.2.stop ≤ 18 := by
  intro t ht hres
  obtain ⟨xy, d, _, _, h0, ⟨c, hc, hle⟩, _⟩ := goodRange_of_valid hv ht
  exact ⟨h0, Int.le_trans hle (hcap _ _ (hres ▸ hc))⟩

end Rig.C01
