/-
Facts about the run-time support of the translated Python functions (`Gen/PyFun.lean`) for the translator-tie
modules (Props/CxxGen.lean); `pyWhile_sim` / `pyWhile_collect` tie a generated `while` loop to a fuel-recursive
model function.  The layout of a generated loop state (`brk_`, `ret_`, `out_`, the variables, `fuel`) is described in
the module docstring of harness/gen/pyfun.py.
-/
import RigModel.Gen.PyFun
import RigModel.Lemmas.IntBits

namespace Rig.PyLoops
open Rig.Gen.PyFun Rig.IntBits

theorem pyRange1_eq (a b : Int) :
    pyRange1 a b = (List.range (b - a).toNat).map (fun (k : Nat) => a + (k : Int)) := rfl

theorem length_pyRange1 (a b : Int) : (pyRange1 a b).length = (b - a).toNat := by
  simp [pyRange1]

theorem pyRange_pos (a b c : Int) (hc : 0 < c) :
    pyRange a b c = (List.range ((b - a + c - 1) / c).toNat).map (fun (k : Nat) => a + c * (k : Int)) := by
  simp only [pyRange, gt_iff_lt, hc, if_true]

theorem foldl_append_flatMap {α β : Type} {f : List β → α → List β} {g : α → List β}
    (hf : ∀ o a, f o a = o ++ g a) : ∀ (l : List α) (o : List β), l.foldl f o = o ++ l.flatMap g
  | [], o => (List.append_nil o).symm
  | a :: t, o => by
    rw [List.foldl_cons, hf, foldl_append_flatMap hf t, List.flatMap_cons, List.append_assoc]

/-- a `for` loop whose body leaves the state alone (after `break` / an exception) -/
theorem foldl_fixed {σ α : Type} {f : σ → α → σ} {s : σ} (h : ∀ a, f s a = s) :
    ∀ l : List α, List.foldl f s l = s
  | [] => rfl
  | a :: l => by rw [List.foldl_cons, h a]; exact foldl_fixed h l

theorem pyWhile_stop {σ : Type} {cond : σ → Bool} {body : σ → σ} {s : σ} (h : cond s = false) :
    ∀ fuel, pyWhile cond body fuel s = some s
  | 0 => by rw [pyWhile, h]; rfl
  | _ + 1 => by rw [pyWhile, h]; rfl

theorem pyWhile_step {σ : Type} {cond : σ → Bool} {body : σ → σ} {s : σ} (h : cond s = true) (fuel : Nat) :
    pyWhile cond body (fuel + 1) s = pyWhile cond body fuel (body s) := by
  rw [pyWhile, if_pos h]

theorem pyWhile_of_iter {σ : Type} (cond : σ → Bool) (body : σ → σ) :
    ∀ (n : Nat) (s : σ), (∀ k < n, cond (body^[k] s) = true) → cond (body^[n] s) = false →
      ∀ fuel, n ≤ fuel → pyWhile cond body fuel s = some (body^[n] s)
  | 0, s, _, hstop, fuel, _ => by
    cases fuel <;> simp [pyWhile, Function.iterate_zero] at hstop ⊢ <;> simp [hstop]
  | n + 1, s, hgo, hstop, fuel, hf => by
    cases fuel with
    | zero => omega
    | succ fuel =>
      have h0 : cond s = true := hgo 0 (Nat.succ_pos n)
      rw [pyWhile_step h0]
      exact pyWhile_of_iter cond body n (body s) (fun k hk => hgo (k + 1) (Nat.succ_lt_succ hk)) hstop fuel
        (Nat.le_of_succ_le_succ hf)

/-- A generated `while` loop against a fuel-recursive model function.  The loop runs on the states `emb x` of
abstract states `x` with invariant `I`: there its condition is `go x` and its body `next`, and `μ` decreases.
The model function `m` (its own fuel first) unfolds along the same `next` and returns `fin x` where `go x` fails. -/
theorem pyWhile_sim {σ α ρ : Type} {cond : σ → Bool} {body : σ → σ}
    (emb : α → σ) (I : α → Prop) (go : α → Bool) (next : α → α) (μ : α → Nat) (m : Nat → α → ρ) (fin : α → ρ)
    (hc : ∀ x, I x → cond (emb x) = go x)
    (hb : ∀ x, I x → go x = true → body (emb x) = emb (next x) ∧ I (next x) ∧ μ (next x) < μ x)
    (h0 : ∀ mf x, I x → go x = false → m mf x = fin x)
    (hs : ∀ mf x, I x → go x = true → m (mf + 1) x = m mf (next x)) :
    ∀ (fuel mf : Nat) (x : α), I x → μ x ≤ fuel → μ x ≤ mf →
      ∃ x', I x' ∧ go x' = false ∧ pyWhile cond body fuel (emb x) = some (emb x') ∧ m mf x = fin x' := by
  intro fuel
  induction fuel with
  | zero =>
    intro mf x hx hf _
    cases hg : go x with
    | false => exact ⟨x, hx, hg, pyWhile_stop (by rw [hc x hx, hg]) 0, h0 mf x hx hg⟩
    | true => have := (hb x hx hg).2.2; omega
  | succ fuel ih =>
    intro mf x hx hf hmf
    cases hg : go x with
    | false => exact ⟨x, hx, hg, pyWhile_stop (by rw [hc x hx, hg]) _, h0 mf x hx hg⟩
    | true =>
      obtain ⟨e, hI, hμ⟩ := hb x hx hg
      obtain ⟨mf, rfl⟩ : ∃ k, mf = k + 1 := ⟨mf - 1, by omega⟩
      rw [pyWhile_step (by rw [hc x hx, hg]), e, hs mf x hx hg]
      exact ih mf (next x) hI (by omega) (by omega)

/-- The same for a loop that appends one `out x` per iteration to a list in its state (`emb o x`: the list first),
against a model function `chunks` returning the whole list. -/
theorem pyWhile_collect {σ α β : Type} {cond : σ → Bool} {body : σ → σ}
    (emb : List β → α → σ) (I : α → Prop) (go : α → Bool) (out : α → β) (next : α → α) (μ : α → Nat)
    (chunks : Nat → α → List β)
    (hc : ∀ o x, cond (emb o x) = go x)
    (hb : ∀ o x, I x → go x = true → body (emb o x) = emb (o ++ [out x]) (next x) ∧ I (next x) ∧ μ (next x) < μ x)
    (h0 : ∀ mf x, I x → go x = false → chunks mf x = [])
    (hs : ∀ mf x, I x → go x = true → chunks (mf + 1) x = out x :: chunks mf (next x))
    (fuel mf : Nat) (x : α) (hx : I x) (hf : μ x ≤ fuel) (hmf : μ x ≤ mf) :
    ∃ x', pyWhile cond body fuel (emb [] x) = some (emb (chunks mf x) x') := by
  obtain ⟨s, -, -, e, hm⟩ := pyWhile_sim (fun (s : List β × α) => emb s.1 s.2) (fun s => I s.2) (fun s => go s.2)
    (fun s => (s.1 ++ [out s.2], next s.2)) (fun s => μ s.2) (fun mf s => s.1 ++ chunks mf s.2) (fun s => s.1)
    (fun s _ => hc s.1 s.2) (fun s => hb s.1 s.2)
    (fun mf s hs hg => by rw [h0 mf s.2 hs hg, List.append_nil])
    (fun mf s hs' hg => by rw [hs mf s.2 hs' hg, List.append_assoc]; rfl)
    fuel mf ([], x) hx hf hmf
  exact ⟨s.2, e.trans (congrArg (fun o => some (emb o s.2)) hm.symm)⟩

/-- `l[a:b]` -/
@[py_cast] theorem pySlice_nat {α : Type} (l : List α) (a b : Nat) :
    pySlice l (a : Int) (b : Int) = (l.drop a).take (b - a) := by
  rw [pySlice, if_neg (Int.not_lt.mpr (Int.natCast_nonneg _)), if_neg (Int.not_lt.mpr (Int.natCast_nonneg _)),
    min_natCast, min_natCast, Int.toNat_natCast, Int.toNat_sub]
  rcases Nat.le_total a l.length with ha | ha
  · rw [Nat.min_eq_left ha]
    rcases Nat.le_total b l.length with hb | hb
    · rw [Nat.min_eq_left hb]
    · rw [Nat.min_eq_right hb, List.take_of_length_le (Nat.le_of_eq List.length_drop),
        List.take_of_length_le (by rw [List.length_drop]; exact Nat.sub_le_sub_right hb a)]
  · rw [Nat.min_eq_right ha, List.drop_length, List.drop_eq_nil_of_le ha, List.take_nil, List.take_nil]

/-- `l[a:]`, written `l[a:len(l)]` by the translator (`high`: before `pySlice_nat`, which fits the same term) -/
@[py_cast high] theorem pySlice_from {α : Type} (l : List α) (a : Nat) : pySlice l (a : Int) (l.length : Int) = l.drop a := by
  rw [pySlice_nat, List.take_of_length_le (Nat.le_of_eq List.length_drop)]

/-- `l[:n]`; a negative `n` counts from the end -/
theorem pySlice_zero {α : Type} (l : List α) (n : Int) :
    pySlice l 0 n = l.take (if 0 ≤ n then n.toNat else l.length - (-n).toNat) := by
  by_cases hn : 0 ≤ n
  · obtain ⟨k, rfl⟩ := Int.eq_ofNat_of_zero_le hn
    rw [if_pos hn, Int.toNat_natCast]; exact pySlice_nat l 0 k
  · unfold pySlice
    simp only [Int.lt_irrefl, if_false, if_pos (Int.not_le.1 hn), if_neg hn, Int.min_eq_left (Int.natCast_nonneg l.length),
      Int.toNat_zero, List.drop_zero, Int.sub_zero]
    congr 1; omega

/-- `l[p]` -/
@[py_cast] theorem pyGet_map {α β : Type} (f : α → β) (l : List α) (p : Nat) :
    pyGet (l.map f) (p : Int) = match l[p]? with | some v => .ok (f v) | none => .error "IndexError" := by
  unfold pyGet
  simp only [show ¬ ((p : Int) < 0) by omega, if_false, Int.toNat_natCast, List.getElem?_map]
  cases l[p]? <;> rfl

@[py_cast] theorem pyKeyGet_natCast (t : List (Nat × Nat)) (k : Nat) :
    pyKeyGet t (k : Int) = match t.lookup k with | some v => .ok (v : Int) | none => .error "KeyError" := by
  unfold pyKeyGet
  have : ¬ ((k : Int) < 0) := by omega
  simp only [this, if_false, Int.toNat_natCast]
  cases t.lookup k <;> rfl

theorem contains_map_inj {α β : Type} [BEq α] [LawfulBEq α] [BEq β] [LawfulBEq β] (f : α → β)
    (hf : ∀ a b, f a = f b → a = b) (l : List α) (a : α) : (l.map f).contains (f a) = l.contains a := by
  rw [List.contains_eq_mem, List.contains_eq_mem, decide_eq_decide, List.mem_map]
  exact ⟨fun ⟨x, hx, e⟩ => hf x a e ▸ hx, fun h => ⟨a, h, rfl⟩⟩

/-- the generated code tests membership in an `IntEnum` against the literal list of the member values -/
theorem contains_enum_values (enum : List (String × Nat)) (n : Nat) :
    (enum.map (fun e => ((e.2 : Nat) : Int))).contains (n : Int) = enum.any (fun e => e.2 == n) := by
  induction enum with
  | nil => rfl
  | cons e t ih =>
    rw [List.map_cons, List.contains_cons, ih, List.any_cons, BEq.comm (a := (n : Int))]
    congr 1
    exact Bool.eq_iff_iff.mpr (by simp only [beq_iff_eq, Int.natCast_inj])

@[py_cast] theorem contains_natCast (l : List Nat) (n : Nat) :
    (l.map (fun (k : Nat) => (k : Int))).contains (n : Int) = l.contains n :=
  contains_map_inj _ (fun _ _ => Int.natCast_inj.mp) l n

end Rig.PyLoops
