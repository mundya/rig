/-
C18 (companion) - translator tie for the per-method wire rules.

`Gen/C18Bodies.lean` (`genBody`) is EXTRACTED from the source of MachineController / BMPController on every run
(harness/gen/c18.py: an abstract interpretation of every context-decorated method - sends, connection reads / writes
and inner decorated calls in source order, undecorated helpers and properties inlined, destination arguments
classified as parameter / literal / dyn / mask / first).  Here the wire theorems of Props/C18Wire.lean are
re-established FOR THE GENERATED TABLE, so they speak about the code as it is written: its symbolic requests and those
of the hand-written transcription `bodyOf` (the table the ORACLE uses - it must not follow the code) are the same set
for every method (`sigs_checked`, evaluated), and the generic wire theorems hold for any table of bodies.  Also what is
not in the bodies: the two `_send_scp` primitives, the deferred and the lazily issued sends.
-/
import RigModel.Props.C18Wire
import RigModel.Gen.C18Bodies

namespace Rig.C18
open Rig.Gen.Signatures Rig.Gen.C18Bodies

def subsetB (l₁ l₂ : List APat) : Bool := l₁.all (fun a => l₂.contains a)

/-- the same set of symbolic requests (order and multiplicity of sends are not part of the rules) -/
def sameRules (l₁ l₂ : List APat) : Bool := subsetB l₁ l₂ && subsetB l₂ l₁

theorem subsetB_of_includedB {l₁ l₂ : List APat} (h : includedB l₁ l₂ = true) : subsetB l₁ l₂ = true := by
  simp only [includedB, subsetB, List.all_eq_true, List.any_eq_true, Bool.and_eq_true, beq_iff_eq,
    List.contains_iff_mem] at h ⊢
  intro p hp
  obtain ⟨⟨k, a, b, c, e⟩, hq, h⟩ := h p hp
  obtain ⟨k', a', b', c', e'⟩ := p
  simp only at h
  obtain ⟨⟨⟨⟨rfl, rfl⟩, rfl⟩, rfl⟩, rfl⟩ := h
  exact hq

theorem mem_of_sameRules {l₁ l₂ : List APat} (h : sameRules l₁ l₂ = true) (ap : APat) : ap ∈ l₁ ↔ ap ∈ l₂ := by
  simp only [sameRules, subsetB, Bool.and_eq_true, List.all_eq_true, List.contains_iff_mem] at h
  exact ⟨h.1 ap, h.2 ap⟩

theorem gen_scanned_all : ∀ s ∈ sigs, (s.cls, s.name) ∈ scanned :=
  fun s hs => (sigs_checked.1 s hs).2.2.2.1

/-- the translator classified every send and inner call it found -/
theorem gen_no_unknown : ∀ s ∈ sigs, (genBody s.cls s.name).all (fun op => !op.isUnknown) = true :=
  fun s hs => (sigs_checked.1 s hs).2.2.2.2.1

/-- **the hand-written transcription `bodyOf` says what the source says**: for every decorated method the symbolic
requests (kind, chip, core, application id / board, mask - each an expression over the caller's parameters, or
"left to the context stack") derived from the generated bodies and from `bodyOf` are the same set -/
theorem gen_rules_eq_hand : ∀ s ∈ sigs, sameRules (rulesOfB genBody sigs s) (rulesOf sigs s) = true :=
  fun s hs => have h := (sigs_checked.1 s hs).2.2.2.2.2
    Bool.and_eq_true_iff.mpr ⟨subsetB_of_includedB h.1, subsetB_of_includedB h.2.1⟩

theorem gen_rules_obey_signature_rule : ∀ s ∈ sigs, (rulesOfB genBody sigs s).all (ruleOk s) = true :=
  fun s hs => List.all_eq_true.mpr fun ap hap =>
    List.all_eq_true.mp (rules_obey_signature_rule s hs) ap ((mem_of_sameRules (gen_rules_eq_hand s hs) ap).mp hap)

theorem gen_rules_chip_known : ∀ s ∈ sigs, (rulesOfB genBody sigs s).all
    (fun ap => ap.a.isSome && ap.b.isSome && ap.extra != some none) = true :=
  fun s hs => known_of_rules (gen_rules_obey_signature_rule s hs)

/-- **The wire carries the resolved values - for the method bodies as they are written in the source.** -/
theorem gen_wire_carries_resolved (s : Sig) (hs : s ∈ sigs) (b : Dict) (stack : List Dict) :
    ∀ pt ∈ wireB genBody sigs s.cls wireFuel s.name b stack, Carries s b pt :=
  wireB_carries_resolved genBody gen_rules_obey_signature_rule s hs b stack

theorem gen_chip_independent_of_passing_style (s : Sig) (hs : s ∈ sigs) (b : Dict) (stack : List Dict) :
    ∀ pt ∈ wireB genBody sigs s.cls wireFuel s.name b stack,
      ∃ ap ∈ rulesOfB genBody sigs s, ∃ ex ey, ap.a = some ex ∧ ap.b = some ey ∧
        pt.a = evalEx b ex ∧ pt.b = evalEx b ey ∧
        (pt.extra = none ∨ ∃ ea, ap.extra = some (some ea) ∧ pt.extra = some (evalEx b ea)) :=
  chipB_independent_of_passing_style (gen_rules_chip_known s hs) b stack

theorem gen_core_independent_of_passing_style (s : Sig) (hcore : coreFromContextB genBody sigs s = false)
    (b : Dict) (stack : List Dict) :
    ∀ pt ∈ wireB genBody sigs s.cls wireFuel s.name b stack,
      ∃ ap ∈ rulesOfB genBody sigs s, ∃ ec, ap.c = some ec ∧ pt.c = evalEx b ec :=
  coreB_independent_of_passing_style hcore b stack

/-- the methods whose inner requests leave the core to the context stack, read off the source -/
theorem gen_core_from_context_methods :
    (sigs.filter (coreFromContextB genBody sigs)).map (fun s => s.name) =
      ["discover_connections", "read_vcpu_struct_field", "write_vcpu_struct_field", "get_processor_status",
       "get_iobuf", "get_iobuf_bytes", "get_router_diagnostics", "sdram_alloc", "sdram_alloc_as_filelike",
       "flood_fill_aplx", "load_application", "load_routing_tables", "load_routing_table_entries",
       "get_routing_table_entries", "get_p2p_routing_table", "get_num_working_cores", "get_system_info"] := by
  have h : ∀ s ∈ sigs, coreFromContextB genBody sigs s = coreFromContext sigs s := fun s hs => by
    show List.any _ _ = List.any _ _
    rw [Bool.eq_iff_iff]
    simp only [List.any_eq_true, mem_of_sameRules (gen_rules_eq_hand s hs)]
  rw [List.filter_congr h]
  exact core_from_context_methods

/-- hence every request the code's rules can emit is described by a request of the hand-written rules (the ones
the wire oracle judges the implementation's datagrams by), core included -/
theorem gen_wire_within_hand_rules (s : Sig) (hs : s ∈ sigs) (b : Dict) (stack : List Dict) :
    ∀ pt ∈ wireB genBody sigs s.cls wireFuel s.name b stack, ∃ ap ∈ rulesOf sigs s, ap.Describes b pt := by
  intro pt hpt
  obtain ⟨ap, hap, hd⟩ := rulesOfB_sound genBody sigs s b stack pt hpt
  exact ⟨ap, (mem_of_sameRules (gen_rules_eq_hand s hs) ap).mp hap, hd⟩

/-- and conversely: every request of the hand-written rules is one the source's rules can emit -/
theorem hand_wire_within_gen_rules (s : Sig) (hs : s ∈ sigs) (b : Dict) (stack : List Dict) :
    ∀ pt ∈ wire sigs s.cls wireFuel s.name b stack, ∃ ap ∈ rulesOfB genBody sigs s, ap.Describes b pt := by
  intro pt hpt
  obtain ⟨ap, hap, hd⟩ := rulesOfB_sound bodyOf sigs s b stack pt hpt
  exact ⟨ap, (mem_of_sameRules (gen_rules_eq_hand s hs) ap).mpr hap, hd⟩

/-- the only sends a decorated method hands to a callback instead of making them itself: `application`'s stop signal
(`context.before_close(lambda: self.send_signal("stop"))`, modelled by `exec`'s `enter` of an application object) -/
theorem gen_deferred : ∀ s ∈ sigs, genDeferred s.cls s.name =
    (if s.cls = "MachineController" ∧ s.name = "application"
     then [.call "send_signal" [.lit (.other "'stop'")] []] else []) :=
  fun s hs => (sigs_checked.1 s hs).2.2.2.2.2.2.2

/-- the only cached property whose probe is left out of the rules is `MachineController.scp_data_length`: one
`get_software_version(255, 255, 0)` on first use (C07's subject; the harness presets the cached value) -/
theorem gen_lazy : genLazy = [("MachineController", "scp_data_length",
    [.call "get_software_version" [.lit (.int 255), .lit (.int 255), .lit (.int 0)] []])] := rfl

/-- `MachineController._send_scp(x, y, p, ..)` hands exactly its own (x, y, p) to the connection that
`_get_connection(x, y)` names for the same chip (the `Op.scp` the rules are written in) -/
theorem gen_mc_send : genMcSend = [.scp (.ref "x") (.ref "y") (.ref "p") none] := rfl

/-- first key of the chain under which a connection exists -/
def firstKey (conns : List (List Int)) : List (List Int) → Except Err (List Int)
  | [] => .error .noConnection
  | k :: ks => if conns.contains k then .ok k else firstKey conns ks

def intOf (b : Dict) (e : Ex) : Int := ((evalEx b e).asInt?).getD 0

/-- **`bmpConnection` is the lookup `BMPController._send_scp` performs**: the keys extracted from the source, in source
order - (cabinet, frame, board), then (cabinet, frame) - and an error when neither has a connection
(`genBmpSendOk`: the translator found `_send_scp` to be one such chain; otherwise it emits no keys) -/
theorem gen_bmpConnection (conns : List (List Int)) (c f b : Int) :
    genBmpSendOk = true ∧
    bmpConnection conns c f b =
      firstKey conns (genBmpKeys.map (fun k => k.map (intOf [("cabinet", .int c), ("frame", .int f), ("board", .int b)]))) :=
  ⟨rfl, rfl⟩

/-- ... and the datagram it hands to that connection is addressed (0, 0, board): what `Pat.matches` demands of a
BMP datagram -/
theorem gen_bmp_dest : genBmpDest = [.lit (.int 0), .lit (.int 0), .ref "board"] := rfl

/-- non-vacuity of `gen_wire_carries_resolved`: `with mc(x=4, y=5): mc.sdram_alloc(8, 1, clear=True)` -/
example :
    (match resolve mc_sdram_alloc 2 [("clear", .bool true)] [[("x", .int 4), ("y", .int 5)], [("app_id", .int 66)]] with
     | .ok nk => (match bind mc_sdram_alloc [.int 8, .int 1] nk with
                  | .ok b => (wireB genBody sigs "MachineController" wireFuel "sdram_alloc" b
                                [[("x", .int 4), ("y", .int 5)], [("app_id", .int 66)]]).length
                  | .error _ => 0)
     | .error _ => 0) = 5 := by decide +kernel

/-- an unclassified send fails the rule (the marker is not vacuous) -/
example : ruleOk mc_read ⟨.scp, none, none, none, some none⟩ = false := by decide +kernel

end Rig.C18
