/-
C11 - link tables: `from_vector` across wrap-around, `links_between` as a filter.
-/
import RigModel.Model.C11

namespace Rig.C11

def normWrap (x : Int) : Int := if x.natAbs > 1 then (if x > 0 then -1 else 1) else x

theorem fromVector_norm (x y : Int) : fromVector x y = lookupDir (normWrap x, normWrap y) := rfl

theorem normWrap_step (a d w : Int) (ha : 0 ≤ a) (haw : a < w) (hw : 3 ≤ w) (hd : d = -1 ∨ d = 0 ∨ d = 1) :
    normWrap ((a + d) % w - a) = d := by
  rcases hd with rfl | rfl | rfl
  · by_cases h0 : a = 0
    · subst h0
      rw [← Int.add_emod_right, Int.emod_eq_of_lt (by omega) (by omega)]
      simp only [normWrap]; omega
    · rw [Int.emod_eq_of_lt (by omega) (by omega)]
      simp only [normWrap]; omega
  · rw [Int.add_zero, Int.emod_eq_of_lt ha haw]
    simp [normWrap]
  · by_cases h0 : a + 1 = w
    · rw [h0, Int.emod_self]
      simp only [normWrap]; omega
    · rw [Int.emod_eq_of_lt (by omega) (by omega)]
      simp only [normWrap]; omega

theorem toVector_spec : ∀ l ∈ [0, 1, 2, 3, 4, 5], toVector l = specVec l ∧ (specVec l).isSome = true := by decide

def lbFilter (a b : P2) (m : Mach) (l : Nat) : Bool :=
  match specVec l with
  | some d => (stepTo (some m.w) (some m.h) a d == b) && m.hasLink a l
  | none => false

theorem lb_foldr (a b : P2) (m : Mach) (ls : List Nat)
    (hall : ∀ l ∈ ls, toVector l = specVec l ∧ (specVec l).isSome = true) :
    ls.foldr (fun l acc =>
      match toVector l, acc with
      | some d, some acc =>
        if pyMod (a.1 + d.1) m.w = b.1 ∧ pyMod (a.2 + d.2) m.h = b.2 ∧ m.hasLink a l = true
        then some (l :: acc) else some acc
      | _, _ => none) (some []) = some (ls.filter (lbFilter a b m)) := by
  induction ls with
  | nil => rfl
  | cons l t ih =>
    have ht := ih (fun l hl => hall l (List.mem_cons_of_mem _ hl))
    obtain ⟨h1, h2⟩ := hall l (List.mem_cons_self ..)
    rw [List.foldr_cons, ht, h1]
    cases hs : specVec l with
    | none => simp [hs] at h2
    | some d =>
      simp only [List.filter_cons, lbFilter, hs, stepTo, wrap]
      obtain ⟨bx, by'⟩ := b
      by_cases c1 : pyMod (a.1 + d.1) m.w = bx <;> by_cases c2 : pyMod (a.2 + d.2) m.h = by' <;>
        cases m.hasLink a l <;> simp [c1, c2]

end Rig.C11
