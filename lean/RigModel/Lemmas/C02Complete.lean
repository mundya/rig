/-
C02 - the quantities of the completeness theorems under the unit-demand hypothesis: the total free amount of the one
resource in use and the demand still to be placed, how placing a vertex and reordering change them.
-/
import RigModel.Lemmas.C02Flat
import RigModel.Lemmas.Lists

namespace Rig.C02

def UnitDem (r0 : Nat) (d : Res) : Prop := (∀ i, i ≠ r0 → dem d i = 0) ∧ (dem d r0 = 0 ∨ dem d r0 = 1)

/-- total free amount of resource `r0` on the listed chips -/
def total (m : Machine) (chips : List Chip) (r0 : Nat) : Int := (chips.map fun c => dem (cap m c) r0).sum

theorem UnitDem.nonneg {r0 : Nat} {d : Res} (hu : UnitDem r0 d) (i : Nat) : 0 ≤ dem d i := by
  by_cases e : i = r0
  · subst e; rcases hu.2 with h | h <;> rw [h] <;> decide
  · rw [hu.1 i e]; decide

theorem fits_of_unit {m : Machine} {c : Chip} {d : Res} {r0 : Nat} (hc : m.ok c = true) (hnn : NonNegCap m)
    (hu : UnitDem r0 d) (h : dem d r0 = 0 ∨ 1 ≤ dem (cap m c) r0) : over (sub (cap m c) d) = false := by
  rw [over_false_iff]
  intro i hi
  rw [sub_length] at hi
  rw [dem_sub hi]
  have := hnn c hc i
  refine Int.sub_nonneg_of_le ?_
  by_cases e : i = r0
  · subst e
    rcases h with h | h
    · rw [h]; exact this
    · rcases hu.2 with h0 | h1
      · rw [h0]; exact this
      · rw [h1]; exact h
  · rw [hu.1 i e]; exact this

theorem unit_over {m : Machine} {c : Chip} {d : Res} {r0 : Nat} (hc : m.ok c = true) (hnn : NonNegCap m)
    (hu : UnitDem r0 d) (h : over (sub (cap m c) d) = true) : dem d r0 = 1 ∧ dem (cap m c) r0 = 0 := by
  have h0 := hnn c hc r0
  have hfit := mt (fits_of_unit hc hnn hu) (by rw [h]; nofun)
  rcases hu.2 with h1 | h1
  · exact absurd (.inl h1) hfit
  · exact ⟨h1, by omega⟩

theorem sum_zero (f : Chip → Int) : ∀ (chips : List Chip), (∀ c ∈ chips, f c = 0) → (chips.map f).sum = 0
  | [], _ => rfl
  | c :: t, h => by
    rw [List.map_cons, List.sum_cons, h c List.mem_cons_self,
      sum_zero f t fun x hx => h x (List.mem_cons_of_mem _ hx)]
    rfl

theorem total_cons (m : Machine) (c : Chip) (t : List Chip) (r0 : Nat) :
    total m (c :: t) r0 = dem (cap m c) r0 + total m t r0 := rfl

theorem total_perm (m : Machine) (r0 : Nat) {l1 l2 : List Chip} (h : l1.Perm l2) :
    total m l1 r0 = total m l2 r0 :=
  Lists.perm_sum _ h

theorem total_set {m m' : Machine} {c : Chip} {d : Res} {r0 : Nat} {chips : List Chip}
    (hs : m.set c (sub (cap m c) d) = some m') (hd : 0 ≤ dem d r0) (hc : c ∈ chips) (hnd : chips.Nodup) :
    total m chips r0 - dem d r0 ≤ total m' chips r0 := by
  obtain ⟨_, _, _, _, _, hcap⟩ := Machine.set_some hs
  have hp := List.perm_cons_erase hc
  have hrest : total m' (chips.erase c) r0 = total m (chips.erase c) r0 :=
    congrArg List.sum (List.map_congr_left fun x hx => by rw [hcap x, if_neg (hnd.mem_erase_iff.1 hx).1.symm])
  rw [total_perm m r0 hp, total_perm m' r0 hp, total_cons, total_cons, hrest, hcap c, if_pos rfl]
  by_cases hi : r0 < (cap m c).length
  · rw [dem_sub hi]; omega
  · rw [dem_ge_length (sub (cap m c) d) r0 (by rw [sub_length]; omega), dem_ge_length (cap m c) r0 (by omega)]
    omega

/-- demand for `r0` of the vertices of `vs` that are not fixed by a location constraint -/
def needOf (fixed : Placement) (vr : VR) (r0 : Nat) : List Vtx → Int
  | [] => 0
  | v :: vs => (if (aget fixed v).isSome then 0 else dem ((aget vr v).getD []) r0) + needOf fixed vr r0 vs

theorem needOf_cons {fixed : Placement} {vr : VR} {r0 : Nat} {v : Vtx} {d : Res} (vs : List Vtx)
    (hd : aget vr v = some d) :
    needOf fixed vr r0 (v :: vs) = (if (aget fixed v).isSome then 0 else dem d r0) + needOf fixed vr r0 vs := by
  simp only [needOf, hd, Option.getD_some]

theorem needOf_nonneg (fixed : Placement) (vr : VR) (r0 : Nat) : ∀ (vs : List Vtx),
    (∀ v ∈ vs, ∃ d, aget vr v = some d ∧ UnitDem r0 d) → 0 ≤ needOf fixed vr r0 vs
  | [], _ => Int.le_refl _
  | v :: t, h => by
    obtain ⟨d, hd, hu⟩ := h v List.mem_cons_self
    rw [needOf_cons t hd]
    refine Int.add_nonneg ?_ (needOf_nonneg fixed vr r0 t fun x hx => h x (List.mem_cons_of_mem _ hx))
    split
    · exact Int.le_refl 0
    · exact hu.nonneg r0

theorem needOf_perm (fixed : Placement) (vr : VR) (r0 : Nat) {l1 l2 : List Vtx} (h : l1.Perm l2) :
    needOf fixed vr r0 l1 = needOf fixed vr r0 l2 := by
  induction h with
  | nil => rfl
  | cons x _ ih => simp only [needOf, ih]
  | swap x y l => exact Int.add_left_comm ..
  | trans _ _ ih1 ih2 => exact ih1.trans ih2

theorem needOf_filter (fixed : Placement) (vr : VR) (r0 : Nat) : ∀ (l : List Vtx),
    needOf fixed vr r0 l = needOf [] vr r0 (l.filter fun v => !(aget fixed v).isSome) := by
  intro l
  induction l with
  | nil => rfl
  | cons v t ih =>
    simp only [needOf, List.filter_cons]
    cases hx : (aget fixed v).isSome with
    | true => simp [ih]
    | false => simp [needOf, aget, ih]

theorem unitDem_of {vr : VR} {r0 : Nat} {v : Vtx} {vs : List Vtx} {d : Res}
    (hunit : ∀ u ∈ v :: vs, ∃ d, aget vr u = some d ∧ UnitDem r0 d) (hd : aget vr v = some d) :
    UnitDem r0 d := by
  obtain ⟨d', hd', hu⟩ := hunit v List.mem_cons_self
  cases hd.symm.trans hd'
  exact hu

theorem total_cover (m : Machine) (r0 : Nat) (l : List Chip) (hnd : l.Nodup)
    (hmem : ∀ c, c ∈ l ↔ m.ok c = true) : total m l r0 = total m m.chips r0 :=
  total_perm m r0 ((List.perm_ext_iff_of_nodup hnd (chips_nodup m)).2
    (fun c => (hmem c).trans (mem_chips_iff m c).symm))

end Rig.C02
