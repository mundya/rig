/-
C19 - SpiNN-5 board geometry functions agree with the board tiling.

The independent description (hand-written in RigModel/Model/C19.lean):
  board    `InBoard b`  :  0 ≤ x,y ≤ 7, x - y ≤ 4, y - x ≤ 3           (48 chips)
  lattice  `IsEth p`    :  p ∈ {(0,0), (4,8), (8,4)} + 12 Z²
  `IsEthAt root e`      :  e - root is a lattice point
  `OnBoard root e c`    :  e is an Ethernet chip and c - e is a board chip
The tables `ethOffset`, `fpgaLinks`, `ethTriple`, `links` are regenerated from
rig/geometry.py and rig/links.py on every run (RigModel/Gen/Spinn5.lean).
-/
import Mathlib.Data.Nat.Sqrt
import RigModel.Lemmas.Assoc
import RigModel.Lemmas.C19

namespace Rig.C19
open Rig.Gen.Spinn5

theorem table_shape : ethOffset.length = 12 ∧ ∀ row ∈ ethOffset, row.length = 12 := by
  decide

theorem table_cells (i j : Int) (hi : 0 ≤ i ∧ i < 12) (hj : 0 ≤ j ∧ j < 12) :
    ∃ d, offAt i j = .ok d ∧ IsEth (i + d.1, j + d.2) ∧ InBoard (-d.1, -d.2) := by
  have h := cells_ok i.toNat (by omega) j.toNat (by omega)
  unfold cellOk at h
  rw [Int.toNat_of_nonneg hi.1, Int.toNat_of_nonneg hj.1] at h
  split at h
  · rename_i d hd
    exact ⟨d, hd, by simpa using h⟩
  · cases h

theorem board_has_48_chips : boardChips.length = 48 ∧ ∀ b, b ∈ boardChips ↔ InBoard b :=
  ⟨by decide +kernel, mem_boardChips⟩

/-- `Links`: values 0..5, `to_vector` is the documented direction, `opposite` is `(l+3)%6`
and reverses the vector -/
theorem links_documented : links.map (·.2.1) = [0, 1, 2, 3, 4, 5] ∧
    (∀ l ∈ [(0 : Int), 1, 2, 3, 4, 5], linkVec l = dirVec l) ∧
    (∀ e ∈ links, e.2.2.2 = (e.2.1 + 3) % 6 ∧ linkVec e.2.2.2 = some (-e.2.2.1.1, -e.2.2.1.2)) := by
  decide +kernel

/-- the literal iterated by `spinn5_eth_coords` is the lattice basis (in any order) -/
theorem eth_triple_documented : ethTriple.Perm [(0, 0), (4, 8), (8, 4)] := by decide

/-- a chip lies on at most one board, for every root -/
theorem tile_unique (root e e' c : Pt) (h1 : OnBoard root e c) (h2 : OnBoard root e' c) : e = e' := by
  have := decomp_unique h1.1 h2.1 h1.2 h2.2 (by dsimp only; omega) (by dsimp only; omega)
  rw [Prod.mk.injEq] at this
  exact Prod.ext (by omega) (by omega)

theorem chipCoord_spec (x y rx ry : Int) :
    ∃ b, chipCoord x y rx ry = .ok b ∧ InBoard b ∧ IsEthAt (rx, ry) (x - b.1, y - b.2) := by
  have h12 : (0 : Int) < 12 := by decide
  obtain ⟨d, hd, he, hb⟩ := table_cells ((x - rx) % 12) ((y - ry) % 12)
    ⟨Int.emod_nonneg _ (by decide), Int.emod_lt_of_pos _ h12⟩ ⟨Int.emod_nonneg _ (by decide), Int.emod_lt_of_pos _ h12⟩
  refine ⟨(-d.1, -d.2), ?_, hb, (isEth_congr ?_ ?_).1 he⟩
  · simp only [chipCoord, pymod_pos _ h12, hd, bind, Except.bind]
  · exact (Int.emod_add_emod _ _ _).trans (congrArg (· % 12) (by dsimp only; omega))
  · exact (Int.emod_add_emod _ _ _).trans (congrArg (· % 12) (by dsimp only; omega))

theorem localEthCoord_of_chipCoord {x y rx ry : Int} {b : Pt} (hb : chipCoord x y rx ry = .ok b)
    {w h : Int} (hw : 0 < w) (hh : 0 < h) :
    localEthCoord x y w h rx ry = .ok ((x - b.1) % w, (y - b.2) % h) := by
  unfold chipCoord at hb
  unfold localEthCoord
  cases hd : offAt (pymod (x - rx) 12) (pymod (y - ry) 12) with
  | error e => rw [hd] at hb; cases hb
  | ok d =>
    rw [hd] at hb
    cases hb
    simp only [bind, Except.bind, pymod_pos _ hw, pymod_pos _ hh, Int.ne_of_gt hw, Int.ne_of_gt hh, if_false,
      Int.sub_neg]

theorem fpgaLink_at {rx ry x y : Int} {b : Pt} (hb : InBoard b) (he : IsEthAt (rx, ry) (x - b.1, y - b.2)) (l : Int) :
    fpgaLink x y l rx ry = .ok (fpgaLinks.lookup (b.1, b.2, l)) := by
  obtain ⟨b', hc, hb', he'⟩ := chipCoord_spec x y rx ry
  cases offset_unique (rx, ry) (x, y) b b' hb hb' he he'
  simp only [fpgaLink, hc, bind, Except.bind]

/-- `spinn5_chip_coord` returns the chip's offset `b` from an Ethernet chip whose board
contains the chip: "the reported on-board coordinate is its offset from that chip" -/
theorem chip_coord_is_offset (x y rx ry : Int) :
    ∃ b, chipCoord x y rx ry = .ok b ∧ OnBoard (rx, ry) (x - b.1, y - b.2) (x, y) := by
  obtain ⟨b, h, hb, he⟩ := chipCoord_spec x y rx ry
  exact ⟨b, h, onBoard_sub.2 ⟨he, hb⟩⟩

/-- every chip lies on some board, for every root -/
theorem tile_cover (root c : Pt) : ∃ e, OnBoard root e c := by
  obtain ⟨b, _, hb, he⟩ := chipCoord_spec c.1 c.2 root.1 root.2
  exact ⟨_, onBoard_sub.2 ⟨he, hb⟩⟩

/-- **Main.** For all chips, roots and positive widths/heights (ragged included) both
functions succeed and satisfy the specification `SpecLocal`. -/
theorem local_eth_spec (x y w h rx ry : Int) (hw : 0 < w) (hh : 0 < h) :
    ∃ e b, localEthCoord x y w h rx ry = .ok e ∧ chipCoord x y rx ry = .ok b ∧
      SpecLocal (rx, ry) (x, y) w h e b := by
  obtain ⟨b, hc, hb, he⟩ := chipCoord_spec x y rx ry
  exact ⟨_, b, localEthCoord_of_chipCoord hc hw hh, hc, hb, he, rfl, rfl⟩

/-- the specification determines both answers (so it is a complete oracle) -/
theorem spec_local_unique (root c : Pt) (w h : Int) (e b e' b' : Pt)
    (h1 : SpecLocal root c w h e b) (h2 : SpecLocal root c w h e' b') : e = e' ∧ b = b' := by
  obtain ⟨hb, he, e1, e2⟩ := h1
  obtain ⟨hb', he', e1', e2'⟩ := h2
  cases offset_unique root c b b' hb hb' he he'
  exact ⟨Prod.ext (e1.trans e1'.symm) (e2.trans e2'.symm), rfl⟩

/-- the oracle used on `spinn5_local_eth_coord` alone: some board chip `b` makes `SpecLocal` true
(by `spec_local_unique` it is the one `spinn5_chip_coord` must report) -/
theorem spec_local_e_iff (root c : Pt) (w h : Int) (e : Pt) :
    SpecLocalE root c w h e ↔ ∃ b, SpecLocal root c w h e b := by
  constructor
  · rintro ⟨b, _, hs⟩; exact ⟨b, hs⟩
  · rintro ⟨b, hs⟩; exact ⟨b, (mem_boardChips b).2 hs.1, hs⟩

/-- **Torus statement** (`w`, `h` positive multiples of 12): the reported chip is an
Ethernet chip of the machine and chip = Ethernet chip + on-board coordinate on the torus. -/
theorem local_eth_torus (root c : Pt) (w h : Int) (e b : Pt) (hw : 0 < w) (hh : 0 < h)
    (hw12 : w % 12 = 0) (hh12 : h % 12 = 0) (hs : SpecLocal root c w h e b) :
    IsEthAt root e ∧ 0 ≤ e.1 ∧ e.1 < w ∧ 0 ≤ e.2 ∧ e.2 < h ∧ InBoard b ∧
      (e.1 + b.1) % w = c.1 % w ∧ (e.2 + b.2) % h = c.2 % h := by
  obtain ⟨ex, ey⟩ := e
  obtain ⟨hb, he, e1, e2⟩ := hs
  simp only at e1 e2
  subst e1 e2
  refine ⟨(isEth_congr (emod12_of_emod hw12 (Int.emod_emod ..) _) (emod12_of_emod hh12 (Int.emod_emod ..) _)).2 he,
    Int.emod_nonneg _ (Int.ne_of_gt hw), Int.emod_lt_of_pos _ hw, Int.emod_nonneg _ (Int.ne_of_gt hh),
    Int.emod_lt_of_pos _ hh, hb, ?_, ?_⟩ <;> rw [Int.emod_add_emod, Int.sub_add_cancel]

set_option linter.unusedVariables false in -- `hw`, `hh` follow from `hx`, `hy`
/-- ... and it is the only Ethernet chip of the machine whose board contains the chip. -/
theorem local_eth_torus_unique (root c : Pt) (w h : Int) (e b e' b' : Pt) (hw : 0 < w) (hh : 0 < h)
    (hw12 : w % 12 = 0) (hh12 : h % 12 = 0) (hs : SpecLocal root c w h e b)
    (he' : IsEthAt root e') (hx : 0 ≤ e'.1 ∧ e'.1 < w) (hy : 0 ≤ e'.2 ∧ e'.2 < h) (hb' : InBoard b')
    (c1 : (e'.1 + b'.1) % w = c.1 % w) (c2 : (e'.2 + b'.2) % h = c.2 % h) : e' = e ∧ b' = b := by
  obtain ⟨hb, he, e1, e2⟩ := hs
  -- `e' ≡ c - b'` modulo `w`, `h`, hence modulo 12: `c - b'` is a lattice point and `b' = b`
  have k1 := emod_of_add_emod c1
  have k2 := emod_of_add_emod c2
  have hE : IsEthAt root (c.1 - b'.1, c.2 - b'.2) :=
    (isEth_congr (emod12_of_emod hw12 k1 _) (emod12_of_emod hh12 k2 _)).1 he'
  cases offset_unique root c b' b hb' hb hE he
  rw [Int.emod_eq_of_lt hx.1 hx.2, ← e1] at k1
  rw [Int.emod_eq_of_lt hy.1 hy.2, ← e2] at k2
  exact ⟨Prod.ext k1 k2, rfl⟩

/-- **Ragged sizes**: whenever the board's Ethernet chip lies inside the machine the
answer is that chip itself (no reduction happens); otherwise it is reduced mod `w`, `h`
(that is `SpecLocal`). -/
theorem local_eth_no_wrap (root c : Pt) (w h : Int) (e b : Pt) (hs : SpecLocal root c w h e b)
    (hx : 0 ≤ c.1 - b.1 ∧ c.1 - b.1 < w) (hy : 0 ≤ c.2 - b.2 ∧ c.2 - b.2 < h) :
    e = (c.1 - b.1, c.2 - b.2) ∧ OnBoard root e c := by
  obtain ⟨hb, he, e1, e2⟩ := hs
  rw [Int.emod_eq_of_lt hx.1 hx.2] at e1
  rw [Int.emod_eq_of_lt hy.1 hy.2] at e2
  cases (Prod.ext e1 e2 : e = (c.1 - b.1, c.2 - b.2))
  exact ⟨rfl, onBoard_sub.2 ⟨he, hb⟩⟩

theorem isEth_iff_mem (p : Pt) : IsEth p ↔ (p.1 % 12, p.2 % 12) ∈ ethTriple := by
  simp only [eth_triple_documented.mem_iff, IsEth, List.mem_cons, Prod.mk.injEq, List.not_mem_nil, or_false]

/-- **Main.** For all widths, heights (ragged, zero and negative included) and all roots a
point is listed iff it lies in the machine and is a lattice point for this root. -/
theorem eth_coords_mem (width height rx ry : Int) (p : Pt) :
    p ∈ ethCoords width height rx ry ↔
      0 ≤ p.1 ∧ p.1 < width ∧ 0 ≤ p.2 ∧ p.2 < height ∧ IsEthAt (rx, ry) p := by
  simp only [ethCoords, List.mem_flatMap, List.mem_filterMap, Option.ite_none_right_eq_some, Option.some.injEq,
    Prod.ext_iff, pymod_pos _ (show (0 : Int) < 12 by decide), Int.emod_emod, IsEthAt, isEth_iff_mem]
  have hW12 := Int.mul_emod_left ((width + 11) / 12) 12
  have hH12 := Int.mul_emod_left ((height + 11) / 12) 12
  constructor
  · rintro ⟨x, hx, y, hy, d, hd, ⟨h1, h2⟩, e1, e2⟩
    obtain ⟨hd1, hd2⟩ := ethTriple_lt d hd
    obtain ⟨a0, _, _, a1⟩ := (dim1 _ _ hW12 hx hd1).1 e1
    obtain ⟨b0, _, _, b1⟩ := (dim1 _ _ hH12 hy hd2).1 e2
    rw [Int.sub_emod_emod] at a1
    exact ⟨a0, e1 ▸ h1, b0, e2 ▸ h2, by rw [← a1, ← b1]; exact hd⟩
  · rintro ⟨a0, a1, b0, b1, hd⟩
    obtain ⟨x, hx, e1⟩ := dim1_exists (r := rx % 12) hW12 a0 (by omega)
    obtain ⟨y, hy, e2⟩ := dim1_exists (r := ry) hH12 b0 (by omega)
    rw [Int.sub_emod_emod] at e1
    exact ⟨x, hx, y, hy, _, hd, ⟨by rw [e1]; exact a1, by rw [e2]; exact b1⟩, e1, e2⟩

theorem eth_coords_nodup (width height rx ry : Int) : (ethCoords width height rx ry).Nodup := by
  unfold ethCoords
  simp only []
  have hW := Int.mul_emod_left ((width + 11) / 12) 12
  have hH := Int.mul_emod_left ((height + 11) / 12) 12
  -- a yielded point determines `x`, `y` and `d`, one coordinate at a time (`dim1`)
  exact nodup_flatMap_of (range12_nodup _) (fun x hx => nodup_flatMap_of (range12_nodup _) (fun y hy => by
      rw [List.filterMap_eq_flatMap_toList]
      exact nodup_flatMap_of (eth_triple_documented.nodup_iff.2 (by decide)) (fun d _ => by split <;> simp)
        ⟨fun p => ((p.1 - _) % 12, (p.2 - _) % 12), fun d hd p hp => by
          simp only [Option.mem_toList, Option.ite_none_right_eq_some, Option.some.injEq] at hp
          have e := Prod.ext_iff.1 hp.2
          exact Prod.ext ((dim1 _ p.1 hW hx (ethTriple_lt d hd).1).1 e.1).2.2.2.symm
            ((dim1 _ p.2 hH hy (ethTriple_lt d hd).2).1 e.2).2.2.2.symm⟩)
    ⟨_, fun y hy p hp => by
      simp only [List.mem_filterMap, Option.ite_none_right_eq_some, Option.some.injEq] at hp
      obtain ⟨d, hd, _, e⟩ := hp
      exact ((dim1 _ p.2 hH hy (ethTriple_lt d hd).2).1 (congrArg Prod.snd e)).2.2.1.symm⟩)
    ⟨_, fun x hx p hp => by
      simp only [List.mem_flatMap, List.mem_filterMap, Option.ite_none_right_eq_some, Option.some.injEq] at hp
      obtain ⟨y, hy, d, hd, _, e⟩ := hp
      exact ((dim1 _ p.1 hW hx (ethTriple_lt d hd).1).1 (congrArg Prod.fst e)).2.2.1.symm⟩

/-- the (bounded, executable) oracle predicate says exactly that -/
theorem spec_eth_coords_iff (root : Pt) (width height : Int) (l : List Pt) :
    SpecEthCoords root width height l ↔
      l.Nodup ∧ ∀ p, p ∈ l ↔ 0 ≤ p.1 ∧ p.1 < width ∧ 0 ≤ p.2 ∧ p.2 < height ∧ IsEthAt root p := by
  simp only [SpecEthCoords, mem_grid]
  exact and_congr_right fun _ => ⟨fun ⟨h2, h3⟩ p => ⟨h2 p, fun ⟨a, b, c, d, e⟩ => h3 p ⟨a, b, c, d⟩ e⟩,
    fun h => ⟨fun p => (h p).1, fun p ⟨a, b, c, d⟩ e => (h p).2 ⟨a, b, c, d, e⟩⟩⟩

theorem eth_coords_spec (width height rx ry : Int) :
    SpecEthCoords (rx, ry) width height (ethCoords width height rx ry) :=
  (spec_eth_coords_iff _ _ _ _).2 ⟨eth_coords_nodup _ _ _ _, eth_coords_mem _ _ _ _⟩

/-- only the root modulo 12 matters (the source reduces `root_x` twice and `root_y` never:
the result is the same list up to order) -/
theorem eth_coords_root_mod12 (width height rx ry rx' ry' : Int)
    (hx : (rx - rx') % 12 = 0) (hy : (ry - ry') % 12 = 0) :
    (ethCoords width height rx ry).Perm (ethCoords width height rx' ry') := by
  rw [List.perm_ext_iff_of_nodup (eth_coords_nodup _ _ _ _) (eth_coords_nodup _ _ _ _)]
  intro p
  rw [eth_coords_mem, eth_coords_mem]
  have h : IsEthAt (rx, ry) p ↔ IsEthAt (rx', ry') p :=
    isEth_congr ((Int.emod_sub_cancel_left _).2 (Int.emod_eq_emod_iff_emod_sub_eq_zero.2 hx))
      ((Int.emod_sub_cancel_left _).2 (Int.emod_eq_emod_iff_emod_sub_eq_zero.2 hy))
  rw [h]

/-- a machine of whole triads lists exactly three Ethernet chips per 12 x 12 block, i.e. one
per board (`w/12 · h/12` triads of three boards) -/
theorem eth_coords_one_per_board (w h rx ry : Int) (hw : w % 12 = 0) (hh : h % 12 = 0) :
    (ethCoords w h rx ry).length = (w / 12).toNat * ((h / 12).toNat * 3) := by
  unfold ethCoords
  simp only []
  rw [show (w + 11) / 12 * 12 = w by omega, show (h + 11) / 12 * 12 = h by omega,
    length_flatMap_const _ _ ((h / 12).toNat * 3), range12_length hw]
  intro x hx
  rw [length_flatMap_const _ _ 3, range12_length hh]
  intro y hy
  rw [mem_range12 hw] at hx
  rw [mem_range12 hh] at hy
  have hwp : 0 < w := by omega
  have hhp : 0 < h := by omega
  -- nothing is filtered out
  simp only [pymod_pos _ hwp, pymod_pos _ hhp, Int.emod_lt_of_pos _ hwp, Int.emod_lt_of_pos _ hhp, and_self, if_true]
  rw [List.filterMap_eq_map', List.length_map]
  exact eth_triple_documented.length_eq

/-- the three functions agree: on a machine of whole triads the local Ethernet chip of
every chip is one of the listed Ethernet chips -/
theorem local_eth_mem_eth_coords (x y w h rx ry : Int) (e : Pt) (hw : 0 < w) (hh : 0 < h)
    (hw12 : w % 12 = 0) (hh12 : h % 12 = 0) (he : localEthCoord x y w h rx ry = .ok e) :
    e ∈ ethCoords w h rx ry := by
  obtain ⟨e', b, h1, _, hs⟩ := local_eth_spec x y w h rx ry hw hh
  rw [he] at h1
  cases h1
  obtain ⟨a1, a2, a3, a4, a5, _⟩ := local_eth_torus _ _ _ _ _ _ hw hh hw12 hh12 hs
  exact (eth_coords_mem _ _ _ _ _).2 ⟨a2, a3, a4, a5, a1⟩

/-- the table on a board chip: an entry exists iff the neighbour in that direction is not a
board chip; no entry for link numbers outside 0..5 -/
theorem fpga_table_edges (b : Pt) (hb : InBoard b) (l : Int) :
    match dirVec l with
    | some v => ((fpgaLinks.lookup (b.1, b.2, l)).isSome ↔ ¬ InBoard (b.1 + v.1, b.2 + v.2))
    | none => fpgaLinks.lookup (b.1, b.2, l) = none := by
  have h : (fpgaLinks.lookup (b.1, b.2, l)).isSome = true ↔ leaves b l = true :=
    ⟨fun h => by obtain ⟨n, hn⟩ := Option.isSome_iff_exists.1 h; exact (fpga_keys_ok _ (Assoc.mem_of_lookup hn)).2.2.2,
      fun h => fpga_leaving_ok b ((mem_boardChips b).2 hb) l
        (Classical.not_not.1 fun hm => by rw [leaves, dirVec_none hm] at h; cases h) h⟩
  unfold leaves at h
  split <;> rename_i hv <;> rw [hv] at h
  · simpa only [decide_eq_true_eq] using h
  · exact Option.not_isSome_iff_eq_none.1 fun hs => Bool.false_ne_true (h.1 hs)

/-- the table numbers the links in the order it lists them (once round the board): FPGA 1, then 2, then 0, sixteen
links each -/
theorem fpga_values : fpgaLinks.map (·.2) = [1, 2, 0].flatMap fun f => (List.range 16).map fun i => (f, i) := by
  decide +kernel

/-- the numbering: 48 entries, keys and values pairwise distinct, values in {0,1,2} x {0..15}
(hence a bijection between the board's outgoing links and the 3 x 16 FPGA links), keys on the board -/
theorem fpga_table_numbering :
    (fpgaLinks.map (·.2)).Nodup ∧ (fpgaLinks.map (·.1)).Nodup ∧
    (∀ v ∈ fpgaLinks.map (·.2), v.1 < 3 ∧ v.2 < 16) ∧ fpgaLinks.length = 48 ∧
    (∀ e ∈ fpgaLinks, InBoard (e.1.1, e.1.2.1) ∧ 0 ≤ e.1.2.2 ∧ e.1.2.2 < 6) := by
  refine ⟨?_, by decide +kernel, by decide +kernel, by decide,
    fun e he => ⟨(fpga_keys_ok e he).1, (fpga_keys_ok e he).2.1, (fpga_keys_ok e he).2.2.1⟩⟩
  rw [fpga_values]
  exact nodup_flatMap_of (by decide) (fun f _ => List.nodup_range.map fun _ _ h => (Prod.ext_iff.1 h).2)
    ⟨Prod.fst, fun f _ p hp => by obtain ⟨_, _, rfl⟩ := List.mem_map.1 hp; rfl⟩

/-- for all chips, links and roots the function succeeds and satisfies the oracle predicate -/
theorem fpga_link_spec (x y l rx ry : Int) :
    ∃ r, fpgaLink x y l rx ry = .ok r ∧ SpecFpga (rx, ry) (x, y) l r := by
  obtain ⟨b, -, hb, he⟩ := chipCoord_spec x y rx ry
  refine ⟨_, fpgaLink_at hb he l, fun b' hb' he' => ?_⟩
  cases offset_unique (rx, ry) (x, y) b b' hb ((mem_boardChips b').1 hb') he he'
  exact fpga_table_edges b hb l

/-- **Main.** A link (0..5) is reported as an FPGA link exactly when the chip and its
neighbour in that direction are not on one board - for every chip and every root. -/
theorem fpga_link_iff_leaves_board (x y l rx ry : Int) (v : Pt) (hv : dirVec l = some v) :
    ∃ r, fpgaLink x y l rx ry = .ok r ∧
      (r.isSome ↔ ¬ ∃ e, OnBoard (rx, ry) e (x, y) ∧ OnBoard (rx, ry) e (x + v.1, y + v.2)) := by
  obtain ⟨e, he, hb⟩ := tile_cover (rx, ry) (x, y)
  have ht := fpga_table_edges _ hb l
  rw [hv] at ht
  -- on the chip's own board the neighbour has offset `b + v`
  have key : x + v.1 - e.1 = x - e.1 + v.1 ∧ y + v.2 - e.2 = y - e.2 + v.2 := by omega
  refine ⟨_, fpgaLink_at hb (by simpa only [Int.sub_sub_self] using he) l, ht.trans (not_congr
    ⟨fun hin => ⟨e, ⟨he, hb⟩, he, by rw [key.1, key.2]; exact hin⟩, ?_⟩)⟩
  rintro ⟨e', h1, h2⟩
  cases tile_unique _ _ _ _ h1 ⟨he, hb⟩
  rw [← key.1, ← key.2]; exact h2.2

theorem fpga_link_on_board (rx ry : Int) (e b : Pt) (he : IsEthAt (rx, ry) e) (hb : InBoard b) (l : Int) :
    fpgaLink (e.1 + b.1) (e.2 + b.2) l rx ry = .ok (fpgaLinks.lookup (b.1, b.2, l)) :=
  fpgaLink_at hb (by simpa only [Int.add_sub_cancel] using he) l

/-- **Distinct numbers.** Two links of one board with the same (FPGA, link number) are the
same link of the same chip. -/
theorem fpga_link_distinct (x y l x' y' l' rx ry : Int) (n : Nat × Nat)
    (h1 : fpgaLink x y l rx ry = .ok (some n)) (h2 : fpgaLink x' y' l' rx ry = .ok (some n))
    (hsame : ∃ e, OnBoard (rx, ry) e (x, y) ∧ OnBoard (rx, ry) e (x', y')) :
    x = x' ∧ y = y' ∧ l = l' := by
  obtain ⟨e, ⟨he, hb⟩, _, hb'⟩ := hsame
  rw [fpgaLink_at hb (by simpa only [Int.sub_sub_self] using he) l, Except.ok.injEq] at h1
  rw [fpgaLink_at hb' (by simpa only [Int.sub_sub_self] using he) l', Except.ok.injEq] at h2
  -- the table's values are distinct, so both queries hit the same entry
  have hinj := List.inj_on_of_nodup_map fpga_table_numbering.1 (Assoc.mem_of_lookup h1) (Assoc.mem_of_lookup h2) rfl
  simp only [Prod.mk.injEq] at hinj
  omega

/-- the whole-board oracle predicate holds for the table (with `fpga_link_on_board`: for the
model's answers on every board of every machine) -/
theorem fpga_board_spec :
    SpecFpgaBoard (boardChips.flatMap fun b =>
      [(0 : Int), 1, 2, 3, 4, 5].map fun l => fpgaLinks.lookup (b.1, b.2, l)) := by
  obtain ⟨hv, hk, hlt, hlen, hon⟩ := fpga_table_numbering
  -- the queries are the lookups of 288 distinct keys, the table's 48 among them: the defined answers are the table's
  -- values, each once
  have hp := Assoc.filterMap_lookup_perm
    (ks := boardChips.flatMap fun b => [(0 : Int), 1, 2, 3, 4, 5].map fun l => (b.1, b.2, l)) hk
    (nodup_flatMap_of boardChips_nodup
      (fun b _ => (by decide : [(0 : Int), 1, 2, 3, 4, 5].Nodup).map fun _ _ h => (Prod.ext_iff.1 (Prod.ext_iff.1 h).2).2)
      ⟨fun k => (k.1, k.2.1), fun b _ _ hk => by obtain ⟨_, _, rfl⟩ := List.mem_map.1 hk; rfl⟩)
    fun e he => List.mem_flatMap.2 ⟨(e.1.1, e.1.2.1), (mem_boardChips _).2 (hon e he).1,
      List.mem_map.2 ⟨e.1.2.2, by have := (hon e he).2; simp only [List.mem_cons, List.not_mem_nil]; omega, rfl⟩⟩
  rw [List.filterMap_flatMap] at hp
  simp only [List.filterMap_map] at hp
  unfold SpecFpgaBoard
  rw [List.filterMap_flatMap]
  simp only [List.filterMap_map]
  exact ⟨hp.nodup_iff.2 hv, fun v h => hlt v (hp.mem_iff.1 h), hp.length_eq.trans ((List.length_map _).trans hlen)⟩

/-- **Main.** For `n = 3k`, `k ≥ 1` boards the result is `(12·k/h, 12·h)` satisfying `SpecStdDims`:
`h` is the largest divisor of `k` with `h² ≤ k`. -/
theorem std_dims_spec (n : Nat) (h3 : n % 3 = 0) (hn : 3 ≤ n) :
    ∃ w h : Nat, stdDims (n : Int) = .ok ((w : Int), (h : Int)) ∧ SpecStdDims n w h := by
  have hk : 1 ≤ n / 3 := by omega
  refine ⟨_, _, by
    unfold stdDims
    rw [if_neg (by omega), if_neg (by omega), pymod_pos _ (by decide), if_neg (by omega), if_neg (by omega),
      show ((n : Int) / 3).toNat = n / 3 by omega], ?_⟩
  obtain ⟨a, b, c, d⟩ := searchDown_spec (n / 3) _ (Nat.le_sqrt.2 hk)
  generalize searchDown (n / 3) (Nat.sqrt (n / 3)) = h0 at a b c d ⊢
  have hsq : h0 * h0 ≤ n / 3 := Nat.le_sqrt.1 b
  simp only [SpecStdDims, Nat.mul_div_cancel _ (by decide : 0 < 12)]
  exact ⟨Nat.mul_mod_left _ _, Nat.mul_mod_left _ _, Nat.div_mul_cancel (Nat.dvd_of_mod_eq_zero c),
    Nat.mul_le_mul_right 12 ((Nat.le_div_iff_mul_le a).2 hsq),
    fun e _ hmod hsq' => Nat.le_of_not_lt fun hlt => d e hlt (Nat.le_sqrt.2 hsq') hmod⟩

/-- `SpecStdDims` means squarest: every other factorisation of the triads into
`a x b`, `b ≤ a`, is at least as wide and at most as tall; and the system has 48 chips per board -/
theorem std_dims_squarest (n w h : Nat) (hs : SpecStdDims n w h) (h3 : n % 3 = 0) (hn : 3 ≤ n) :
    (∀ a b : Nat, a * b = n / 3 → b ≤ a → b ≤ h / 12 ∧ w / 12 ≤ a) ∧ w * h = 48 * n := by
  obtain ⟨hw, hh, hmul, hle, hmax⟩ := hs
  refine ⟨fun a b hab hba => ?_, ?_⟩
  · have hbpos : 0 < b := Nat.pos_of_ne_zero fun h0 => by subst h0; omega
    have hb1 : b ≤ h / 12 :=
      hmax b (by have := Nat.le_mul_of_pos_left b (Nat.lt_of_lt_of_le hbpos hba); omega)
        (hab ▸ Nat.mul_mod_left a b) (hab ▸ Nat.mul_le_mul_right b hba)
    refine ⟨hb1, Nat.le_of_not_lt fun hlt => ?_⟩
    -- otherwise `a·b ≤ a·(h/12) < (w/12)·(h/12)`
    have h1 := Nat.mul_le_mul_left a hb1
    have h2 := Nat.mul_lt_mul_of_pos_right hlt (Nat.lt_of_lt_of_le hbpos hb1)
    omega
  · rw [show w = 12 * (w / 12) by omega, show h = 12 * (h / 12) by omega, Nat.mul_mul_mul_comm, hmul]
    omega

/-- the cheap form of the oracle used for huge board counts is the same predicate -/
theorem spec_std_dims_fast_iff (n w h : Nat) : SpecStdDimsFast n w h ↔ SpecStdDims n w h := by
  unfold SpecStdDimsFast SpecStdDims
  rw [noDivFrom_iff]
  refine and_congr_right fun _ => and_congr_right fun _ => and_congr_right fun _ => and_congr_right fun _ => ⟨?_, ?_⟩
  · intro e x _ hmod hsq
    have := Nat.le_sqrt.2 hsq
    exact Nat.le_of_not_lt fun hlt => e x hlt (by omega) hmod
  · intro e x h1 h2 hmod
    have hsq := Nat.le_sqrt.1 (show x ≤ Nat.sqrt (n / 3) by omega)
    have := e x (by have := Nat.le_mul_self x; omega) hmod hsq
    omega

/-- special cases and errors: 0 ↦ (0,0), 1 ↦ (8,8), other non-multiples of 3 and negative
counts raise ValueError -/
theorem std_dims_errors :
    stdDims 0 = .ok (0, 0) ∧ stdDims 1 = .ok (8, 8) ∧
    (∀ n : Int, n % 3 ≠ 0 → n ≠ 1 → stdDims n = .error .valueError) ∧
    (∀ n : Int, n < 0 → stdDims n = .error .valueError) := by
  refine ⟨by decide, by decide, ?_, ?_⟩
  · intro n h3 h1
    unfold stdDims
    rw [if_neg (by omega), if_neg h1, pymod_pos _ (by omega), if_pos h3]
  · intro n hn
    unfold stdDims
    rw [if_neg (by omega), if_neg (by omega)]
    split <;> rfl

/-! Non-vacuity: the hypotheses are satisfiable by non-trivial instances, and the
totalised definitions do not make the statements true for the wrong reason -/

-- a chip next to a board corner, non-zero root, 24 x 12 machine: Ethernet chip wraps around
example : localEthCoord 1 7 24 12 5 6 = .ok (21, 2) ∧ chipCoord 1 7 5 6 = .ok (4, 5) ∧
    SpecLocal (5, 6) (1, 7) 24 12 (21, 2) (4, 5) := by decide +kernel
-- SpecLocal is not trivially true
example : ¬ SpecLocal (5, 6) (1, 7) 24 12 (9, 2) (4, 5) ∧ ¬ SpecLocal (5, 6) (1, 7) 24 12 (21, 2) (4, 4) := by decide +kernel
example : ¬ SpecLocal (0, 0) (5, 0) 12 12 (0, 0) (5, 0) := by decide +kernel
-- OnBoard: (5,0) is not on the board of (0,0) (x - y = 5), it is on the board of (4,-4)
example : ¬ OnBoard (0, 0) (0, 0) (5, 0) ∧ OnBoard (0, 0) (4, -4) (5, 0) := by decide +kernel
-- a single 8 x 8 board (ragged): every board chip's Ethernet chip is (0,0) without reduction
example : localEthCoord 7 7 8 8 0 0 = .ok (0, 0) ∧ localEthCoord 4 0 8 8 0 0 = .ok (0, 0) := by decide +kernel
-- eth_coords with a root: the source's un-reduced root_y
example : (ethCoords 24 12 5 30).Perm [(5, 6), (9, 2), (13, 10), (17, 6), (21, 2), (1, 10)] := by decide +kernel
example : SpecEthCoords (5, 30) 24 12 [(5, 6), (9, 2), (13, 10), (17, 6), (21, 2), (1, 10)] := by decide +kernel
example : ¬ SpecEthCoords (5, 30) 24 12 [(5, 6), (9, 2), (13, 10), (17, 6), (21, 2)] := by decide +kernel
example : ¬ SpecEthCoords (5, 30) 24 12 [(5, 6), (9, 2), (13, 10), (17, 6), (21, 2), (1, 10), (0, 0)] := by decide +kernel
-- FPGA links: (0,0) west leaves the board, (0,0) east does not
-- (stated without the concrete numbers, which the property does not fix)
example : (fpgaLink 0 0 3 0 0).toOption.bind id ≠ none ∧ fpgaLink 0 0 0 0 0 = .ok none ∧
    fpgaLink 12 12 3 0 0 = fpgaLink 0 0 3 0 0 ∧ fpgaLink 5 6 3 5 6 = fpgaLink 0 0 3 0 0 ∧
    fpgaLink 0 0 4 0 0 ≠ fpgaLink 0 0 3 0 0 := by decide +kernel
example : dirVec 3 = some (-1, 0) ∧ SpecFpga (0, 0) (0, 0) 3 (some (1, 1)) ∧ ¬ SpecFpga (0, 0) (0, 0) 3 none ∧
    ¬ SpecFpga (0, 0) (0, 0) 0 (some (1, 1)) := by decide +kernel
example : ∃ e, OnBoard (0, 0) e (1, 1) ∧ OnBoard (0, 0) e (7, 7) := ⟨(0, 0), by decide +kernel⟩
example : stdDims 24 = .ok (48, 24) ∧ SpecStdDims 24 48 24 ∧ ¬ SpecStdDims 24 96 12 ∧ ¬ SpecStdDims 24 24 48 ∧
    ¬ SpecStdDims 24 48 12 := by decide +kernel
example : SpecStdDimsFast 24 48 24 ∧ ¬ SpecStdDimsFast 24 96 12 ∧ ¬ SpecStdDimsFast 24 24 48 := by decide +kernel
example : stdDims 3 = .ok (12, 12) ∧ stdDims 1200 = .ok (240, 240) ∧ stdDims 21 = .ok (84, 12) := by decide +kernel

end Rig.C19
