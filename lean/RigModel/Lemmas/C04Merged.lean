/-
C04 - the merged key/mask of `_Merge.__new__`, position by position; `kmMatches` / `Hit` (a key/mask list matches a
key) and `members`.
-/
import RigModel.Lemmas.C04
import RigModel.Lemmas.Bits

namespace Rig.C04

def kmMatches (a : KM) (k : W) : Bool := k &&& a.2 == a.1

theorem kmMatches_iff {a : KM} {k : W} : kmMatches a k = true ↔ k &&& a.2 = a.1 := beq_iff_eq

theorem kmMatches_km (e : Entry) (k : W) : kmMatches e.km k = e.matches k := rfl

def Hit (k : W) (v : List KM) : Prop := ∃ a ∈ v, kmMatches a k = true

theorem Hit.mono {k : W} {v w : List KM} (h : Hit k v) (hs : ∀ x ∈ v, x ∈ w) : Hit k w :=
  let ⟨a, ha, hk⟩ := h
  ⟨a, hs a ha, hk⟩

theorem sources_subset_allSources {ms : List Entry} {e : Entry} (h : e ∈ ms) :
    bitSubset e.sources (allSources ms) = true :=
  bitSubset_iff.mpr fun i hi => by
    rw [allSources, Bits.testBit_foldl_or, Nat.zero_testBit, Bool.false_or]
    exact List.any_eq_true.mpr ⟨e, h, hi⟩

/-! Read as a string over 0, 1, X, the merged key/mask has a definite value at a position exactly
where all members have that same definite value, and X everywhere else. -/

theorem foldl_and_bit (f : Entry → W) (ms : List Entry) (acc : W) (i : Nat) :
    (ms.foldl (fun a e => a &&& f e) acc).getLsbD i =
      (acc.getLsbD i && ms.all (fun e => (f e).getLsbD i)) := by
  induction ms generalizing acc with
  | nil => rw [List.foldl_nil, List.all_nil, Bool.and_true]
  | cons e r ih => rw [List.foldl_cons, ih, BitVec.getLsbD_and, List.all_cons, Bool.and_assoc]

theorem foldl_or_bit (f : Entry → W) (ms : List Entry) (acc : W) (i : Nat) :
    (ms.foldl (fun a e => a ||| f e) acc).getLsbD i = (acc.getLsbD i || ms.any fun e => (f e).getLsbD i) := by
  induction ms generalizing acc with
  | nil => rw [List.foldl_nil, List.any_nil, Bool.or_false]
  | cons e r ih => rw [List.foldl_cons, ih, BitVec.getLsbD_or, List.any_cons, Bool.or_assoc]

theorem ff_bit : ∀ i, i < 32 → (0xffffffff : W).getLsbD i = true := by decide

theorem allOnes_bit (ms : List Entry) {i : Nat} (hi : i < 32) :
    (allOnes ms).getLsbD i = ms.all (fun e => e.key.getLsbD i) := by
  rw [allOnes, foldl_and_bit (·.key), ff_bit i hi, Bool.true_and]

theorem allSelected_bit (ms : List Entry) {i : Nat} (hi : i < 32) :
    (allSelected ms).getLsbD i = ms.all (fun e => e.mask.getLsbD i) := by
  rw [allSelected, foldl_and_bit (·.mask), ff_bit i hi, Bool.true_and]

theorem anyOnes_bit (ms : List Entry) (i : Nat) :
    (anyOnes ms).getLsbD i = ms.any (fun e => e.key.getLsbD i) := by
  rw [anyOnes, foldl_or_bit (·.key), show (0 : W) = 0#32 from rfl, BitVec.getLsbD_zero, Bool.false_or]

theorem mergedMask_bit (ms : List Entry) {i : Nat} (hi : i < 32) :
    (mergedMask ms).getLsbD i = (ms.all (fun e => e.mask.getLsbD i) &&
      (ms.any (fun e => e.key.getLsbD i) == ms.all (fun e => e.key.getLsbD i))) := by
  simp only [mergedMask, BitVec.getLsbD_and, BitVec.getLsbD_xor, BitVec.getLsbD_not, hi, decide_true,
    Bool.true_and, allOnes_bit ms hi, allSelected_bit ms hi, anyOnes_bit]
  cases ms.any (fun e => e.key.getLsbD i) <;> cases ms.all (fun e => e.key.getLsbD i) <;> rfl

theorem merged_bit_of {ms : List Entry} {i : Nat} (hi : i < 32)
    (h : (mergedMask ms).getLsbD i = true) {e : Entry} (he : e ∈ ms) :
    e.mask.getLsbD i = true ∧ e.key.getLsbD i = (mergedKey ms).getLsbD i := by
  have hK : (mergedKey ms).getLsbD i = ms.all (fun e => e.key.getLsbD i) := by
    rw [mergedKey, BitVec.getLsbD_and, h, Bool.and_true, allOnes_bit ms hi]
  rw [mergedMask_bit ms hi, Bool.and_eq_true, beq_iff_eq] at h
  refine ⟨List.all_eq_true.mp h.1 e he, ?_⟩
  rw [hK]
  cases hB : ms.all (fun e => e.key.getLsbD i) with
  | true => exact List.all_eq_true.mp hB e he
  | false =>
    rw [hB] at h
    exact Bool.eq_false_iff.mpr (List.any_eq_false.mp h.2 e he)

theorem mergedMask_bit_of {ms : List Entry} (hne : ms ≠ []) {i : Nat} (hi : i < 32) (c : Bool)
    (h : ∀ e ∈ ms, e.mask.getLsbD i = true ∧ e.key.getLsbD i = c) :
    (mergedMask ms).getLsbD i = true := by
  obtain ⟨x, r, rfl⟩ := List.exists_cons_of_ne_nil hne
  have hx := (h x List.mem_cons_self).2
  rw [mergedMask_bit _ hi, Bool.and_eq_true, beq_iff_eq]
  refine ⟨List.all_eq_true.mpr fun e he => (h e he).1, ?_⟩
  cases c with
  | true =>
    rw [List.all_eq_true.mpr fun e he => (h e he).2, List.any_eq_true.mpr ⟨x, List.mem_cons_self, hx⟩]
  | false =>
    rw [List.any_eq_false.mpr fun e he => Bool.eq_false_iff.mp (h e he).2,
      List.all_eq_false.mpr ⟨x, List.mem_cons_self, Bool.eq_false_iff.mp hx⟩]

theorem merged_covers {ms : List Entry} {e : Entry} {k : W} (he : e ∈ ms) (hm : e.matches k = true) :
    k &&& mergedMask ms = mergedKey ms := by
  rw [matches_iff] at hm
  apply BitVec.eq_of_getLsbD_eq
  intro i hi
  rw [BitVec.getLsbD_and]
  cases hM : (mergedMask ms).getLsbD i with
  | false => rw [mergedKey, BitVec.getLsbD_and, hM, Bool.and_false, Bool.and_false]
  | true =>
    obtain ⟨h1, h2⟩ := merged_bit_of hi hM he
    rw [← h2, ← hm, BitVec.getLsbD_and, h1]

theorem mem_members {T : List Entry} {es : List Nat} {e : Entry} :
    e ∈ members T es ↔ ∃ j ∈ es, T[j]? = some e := List.mem_filterMap

theorem members_subset {T : List Entry} {es es' : List Nat} (h : ∀ i ∈ es', i ∈ es) :
    ∀ e ∈ members T es', e ∈ members T es := fun _ he =>
  have ⟨i, hi, hT⟩ := mem_members.mp he
  mem_members.mpr ⟨i, h i hi, hT⟩

theorem members_ne_nil {T : List Entry} {es : List Nat} (h : ∃ i ∈ es, i < T.length) :
    members T es ≠ [] := by
  obtain ⟨i, hi, hlt⟩ := h
  exact List.ne_nil_of_mem (mem_members.mpr ⟨i, hi, List.getElem?_eq_getElem hlt⟩)

end Rig.C04
