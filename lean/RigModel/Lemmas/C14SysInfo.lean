/-
C14 - the system description: `get_system_info` on a P2P table and on a machine state, the views of
a description (`__contains__`, `links()`, `cores()`, dead chips and links, target lengths), and what the
`sysinfo_ok` oracle of the harness decides.
-/
import RigModel.Lemmas.C14Lists
import RigModel.Lemmas.C14Replies
import RigModel.Lemmas.C14P2P
import RigModel.Lemmas.C14Spec

namespace Rig.C14
open Rig.Gen.C14

theorem probeAll_spec (answering : Nat × Nat → Option ChipState)
    (hwf : ∀ xy st, answering xy = some st → st.WF) (table : List ((Nat × Nat) × Nat)) :
    probeAll (fun xy => (answering xy).map infoReply) table = .ok (describedChips answering table) := by
  induction table with
  | nil => rfl
  | cons e rest ih =>
    obtain ⟨xy, r⟩ := e
    simp only [probeAll, describedChips, List.filterMap_cons]
    by_cases hr : (r != P2P_NONE) = true
    · simp only [hr, if_true]
      cases ha : answering xy with
      | none => simp only [Option.map_none]; exact ih
      | some st =>
        simp only [Option.map_some, decodeInfo_infoReply st (hwf xy st ha), ih]
        rfl
    · simp only [hr]
      exact ih

theorem mem_liveEntries (table : List ((Nat × Nat) × Nat)) (e : (Nat × Nat) × Nat) :
    e ∈ liveEntries table ↔ e ∈ table ∧ e.2 ≠ P2P_NONE := by
  simp only [liveEntries, List.mem_filter, bne_iff_ne, ne_eq]

theorem systemInfo_spec (answering : Nat × Nat → Option ChipState)
    (hwf : ∀ xy st, answering xy = some st → st.WF) (table : List ((Nat × Nat) × Nat))
    (hlive : liveEntries table ≠ []) :
    systemInfo table (fun xy => (answering xy).map infoReply) =
      .ok { width := maxList ((liveEntries table).map (·.1.1)) + 1,
            height := maxList ((liveEntries table).map (·.1.2)) + 1,
            chips := describedChips answering table } := by
  have he : (List.filter (fun e => e.2 != P2P_NONE) table).isEmpty = false := by
    cases h : List.filter (fun e => e.2 != P2P_NONE) table with
    | nil => exact absurd h hlive
    | cons a t => rfl
  simp only [systemInfo, he, Bool.false_eq_true, if_false, probeAll_spec answering hwf table, liveEntries]

theorem mem_describedChips (answering : Nat × Nat → Option ChipState) (table : List ((Nat × Nat) × Nat))
    (xy : Nat × Nat) (ci : ChipInfo) :
    (xy, ci) ∈ describedChips answering table ↔
      ∃ r st, (xy, r) ∈ table ∧ r ≠ P2P_NONE ∧ answering xy = some st ∧ ci = chipView st := by
  simp only [describedChips, List.mem_filterMap]
  constructor
  · rintro ⟨⟨xy', r⟩, hmem, h⟩
    split at h
    · rename_i hr
      obtain ⟨st, ha, he⟩ := Option.map_eq_some_iff.1 h
      cases he
      exact ⟨r, st, hmem, by simpa using hr, ha, rfl⟩
    · cases h
  · rintro ⟨r, st, hmem, hr, ha, rfl⟩
    exact ⟨(xy, r), hmem, by simp [hr, ha]⟩

theorem extent_spec (table : List ((Nat × Nat) × Nat)) (hlive : liveEntries table ≠ []) :
    (∀ xy r, (xy, r) ∈ table → r ≠ P2P_NONE →
      xy.1 < maxList ((liveEntries table).map (·.1.1)) + 1 ∧ xy.2 < maxList ((liveEntries table).map (·.1.2)) + 1) ∧
    (∃ e ∈ liveEntries table, e.1.1 + 1 = maxList ((liveEntries table).map (·.1.1)) + 1) ∧
    (∃ e ∈ liveEntries table, e.1.2 + 1 = maxList ((liveEntries table).map (·.1.2)) + 1) := by
  have key : ∀ g : (Nat × Nat) × Nat → Nat,
      (∀ e ∈ liveEntries table, g e < maxList ((liveEntries table).map g) + 1) ∧
      ∃ e ∈ liveEntries table, g e + 1 = maxList ((liveEntries table).map g) + 1 := fun g => by
    obtain ⟨e, he, h⟩ := List.mem_map.1 (maxList_mem ((liveEntries table).map g) (by simpa using hlive))
    exact ⟨fun e he => Nat.lt_succ_of_le (maxList_ge _ _ (List.mem_map_of_mem he)), e, he, by rw [h]⟩
  refine ⟨fun xy r hmem hr => ?_, (key _).2, (key _).2⟩
  have hl := (mem_liveEntries table (xy, r)).2 ⟨hmem, hr⟩
  exact ⟨(key (·.1.1)).1 _ hl, (key (·.1.2)).1 _ hl⟩

theorem describedChips_nodup (answering : Nat × Nat → Option ChipState)
    (table : List ((Nat × Nat) × Nat)) (hnd : (table.map (·.1)).Nodup) :
    ((describedChips answering table).map (·.1)).Nodup := by
  refine hnd.sublist (keys_filterMap_sublist table _ fun e e' h => ?_)
  split at h
  · obtain ⟨st, _, rfl⟩ := Option.map_eq_some_iff.1 h; rfl
  · cases h

theorem has_iff (si : SysInfo) (xy : Nat × Nat) : si.has xy = true ↔ ∃ ci, (xy, ci) ∈ si.chips := by
  rw [SysInfo.has, List.lookup_isSome_iff]
  constructor
  · rintro ⟨⟨k, v⟩, hm, he⟩
    rw [beq_iff_eq] at he
    exact ⟨v, he ▸ hm⟩
  · rintro ⟨ci, h⟩
    exact ⟨(xy, ci), h, beq_self_eq_true _⟩

theorem has_false_iff (si : SysInfo) (xy : Nat × Nat) : si.has xy = false ↔ ¬ ∃ ci, (xy, ci) ∈ si.chips := by
  rw [← has_iff]; simp

theorem mem_LINK_VALUES (l : Nat) : l ∈ LINK_VALUES ↔ l < 6 := List.mem_range (n := 6)

theorem mem_deadChips (si : SysInfo) (x y : Nat) :
    (x, y) ∈ si.deadChips ↔ x < si.width ∧ y < si.height ∧ ¬ ∃ ci, ((x, y), ci) ∈ si.chips := by
  rw [← has_iff]
  simp only [SysInfo.deadChips, List.mem_flatMap, List.mem_filterMap, List.mem_range]
  constructor
  · rintro ⟨x', hx, y', hy, h⟩
    split at h
    · cases h
    · cases h; exact ⟨hx, hy, ‹_›⟩
  · rintro ⟨hx, hy, hh⟩
    exact ⟨x, hx, y, hy, if_neg hh⟩

theorem mem_deadLinks (si : SysInfo) (x y l : Nat) :
    (x, y, l) ∈ si.deadLinks ↔ ∃ ci, ((x, y), ci) ∈ si.chips ∧ l < 6 ∧ l ∉ ci.links := by
  simp only [SysInfo.deadLinks, List.mem_flatMap, List.mem_filterMap, mem_LINK_VALUES, List.contains_iff_mem]
  constructor
  · rintro ⟨⟨⟨a, b⟩, ci⟩, hmem, l', hl', h⟩
    split at h
    · cases h
    · cases h; exact ⟨ci, hmem, hl', ‹_›⟩
  · rintro ⟨ci, hmem, hl, hn⟩
    exact ⟨((x, y), ci), hmem, l, hl, if_neg hn⟩

theorem hasLink_iff (si : SysInfo) (hnd : (si.chips.map (·.1)).Nodup) (x y l : Nat) :
    si.hasLink x y l = true ↔ ∃ ci, ((x, y), ci) ∈ si.chips ∧ l ∈ ci.links := by
  rw [exists_mem_iff_lookup _ hnd, SysInfo.hasLink]
  cases si.chips.lookup (x, y) <;> simp

theorem hasCore_iff (si : SysInfo) (hnd : (si.chips.map (·.1)).Nodup) (x y p : Nat) :
    si.hasCore x y p = true ↔ ∃ ci, ((x, y), ci) ∈ si.chips ∧ p < ci.numCores := by
  rw [exists_mem_iff_lookup _ hnd, SysInfo.hasCore]
  cases si.chips.lookup (x, y) <;> simp

theorem coreStateIs_iff (ci : ChipInfo) (p s : Nat) :
    ci.coreStateIs p s = .ok true ↔ p < ci.numCores ∧ ci.coreStates[p]? = some s := by
  unfold ChipInfo.coreStateIs
  by_cases hp : p < ci.numCores
  · simp only [hp, if_true, true_and]
    cases hg : ci.coreStates[p]? with
    | none => simp
    | some s' => simp
  · simp [hp]

theorem hasCoreState_iff (si : SysInfo) (hnd : (si.chips.map (·.1)).Nodup) (x y p s : Nat) :
    si.hasCoreState x y p s = .ok true ↔
      ∃ ci, ((x, y), ci) ∈ si.chips ∧ p < ci.numCores ∧ ci.coreStates[p]? = some s := by
  rw [exists_mem_iff_lookup _ hnd, SysInfo.hasCoreState]
  cases si.chips.lookup (x, y) <;> simp [coreStateIs_iff]

/-- `(x, y, p, state) in system_info` does not raise when every record has a state for each core -/
theorem hasCoreState_total (si : SysInfo) (hlen : ∀ xy ci, (xy, ci) ∈ si.chips → ci.numCores ≤ ci.coreStates.length)
    (x y p s : Nat) : ∃ b, si.hasCoreState x y p s = .ok b := by
  unfold SysInfo.hasCoreState
  cases hl : si.chips.lookup (x, y) with
  | none => exact ⟨false, rfl⟩
  | some ci =>
    have := hlen _ _ (Assoc.mem_of_lookup hl)
    simp only [ChipInfo.coreStateIs]
    by_cases hp : p < ci.numCores
    · simp only [hp, if_true, List.getElem?_eq_getElem (Nat.lt_of_lt_of_le hp this)]
      exact ⟨_, rfl⟩
    · simp only [hp, if_false]
      exact ⟨false, rfl⟩

theorem mem_liveLinks (si : SysInfo) (x y l : Nat) :
    (x, y, l) ∈ si.liveLinks ↔ ∃ ci, ((x, y), ci) ∈ si.chips ∧ l ∈ ci.links := by
  simp only [SysInfo.liveLinks, List.mem_flatMap, List.mem_map, Prod.mk.injEq]
  constructor
  · rintro ⟨⟨⟨a, b⟩, ci⟩, hmem, l', hl', rfl, rfl, rfl⟩
    exact ⟨ci, hmem, hl'⟩
  · rintro ⟨ci, hmem, hl⟩
    exact ⟨((x, y), ci), hmem, l, hl, rfl, rfl, rfl⟩

theorem mem_cores (si : SysInfo) (x y p s : Nat) :
    (x, y, p, s) ∈ si.cores ↔ ∃ ci, ((x, y), ci) ∈ si.chips ∧ ci.coreStates[p]? = some s := by
  simp only [SysInfo.cores, List.mem_flatMap, List.mem_map, Prod.mk.injEq]
  constructor
  · rintro ⟨⟨⟨a, b⟩, ci⟩, hmem, ⟨s', p'⟩, hsp, rfl, rfl, rfl, rfl⟩
    rw [List.mem_zipIdx_iff_getElem?] at hsp
    exact ⟨ci, hmem, hsp⟩
  · rintro ⟨ci, hmem, hg⟩
    exact ⟨((x, y), ci), hmem, (s, p), List.mem_zipIdx_iff_getElem?.2 hg, rfl, rfl, rfl, rfl⟩

theorem targetLengths_keys (si : SysInfo) : (targetLengths si).map (·.1) = si.chips.map (·.1) := by
  simp only [targetLengths, List.map_map]
  rfl

theorem mem_targetLengths (si : SysInfo) (xy : Nat × Nat) (n : Nat) :
    (xy, n) ∈ targetLengths si ↔ ∃ ci, (xy, ci) ∈ si.chips ∧ n = ci.rtr := by
  simp only [targetLengths, List.mem_map, Prod.mk.injEq]
  constructor
  · rintro ⟨⟨xy', ci⟩, hmem, rfl, rfl⟩
    exact ⟨ci, hmem, rfl⟩
  · rintro ⟨ci, hmem, rfl⟩
    exact ⟨(xy, ci), hmem, rfl, rfl⟩

theorem targetLengths_lookup (si : SysInfo) (hnd : (si.chips.map (·.1)).Nodup) (xy : Nat × Nat) (n : Nat) :
    (targetLengths si).lookup xy = some n ↔ ∃ ci, (xy, ci) ∈ si.chips ∧ n = ci.rtr := by
  rw [← Assoc.mem_iff_lookup (by rw [targetLengths_keys]; exact hnd), mem_targetLengths]

theorem liveLinks_nodup (si : SysInfo) (hnd : (si.chips.map (·.1)).Nodup)
    (hl : ∀ xy ci, (xy, ci) ∈ si.chips → ci.links.Nodup) : si.liveLinks.Nodup :=
  Lists.nodup_flatMap_map (fun e : (Nat × Nat) × ChipInfo => e.1) (fun e => e.2.links) (fun e l => (e.1.1, e.1.2, l)) si.chips
    hnd (fun e he => hl e.1 e.2 he) fun _ _ _ _ heq =>
      ⟨Prod.ext (Prod.mk.inj heq).1 (Prod.mk.inj (Prod.mk.inj heq).2).1, (Prod.mk.inj (Prod.mk.inj heq).2).2⟩

theorem cores_nodup (si : SysInfo) (hnd : (si.chips.map (·.1)).Nodup) : si.cores.Nodup := by
  refine Lists.nodup_flatMap_map (fun e : (Nat × Nat) × ChipInfo => e.1) (fun e => e.2.coreStates.zipIdx)
    (fun e (sp : Nat × Nat) => (e.1.1, e.1.2, sp.2, sp.1)) si.chips hnd (fun e _ => ?_) fun _ _ _ _ heq => ?_
  · exact List.Pairwise.of_map (S := (· ≠ ·)) (·.2) (fun a b hab heq => hab (by rw [heq]))
      (by rw [List.zipIdx_map_snd]; exact List.nodup_range')
  · simp only [Prod.mk.injEq] at heq
    obtain ⟨h1, h2, h3, h4⟩ := heq
    exact ⟨Prod.ext h1 h2, Prod.ext h4 h3⟩

theorem entry_lt (m : MachineState) (he : ∀ e ∈ m.p2p, e.2 < 8) (x y : Nat) : m.entry x y < 8 := by
  unfold MachineState.entry
  cases hl : m.p2p.lookup (x, y) with
  | none => simp only [Option.getD_none]; decide
  | some r => exact he _ (Assoc.mem_of_lookup hl)

theorem mem_table (m : MachineState) (xy : Nat × Nat) (r : Nat) :
    (xy, r) ∈ m.table ↔ xy.1 < m.dimW ∧ xy.2 < m.dimH ∧ r = m.entry xy.1 xy.2 :=
  mem_p2pSpecTable m.entry m.dimW m.dimH xy.1 xy.2 r

theorem listed_iff (m : MachineState) (xy : Nat × Nat) :
    m.listed xy = true ↔ ∃ r, (xy, r) ∈ m.table ∧ r ≠ P2P_NONE := by
  simp only [MachineState.listed, Bool.and_eq_true, decide_eq_true_eq, bne_iff_ne, ne_eq, mem_table]
  constructor
  · rintro ⟨⟨hx, hy⟩, hne⟩
    exact ⟨_, ⟨hx, hy, rfl⟩, hne⟩
  · rintro ⟨r, ⟨hx, hy, rfl⟩, hne⟩
    exact ⟨⟨hx, hy⟩, hne⟩

theorem live_ne_nil (m : MachineState) (hl : ∃ xy, m.listed xy = true) : liveEntries m.table ≠ [] := by
  obtain ⟨xy, h⟩ := hl
  obtain ⟨r, hmem, hne⟩ := (listed_iff m xy).1 h
  exact List.ne_nil_of_mem ((mem_liveEntries m.table (xy, r)).2 ⟨hmem, hne⟩)

theorem getSystemInfo_spec (m : MachineState) (rd : Rd) (hs : m.Serves rd) (hl : ∃ xy, m.listed xy = true) :
    getSystemInfo rd m.probe = .ok m.sysInfo := by
  have hdim := readInt_le16 rd _ _ (by have := hs.dimW; have := hs.dimH; omega) hs.dims
  have htab : p2pTable rd = .ok m.table := by
    simp only [p2pTable, SV_P2P_DIMS_SIZE, hdim, bind, Except.bind]
    exact p2pTableOfDims_spec m.entry (entry_lt m hs.entries) rd m.dimW m.dimH hs.dimW hs.dimH hs.table
  simp only [getSystemInfo, htab]
  exact systemInfo_spec (fun xy => m.chips.lookup xy) hs.chipsWF m.table (live_ne_nil m hl)

theorem mem_sysInfo (m : MachineState) (xy : Nat × Nat) (ci : ChipInfo) :
    (xy, ci) ∈ m.sysInfo.chips ↔ ∃ st, m.listed xy = true ∧ m.chips.lookup xy = some st ∧ ci = chipView st := by
  simp only [MachineState.sysInfo, mem_describedChips, listed_iff]
  constructor
  · rintro ⟨r, st, hmem, hne, ha, rfl⟩
    exact ⟨st, ⟨r, hmem, hne⟩, ha, rfl⟩
  · rintro ⟨st, ⟨r, hmem, hne⟩, ha, rfl⟩
    exact ⟨r, st, hmem, hne, ha, rfl⟩

theorem sysInfo_states (m : MachineState) (hwf : ∀ xy st, m.chips.lookup xy = some st → st.WF) (xy : Nat × Nat)
    (ci : ChipInfo) (h : (xy, ci) ∈ m.sysInfo.chips) : ci.coreStates.length = ci.numCores ∧ ci.numCores ≤ 18 := by
  obtain ⟨st, _, hst, rfl⟩ := (mem_sysInfo m xy ci).1 h
  exact ⟨chipView_states_length st (hwf xy st hst), (hwf xy st hst).1⟩

theorem exists_mem_sysInfo (m : MachineState) (xy : Nat × Nat) (P : ChipInfo → Prop) :
    (∃ ci, (xy, ci) ∈ m.sysInfo.chips ∧ P ci) ↔
      ∃ st, m.listed xy = true ∧ m.chips.lookup xy = some st ∧ P (chipView st) := by
  constructor
  · rintro ⟨ci, hmem, hP⟩
    obtain ⟨st, h1, h2, rfl⟩ := (mem_sysInfo m xy ci).1 hmem
    exact ⟨st, h1, h2, hP⟩
  · rintro ⟨st, h1, h2, hP⟩
    exact ⟨chipView st, (mem_sysInfo m xy _).2 ⟨st, h1, h2, rfl⟩, hP⟩

theorem has_sysInfo (m : MachineState) (xy : Nat × Nat) :
    (∃ ci, (xy, ci) ∈ m.sysInfo.chips) ↔ m.listed xy = true ∧ (m.chips.lookup xy).isSome = true := by
  have := exists_mem_sysInfo m xy fun _ => True
  simp only [and_true] at this
  rw [this]
  cases m.chips.lookup xy <;> simp

theorem sysInfo_WF (m : MachineState) (hl : ∃ xy, m.listed xy = true) : m.sysInfo.WF := by
  refine ⟨describedChips_nodup (fun xy => m.chips.lookup xy) m.table
    (p2pSpecTable_nodup m.entry m.dimW m.dimH), ?_⟩
  intro xy ci hmem
  change (xy, ci) ∈ describedChips (fun xy => m.chips.lookup xy) m.table at hmem
  obtain ⟨r, st, hmem', hne, _, _⟩ := (mem_describedChips _ _ xy ci).1 hmem
  exact (extent_spec m.table (live_ne_nil m hl)).1 xy r hmem' hne

theorem sysInfo_extent (m : MachineState) (hl : ∃ xy, m.listed xy = true) :
    (∀ xy, m.listed xy = true → xy.1 < m.sysInfo.width ∧ xy.2 < m.sysInfo.height) ∧
    (∃ xy, m.listed xy = true ∧ xy.1 + 1 = m.sysInfo.width) ∧
    (∃ xy, m.listed xy = true ∧ xy.2 + 1 = m.sysInfo.height) := by
  obtain ⟨h1, ⟨e1, he1, hw⟩, ⟨e2, he2, hh⟩⟩ := extent_spec m.table (live_ne_nil m hl)
  have hlive : ∀ e, e ∈ liveEntries m.table → m.listed e.1 = true := fun e he =>
    (listed_iff m e.1).2 ⟨e.2, (mem_liveEntries m.table e).1 he⟩
  refine ⟨?_, ⟨e1.1, hlive e1 he1, hw⟩, ⟨e2.1, hlive e2 he2, hh⟩⟩
  intro xy hxy
  obtain ⟨r, hmem, hne⟩ := (listed_iff m xy).1 hxy
  exact h1 xy r hmem hne

theorem mem_listedCoords (m : MachineState) (xy : Nat × Nat) : xy ∈ listedCoords m ↔ m.listed xy = true := by
  obtain ⟨x, y⟩ := xy
  simp only [listedCoords, List.mem_flatMap, List.mem_filterMap, List.mem_range]
  constructor
  · rintro ⟨x', hx, y', hy, h⟩
    split at h
    · cases h; assumption
    · cases h
  · intro hl
    have hb := hl
    simp only [MachineState.listed, Bool.and_eq_true, decide_eq_true_eq] at hb
    exact ⟨x, hb.1.1, y, hb.1.2, if_pos hl⟩

theorem maxList_listed (m : MachineState) (f : Nat × Nat → Nat) :
    maxList ((listedCoords m).map f) = maxList ((liveEntries m.table).map fun e => f e.1) := by
  apply maxList_congr
  intro a
  simp only [List.mem_map, mem_listedCoords, mem_liveEntries]
  constructor
  · rintro ⟨xy, hl, rfl⟩
    obtain ⟨r, hmem, hne⟩ := (listed_iff m xy).1 hl
    exact ⟨(xy, r), ⟨hmem, hne⟩, rfl⟩
  · rintro ⟨e, ⟨hmem, hne⟩, rfl⟩
    exact ⟨e.1, (listed_iff m e.1).2 ⟨e.2, hmem, hne⟩, rfl⟩

theorem sysinfoOk_iff (m : MachineState) (si : SysInfo) :
    sysinfoOk m si = true ↔
      si.width = maxList ((listedCoords m).map (·.1)) + 1 ∧
      si.height = maxList ((listedCoords m).map (·.2)) + 1 ∧
      (si.chips.map (·.1)).Nodup ∧
      (∀ xy ci, (xy, ci) ∈ si.chips ↔
        ∃ st, m.listed xy = true ∧ m.chips.lookup xy = some st ∧ ci = chipView st) := by
  simp only [sysinfoOk, Bool.and_eq_true, beq_iff_eq, decide_eq_true_eq, List.all_eq_true, List.contains_iff_mem,
    and_assoc, mem_listedCoords]
  refine and_congr_right fun _ => and_congr_right fun _ => and_congr_right fun _ => ⟨?_, fun hmem => ⟨?_, ?_, ?_⟩⟩
  · rintro ⟨hk, hlst, hrec⟩ xy ci
    constructor
    · intro h
      obtain ⟨st, hst, h2⟩ := Option.map_eq_some_iff.1 (hrec (xy, ci) h)
      exact ⟨st, (hk xy (List.mem_map_of_mem h)).1, hst, h2.symm⟩
    · rintro ⟨st, h1, h2, rfl⟩
      obtain ⟨⟨k, v⟩, he, rfl⟩ := List.mem_map.1 (hlst xy h1 (by rw [h2]; rfl))
      have h3 := hrec _ he
      rw [h2] at h3
      cases h3
      exact he
  · intro xy hxy
    obtain ⟨e, he, rfl⟩ := List.mem_map.1 hxy
    obtain ⟨st, h1, h2, _⟩ := (hmem e.1 e.2).1 he
    exact ⟨h1, by rw [h2]; rfl⟩
  · intro xy h1 hsome
    obtain ⟨st, h2⟩ := Option.isSome_iff_exists.1 hsome
    exact List.mem_map.2 ⟨(xy, chipView st), (hmem xy _).2 ⟨st, h1, h2, rfl⟩, rfl⟩
  · intro e he
    obtain ⟨st, _, h2, h3⟩ := (hmem e.1 e.2).1 he
    rw [h2, h3]; rfl

end Rig.C14
