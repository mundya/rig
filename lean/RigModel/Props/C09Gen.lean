/-
C09 - translator tie (rig/machine_control/machine_controller.py): `_get_next_nn_id` (state passing: the attribute
`self._nn_id` is a parameter, the result is the returned id and the final `_nn_id`) = the model's `nextNn`;
`_send_ffs`, `_send_ffcs`, `_send_ffe`, whose whole behaviour is one `self._send_scp(...)` call (the generated
definition is the list of the calls' integer arguments) = `ffsReq` / `ffcsReq` / `ffeReq`; `_send_ffd` (a `while` loop
over the image, one `_send_scp` call per block) = `ffdReqs`, for every fuel of at least the image length; `send_signal`
and `count_cores_in_state` called with a numeric signal / state (the `isinstance(.., str)` branches are dead by the
declared type) = `sendSignalReq` / `resolve` (Model/C09Sig.lean) + `countReq` (Model/C09.lean).
-/
import RigModel.Model.C09
import RigModel.Gen.PyFun
import RigModel.Model.C09Sig
import RigModel.Lemmas.PyCast

-- see Lemmas/PyCast.lean
set_option linter.unusedSimpArgs false
set_option linter.unusedTactic false
set_option linter.unreachableTactic false

namespace Rig.C09
open Rig.Gen Rig.Gen.Load Rig.PyLoops Rig.Gen.LoadSig Rig.C09Sig

/-- (the id returned, the final `self._nn_id`) -/
theorem gen_get_next_nn_id (n : Nat) :
    PyFun.MachineController_get_next_nn_id n = (((2 * nextNn n : Nat) : Int), ((nextNn n : Nat) : Int)) := by
  simp only [PyFun.MachineController_get_next_nn_id, nextNn, py_cast, Nat.add_comm 1 n, Nat.mul_comm 2]
  split <;> rfl

/-- the integer arguments of the `_send_scp(x, y, p, cmd, arg1, arg2, arg3)` call a request stands for -/
def reqInts (r : Req) : Int × Int × Int × Int × Int × Int × Int :=
  ((r.x : Int), (r.y : Int), (r.p : Int), (r.cmd : Int), (r.arg1 : Int), (r.arg2 : Int), (r.arg3 : Int))

/-- `fr` is what `flood_fill_aplx` passes -/
theorem gen_send_ffs (pid nBlocks : Nat) :
    PyFun.MachineController_send_ffs pid nBlocks (fr : Nat) = [reqInts (ffsReq pid nBlocks)] := by
  simp (disch := decide) only [PyFun.MachineController_send_ffs, reqInts, nnReq, ffsReq, ffcsReq,
         ffeReq, nnFfs, nnFfcs, nnFfe, cmdNnp, fr, nnForward, nnRetry,
         py_cast, py_ac, List.nil_append]

theorem gen_send_ffcs (region coreMask : Nat) :
    PyFun.MachineController_send_ffcs region coreMask (fr : Nat) = [reqInts (ffcsReq (region, coreMask))] := by
  simp (disch := decide) only [PyFun.MachineController_send_ffcs, reqInts, nnReq, ffsReq, ffcsReq,
         ffeReq, nnFfs, nnFfcs, nnFfe, cmdNnp, fr, nnForward, nnRetry,
         py_cast, py_ac, List.nil_append]

theorem gen_send_ffe (pid appId flags : Nat) :
    PyFun.MachineController_send_ffe pid appId flags (fr : Nat) = [reqInts (ffeReq pid appId flags)] := by
  simp (disch := decide) only [PyFun.MachineController_send_ffe, reqInts, nnReq, ffsReq, ffcsReq,
         ffeReq, nnFfs, nnFfcs, nnFfe, cmdNnp, fr, nnForward, nnRetry,
         py_cast, py_ac, List.nil_append]

def bytesInt (d : List Nat) : List Int := d.map (fun (n : Nat) => (n : Int))

/-- `reqInts` with the `data` argument -/
def reqInts8 (r : Req) : Int × Int × Int × Int × Int × Int × Int × List Int :=
  ((r.x : Int), (r.y : Int), (r.p : Int), (r.cmd : Int), (r.arg1 : Int), (r.arg2 : Int), (r.arg3 : Int), bytesInt r.data)

theorem length_bytesInt (d : List Nat) : (bytesInt d).length = d.length := List.length_map _

theorem block_words {n buf : Nat} (hb : 4 ≤ buf) (hb4 : buf % 4 = 0) (hn : 0 < n) (h4 : n % 4 = 0) :
    4 ≤ min buf n ∧ (n - min buf n) % 4 = 0 := by
  rcases Nat.le_total buf n with h | h
  · rw [Nat.min_eq_left h]; exact ⟨hb, Nat.sub_mod_eq_zero_of_mod_eq (h4.trans hb4.symm)⟩
  · rw [Nat.min_eq_right h, Nat.sub_self]; exact ⟨Nat.le_of_dvd hn (Nat.dvd_of_mod_eq_zero h4), rfl⟩

theorem ffdReqs_nil (pid buf mf b a : Nat) : ffdReqs pid buf mf b a [] = [] := by cases mf <;> rfl

/-- buffer and image are whole numbers of words: every block then has at least one word (`size = data_size // 4 - 1`
is negative otherwise) -/
theorem gen_send_ffd (pid buf : Nat) (d : List Nat) (addr fuel : Nat) (hb : 4 ≤ buf) (hb4 : buf % 4 = 0)
    (hd4 : d.length % 4 = 0) (hf : d.length ≤ fuel) :
    PyFun.MachineController_send_ffd (buf : Int) (pid : Int) (bytesInt d) (addr : Int) fuel
      = .ok ((ffdReqs pid buf d.length 0 addr d).map reqInts8) := by
  -- the loop on `(block, address, pos)`; `pos` stays a whole number of words from the end
  obtain ⟨s, e⟩ := pyWhile_collect
    (cond := PyFun.MachineController_send_ffd_loop1_cond (d.length : Int))
    (body := PyFun.MachineController_send_ffd_loop1 (buf : Int) (pid : Int) (bytesInt d))
    (fun o (s : Nat × Nat × Nat) => (o, (s.1 : Int), (s.2.1 : Int), (s.2.2 : Int)))
    (fun s => s.2.2 ≤ d.length ∧ (d.length - s.2.2) % 4 = 0)
    (fun s => decide (s.2.2 < d.length))
    (fun s => reqInts8
      { x := 255, y := 255, p := 0, cmd := cmdFfd, arg1 := (nnForward <<< 24) ||| (nnRetry <<< 16) ||| pid,
        arg2 := (s.1 <<< 16) ||| ((((d.drop s.2.2).take buf).length / 4 - 1) <<< 8), arg3 := s.2.1,
        data := (d.drop s.2.2).take buf })
    (fun s => (s.1 + 1, s.2.1 + ((d.drop s.2.2).take buf).length, s.2.2 + ((d.drop s.2.2).take buf).length))
    (fun s => d.length - s.2.2)
    (fun mf s => (ffdReqs pid buf mf s.1 s.2.1 (d.drop s.2.2)).map reqInts8)
    (fun o s => by
      unfold PyFun.MachineController_send_ffd_loop1_cond
      exact decide_eq_decide.mpr Int.ofNat_lt)
    (fun o s hs hg => by
      have hl : s.2.2 < d.length := of_decide_eq_true hg
      have hbl : ((d.drop s.2.2).take buf).length = min buf (d.length - s.2.2) := by
        rw [List.length_take, List.length_drop]
      obtain ⟨h4, hr⟩ := block_words hb hb4 (Nat.sub_pos_of_lt hl) hs.2
      refine ⟨?_, ?_, ?_⟩
      · simp (disch := omega) only [PyFun.MachineController_send_ffd_loop1, reqInts8, bytesInt, cmdFfd, nnForward,
          nnRetry, py_cast, py_ac, Nat.add_sub_cancel, List.nil_append]
      · dsimp only
        rw [hbl]
        exact ⟨Nat.add_le_of_le_sub' hs.1 (Nat.min_le_right _ _), Nat.sub_sub _ _ _ ▸ hr⟩
      · dsimp only
        rw [hbl]
        exact Nat.sub_lt_sub_left hl (Nat.lt_add_of_pos_right (Nat.lt_of_lt_of_le (by decide) h4)))
    (fun mf s _ hg => by
      rw [List.drop_eq_nil_of_le (Nat.le_of_not_lt (of_decide_eq_false hg)), ffdReqs_nil]; rfl)
    (fun mf s _ hg => by
      rw [ffdReqs, if_pos (by rw [List.length_drop]; exact Nat.sub_pos_of_lt (of_decide_eq_true hg))]
      dsimp only
      rw [List.map_cons, List.drop_drop])
    fuel d.length (0, addr, 0) ⟨Nat.zero_le _, hd4⟩ hf (le_refl _)
  unfold PyFun.MachineController_send_ffd
  dsimp only at e ⊢
  rw [length_bytesInt, show (0 : Int) = ((0 : Nat) : Int) from rfl, e]
  rfl

/-- the model at values meeting the hypotheses of `gen_send_ffd` -/
example : (ffdReqs 2 4 8 0 100 [1, 2, 3, 4, 5, 6, 7, 8]).length = 2 := by decide

def sigExc : Except C09Sig.Err Req → Except String (List (Int × Int × Int × Int × Int × Int × Int))
  | .ok r => .ok [reqInts r]
  | .error .valueError => .error "ValueError"
  | .error .keyError => .error "KeyError"
  | .error .unmodelled => .error "unmodelled"

theorem gen_send_signal (sig appId : Nat) :
    PyFun.MachineController_send_signal sig appId = sigExc (sendSignalReq (.val sig) appId) := by
  unfold PyFun.MachineController_send_signal sendSignalReq resolve
  -- the literal list of member values in the generated code is `appSignals.map (·.2)` only up to unfolding: `erw`
  erw [contains_enum_values appSignals sig]
  rw [pyKeyGet_natCast]
  by_cases hm : appSignals.any (fun e => e.2 == sig) = true
  · simp only [hm, not_true_eq_false, if_false, if_true]
    cases signalTypes.lookup sig <;>
    first
    | rfl
    | simp (disch := decide) only [sigExc, reqInts, signalReq, cmdSignal, py_cast, py_ac, List.nil_append]
  · simp only [hm, not_false_eq_true, if_true, if_false, Bool.false_eq_true]
    rfl

/-- one numeric state; what the machine answers is not part of the generated definition -/
theorem gen_count_cores_in_state (st appId : Nat) :
    PyFun.MachineController_count_cores_in_state st appId =
      sigExc ((resolve appStates (.val st)).map (fun s => countReq s appId)) := by
  unfold PyFun.MachineController_count_cores_in_state resolve
  erw [contains_enum_values appStates st]
  by_cases hm : appStates.any (fun e => e.2 == st) = true
  · simp only [hm, not_true_eq_false, if_false, if_true]
    first
    | rfl
    | (simp (disch := decide) only [sigExc, reqInts, countReq, Except.map, cmdSignal, diagCount, diagCountType,
         py_cast, py_ac, Nat.reduceShiftRight, Nat.reduceAnd, List.nil_append]
       rfl)
  · simp only [hm, not_false_eq_true, if_true, if_false, Bool.false_eq_true]
    rfl

end Rig.C09
