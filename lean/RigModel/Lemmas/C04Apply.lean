/-
C04 - the merge-application invariant: applying a merge that passes the up-check and the
down-check keeps every key on its route.
-/
import RigModel.Lemmas.C04Merged

namespace Rig.C04

/-- what `_refine_upcheck` establishes -/
def UpOk (T : List Entry) (m : Merge) : Prop :=
  ∀ i ∈ m.entries, ∀ e, T[i]? = some e → ∀ o ∈ (T.take m.ins).drop (i + 1), e.meets o = false

/-- what `_refine_downcheck` establishes: `_get_covered_keys_and_masks` is empty -/
def DownOk (T : List Entry) (A : Aliases) (m : Merge) : Prop := covered T A m = []

/-- the insertion index splits the table by generality (`mkMerge_insOk`) -/
def InsOk (T : List Entry) (m : Merge) : Prop :=
  (∀ e ∈ T.take m.ins, e.gen < generality m.key m.mask) ∧
  (∀ e ∈ T.drop m.ins, generality m.key m.mask ≤ e.gen)

def SameRoute (T : List Entry) (es : List Nat) : Prop :=
  ∀ a ∈ members T es, ∀ b ∈ members T es, a.route = b.route

/-- the invariant of the loop of `ordered_covering`, between the sorted original table `T0` and
the current table `T` with alias dictionary `A`; the last clause: the first match stands, through
its aliases, for a key/mask that matches the key -/
def Inv (T0 T : List Entry) (A : Aliases) : Prop :=
  ∀ k o, lookup T0 k = some o →
    ∃ e, lookup T k = some e ∧ e.route = o.route ∧ bitSubset o.sources e.sources = true ∧
      ∃ a ∈ alOf A e, kmMatches a k = true

/-! ### closed form of the table loop of `_Merge.apply` -/

/-- the entries of `l` (which starts at table position `i`) whose position is not in `es` -/
def keepIdx (es : List Nat) : Nat → List Entry → List Entry
  | _, [] => []
  | i, e :: r => (if es.contains i then [] else [e]) ++ keepIdx es (i + 1) r

theorem keepIdx_sublist (es : List Nat) (i : Nat) (l : List Entry) : (keepIdx es i l).Sublist l := by
  induction l generalizing i with
  | nil => exact List.Sublist.slnil
  | cons e r ih =>
    rw [keepIdx]
    by_cases hc : es.contains i = true
    · rw [if_pos hc]; exact (ih (i + 1)).cons e
    · rw [if_neg hc]; exact (ih (i + 1)).cons_cons e

theorem keepIdx_append (es : List Nat) (i : Nat) (l1 l2 : List Entry) :
    keepIdx es i (l1 ++ l2) = keepIdx es i l1 ++ keepIdx es (i + l1.length) l2 := by
  induction l1 generalizing i with
  | nil => rfl
  | cons e r ih =>
    rw [List.cons_append, keepIdx, keepIdx, ih, List.append_assoc, List.length_cons,
      Nat.add_assoc, Nat.add_comm 1]

theorem applyTable_past (ins : Nat) (es : List Nat) (M : Entry) (l : List Entry) (i : Nat)
    (h : ins < i) : applyTable ins es M i l = keepIdx es i l := by
  induction l generalizing i with
  | nil => rw [applyTable, if_neg fun h' => Nat.ne_of_lt h (beq_iff_eq.mp h')]; rfl
  | cons e r ih =>
    rw [applyTable, keepIdx, beq_false_of_ne (Nat.ne_of_gt h), ih (i + 1) (Nat.lt_succ_of_lt h)]
    rfl

theorem applyTable_append (es : List Nat) (M : Entry) (a b : List Entry) (i : Nat) :
    applyTable (i + a.length) es M i (a ++ b) =
      keepIdx es i a ++ M :: keepIdx es (i + a.length) b := by
  induction a generalizing i with
  | nil =>
    show applyTable i es M i b = M :: keepIdx es i b
    cases b with
    | nil => rw [applyTable, if_pos (beq_self_eq_true i)]; rfl
    | cons x r =>
      rw [applyTable, if_pos (beq_self_eq_true i),
        applyTable_past i es M r (i + 1) (Nat.lt_succ_self i), keepIdx]
      rfl
  | cons x r ih =>
    have hne : (i == i + 1 + r.length) = false :=
      beq_false_of_ne (Nat.ne_of_lt (Nat.lt_add_right _ (Nat.lt_succ_self i)))
    rw [List.cons_append, List.length_cons, ← Nat.add_assoc, Nat.add_right_comm, applyTable, hne,
      keepIdx, ih (i + 1), if_neg Bool.false_ne_true, List.nil_append, List.append_assoc]

theorem applyMerge_table (T : List Entry) (es : List Nat) (A : Aliases)
    (hins : (mkMerge T es).ins ≤ T.length) :
    (applyMerge T (mkMerge T es) A).1 =
      keepIdx es 0 (T.take (mkMerge T es).ins) ++
        mergedEntry T (mkMerge T es) :: keepIdx es (mkMerge T es).ins (T.drop (mkMerge T es).ins) := by
  have := applyTable_append es (mergedEntry T (mkMerge T es)) (T.take (mkMerge T es).ins)
    (T.drop (mkMerge T es).ins) 0
  rw [List.take_append_drop, List.length_take_of_le hins, Nat.zero_add] at this
  exact this

/-- the first match is found again unless its position is removed: then the search goes on behind it -/
theorem keepIdx_lookup (es : List Nat) (i : Nat) {l : List Entry} {k : W} {e : Entry}
    (hl : lookup l k = some e) :
    ∃ p, l[p]? = some e ∧ lookup (keepIdx es i l) k =
      if i + p ∈ es then lookup (keepIdx es (i + p + 1) (l.drop (p + 1))) k else some e := by
  induction l generalizing i with
  | nil => cases hl
  | cons x r ih =>
    rw [lookup_cons] at hl
    rw [keepIdx]
    by_cases hx : x.matches k = true
    · rw [if_pos hx] at hl; cases hl
      refine ⟨0, rfl, ?_⟩
      show _ = if i ∈ es then lookup (keepIdx es (i + 1) r) k else some e
      by_cases hc : i ∈ es
      · rw [if_pos (List.contains_iff_mem.mpr hc), if_pos hc]; rfl
      · rw [if_neg fun h => hc (List.contains_iff_mem.mp h), if_neg hc, List.singleton_append, lookup_cons, if_pos hx]
    · rw [if_neg hx] at hl
      obtain ⟨p, hp, hK⟩ := ih (i + 1) hl
      refine ⟨p + 1, hp, ?_⟩
      rw [lookup_append, hK, Nat.add_right_comm i 1 p, ← Nat.add_assoc, List.drop_succ_cons]
      split
      · rfl
      · rw [lookup_cons, if_neg hx]; rfl

theorem alGet_nil (km : KM) : alGet [] km = none := rfl

theorem alGet_append (A B : Aliases) (km : KM) : alGet (A ++ B) km = (alGet A km).or (alGet B km) := by
  rw [alGet, List.find?_append, Option.map_or]; rfl

theorem alGet_erase_some {A : Aliases} {km km' : KM} {v : List KM}
    (h : alGet (alErase A km') km = some v) : km ≠ km' ∧ alGet A km = some v := by
  rw [alGet_eq_lookup, alErase, Assoc.lookup_filter_key (· != km'), ← alGet_eq_lookup] at h
  split at h
  · next hk => exact ⟨bne_iff_ne.1 hk, h⟩
  · cases h

theorem mem_setUnion (a b : List KM) (x : KM) : x ∈ setUnion a b ↔ x ∈ a ∨ x ∈ b := by
  unfold setUnion
  induction b generalizing a with
  | nil => exact ⟨Or.inl, fun h => h.elim id fun h => nomatch h⟩
  | cons y r ih =>
    rw [List.foldl_cons, ih, List.mem_cons]
    by_cases hc : a.contains y = true
    · rw [if_pos hc]
      have hy : y ∈ a := List.contains_iff_mem.mp hc
      exact ⟨Or.imp_right Or.inr, fun h => h.elim Or.inl fun h => h.elim (fun h => Or.inl (h ▸ hy)) Or.inr⟩
    · rw [if_neg hc, List.mem_append, List.mem_singleton, or_assoc]

/-- for one key `k`, after the members `pre`: the dictionary binds only what `A` binds, bar the merged
key/mask; while `our` is its value, `our` holds a match of `k` if the aliases of a member seen did -/
def AlInv (A : Aliases) (KMm : KM) (k : W) (pre : List Entry) (st : AlState) : Prop :=
  (∀ km v, alGet st.dict km = some v → km ≠ KMm ∧ alGet A km = some v) ∧
  (st.inDict = true → ∀ e ∈ pre, e.matches k = true → Hit k (alOf A e) → Hit k st.our)

theorem alStep_inv {A : Aliases} {KMm : KM} {k : W} {pre : List Entry} {st : AlState}
    (h : AlInv A KMm k pre st) (e : Entry) : AlInv A KMm k (pre ++ [e]) (alStep KMm st e) := by
  obtain ⟨h1, h2⟩ := h
  have grow : ∀ v, (e.matches k = true → Hit k (alOf A e) → Hit k v) → st.inDict = true →
      ∀ e' ∈ pre ++ [e], e'.matches k = true → Hit k (alOf A e') → Hit k (setUnion st.our v) := by
    intro v hv hin e' he' hm ha
    rcases List.mem_append.mp he' with hp | hs
    · exact (h2 hin e' hp hm ha).mono fun x hx => (mem_setUnion _ _ _).mpr (Or.inl hx)
    · cases List.mem_singleton.mp hs
      exact (hv hm ha).mono fun x hx => (mem_setUnion _ _ _).mpr (Or.inr hx)
  fun_cases alStep KMm st e with
  -- the merged key/mask itself is popped: `our` leaves the dictionary for good
  | case1 => exact ⟨h1, fun h => absurd h Bool.false_ne_true⟩
  | case2 _ c2 => exact ⟨h1, fun h => absurd h c2⟩
  | case3 _ v hv =>
    refine ⟨fun km w h => h1 km w (alGet_erase_some h).2, grow v fun _ ha => ?_⟩
    rw [alOf, (h1 _ _ hv).2] at ha
    exact ha
  | case4 => exact ⟨h1, grow _ fun hm _ => ⟨e.km, List.mem_singleton_self _, hm⟩⟩

theorem fold_alStep_inv {A : Aliases} {KMm : KM} {k : W} (ms : List Entry) {pre : List Entry} {st : AlState}
    (h : AlInv A KMm k pre st) : AlInv A KMm k (pre ++ ms) (ms.foldl (alStep KMm) st) := by
  induction ms generalizing pre st with
  | nil => rw [List.append_nil]; exact h
  | cons d r ih => rw [List.append_cons]; exact ih (alStep_inv h d)

theorem applyAliases_stands {A : Aliases} {KMm : KM} {ms : List Entry} {k : W} {d : Entry}
    (hd : d.matches k = true)
    (h1 : d.km = KMm → ∃ e ∈ ms, e.matches k = true ∧ Hit k (alOf A e))
    (h2 : d.km ≠ KMm → Hit k (alOf A d)) : Hit k (alOf (applyAliases A KMm ms) d) := by
  obtain ⟨old, f3⟩ := fold_alStep_inv (A := A) (KMm := KMm) (k := k) ms (pre := [])
    (st := { dict := alErase A KMm, our := [], inDict := true })
    ⟨fun km v h => alGet_erase_some h, fun _ _ he => nomatch he⟩
  rw [List.nil_append] at f3
  simp only [applyAliases, alOf]
  generalize ms.foldl (alStep KMm) _ = st at old f3
  have self : Hit k ((none : Option (List KM)).getD [d.km]) := ⟨d.km, List.mem_singleton_self _, hd⟩
  cases hg : alGet st.dict d.km with
  | some w =>
    have hA := old _ _ hg
    have ha := h2 hA.1
    rw [alOf, hA.2] at ha
    split
    · rw [alGet_append, hg]; exact ha
    · rw [hg]; exact ha
  | none =>
    split
    · next hin =>
      rw [alGet_append, hg, Option.none_or, alGet_eq_lookup, Assoc.lookup_cons]
      split
      · next heq =>
        obtain ⟨e, he, hm, ha⟩ := h1 (eq_of_beq heq).symm
        exact f3 hin e he hm ha
      · exact self
    · rw [hg]; exact self

theorem covered_nil {T : List Entry} {A : Aliases} {m : Merge} (h : covered T A m = []) :
    ∀ d ∈ T.drop m.ins, ∀ a ∈ alOf A d, intersect m.key m.mask a.1 a.2 = false := by
  intro d hd a ha
  simp only [covered, List.flatMap_eq_nil_iff, List.filter_eq_nil_iff] at h
  exact Bool.eq_false_iff.mpr (h d hd a ha)

/-- the new table sends a key to the inserted entry if its first match `e` was removed, to `e` otherwise -/
theorem lookup_insert_remove {T : List Entry} {es : List Nat} {ins : Nat} {M : Entry} {k : W} {e : Entry}
    (hl : lookup T k = some e)
    (hcov : ∀ e ∈ members T es, ∀ k, e.matches k = true → M.matches k = true)
    (hup : ∀ i ∈ es, ∀ e, T[i]? = some e → ∀ o ∈ (T.take ins).drop (i + 1), e.meets o = false)
    (hdown : e ∈ T.drop ins → M.matches k = false)
    (hio : ∀ e ∈ T.take ins, e.gen < M.gen) :
    ∃ e', lookup (keepIdx es 0 (T.take ins) ++ M :: keepIdx es ins (T.drop ins)) k = some e' ∧
      ((e' = M ∧ e ∈ members T es) ∨ (e' = e ∧ e.km ≠ M.km)) := by
  have hmk := (lookup_some_matches hl).1
  rw [← List.take_append_drop ins T, lookup_append] at hl
  cases hpre : lookup (T.take ins) k with
  | some e' =>
    rw [hpre] at hl; cases hl
    obtain ⟨p, hp, hK⟩ := keepIdx_lookup es 0 hpre
    rw [Nat.zero_add] at hK
    rw [List.getElem?_take] at hp
    split at hp
    case isFalse => cases hp
    by_cases hpe : p ∈ es
    · have hem : e ∈ members T es := mem_members.mpr ⟨p, hpe, hp⟩
      refine ⟨M, ?_, Or.inl ⟨rfl, hem⟩⟩
      -- by the up-check nothing after `e` matches
      rw [lookup_append, hK, if_pos hpe, lookup_cons, if_pos (hcov e hem k hmk),
        lookup_none_of_sublist (keepIdx_sublist _ _ _) fun d hd => Bool.eq_false_iff.mpr fun hmd =>
          Bool.false_ne_true ((hup p hpe e hp d hd).symm.trans (meets_of_matches hmk hmd))]
      rfl
    · refine ⟨e, by rw [lookup_append, hK, if_neg hpe]; rfl, Or.inr ⟨rfl, fun heq => ?_⟩⟩
      have h1 := hio e (lookup_some_matches hpre).2
      rw [Entry.gen, Entry.gen, (Prod.mk.inj heq).1, (Prod.mk.inj heq).2] at h1
      exact Nat.lt_irrefl _ h1
  | none =>
    rw [hpre, Option.none_or] at hl
    have hMk := hdown (lookup_some_matches hl).2
    obtain ⟨p, hp, hK⟩ := keepIdx_lookup es ins hl
    rw [List.getElem?_drop] at hp
    have hpe : ins + p ∉ es := fun hpe => by
      rw [hcov e (mem_members.mpr ⟨_, hpe, hp⟩) k hmk] at hMk; cases hMk
    refine ⟨e, ?_, Or.inr ⟨rfl, fun heq => ?_⟩⟩
    · rw [lookup_append, lookup_none_of_sublist (keepIdx_sublist _ _ _) (lookup_none_iff.mp hpre),
        Option.none_or, lookup_cons, hMk, hK, if_neg hpe]; rfl
    · rw [← kmMatches_km, ← heq, kmMatches_km, hmk] at hMk; cases hMk

theorem inv_insert_remove {T0 T : List Entry} {A : Aliases} {es : List Nat} {ins : Nat} {M : Entry}
    (hinv : Inv T0 T A)
    (hcov : ∀ e ∈ members T es, ∀ k, e.matches k = true → M.matches k = true)
    (hroute : ∀ e ∈ members T es, M.route = e.route)
    (hsrc : ∀ e ∈ members T es, bitSubset e.sources M.sources = true)
    (hup : ∀ i ∈ es, ∀ e, T[i]? = some e → ∀ o ∈ (T.take ins).drop (i + 1), e.meets o = false)
    (hdown : ∀ d ∈ T.drop ins, ∀ a ∈ alOf A d, intersect M.key M.mask a.1 a.2 = false)
    (hio : ∀ e ∈ T.take ins, e.gen < M.gen) :
    Inv T0 (keepIdx es 0 (T.take ins) ++ M :: keepIdx es ins (T.drop ins))
      (applyAliases A M.km (members T es)) := by
  intro k o ho
  obtain ⟨e, hl, hr, hs, a, ha, hak⟩ := hinv k o ho
  have hmk := (lookup_some_matches hl).1
  rcases lookup_insert_remove hl hcov hup (fun hd => Bool.eq_false_iff.mpr fun hc => by
      have h1 := hdown e hd a ha
      rw [intersect_of_matches ((matches_iff M k).mp hc) (kmMatches_iff.mp hak)] at h1
      cases h1) hio with ⟨_, hN, ⟨rfl, hem⟩ | ⟨rfl, hne⟩⟩
  · exact ⟨_, hN, (hroute e hem).trans hr, bitSubset_trans hs (hsrc e hem),
      applyAliases_stands (hcov e hem k hmk) (fun _ => ⟨e, hem, hmk, a, ha, hak⟩) fun h => absurd rfl h⟩
  · exact ⟨_, hN, hr, hs, applyAliases_stands hmk (fun h => absurd h hne) fun _ => ⟨a, ha, hak⟩⟩

theorem apply_inv (T0 T : List Entry) (A : Aliases) (es : List Nat)
    (hinv : Inv T0 T A)
    (hins : (mkMerge T es).ins ≤ T.length)
    (hup : UpOk T (mkMerge T es)) (hdown : DownOk T A (mkMerge T es))
    (hio : InsOk T (mkMerge T es)) (hsr : SameRoute T es) :
    Inv T0 (applyMerge T (mkMerge T es) A).1 (applyMerge T (mkMerge T es) A).2 := by
  rw [applyMerge_table T es A hins]
  refine inv_insert_remove hinv (fun e he k hm => ?_) (fun e he => ?_)
    (fun e he => sources_subset_allSources he) hup (covered_nil hdown) hio.1
  · exact (matches_iff _ k).mpr (merged_covers he hm)
  · show (match members T es with | x :: _ => x.route | [] => 0) = e.route
    cases hmem : members T es with
    | nil => rw [hmem] at he; cases he
    | cons x r => exact hsr x (by rw [hmem]; exact List.mem_cons_self) e he

end Rig.C04
