/-
C12 - the region word and the quadtree coordinates (`inSq`, `subIndex`).  Core Lean only.
-/
import RigModel.Model.C12
import RigModel.Lemmas.Bits

namespace Rig.C12

theorem testBit_or_bit (m s i : Nat) : (m ||| 1 <<< s).testBit i = (m.testBit i || decide (s = i)) := by
  simp [Nat.testBit_or, Nat.one_shiftLeft, Nat.testBit_two_pow]

theorem and_bit_eq_zero (m s : Nat) : (m &&& 1 <<< s == 0) = !m.testBit s := by
  rw [← Bits.and_one_shl_ne, bne, Bool.not_not]

theorem eq_ffff (m : Nat) (hm : m < 2 ^ 16) : m = 0xffff ↔ ∀ i, i < 16 → m.testBit i = true := by
  have e : (65535 : Nat) = 2 ^ 16 - 1 := by decide
  constructor
  · intro h i hi; subst h
    rw [e, Nat.testBit_two_pow_sub_one]; simpa using hi
  · intro h
    apply Nat.eq_of_testBit_eq
    intro i
    rw [e, Nat.testBit_two_pow_sub_one]
    by_cases hi : i < 16
    · simp [hi, h i hi]
    · simp [hi]
      exact Bits.testBit_false_of_lt hm (Nat.le_of_not_lt hi)

theorem and_xor_low (x k : Nat) (hx : x < 2 ^ 16) :
    x &&& (0xffff ^^^ (2 ^ k - 1)) = x / 2 ^ k * 2 ^ k := by
  apply Nat.eq_of_testBit_eq
  intro i
  rw [show (0xffff : Nat) = 2 ^ 16 - 1 from rfl, Nat.testBit_and, Nat.testBit_xor,
    Nat.testBit_two_pow_sub_one, Nat.testBit_two_pow_sub_one, ← Nat.shiftRight_eq_div_pow,
    ← Nat.shiftLeft_eq, Nat.testBit_shiftLeft, Nat.testBit_shiftRight]
  have hhi : ¬ i < 16 → x.testBit i = false := fun h => Bits.testBit_false_of_lt hx (Nat.le_of_not_lt h)
  by_cases hk : k ≤ i
  · rw [show k + (i - k) = i by omega]
    by_cases h16 : i < 16
    · simp [h16, hk, Nat.not_lt_of_le hk]
    · simp [hhi h16]
  · by_cases h16 : i < 16
    · simp [h16, hk, Nat.lt_of_not_le hk]
    · simp [hhi h16, hk]

theorem subIndex_eq (lv x y : Nat) :
    subIndex lv x y = x / 2 ^ (shift lv) % 4 + 4 * (y / 2 ^ (shift lv) % 4) := by
  have e : (3 : Nat) = 2 ^ 2 - 1 := by decide
  simp only [subIndex, Nat.shiftRight_eq_div_pow, e, Nat.and_two_pow_sub_one_eq_mod]

theorem subIndex_lt (lv x y : Nat) : subIndex lv x y < 16 := by
  rw [subIndex_eq]; omega

theorem code_eq (x0 y0 lv m : Nat) (hy0 : y0 < 256) (hy : y0 % 4 = 0) (hl : lv < 4) (hm : m < 2 ^ 16) :
    (x0 <<< 24 ||| y0 <<< 16 ||| lv <<< 16 ||| m) = (x0 * 2 ^ 8 + (y0 + lv)) * 2 ^ 16 + m := by
  have e24 : x0 <<< 24 = (x0 <<< 8) <<< 16 := by rw [← Nat.shiftLeft_add]
  have hyl : y0 ||| lv = y0 + lv := by
    have : y0 = (y0 / 4) <<< 2 := by simp [Nat.shiftLeft_eq]; omega
    rw [this, ← Nat.shiftLeft_add_eq_or_of_lt (by simpa using hl)]
  have hk : x0 <<< 8 ||| (y0 + lv) = x0 <<< 8 + (y0 + lv) := by
    rw [← Nat.shiftLeft_add_eq_or_of_lt (by omega)]
  rw [e24, ← Nat.shiftLeft_or_distrib, ← Nat.shiftLeft_or_distrib, Nat.or_assoc, hyl, hk,
    ← Nat.shiftLeft_add_eq_or_of_lt hm]
  simp only [Nat.shiftLeft_eq]

theorem word_fields (r : Nat) :
    wLevel r = r / 2 ^ 16 % 4 ∧ wBaseX r = r / 2 ^ 16 / 256 % 256 ∧ wBaseY r = r / 2 ^ 16 / 4 % 64 * 4 := by
  refine ⟨rfl, ?_, ?_⟩
  · unfold wBaseX; rw [Nat.div_div_eq_div_mul]
  · unfold wBaseY; rw [Nat.div_div_eq_div_mul]

/-- stated for the generalised word `r`: `selects_code` generalises before it unfolds `selects` -/
theorem code_fields (x0 y0 lv m : Nat) (hx0 : x0 < 256) (hy0 : y0 < 256) (hy : y0 % 4 = 0) (hl : lv < 4)
    (hm : m < 2 ^ 16) {r : Nat} (hr : x0 <<< 24 ||| y0 <<< 16 ||| lv <<< 16 ||| m = r) :
    wLevel r = lv ∧ wBaseX r = x0 ∧ wBaseY r = y0 ∧ r % 2 ^ 16 = m := by
  have upper : ∀ q, q = x0 * 2 ^ 8 + (y0 + lv) → q % 4 = lv ∧ q / 256 % 256 = x0 ∧ q / 4 % 64 * 4 = y0 := by
    omega
  rw [code_eq x0 y0 lv m hy0 hy hl hm] at hr
  obtain ⟨h1, h2, h3⟩ := word_fields r
  obtain ⟨u1, u2, u3⟩ := upper _ (Bits.div_radix _ hr.symm hm)
  exact ⟨h1.trans u1, h2.trans u2, h3.trans u3, Bits.mod_radix _ hr.symm hm⟩

/-! A node of level `lv` covers an aligned square of side `scale lv = 4 * scale (lv + 1)`; its sixteen blocks have
side `scale (lv + 1) = 2 ^ shift lv`.  The arithmetic is done in one dimension, for an arbitrary side. -/

theorem div_eq_iff_mul_le {S x q : Nat} (hS : 0 < S) : x / S = q ↔ S * q ≤ x ∧ x < S * q + S := by
  rw [Nat.div_eq_iff hS, Nat.mul_comm]; omega

theorem div_mul_eq_iff {S a x : Nat} (hS : 0 < S) (ha : a % S = 0) :
    x / S * S = a ↔ a ≤ x ∧ x < a + S := by
  obtain ⟨q, rfl⟩ := Nat.dvd_of_mod_eq_zero ha
  rw [Nat.mul_comm S q, Nat.mul_right_cancel_iff hS, Nat.mul_comm, div_eq_iff_mul_le hS]

theorem quarter_iff {s a k x : Nat} (hs : 0 < s) (ha : a % (4 * s) = 0) (hk : k < 4) :
    (a + s * k ≤ x ∧ x < a + s * k + s) ↔ ((a ≤ x ∧ x < a + 4 * s) ∧ x / s % 4 = k) := by
  obtain ⟨q, rfl⟩ := Nat.dvd_of_mod_eq_zero ha
  have e : 4 * s * q + s * k = s * (4 * q + k) := by
    rw [Nat.mul_add, Nat.mul_comm 4 s, Nat.mul_assoc]
  rw [e, ← div_eq_iff_mul_le hs, ← div_eq_iff_mul_le (by omega), Nat.mul_comm 4 s, ← Nat.div_div_eq_div_mul]
  omega

theorem pair4_inj {a b c d : Nat} (ha : a < 4) (hc : c < 4) : a + 4 * b = c + 4 * d ↔ a = c ∧ b = d := by
  omega

theorem scale_pos (lv : Nat) : 0 < scale lv := Nat.pow_pos (by decide)

theorem scale_succ {lv : Nat} (hl : lv ≤ 3) : scale lv = 4 * scale (lv + 1) := by
  unfold scale
  rw [show 4 - lv = 4 - (lv + 1) + 1 by omega, Nat.pow_succ, Nat.mul_comm]

theorem two_pow_shift {lv : Nat} (hl : lv ≤ 3) : 2 ^ shift lv = scale (lv + 1) := by
  unfold scale shift
  rw [show 6 - 2 * lv = 2 * (4 - (lv + 1)) by omega, Nat.pow_mul]

theorem scale_mul {lv : Nat} (hl : lv ≤ 4) : 4 ^ lv * scale lv = 256 := by
  unfold scale; rw [← Nat.pow_add, show lv + (4 - lv) = 4 by omega]

/-- chip `(x, y)` lies in the square of a node at `(x0, y0)` of level `lv` -/
def inSq (x0 y0 lv x y : Nat) : Prop := x0 ≤ x ∧ x < x0 + scale lv ∧ y0 ≤ y ∧ y < y0 + scale lv

theorem inSq_iff_div {x0 y0 lv : Nat} (hx : x0 % scale lv = 0) (hy : y0 % scale lv = 0) (x y : Nat) :
    inSq x0 y0 lv x y ↔ x / scale lv * scale lv = x0 ∧ y / scale lv * scale lv = y0 := by
  rw [div_mul_eq_iff (scale_pos lv) hx, div_mul_eq_iff (scale_pos lv) hy, and_assoc]; rfl

theorem selects_code (x0 y0 lv m x y : Nat) (hl : lv ≤ 3)
    (hx : x0 % scale lv = 0) (hy : y0 % scale lv = 0) (hx1 : x0 + scale lv ≤ 256)
    (hy1 : y0 + scale lv ≤ 256) (hm : m < 2 ^ 16) :
    selects (x0 <<< 24 ||| y0 <<< 16 ||| lv <<< 16 ||| m) x y = true ↔
      (inSq x0 y0 lv x y ∧ m.testBit (subIndex lv x y) = true) := by
  have hy4 : y0 % 4 = 0 := by
    rw [scale_succ hl] at hy; rw [← Nat.mod_mul_right_mod y0 4, hy]
  have hsc := scale_pos lv
  generalize hr : x0 <<< 24 ||| y0 <<< 16 ||| lv <<< 16 ||| m = r
  obtain ⟨h0, h2, h3, h4⟩ := code_fields x0 y0 lv m (by omega) (by omega) hy4 (by omega) hm hr
  have h1 : wSide r = scale (lv + 1) := by
    unfold wSide; rw [h0]; exact congrArg (4 ^ ·) (Nat.add_sub_add_right 3 1 lv).symm
  have hi := subIndex_lt lv x y
  rw [subIndex_eq, two_pow_shift hl] at hi ⊢
  rw [← h4, Nat.testBit_mod_two_pow, decide_eq_true hi, Bool.true_and]
  unfold selects
  simp only [h1, h2, h3, ← scale_succ hl, Bool.and_eq_true, beq_iff_eq, inSq_iff_div hx hy]

theorem regionForChip_eq (x y lv : Nat) (hx : x < 2 ^ 16) (hy : y < 2 ^ 16) (hl : lv ≤ 3) :
    regionForChip x y lv = .ok ((x / scale lv * scale lv) <<< 24 ||| (y / scale lv * scale lv) <<< 16 |||
      lv <<< 16 ||| 1 <<< subIndex lv x y) := by
  have e : scale lv = 2 ^ (shift lv + 2) := by
    rw [scale_succ hl, ← two_pow_shift hl, Nat.pow_succ, Nat.pow_succ, Nat.mul_assoc, Nat.mul_comm]
  have e' : 4 <<< shift lv = 2 ^ (shift lv + 2) := by
    rw [Nat.shiftLeft_eq, Nat.pow_succ, Nat.pow_succ, Nat.mul_assoc, Nat.mul_comm]
  rw [e, ← and_xor_low _ _ hx, ← and_xor_low _ _ hy, ← e']
  exact if_neg (Nat.not_lt_of_le hl)

theorem child_inSq (x0 y0 lv i x y : Nat) (hl : lv ≤ 3) (hx : x0 % scale lv = 0)
    (hy : y0 % scale lv = 0) (hi : i < 16) :
    inSq (x0 + scale lv / 4 * (i % 4)) (y0 + scale lv / 4 * (i / 4)) (lv + 1) x y ↔
      (inSq x0 y0 lv x y ∧ subIndex lv x y = i) := by
  unfold inSq
  rw [subIndex_eq, two_pow_shift hl]
  rw [scale_succ hl] at hx hy ⊢
  rw [Nat.mul_div_cancel_left _ (by decide : 0 < 4)]
  have hs := scale_pos (lv + 1)
  generalize scale (lv + 1) = s at *
  have hsub := pair4_inj (b := y / s % 4) (d := i / 4) (Nat.mod_lt (x / s) (by decide)) (Nat.mod_lt i (by decide))
  rw [Nat.mod_add_div] at hsub
  rw [← and_assoc, quarter_iff hs hx (Nat.mod_lt i (by decide)), quarter_iff hs hy (by omega), hsub]
  constructor
  · rintro ⟨⟨⟨a, b⟩, c⟩, ⟨d, e⟩, f⟩; exact ⟨⟨a, b, d, e⟩, c, f⟩
  · rintro ⟨⟨a, b, d, e⟩, c, f⟩; exact ⟨⟨⟨a, b⟩, c⟩, ⟨d, e⟩, f⟩

theorem child_align (x0 lv k : Nat) (hl : lv < 3) (hx : x0 % scale lv = 0) (hk : k < 4) :
    (x0 + scale lv / 4 * k) % scale (lv + 1) = 0 ∧
    (x0 + scale lv ≤ 256 → x0 + scale lv / 4 * k + scale (lv + 1) ≤ 256) := by
  rw [scale_succ (Nat.le_of_lt hl)] at hx ⊢
  rw [Nat.mul_div_cancel_left _ (by decide : 0 < 4)]
  generalize scale (lv + 1) = s at *
  obtain ⟨q, rfl⟩ := Nat.dvd_of_mod_eq_zero hx
  refine ⟨?_, fun h => ?_⟩
  · rw [Nat.mul_comm 4 s, Nat.mul_assoc, ← Nat.mul_add, Nat.mul_mod_right]
  · have := Nat.mul_le_mul_left s (Nat.succ_le_of_lt hk)
    rw [Nat.mul_succ] at this; omega

theorem leaf_point (x0 y0 x y x' y' : Nat) (hx : x0 % scale 3 = 0) (hy : y0 % scale 3 = 0)
    (h : inSq x0 y0 3 x y) (h' : inSq x0 y0 3 x' y') :
    subIndex 3 x y = subIndex 3 x' y' ↔ (x' = x ∧ y' = y) := by
  have a := (child_inSq x0 y0 3 _ x y (Nat.le_refl 3) hx hy (subIndex_lt ..)).2 ⟨h, rfl⟩
  have b := child_inSq x0 y0 3 (subIndex 3 x y) x' y' (Nat.le_refl 3) hx hy (subIndex_lt ..)
  simp only [inSq, show scale (3 + 1) = 1 from rfl] at a b
  constructor
  · intro e; have := b.2 ⟨h', e.symm⟩; omega
  · rintro ⟨rfl, rfl⟩; rfl

theorem block_point (x0 y0 lv i : Nat) (hl : lv ≤ 3) (hx : x0 % scale lv = 0) (hy : y0 % scale lv = 0)
    (hi : i < 16) : ∃ x y, inSq x0 y0 lv x y ∧ subIndex lv x y = i := by
  have hs := scale_pos (lv + 1)
  exact ⟨_, _, (child_inSq x0 y0 lv i _ _ hl hx hy hi).1
    ⟨Nat.le_refl _, Nat.lt_add_of_pos_right hs, Nat.le_refl _, Nat.lt_add_of_pos_right hs⟩⟩

end Rig.C12
