/-
C17 - library calls neither modify their arguments nor remember earlier calls
(the process-state half; argument immutability is about Python object identity and is
validated by the harness; its static counterpart is `effects_reviewed` in Props/C17Effects.lean).
-/
import RigModel.Model.C17
import RigModel.Lemmas.Assoc

namespace Rig.C17
open Rig.Gen.State

/-- **Inventory obligation.** Every piece of process-wide mutable state found in the source is
reviewed: it is either never written through (so it equals its literal for ever) or it is the
modelled memo.  A new container, a new `global`, a new mutable default, or a new write through
an existing one breaks this theorem. -/
theorem inventory_classified : ∀ e ∈ inventory, (classify e).isSome = true := by
  decide +kernel

/-- no `global` statement and exactly one written object in the whole library -/
theorem inventory_written_once :
    (inventory.filter (fun e => e.2.2.2 != 0)).map (fun e => (e.1, e.2.1)) = memos ∧
    (inventory.filter (fun e => e.2.2.1 == "global")) = [] := by
  decide +kernel

theorem memoInv_nil : MemoInv [] := by
  intro r out h; cases h

/-- **The memo is transparent.** Under the invariant, a lookup returns exactly what the pure
function returns, and the invariant is kept. -/
theorem memoGet_spec (memo : Memo) (r : Nat) (h : MemoInv memo) :
    (memoGet memo r).2 = Rig.C03.concentricHexagons r ∧ MemoInv (memoGet memo r).1 := by
  unfold memoGet
  cases hl : memo.lookup r with
  | some out => exact ⟨h r out (Assoc.mem_of_lookup hl), h⟩
  | none =>
    refine ⟨rfl, ?_⟩
    intro r' out' hm
    simp only [List.mem_cons] at hm
    rcases hm with heq | hm
    · cases heq; rfl
    · exact h r' out' hm

theorem step_inv {α : Type} (memo : Memo) (c : Call α) (h : MemoInv memo) :
    MemoInv (step memo c).1 := by
  cases c with
  | usesMemo r f => exact (memoGet_spec memo r h).2
  | pure v => exact h

theorem step_result {α : Type} (memo : Memo) (c : Call α) (h : MemoInv memo) :
    (step memo c).2 = fresh c := by
  cases c with
  | usesMemo r f =>
    simp only [step, fresh]
    rw [(memoGet_spec memo r h).1, (memoGet_spec [] r memoInv_nil).1]
  | pure v => rfl

theorem runHistory_inv {α : Type} (cs : List (Call α)) : ∀ memo, MemoInv memo → MemoInv (runHistory memo cs) := by
  induction cs with
  | nil => intro memo h; exact h
  | cons c cs ih => intro memo h; exact ih _ (step_inv memo c h)

/-- **History independence.** Whatever calls were made before in the process, a call returns
what it returns in a fresh interpreter. -/
theorem history_independent {α : Type} (history : List (Call α)) (probe : Call α) :
    (step (runHistory [] history) probe).2 = fresh probe :=
  step_result _ probe (runHistory_inv history [] memoInv_nil)

/-- non-vacuity: a history that fills the memo for radius 2, then a probe with radius 2 -/
example : (runHistory [] [Call.usesMemo 2 (fun h => h.length)]).length = 1 ∧
    (step (runHistory [] [Call.usesMemo 2 (fun h => h.length)]) (Call.usesMemo 2 (fun h => h.length))).2 = 19 := by
  decide +kernel

end Rig.C17
