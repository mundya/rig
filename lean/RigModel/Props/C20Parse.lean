/-
C20 - the struct-file parser inside the model.

`parseStructFile` (Model/C20Parse.lean) is the Lean model of rig/machine_control/struct_file.py:
`read_struct_file`.  This file proves
* the tie of the bundled struct file: the BYTES of rig/boot/sark.struct (regenerated into
  `Gen.C20Boot.sarkStructBytes` on every run) parse, by the model parser and in the kernel (`sark_eval`),
  to the table the boot theorems are about (`sark_parsed`), so `boot_meets_spec` applies to the parsed
  table (`boot_meets_spec_parsed`);
* `parse_print`: parsing the canonical printing of any well-formed table gives the table back;
* what an accepted field line stores, and exactly which lines raise which error.
-/
import RigModel.Props.C20
import RigModel.Lemmas.C20Sark

namespace Rig.C20Parse
open Rig.C20 Rig.Gen.C20Boot

/-- rig's perl -> Python pack table (regenerated from struct_file.py) is the documented meaning of the
perl `pack` letters: `A` string, `c` / `C` signed / unsigned char, `v` / `V` little-endian 16 / 32 bit -/
theorem perl_packs_documented :
    perlLookup [65] = some [115] ∧ perlLookup [99] = some [98] ∧ perlLookup [67] = some [66] ∧
    perlLookup [118] = some [72] ∧ perlLookup [86] = some [73] ∧ perlPacks.length = 5 := by
  decide

/-- **The bundled struct file, parsed by the model parser (kernel evaluation over the bytes of
rig/boot/sark.struct), is the generated table** that `sv_table_ok`, `boot_meets_spec` and the
check's oracle use.  A change of sark.struct, of the pack table or of the model parser breaks this
obligation. -/
theorem sark_parsed : parseStructFile sarkStructBytes = .ok (genStructs.map ofDef) :=
  sark_file.1

/-- the generated table, sent through `ofDef` and back through `PStruct.toDef`, is itself -/
theorem sark_table_embeds : (genStructs.map ofDef).map PStruct.toDef = genStructs :=
  map_map_self fun s _ => toDef_ofDef s

theorem parsedSv_eq : parsedSv = some genSv := sark_eval.2

/-- **`boot_meets_spec` for the PARSED table.**  A boot whose struct file is the bundled
sark.struct - `sv` taken from `parseStructFile` of the file's bytes - with an in-domain image and
options that name fields and fit them returns, and its datagrams and returned struct satisfy
`specOK`. -/
theorem boot_meets_spec_parsed (c : Call) (opts : Dict) (sv : StructDef) (hp : parsedSv = some sv)
    (hs : c.svSize = sv.size) (hf : c.svFields = sv.fields) (hd : c.ImageDomain)
    (hv : optsValid c opts = true) :
    ∃ fs, (bootCore c opts).result = .ok fs ∧
      fs = c.svFields.map (fun f => { f with default := expectedDefault c opts f }) ∧
      specOK c opts (sends (bootCore c opts).events) fs = true := by
  rw [parsedSv_eq] at hp
  cases hp
  have ht := sv_table_ok
  exact boot_meets_spec c opts ⟨hd, by rw [hs, hf]; exact ht.1, by rw [hs]; exact ht.2.1⟩ hv

/-- non-vacuity: `exCall` (Props/C20.lean) uses the parsed table -/
example : ∃ sv, parsedSv = some sv ∧ exCall.svSize = sv.size ∧ exCall.svFields = sv.fields :=
  ⟨genSv, parsedSv_eq, rfl, rfl⟩

/-- **`parse_print`.**  For every well-formed table - at least one struct, struct names distinct tokens,
`size` and `base` present, field names distinct tokens (an array field, length ≠ 1, has a name of word
characters; a scalar field has a name the array expression does not match), pack characters = optional
count + one of `s b B H I`, printf a token; sizes, bases, offsets and defaults ANY integers - parsing the
canonical printing gives exactly the table, in order.  Unbounded: all tables, all lengths. -/
theorem parse_print (ss : List PStruct) (h : TableWF ss) : parseStructFile (printStructs ss) = .ok ss := by
  obtain ⟨hne, hs, hd⟩ := h
  have htok : ∀ tl ∈ ss.flatMap structLines, ∀ t ∈ tl, Tok t := by
    intro tl htl
    obtain ⟨s, hs', htl'⟩ := List.mem_flatMap.mp htl
    exact structLines_tok s (hs s hs') tl htl'
  have hlines : splitLines (printStructs ss) = (ss.flatMap structLines).map joinSp := by
    have : printStructs ss = (((ss.flatMap structLines).map joinSp).map (fun l => l ++ [10])).flatten := by
      unfold printStructs
      rw [List.map_map]
      rfl
    rw [this]
    apply splitLines_flatten
    intro l hl
    obtain ⟨tl, htl, rfl⟩ := List.mem_map.mp hl
    exact joinSp_noeol tl (htok tl htl)
  obtain ⟨nm', h1, h2, h3⟩ := runToks_table ss hs hd [] none 0 (fun _ h => nomatch h) (fun _ h => nomatch h)
  simp only [List.nil_append] at h1 h2
  unfold parseStructFile
  rw [hlines, parseLines_joinSp _ htok, h1]
  cases nm' with
  | none => exact absurd rfl (h3 hne)
  | some n =>
    simp [h2 n rfl]

/-- `parse_print` with the decided hypothesis (the check evaluates `tableWFB` in the driver and demands the
same round trip of rig's `read_struct_file` on the printed text) -/
theorem parse_print_decided (ss : List PStruct) (h : tableWFB ss = true) :
    parseStructFile (printStructs ss) = .ok ss :=
  parse_print ss (tableWFB_sound ss h)

/-- non-vacuity: the table of the bundled sark.struct (arrays, `A16`, dotted names, both structs) is well
formed -/
theorem sark_table_wf : tableWFB (genStructs.map ofDef) = true :=
  sark_file.2.2.1

theorem sark_print_roundtrip :
    parseStructFile (printStructs (genStructs.map ofDef)) = parseStructFile sarkStructBytes := by
  rw [parse_print_decided _ sark_table_wf, sark_parsed]

/-- counted pack characters: `packValueFull` on the four plain integer codes is `packValue` of Model/C20.lean
(the function `struct_pack_spec` and the boot theorems are about) -/
theorem packValueFull_plain (v : Int) :
    packValueFull [66] v = packValue "B" v ∧ packValueFull [98] v = packValue "b" v ∧
    packValueFull [72] v = packValue "H" v ∧ packValueFull [73] v = packValue "I" v := by
  refine ⟨?_, ?_, ?_, ?_⟩ <;> simp [packValueFull, packCount] <;> rfl

/-- `struct.fields[f.name] = f` -/
def addField (f : PField) (s : PStruct) : PStruct := { s with fields := setField s.fields f }

/-- **A field line is accepted exactly when** its pack token converts, offset and default are numbers
`num` accepts and a `name` line came before; the field stored is the one the line states: name and
array length from the field token, converted pack characters, offset, printf, default. -/
theorem field_line_accepted (st st' : PState) (i : Nat) (field pack offset printf default : Bytes) :
    stepLine st i [field, pack, offset, printf, default] = .ok st' ↔
      ∃ pk off d n, convPack pack = .ok pk ∧ parseNum offset = some off ∧ parseNum default = some d ∧
        st.name = some n ∧
        st' = ⟨modStruct n (addField ⟨(fieldName field).1, pk, off, printf, d, (fieldName field).2⟩) st.structs,
          st.name⟩ := by
  simp only [stepLine]
  cases convPack pack with
  | error e => simp
  | ok pk =>
    cases parseNum offset with
    | none => simp
    | some off =>
      cases parseNum default with
      | none => simp
      | some d =>
        cases st.name with
        | none => simp
        | some n =>
          have : addField ⟨(fieldName field).1, pk, off, printf, d, (fieldName field).2⟩ =
              fun s => { s with fields := setField s.fields ⟨(fieldName field).1, pk, off, printf, d, (fieldName field).2⟩ } := rfl
          simp [eq_comm, this]

/-- **Which error a field line raises**: unknown pack letter first (`KeyError`), then a malformed
offset, then a malformed default (`ValueError` from `int`), then the missing `name` line
(`KeyError(None)`) - never a syntax error. -/
theorem field_line_raises (st : PState) (i : Nat) (field pack offset printf default : Bytes) (e : PErr) :
    stepLine st i [field, pack, offset, printf, default] = .error e ↔
      (convPack pack = .error e) ∨
      (∃ pk, convPack pack = .ok pk ∧ parseNum offset = none ∧ e = .badInt offset) ∨
      (∃ pk off, convPack pack = .ok pk ∧ parseNum offset = some off ∧ parseNum default = none ∧ e = .badInt default) ∨
      (∃ pk off d, convPack pack = .ok pk ∧ parseNum offset = some off ∧ parseNum default = some d ∧
        st.name = none ∧ e = .noStruct) := by
  simp only [stepLine]
  cases convPack pack with
  | error e' => simp
  | ok pk =>
    cases parseNum offset with
    | none => simp [eq_comm]
    | some off =>
      cases parseNum default with
      | none => simp [eq_comm]
      | some d =>
        cases st.name with
        | none => simp [eq_comm]
        | some n => simp

theorem checkComplete_err (ss : List PStruct) (n : Bytes) (e : PErr) (h : checkComplete ss n = .error e) :
    e = .noStruct ∨ e = .sizeMissing n ∨ e = .baseMissing n := by
  revert h
  fun_cases checkComplete ss n
  · rintro ⟨⟩; exact .inl rfl
  · rintro ⟨⟩; exact .inr (.inl rfl)
  · rintro ⟨⟩; exact .inr (.inr rfl)
  · exact nofun

/-- **Syntax errors**: a line raises "line i: Invalid syntax" exactly when, after comment stripping, it
has a number of tokens other than 0, 3 or 5 - and then with its own 0-based line number. -/
theorem line_syntax_error (st : PState) (i j : Nat) (toks : List Bytes) :
    stepLine st i toks = .error (.syntax j) ↔
      (j = i ∧ toks.length ≠ 0 ∧ toks.length ≠ 3 ∧ toks.length ≠ 5) := by
  fun_cases stepLine st i toks
  case case2 e h =>
    -- a `name` line raises what `checkComplete` raises
    have : e = .noStruct ∨ (∃ n, e = .sizeMissing n) ∨ ∃ n, e = .baseMissing n := by
      split at h
      · exact (checkComplete_err _ _ _ h).imp id (.imp (⟨_, ·⟩) (⟨_, ·⟩))
      · cases h
    rcases this with rfl | ⟨_, rfl⟩ | ⟨_, rfl⟩ <;> simp
  case case11 e h =>
    -- `convPack` raises `packKey` only
    refine ⟨fun he => ?_, by simp⟩
    cases he
    unfold convPack at h
    repeat' split at h
    all_goals simp at h
  case case16 h0 h3 h5 =>
    match toks with
    | [] => exact (h0 rfl).elim
    | [_, _, _] => exact (h3 _ _ _ rfl).elim
    | [_, _, _, _, _] => exact (h5 _ _ _ _ _ rfl).elim
    | [_] | [_, _] | [_, _, _, _] | _ :: _ :: _ :: _ :: _ :: _ :: _ => simp [eq_comm]
  -- the other branches return, or raise another error on 0, 3 or 5 tokens
  all_goals simp

end Rig.C20Parse
