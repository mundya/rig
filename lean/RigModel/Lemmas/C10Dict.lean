/-
Facts about the dict support of the `do`-subset (`Gen/PyFunTables.lean`) and the abstraction `nestOf` from the
model's flat, insertion-ordered slot list (Model/C10: one association list keyed by (chip, key, mask)) to Python's
`route_sets` (a defaultdict of OrderedDicts), for Props/C10Gen.lean.
-/
import RigModel.Model.C10
import RigModel.Gen.PyFunTables
import RigModel.Lemmas.PyDict
import RigModel.Lemmas.C10Trees

namespace Rig.C10
open Rig.Gen.PyFun Rig.PyDict

section generic
variable {κ α : Type} [BEq κ]

theorem getD_touch (d : List (κ × α)) (k k' : κ) (dflt : α) :
    pyDictGetD (pyDictTouch d k dflt) k' dflt = pyDictGetD d k' dflt := by
  unfold pyDictTouch
  split
  · rfl
  · simp only [pyDictGetD, List.lookup_append]
    cases h : d.lookup k' with
    | some v => simp
    | none =>
      simp only [Option.none_or, List.lookup]
      cases (k' == k) <;> rfl

theorem touch_of_isSome (d : List (κ × α)) (k : κ) (dflt : α) (h : (d.lookup k).isSome = true) :
    pyDictTouch d k dflt = d := by
  unfold pyDictTouch; simp [h]

variable [LawfulBEq κ]

theorem pyDictSet_append_of_none (d e : List (κ × α)) (k : κ) (v : α) (h : d.lookup k = none) :
    pyDictSet (d ++ e) k v = d ++ pyDictSet e k v := by
  induction d with
  | nil => rfl
  | cons a t ih =>
    obtain ⟨a1, a2⟩ := a
    simp only [List.lookup] at h
    cases hk : (k == a1)
    · rw [hk] at h
      have : (a1 == k) = false := by rw [BEq.comm]; exact hk
      simp only [List.cons_append, pyDictSet, this, Bool.false_eq_true, if_false, ih h]
    · rw [hk] at h; simp at h

theorem pyDictSet_touch (d : List (κ × α)) (k : κ) (dflt v : α) :
    pyDictSet (pyDictTouch d k dflt) k v = pyDictSet d k v := by
  unfold pyDictTouch
  split
  · rfl
  · rename_i h
    have hn : d.lookup k = none := by
      cases h' : d.lookup k with
      | none => rfl
      | some x => rw [h'] at h; simp at h
    rw [pyDictSet_append_of_none d _ k v hn, pyDictSet_of_lookup_none hn]
    simp [pyDictSet]

theorem pyDictMod_touch (d : List (κ × α)) (k : κ) (dflt : α) (f : α → α) :
    pyDictMod (pyDictTouch d k dflt) k dflt f = pyDictMod d k dflt f := by
  unfold pyDictMod
  rw [getD_touch, pyDictSet_touch]

theorem touch_touch (d : List (κ × α)) (k : κ) (dflt : α) :
    pyDictTouch (pyDictTouch d k dflt) k dflt = pyDictTouch d k dflt := by
  apply touch_of_isSome
  unfold pyDictTouch
  split
  · assumption
  · simp [List.lookup_append, List.lookup]

end generic

/-- `(key, mask) -> InOutPair(ins, outs)` -/
def Slot.item (s : Slot) : (Nat × Nat) × (List (Option Nat) × List Nat) := ((s.key, s.mask), (s.ins, s.outs))

/-- the OrderedDict of chip `c` -/
def itemsOf (st : List Slot) (c : ChipXY) : List ((Nat × Nat) × (List (Option Nat) × List Nat)) :=
  (st.filter (fun s => s.chip == c)).map Slot.item

/-- Python's `route_sets` for the model's slot list -/
def nestOf (st : List Slot) : List (ChipXY × List ((Nat × Nat) × (List (Option Nat) × List Nat))) :=
  (chipsOf st).map (fun c => (c, itemsOf st c))

theorem mem_chipsOf (st : List Slot) (c : ChipXY) : c ∈ chipsOf st ↔ ∃ s ∈ st, s.chip = c := by
  simp [chipsOf, mem_firsts]

theorem lookup_nestOf (st : List Slot) (c : ChipXY) :
    (nestOf st).lookup c = if c ∈ chipsOf st then some (itemsOf st c) else none := by
  unfold nestOf; exact Assoc.lookup_map_self _ _ c

theorem itemsOf_nil_of_not_mem (st : List Slot) (c : ChipXY) (h : c ∉ chipsOf st) : itemsOf st c = [] := by
  unfold itemsOf
  rw [List.map_eq_nil_iff, List.filter_eq_nil_iff]
  intro s hs hc
  exact h ((mem_chipsOf st c).2 ⟨s, hs, by simpa using hc⟩)

theorem getD_nestOf (st : List Slot) (c : ChipXY) : pyDictGetD (nestOf st) c [] = itemsOf st c := by
  unfold pyDictGetD
  rw [lookup_nestOf]
  split
  · rfl
  · rename_i h; simp [itemsOf_nil_of_not_mem st c h]

theorem lookup_itemsOf (st : List Slot) (c : ChipXY) (k m : Nat) :
    (itemsOf st c).lookup (k, m) = (st.find? (fun s => s.at c k m)).map (fun s => (s.ins, s.outs)) := by
  rw [itemsOf, Rig.Assoc.lookup_eq_find?, List.find?_map, List.find?_filter, Option.map_map]
  refine congrArg₂ Option.map rfl (congrArg (List.find? · st) (funext fun s => ?_))
  rw [Bool.decide_and, Bool.decide_eq_true, Bool.decide_eq_true]
  exact (Bool.and_assoc _ _ _).symm

theorem keys_nestOf (st : List Slot) : (nestOf st).map (·.1) = chipsOf st := by
  simp [nestOf, List.map_map, Function.comp_def]

theorem nodup_keys_nestOf (st : List Slot) : ((nestOf st).map (·.1)).Nodup := by
  rw [keys_nestOf]; exact nodup_firsts _

theorem set_nestOf (st : List Slot) (c : ChipXY) (v) (hc : c ∈ chipsOf st) :
    pyDictSet (nestOf st) c v = (chipsOf st).map (fun c' => (c', if c' = c then v else itemsOf st c')) :=
  (pyDictSet_keyed _ c v _ (nodup_firsts _) hc).trans (by simp only [beq_iff_eq]; rfl)

theorem updWith_chip (c k m g s) : (updWith c k m g s).chip = s.chip := by unfold updWith; split <;> rfl

theorem itemsOf_map_updWith (st : List Slot) (c c' : ChipXY) (k m : Nat) (g) :
    itemsOf (st.map (updWith c k m g)) c' =
      if c' = c then pyDictAdj (itemsOf st c) (k, m) (fun v => (g v.1, v.2)) else itemsOf st c' := by
  have hf : (fun s => s.chip == c') ∘ updWith c k m g = fun s => s.chip == c' :=
    funext fun s => by rw [Function.comp, updWith_chip]
  rw [itemsOf, List.filter_map, hf, List.map_map]
  split
  · -- on the slots of chip `c`, updating the slot is adjusting its item
    rename_i h
    subst h
    rw [itemsOf, pyDictAdj, List.map_map]
    refine List.map_congr_left fun s hs => ?_
    have hc : (s.chip == c') = true := (List.mem_filter.1 hs).2
    have e : s.at c' k m = ((s.key, s.mask) == (k, m)) := by rw [Slot.at, hc, Bool.true_and]; rfl
    show Slot.item (if s.at c' k m then { s with ins := g s.ins } else s)
      = if ((s.key, s.mask) == (k, m)) = true then ((s.key, s.mask), (g s.ins, s.outs)) else s.item
    rw [e]
    split <;> rfl
  · -- the slots of another chip are untouched
    rename_i h
    refine List.map_congr_left fun s hs => ?_
    have hc : s.chip ≠ c := fun e => h (e ▸ (eq_of_beq (List.mem_filter.1 hs).2).symm)
    have : (s.chip == c) = false := beq_false_of_ne hc
    rw [Function.comp, updWith, Slot.at, this, Bool.false_and, Bool.false_and, if_neg Bool.false_ne_true]

theorem chipsOf_map_updWith (st : List Slot) (c k m g) : chipsOf (st.map (updWith c k m g)) = chipsOf st := by
  unfold chipsOf
  rw [List.map_map]
  congr 1
  apply List.map_congr_left
  intro s _
  exact updWith_chip c k m g s

theorem merge_nestOf (st : List Slot) (c : ChipXY) (k m : Nat) (g) (hc : c ∈ chipsOf st) :
    pyDictMod (nestOf st) c []
        (fun d => pyDictAdj d (k, m) (fun v => (g v.1, v.2))) = nestOf (st.map (updWith c k m g)) := by
  unfold pyDictMod
  rw [getD_nestOf, set_nestOf st c _ hc]
  conv => rhs; unfold nestOf
  rw [chipsOf_map_updWith]
  apply List.map_congr_left
  intro c' _
  rw [itemsOf_map_updWith]

theorem nestOf_eq (st : List Slot) : nestOf st = groupBy (·.chip) Slot.item st := by
  rw [nestOf, chipsOf, firsts_eq]; rfl

theorem insert_nestOf (st : List Slot) (c : ChipXY) (k m : Nat) (ins : List (Option Nat)) (outs : List Nat)
    (hnone : st.find? (fun s => s.at c k m) = none) :
    pyDictMod (nestOf st) c [] (fun d => pyDictSet d (k, m) (ins, outs)) =
      nestOf (st ++ [{ chip := c, key := k, mask := m, ins := ins, outs := outs }]) := by
  have hl : (itemsOf st c).lookup (k, m) = none := by rw [lookup_itemsOf, hnone]; rfl
  rw [nestOf_eq (st ++ _), groupBy_snoc, ← nestOf_eq]
  unfold pyDictMod
  rw [getD_nestOf]
  exact congrArg _ (pyDictSet_of_lookup_none hl)

end Rig.C10
