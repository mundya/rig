/-
C14 - the place-and-route machine and the core reservations built from a description, and the
`machine_ok` / `reservations_ok` oracles the harness evaluates.
-/
import RigModel.Lemmas.C14SysInfo
import Std.Data.HashSet.Lemmas

namespace Rig.C14
open Rig.Gen.C14

theorem buildMachine_chip (si : SysInfo) (hwf : si.WF) (x y : Nat) :
    (buildMachine si).chipOk (x, y) = true ↔ ∃ ci, ((x, y), ci) ∈ si.chips := by
  have hd := mem_deadChips si x y
  have e : (buildMachine si).chipOk (x, y) =
      (decide (x < si.width) && decide (y < si.height) && !decide ((x, y) ∈ si.deadChips)) := by
    simp [PMachine.chipOk, buildMachine]
  rw [e]
  simp only [Bool.and_eq_true, decide_eq_true_eq, Bool.not_eq_true', decide_eq_false_iff_not]
  exact ⟨fun ⟨⟨hx, hy⟩, hn⟩ => Classical.not_not.1 fun h => hn (hd.2 ⟨hx, hy, h⟩),
    fun ⟨ci, hci⟩ => ⟨hwf.2 _ _ hci, fun h => (hd.1 h).2.2 ⟨ci, hci⟩⟩⟩

theorem buildMachine_link (si : SysInfo) (hwf : si.WF) (x y l : Nat) (hl : l < 6) :
    (buildMachine si).linkOk x y l = true ↔ ∃ ci, ((x, y), ci) ∈ si.chips ∧ l ∈ ci.links := by
  have hd := mem_deadLinks si x y l
  unfold PMachine.linkOk
  rw [Bool.and_eq_true, buildMachine_chip si hwf]
  simp only [buildMachine, Bool.not_eq_true', List.contains_eq_mem, decide_eq_false_iff_not]
  rw [hd]
  constructor
  · rintro ⟨⟨ci, hci⟩, hn⟩
    exact ⟨ci, hci, Classical.not_not.1 fun h => hn ⟨ci, hci, hl, h⟩⟩
  · rintro ⟨ci, hci, hl'⟩
    refine ⟨⟨ci, hci⟩, ?_⟩
    rintro ⟨ci', hci', _, hn⟩
    rw [(Prod.mk.inj (Assoc.eq_of_key_eq hwf.1 hci' hci rfl)).2] at hn
    exact hn hl'

theorem buildMachine_resources (si : SysInfo) (hwf : si.WF) (xy : Nat × Nat) (ci : ChipInfo)
    (h : (xy, ci) ∈ si.chips) :
    (buildMachine si).resources xy = (ci.numCores, ci.sdram, ci.sram) := by
  have hE : ((buildMachine si).exceptions.map (·.1)).Nodup := by
    refine hwf.1.sublist (keys_filterMap_sublist _ _ fun e e' he => ?_)
    simp only at he
    split at he
    · cases he; rfl
    · cases he
  unfold PMachine.resources
  by_cases hc : (ci.numCores != (buildMachine si).cores || ci.sdram != (buildMachine si).sdram ||
      ci.sram != (buildMachine si).sram) = true
  · -- the chip differs from the defaults: it is listed as an exception, once
    rw [(Assoc.mem_iff_lookup hE).1 (List.mem_filterMap.2 ⟨(xy, ci), h, if_pos hc⟩)]
    rfl
  · -- it has the default quantities and no other record of this chip can make it an exception
    rw [lookup_none_of_not_mem _ _ fun hk => ?_]
    · simp only [Bool.or_eq_true, bne_iff_ne, ne_eq, not_or, Decidable.not_not] at hc
      simp only [Option.getD_none, hc.1.1, hc.1.2, hc.2]
    · obtain ⟨t, ht, rfl⟩ := List.mem_map.1 hk
      obtain ⟨e, he, hf⟩ := List.mem_filterMap.1 ht
      simp only at hf
      split at hf
      · cases hf
        rw [(Prod.mk.inj (Assoc.eq_of_key_eq hwf.1 h he rfl)).2] at hc
        exact hc ‹_›
      · cases hf

theorem machineOk_iff (si : SysInfo) (m : PMachine) :
    machineOk si m = true ↔
      m.width = si.width ∧ m.height = si.height ∧
      (∀ x y, x < m.width → y < m.height → ((x, y) ∉ m.deadChips ↔ ∃ ci, ((x, y), ci) ∈ si.chips)) ∧
      (∀ xy ci, (xy, ci) ∈ si.chips → m.chipOk xy = true ∧
        (∀ l, l < 6 → (m.linkOk xy.1 xy.2 l = true ↔ l ∈ ci.links)) ∧
        m.resources xy = (ci.numCores, ci.sdram, ci.sram)) := by
  unfold machineOk
  simp only [Bool.and_eq_true, List.all_eq_true, List.mem_range, Std.HashSet.contains_ofList,
    beq_iff_eq, and_assoc]
  have key : ∀ x y, ((!m.deadChips.contains (x, y)) = si.has (x, y)) ↔
      ((x, y) ∉ m.deadChips ↔ ∃ ci, ((x, y), ci) ∈ si.chips) := fun x y => by
    rw [← has_iff, Bool.eq_iff_iff]; simp
  refine and_congr Iff.rfl (and_congr Iff.rfl (and_congr
    ⟨fun h x y hx hy => (key x y).1 (h x hx y hy), fun h x hx y hy => (key x y).2 (h x y hx hy)⟩ ?_))
  exact Prod.forall.trans <| forall₃_congr fun xy ci _ =>
    and_congr Iff.rfl (and_congr (forall₂_congr fun l _ => by rw [Bool.eq_iff_iff]; simp) Iff.rfl)

theorem machineOk_sound (si : SysInfo) (hwf : si.WF) : machineOk si (buildMachine si) = true := by
  rw [machineOk_iff]
  refine ⟨rfl, rfl, ?_, ?_⟩
  · intro x y hx hy
    have := buildMachine_chip si hwf x y
    rw [← this]
    have hx' : x < si.width := hx
    have hy' : y < si.height := hy
    simp [PMachine.chipOk, buildMachine, hx', hy']
  · intro xy ci hmem
    refine ⟨(buildMachine_chip si hwf xy.1 xy.2).2 ⟨ci, hmem⟩, ?_, buildMachine_resources si hwf xy ci hmem⟩
    intro l hl
    rw [buildMachine_link si hwf xy.1 xy.2 l hl]
    constructor
    · rintro ⟨ci', hmem', hl'⟩
      rw [(Prod.mk.inj (Assoc.eq_of_key_eq hwf.1 hmem hmem' rfl)).2]; exact hl'
    · intro h; exact ⟨ci, hmem, h⟩

/-- number of reservations of a list (all for one location) that contain core `p` -/
def cnt (rs : List Reservation) (p : Nat) : Nat :=
  (rs.filter fun r => decide (r.start ≤ p) && decide (p < r.stop)).length

theorem cnt_nil (p : Nat) : cnt [] p = 0 := rfl

theorem cnt_cons (r : Reservation) (rs : List Reservation) (p : Nat) :
    cnt (r :: rs) p = (if r.start ≤ p ∧ p < r.stop then 1 else 0) + cnt rs p := by
  simp only [cnt, ← List.countP_eq_length_filter, List.countP_cons, Bool.and_eq_true, decide_eq_true_eq, Nat.add_comm]

theorem minimalRes_chip {chip : Option (Nat × Nat)} {cs : List Nat} {st : Option (Nat × Nat)} :
    ∀ r ∈ minimalRes chip cs st, r.chip = chip := by
  induction cs generalizing st with
  | nil => rcases st with _ | ⟨s, e⟩ <;> simp [minimalRes]
  | cons c cs ih =>
    rcases st with _ | ⟨s, e⟩ <;> simp only [minimalRes]
    · exact ih
    · split
      · exact ih
      · exact List.forall_mem_cons.2 ⟨rfl, ih⟩

theorem minimalRes_count_some (chip : Option (Nat × Nat)) (cs : List Nat) (s e p : Nat) (hse : s ≤ e) :
    cnt (minimalRes chip cs (some (s, e))) p = (List.range' s (e - s) ++ cs).count p := by
  induction cs generalizing s e with
  | nil =>
    rw [minimalRes, cnt_cons, cnt_nil, List.append_nil, List.count_range_1', Nat.add_sub_cancel' hse]
    rfl
  | cons c cs ih =>
    rw [minimalRes]
    split
    · -- `c = e` extends the pending interval
      subst e
      rw [ih s (c + 1) (Nat.le_succ_of_le hse), Nat.succ_sub hse, List.range'_concat, Nat.one_mul,
        Nat.add_sub_cancel' hse, List.append_assoc]
      rfl
    · -- the pending interval is emitted and `[c, c + 1)` becomes pending
      rw [cnt_cons, ih c (c + 1) (Nat.le_succ c), List.count_append (l₁ := List.range' s (e - s)),
        List.count_range_1', Nat.add_sub_cancel' hse, Nat.add_sub_cancel_left]
      rfl

theorem minimalRes_count (chip : Option (Nat × Nat)) (cs : List Nat) (p : Nat) :
    cnt (minimalRes chip cs none) p = cs.count p := by
  cases cs with
  | nil => rfl
  | cons c cs => rw [minimalRes, minimalRes_count_some chip cs c (c + 1) p (Nat.le_succ c), Nat.add_sub_cancel_left]; rfl

theorem minimalRes_cnt (chip : Option (Nat × Nat)) (cs : List Nat) (p : Nat)
    (hpw : cs.Pairwise (· < ·)) :
    cnt (minimalRes chip cs none) p = if p ∈ cs then 1 else 0 :=
  (minimalRes_count chip cs p).trans (List.Nodup.count (hpw.imp Nat.ne_of_lt))

def maskBits : List Nat → Nat
  | [] => 0
  | s :: l => (if s != APPSTATE_IDLE then 1 else 0) + 2 * maskBits l

theorem reservedMask_eq (i : Nat) (l : List Nat) : reservedMask i l = 2 ^ i * maskBits l := by
  induction l generalizing i with
  | nil => simp [reservedMask, maskBits]
  | cons s l ih =>
    simp only [reservedMask, maskBits, ih (i + 1), Nat.one_shiftLeft, Nat.pow_succ]
    split
    · rw [Nat.mul_add, Nat.mul_one, Nat.mul_assoc]
    · rw [Nat.zero_add, Nat.zero_add, Nat.mul_assoc]

def busyAt (states : List Nat) (p : Nat) : Bool :=
  match states[p]? with
  | some s => s != APPSTATE_IDLE
  | none => false

theorem testBit_maskBits (l : List Nat) (p : Nat) : (maskBits l).testBit p = busyAt l p := by
  induction l generalizing p with
  | nil => simp [maskBits, busyAt]
  | cons s l ih =>
    have hb : (if s != APPSTATE_IDLE then 1 else 0) < 2 ^ 1 := by split <;> decide
    rw [maskBits, Nat.add_comm, ← Nat.pow_one 2, Nat.testBit_two_pow_mul_add _ hb]
    cases p with
    | zero => cases h : s != APPSTATE_IDLE <;> simp [busyAt, h]
    | succ p => simp [ih, busyAt]

theorem testBit_reservedMask (l : List Nat) (p : Nat) : (reservedMask 0 l).testBit p = busyAt l p := by
  rw [reservedMask_eq, Nat.pow_zero, Nat.one_mul, testBit_maskBits]

theorem busy_eq (ci : ChipInfo) (p : Nat) : busy ci p = busyAt ci.coreStates p := rfl

theorem testBit_globalMask_some (chips : List ((Nat × Nat) × ChipInfo)) (g p : Nat) :
    (globalMask chips (some g)).testBit p = (g.testBit p && chips.all fun e => busy e.2 p) := by
  induction chips generalizing g with
  | nil => simp [globalMask]
  | cons e rest ih =>
    obtain ⟨xy, ci⟩ := e
    simp only [globalMask, ih, Nat.testBit_and, testBit_reservedMask, List.all_cons, busy_eq, Bool.and_assoc]

theorem testBit_globalMask (chips : List ((Nat × Nat) × ChipInfo)) (p : Nat) :
    (globalMask chips none).testBit p = (!chips.isEmpty && chips.all fun e => busy e.2 p) := by
  cases chips with
  | nil => simp [globalMask]
  | cons e rest =>
    obtain ⟨xy, ci⟩ := e
    simp only [globalMask, testBit_globalMask_some, testBit_reservedMask, List.all_cons, busy_eq,
      List.isEmpty_cons, Bool.not_false, Bool.true_and]

def globalCores (g : Nat) : List Nat := (List.range 18).filter fun core => (1 <<< core) &&& g != 0

def localCores (g : Nat) (ci : ChipInfo) : List Nat :=
  (ci.coreStates.zipIdx.filter fun (s, core) => s != APPSTATE_IDLE && !((g &&& (1 <<< core)) != 0)).map (·.2)

theorem globalCores_pw (g : Nat) : (globalCores g).Pairwise (· < ·) :=
  List.Pairwise.filter _ List.pairwise_lt_range

theorem mem_globalCores (g p : Nat) : p ∈ globalCores g ↔ p < 18 ∧ g.testBit p = true := by
  simp only [globalCores, List.mem_filter, List.mem_range, Nat.and_comm (1 <<< p), Bits.and_one_shl_ne]

theorem localCores_pw (g : Nat) (ci : ChipInfo) : (localCores g ci).Pairwise (· < ·) := by
  have hs : (localCores g ci).Sublist (ci.coreStates.zipIdx.map (·.2)) :=
    List.Sublist.map _ List.filter_sublist
  rw [List.zipIdx_map_snd] at hs
  exact List.Pairwise.sublist hs (List.pairwise_lt_range' 1)

theorem mem_localCores (g : Nat) (ci : ChipInfo) (p : Nat) :
    p ∈ localCores g ci ↔ busy ci p = true ∧ g.testBit p = false := by
  simp only [localCores, List.mem_map, List.mem_filter, List.mem_zipIdx_iff_getElem?, Bits.and_one_shl_ne,
    Bool.and_eq_true, Bool.not_eq_true', busy, Prod.exists, exists_eq_right]
  cases ci.coreStates[p]? <;> simp

theorem coverCount_nil (xy : Nat × Nat) (p : Nat) : coverCount [] xy p = 0 := rfl

theorem coverCount_append (a b : List Reservation) (xy : Nat × Nat) (p : Nat) :
    coverCount (a ++ b) xy p = coverCount a xy p + coverCount b xy p := by
  simp [coverCount, List.filter_append]

theorem coverCount_cons (r : Reservation) (rs : List Reservation) (xy : Nat × Nat) (p : Nat) :
    coverCount (r :: rs) xy p =
      (if r.appliesTo xy = true ∧ r.start ≤ p ∧ p < r.stop then 1 else 0) + coverCount rs xy p := by
  simp only [coverCount, ← List.countP_eq_length_filter, List.countP_cons, Bool.and_eq_true, decide_eq_true_eq,
    Nat.add_comm, and_assoc]

theorem coverCount_of_chip (rs : List Reservation) (chip : Option (Nat × Nat)) (xy : Nat × Nat) (p : Nat)
    (h : ∀ r ∈ rs, r.chip = chip) :
    coverCount rs xy p = if chip = none ∨ chip = some xy then cnt rs p else 0 := by
  induction rs with
  | nil => simp [coverCount_nil, cnt_nil]
  | cons r rs ih =>
    rw [coverCount_cons, ih (fun r' hr' => h r' (List.mem_cons_of_mem _ hr')), cnt_cons]
    have happ : r.appliesTo xy = true ↔ (chip = none ∨ chip = some xy) := by
      rw [Reservation.appliesTo, h r List.mem_cons_self]; cases chip <;> simp
    by_cases hq : chip = none ∨ chip = some xy
    · simp only [happ.2 hq, true_and, hq, if_true]
    · simp [mt happ.1 hq, hq]

theorem coverCount_flatMap (g : Nat) (l : List ((Nat × Nat) × ChipInfo)) (hnd : (l.map (·.1)).Nodup)
    (xy : Nat × Nat) (p : Nat) :
    coverCount (l.flatMap fun (e : (Nat × Nat) × ChipInfo) => minimalRes (some e.1) (localCores g e.2) none) xy p =
      match l.lookup xy with
      | some ci => cnt (minimalRes (some xy) (localCores g ci) none) p
      | none => 0 := by
  induction l with
  | nil => rfl
  | cons e t ih =>
    simp only [List.map_cons, List.nodup_cons] at hnd
    rw [List.flatMap_cons, coverCount_append, coverCount_of_chip _ (some e.1) xy p minimalRes_chip, ih hnd.2,
      List.lookup]
    by_cases he : e.1 = xy
    · subst he; rw [lookup_none_of_not_mem t _ hnd.1]; simp
    · have hb : (xy == e.1) = false := by simpa using Ne.symm he
      simp [he, hb]

theorem busy_beyond (ci : ChipInfo) (p : Nat) (hp : ci.coreStates.length ≤ p) : busy ci p = false := by
  unfold busy
  rw [List.getElem?_eq_none hp]

theorem coreConstraints_eq (si : SysInfo) :
    coreConstraints si =
      minimalRes none (globalCores (globalMask si.chips none)) none ++
      si.chips.flatMap fun (e : (Nat × Nat) × ChipInfo) =>
        minimalRes (some e.1) (localCores (globalMask si.chips none) e.2) none := rfl

theorem coverCount_coreConstraints (si : SysInfo) (hnd : (si.chips.map (·.1)).Nodup)
    (h18 : ∀ xy ci, (xy, ci) ∈ si.chips → ci.coreStates.length ≤ 18)
    (xy : Nat × Nat) (ci : ChipInfo) (h : (xy, ci) ∈ si.chips) (p : Nat) :
    coverCount (coreConstraints si) xy p = if busy ci p = true then 1 else 0 := by
  rw [coreConstraints_eq, coverCount_append, coverCount_flatMap _ _ hnd, (Assoc.mem_iff_lookup hnd).1 h,
    coverCount_of_chip _ none xy p minimalRes_chip]
  simp only [minimalRes_cnt _ _ _ (globalCores_pw _), minimalRes_cnt _ _ _ (localCores_pw _ _), true_or, if_true,
    mem_globalCores, mem_localCores]
  -- a core reserved on every chip is busy on this one; a busy core has a state, so its number is below 18
  have h1 : (globalMask si.chips none).testBit p = true → busy ci p = true := by
    rw [testBit_globalMask, Bool.and_eq_true, List.all_eq_true]
    exact fun hg => hg.2 (xy, ci) h
  have h2 : busy ci p = true → p < 18 := fun hb =>
    Nat.lt_of_lt_of_le (Nat.lt_of_not_le fun hle => by rw [busy_beyond ci p hle] at hb; cases hb) (h18 xy ci h)
  cases hg : (globalMask si.chips none).testBit p <;> cases hb : busy ci p <;> simp_all

theorem coreConstraints_chip (si : SysInfo) (r : Reservation) (hr : r ∈ coreConstraints si) (c : Nat × Nat)
    (hc : r.chip = some c) : ∃ ci, (c, ci) ∈ si.chips := by
  rw [coreConstraints_eq, List.mem_append] at hr
  rcases hr with hr | hr
  · cases (minimalRes_chip r hr).symm.trans hc
  · obtain ⟨e, he, hr'⟩ := List.mem_flatMap.1 hr
    cases (minimalRes_chip r hr').symm.trans hc
    exact ⟨e.2, he⟩

theorem coverCount_beyond (rs : List Reservation) (xy : Nat × Nat) (p : Nat)
    (hp : maxList (rs.map (·.stop)) ≤ p) : coverCount rs xy p = 0 := by
  unfold coverCount
  rw [List.length_eq_zero_iff, List.filter_eq_nil_iff]
  intro r hr
  have := maxList_ge (rs.map (·.stop)) r.stop (List.mem_map.2 ⟨r, hr, rfl⟩)
  simp only [Bool.and_eq_true, decide_eq_true_eq, not_and]
  intro _ _
  omega

theorem reservationsOk_iff (si : SysInfo) (rs : List Reservation)
    (h18 : ∀ xy ci, (xy, ci) ∈ si.chips → ci.coreStates.length ≤ 18) :
    reservationsOk si rs = true ↔
      (∀ r ∈ rs, ∀ c, r.chip = some c → si.has c = true) ∧
      (∀ xy ci, (xy, ci) ∈ si.chips → ∀ p, coverCount rs xy p = if busy ci p = true then 1 else 0) := by
  unfold reservationsOk
  simp only [Bool.and_eq_true, List.all_eq_true, List.mem_range, beq_iff_eq]
  refine and_congr (forall₂_congr fun r _ => by cases r.chip <;> simp)
    ⟨fun h2 xy ci hmem p => ?_, fun h2 e he p _ => h2 e.1 e.2 he p⟩
  -- beyond the bound of the finite check no reservation applies and no core has a state
  by_cases hp : p < maxList (rs.map (·.stop)) + 19
  · exact h2 (xy, ci) hmem p hp
  · have hlen := h18 xy ci hmem
    rw [coverCount_beyond rs xy p (by omega), busy_beyond ci p (by omega)]
    rfl

theorem reservationsOk_sound (si : SysInfo) (hnd : (si.chips.map (·.1)).Nodup)
    (h18 : ∀ xy ci, (xy, ci) ∈ si.chips → ci.coreStates.length ≤ 18) :
    reservationsOk si (coreConstraints si) = true := by
  rw [reservationsOk_iff si _ h18]
  refine ⟨?_, fun xy ci h p => coverCount_coreConstraints si hnd h18 xy ci h p⟩
  intro r hr c hc
  exact (has_iff si c).2 (coreConstraints_chip si r hr c hc)

end Rig.C14
