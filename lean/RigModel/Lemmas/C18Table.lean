/-
C18 - the generated signature table (Gen/Signatures.lean) against the hand-written method bodies `bodyOf` and
against the bodies extracted from the source (`genBody`, Gen/C18Bodies.lean), evaluated once.

Nearly all of the kernel's work in such an evaluation is comparing method names (`bodyOf`, `genBody` and `findSig` are
chains of string comparisons); the kernel remembers them within one declaration only, so the facts are established
together and projected in Props/C18.lean, Props/C18Wire.lean and Props/C18Bodies.lean.
-/
import RigModel.Model.C18

namespace Rig.C18
open Rig.Gen.Signatures Rig.Gen.C18Bodies

def Op.isUnknown : Op → Bool
  | .unknown _ => true
  | _ => false

/-- Field by field and not by the derived `DecidableEq APat`: that casts along each proved field equation, and to
reduce the cast the kernel tests the two fields, not yet evaluated, for definitional equality - on symbolic requests
several times the cost of evaluating them. -/
def includedB (l₁ l₂ : List APat) : Bool :=
  l₁.all fun p => l₂.any fun q => p.kind == q.kind && p.a == q.a && p.b == q.b && p.c == q.c && p.extra == q.extra

/-- Fails when a regenerated table does not fit `bodyOf`; the harness (`sigs` operation) says for which method. -/
theorem sigs_checked :
    (∀ s ∈ sigs,
      s.wf = true ∧ (s.name = "application" ∨ (bodyOf s.cls s.name).length > 0) ∧
      (rulesOf sigs s).all (ruleOk s) = true ∧
      (s.cls, s.name) ∈ scanned ∧ (genBody s.cls s.name).all (fun op => !op.isUnknown) = true ∧
      includedB (rulesOfB genBody sigs s) (rulesOf sigs s) = true ∧
      includedB (rulesOf sigs s) (rulesOfB genBody sigs s) = true ∧
      genDeferred s.cls s.name =
        (if s.cls = "MachineController" ∧ s.name = "application"
         then [.call "send_signal" [.lit (.other "'stop'")] []] else [])) ∧
    sigs.filter (coreFromContext sigs) =
      [mc_discover_connections, mc_read_vcpu_struct_field, mc_write_vcpu_struct_field, mc_get_processor_status,
       mc_get_iobuf, mc_get_iobuf_bytes, mc_get_router_diagnostics, mc_sdram_alloc, mc_sdram_alloc_as_filelike,
       mc_flood_fill_aplx, mc_load_application, mc_load_routing_tables, mc_load_routing_table_entries,
       mc_get_routing_table_entries, mc_get_p2p_routing_table, mc_get_num_working_cores, mc_get_system_info] ∧
    (sigs.filter (coreFromContext sigs)).filter (fun s => (sigNames s).contains "p") =
      [mc_read_vcpu_struct_field, mc_write_vcpu_struct_field, mc_get_processor_status, mc_get_iobuf, mc_get_iobuf_bytes] ∧
    -- the two decorated methods `exec` itself calls
    findSig sigs "MachineController" "application" = some mc_application ∧
    findSig sigs "MachineController" "send_signal" = some mc_send_signal ∧
    bodyOf "MachineController" "send_signal" =
      [.scp (.lit (.int 255)) (.lit (.int 255)) (.lit (.int 0)) (some (.ref "app_id"))] := by
  decide +kernel

end Rig.C18
