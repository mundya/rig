/-
C07 - translator tie: the chunking arithmetic of remote memory access against the model functions the C07 theorems
are about:
* the nested generators `packets` of `SCPConnection.read` / `SCPConnection.write`
  (rig/machine_control/scp_connection.py; the closure variables `buffer_size, x, y, p[, address]` are parameters of the
  generated definitions, the `scpcall` records yielded are the tuples of their positional arguments) = `read` / `write`;
* `MachineController.write_across_link` (one `_send_scp` per block) = `linkWrite`;
* `MachineController.fill` (recorded as events) = the model's `fill` plan.
For the `while` loops the number of bytes is fuel enough, and neither fuel exhaustion nor the KeyError of
`consts.address_length_dtype[...]` is reachable.
-/
import RigModel.Model.C07
import RigModel.Gen.PyFun
import RigModel.Lemmas.PyCast
import RigModel.Lemmas.PyFunB

-- see Lemmas/PyCast.lean
set_option linter.unusedSimpArgs false

namespace Rig.C07
open Rig.Gen Rig.Gen.Scp Rig.PyLoops Rig.IntBits

def bytesInt (d : List Nat) : List Int := d.map (fun (n : Nat) => (n : Int))

theorem length_bytesInt (d : List Nat) : (bytesInt d).length = d.length := List.length_map _

/-- `consts.address_length_dtype[(addr % 4, size % 4)]` -/
theorem pairGet_dtype (a b : Nat) :
    PyFun.pyPairGet dtypeTable 4 4 ((a % 4 : Nat) : Int) ((b % 4 : Nat) : Int) = .ok ((dtype a b : Nat) : Int) := by
  have hi : 4 * (a % 4) + b % 4 < dtypeTable.length := by
    rw [show dtypeTable.length = 16 from rfl]; omega
  rw [PyFun.pyPairGet,
    if_pos ⟨Int.natCast_nonneg _, Int.ofNat_lt.mpr (Nat.mod_lt _ (by decide)), Int.natCast_nonneg _,
      Int.ofNat_lt.mpr (Nat.mod_lt _ (by decide))⟩,
    Int.toNat_natCast, Int.toNat_natCast, List.getElem?_eq_getElem hi, dtype, List.getD_eq_getElem?_getD,
    List.getElem?_eq_getElem hi]
  rfl

/-- the positional arguments of the `scpcall` record of a read chunk -/
def readCall (x y p : Int) (c : Chunk) : Int × Int × Int × Int × Int × Int × Int :=
  (x, y, p, ((cmdRead : Nat) : Int), (c.addr : Int), (c.size : Int), (c.dt : Int))

abbrev RdSt := Bool × Option (Except String (List (Int × Int × Int × Int × Int × Int × Int))) ×
  List (Int × Int × Int × Int × Int × Int × Int) × Int × Int

theorem readChunks_zero (buf mf addr : Nat) : readChunks buf mf addr 0 = [] := by cases mf <;> rfl

theorem gen_read_packets (buf addr len fuel : Nat) (x y p : Int) (hb : 1 ≤ buf) (hf : len ≤ fuel) :
    PyFun.SCPConnection_read_packets (len : Int) (buf : Int) x y p (addr : Int) fuel
      = .ok ((read buf addr len).map (readCall x y p)) := by
  -- the loop on `(offset, length_bytes)`
  obtain ⟨s, e⟩ := pyWhile_collect
    (cond := PyFun.SCPConnection_read_packets_loop1_cond)
    (body := PyFun.SCPConnection_read_packets_loop1 (buf : Int) x y p (addr : Int))
    (fun o (s : Nat × Nat) => ((false, none, o, (s.1 : Int), (s.2 : Int)) : RdSt)) (fun _ => True)
    (fun s => decide (0 < s.2))
    (fun s => readCall x y p
      { addr := addr + s.1, size := min s.2 buf, dt := dtype (addr + s.1) (min s.2 buf), data := [] })
    (fun s => (s.1 + min s.2 buf, s.2 - min s.2 buf)) (fun s => s.2)
    (fun mf s => (readChunks buf mf (addr + s.1) s.2).map (readCall x y p))
    (fun o s => by
      unfold PyFun.SCPConnection_read_packets_loop1_cond
      exact decide_eq_decide.mpr Int.natCast_pos)
    (fun o s _ hg => by
      have hl : 0 < s.2 := of_decide_eq_true hg
      refine ⟨?_, trivial, Nat.sub_lt hl (Nat.lt_min.mpr ⟨hl, hb⟩)⟩
      simp (disch := omega) only [PyFun.SCPConnection_read_packets_loop1, readCall, cmdRead, py_cast, py_ac,
        pairGet_dtype])
    (fun mf s _ hg => by
      rw [show s.2 = 0 from Nat.eq_zero_of_not_pos (of_decide_eq_false hg), readChunks_zero]; rfl)
    (fun mf s _ hg => by
      rw [readChunks, if_pos (of_decide_eq_true hg)]
      dsimp only
      rw [List.map_cons, Nat.add_assoc])
    fuel len (0, len) trivial hf (le_refl _)
  unfold PyFun.SCPConnection_read_packets read
  dsimp only at e ⊢
  rw [show (0 : Int) = ((0 : Nat) : Int) from rfl, e]
  rfl

def writeCall (x y p : Int) (c : Chunk) : Int × Int × Int × Int × Int × Int × Int × List Int :=
  (x, y, p, ((cmdWrite : Nat) : Int), (c.addr : Int), (c.size : Int), (c.dt : Int), bytesInt c.data)

abbrev WrSt := Bool × Option (Except String (List (Int × Int × Int × Int × Int × Int × Int × List Int))) ×
  List (Int × Int × Int × Int × Int × Int × Int × List Int) × Int × Int

theorem writeChunks_nil (buf mf a : Nat) : writeChunks buf mf a [] = [] := by cases mf <;> rfl

theorem gen_write_packets (buf addr fuel : Nat) (d : List Nat) (x y p : Int) (hb : 1 ≤ buf) (hf : d.length ≤ fuel) :
    PyFun.SCPConnection_write_packets (addr : Int) (bytesInt d) (buf : Int) x y p fuel
      = .ok ((write buf addr d).map (writeCall x y p)) := by
  -- the loop on `(address, pos)`
  obtain ⟨s, e⟩ := pyWhile_collect
    (cond := PyFun.SCPConnection_write_packets_loop1_cond (d.length : Int))
    (body := PyFun.SCPConnection_write_packets_loop1 (bytesInt d) (buf : Int) x y p)
    (fun o (s : Nat × Nat) => ((false, none, o, (s.1 : Int), (s.2 : Int)) : WrSt)) (fun s => s.2 ≤ d.length)
    (fun s => decide (s.2 < d.length))
    (fun s => writeCall x y p
      { addr := s.1, size := ((d.drop s.2).take buf).length, dt := dtype s.1 ((d.drop s.2).take buf).length,
        data := (d.drop s.2).take buf })
    (fun s => (s.1 + ((d.drop s.2).take buf).length, s.2 + ((d.drop s.2).take buf).length)) (fun s => d.length - s.2)
    (fun mf s => (writeChunks buf mf s.1 (d.drop s.2)).map (writeCall x y p))
    (fun o s => by
      unfold PyFun.SCPConnection_write_packets_loop1_cond
      exact decide_eq_decide.mpr Int.ofNat_lt)
    (fun o s hs hg => by
      have hl : s.2 < d.length := of_decide_eq_true hg
      have hbl : ((d.drop s.2).take buf).length = min buf (d.length - s.2) := by rw [List.length_take, List.length_drop]
      refine ⟨?_, by dsimp only; omega, by dsimp only; omega⟩
      simp (disch := omega) only [PyFun.SCPConnection_write_packets_loop1, writeCall, cmdWrite, bytesInt, py_cast, py_ac,
        Nat.add_sub_cancel, pairGet_dtype])
    (fun mf s hs hg => by
      rw [List.drop_eq_nil_of_le (Nat.le_of_not_lt (of_decide_eq_false hg)), writeChunks_nil]; rfl)
    (fun mf s _ hg => by
      rw [writeChunks, if_pos (by rw [List.length_drop]; exact Nat.sub_pos_of_lt (of_decide_eq_true hg))]
      dsimp only
      rw [List.map_cons, ← List.drop_drop (l := d), Lists.drop_length_take])
    fuel d.length (addr, 0) (Nat.zero_le _) hf (le_refl _)
  unfold PyFun.SCPConnection_write_packets write
  dsimp only at e ⊢
  rw [length_bytesInt, show (0 : Int) = ((0 : Nat) : Int) from rfl, e]
  rfl

/-- the arguments of the `_send_scp(x, y, 0, link_write, arg1=, arg2=, arg3=, data=, expected_args=0)` call of a chunk -/
def linkWriteCall (x y link : Int) (c : Chunk) : Int × Int × Int × Int × Int × Int × Int × List Int × Int :=
  (x, y, 0, ((cmdLinkWrite : Nat) : Int), (c.addr : Int), (c.size : Int), link, bytesInt c.data, 0)

/-- `scp_data_length & ~0b11` -/
theorem land_lnot3 (b : Nat) : Int.land (b : Int) (Int.lnot 3) = ((b / 4 * 4 : Nat) : Int) := by
  apply eq_of_testBit_eq
  intro i
  rw [Int.testBit_land, Int.testBit_lnot, show (3 : Int) = ((2 ^ 2 - 1 : Nat) : Int) from rfl, testBit_natCast,
    testBit_natCast, testBit_natCast, show b / 4 * 4 = (b >>> 2) <<< 2 by rw [Nat.shiftRight_eq_div_pow, Nat.shiftLeft_eq],
    Nat.testBit_shiftLeft, Nat.testBit_shiftRight, Nat.testBit_two_pow_sub_one]
  by_cases hi : i < 2
  · simp [hi]
  · simp [hi, show 2 + (i - 2) = i by omega, Nat.le_of_not_lt hi]

abbrev LwSt := List (Int × Int × Int × Int × Int × Int × Int × List Int × Int) × Int × Int × Int

theorem linkWriteChunks_nil (buf mf a : Nat) : linkWriteChunks buf mf a [] = [] := by cases mf <;> rfl

def linkExc {α : Type} : Except LinkErr α → Except String α
  | .ok v => .ok v
  | .error .valueError => .error "ValueError"

/-- `hb`: with a buffer of less than one word the loop does not advance -/
theorem gen_write_across_link (buf addr fuel : Nat) (d : List Nat) (x y link : Int) (hb : 4 ≤ buf)
    (hf : d.length ≤ fuel) :
    PyFun.MachineController_write_across_link (buf : Int) (addr : Int) (bytesInt d) x y link fuel
      = linkExc ((linkWrite buf addr d).map (fun l => l.map (linkWriteCall x y link))) := by
  -- the loop on `(address, cur_byte)`, `length_bytes` being what is left of the data
  obtain ⟨s, e⟩ := pyWhile_collect
    (cond := PyFun.MachineController_write_across_link_loop1_cond)
    (body := PyFun.MachineController_write_across_link_loop1 (buf : Int) (bytesInt d) x y link)
    (fun o (s : Nat × Nat) => ((o, (s.1 : Int), (s.2 : Int), ((d.length - s.2 : Nat) : Int)) : LwSt)) (fun _ => True)
    (fun s => decide (0 < d.length - s.2))
    (fun s => linkWriteCall x y link
      { addr := s.1, size := min (d.length - s.2) (buf / 4 * 4), dt := 2,
        data := (d.drop s.2).take (min (d.length - s.2) (buf / 4 * 4)) })
    (fun s => (s.1 + min (d.length - s.2) (buf / 4 * 4), s.2 + min (d.length - s.2) (buf / 4 * 4)))
    (fun s => d.length - s.2)
    (fun mf s => (linkWriteChunks buf mf s.1 (d.drop s.2)).map (linkWriteCall x y link))
    (fun o s => by
      unfold PyFun.MachineController_write_across_link_loop1_cond
      exact decide_eq_decide.mpr Int.natCast_pos)
    (fun o s _ hg => by
      have hl : 0 < d.length - s.2 := of_decide_eq_true hg
      refine ⟨?_, trivial, by dsimp only; omega⟩
      simp (disch := omega) only [PyFun.MachineController_write_across_link_loop1, linkWriteCall, cmdLinkWrite, bytesInt, ↓land_lnot3,
        py_cast, py_ac, Nat.sub_add_eq, Nat.add_sub_cancel_left])
    (fun mf s _ hg => by
      rw [List.drop_eq_nil_of_le (Nat.le_of_sub_eq_zero (Nat.eq_zero_of_not_pos (of_decide_eq_false hg))),
        linkWriteChunks_nil]; rfl)
    (fun mf s _ hg => by
      rw [linkWriteChunks, List.length_drop, if_pos (of_decide_eq_true hg)]
      dsimp only
      rw [List.map_cons, List.drop_drop])
    fuel d.length (addr, 0) trivial hf (le_refl _)
  unfold PyFun.MachineController_write_across_link linkWrite
  rw [length_bytesInt, show Int.fmod addr 4 = _ from fmod_natCast addr 4,
    show Int.fmod d.length 4 = _ from fmod_natCast d.length 4]
  simp only [ne_eq, Int.natCast_eq_zero]
  by_cases h1 : addr % 4 = 0
  · by_cases h2 : d.length % 4 = 0
    · simp only [h1, h2, not_true_eq_false, if_false]
      dsimp only [Nat.sub_zero] at e
      rw [show (0 : Int) = ((0 : Nat) : Int) from rfl, e]
      rfl
    · simp only [h1, h2, not_true_eq_false, not_false_eq_true, if_false, if_true]; rfl
  · simp only [h1, not_false_eq_true, if_true]; rfl

/-- what `fill` does, as events, for each plan of the model: one fill command; one `self.write` of `size` copies of
the byte; `struct.error` for a byte value that does not fit -/
def fillPy (addr data size : Nat) (x y p : Int) : FillPlan → Except String (List PyFun.PyEvent)
  | .fillCmd a w s => .ok [⟨"_send_scp", [x, y, p, ((cmdFill : Nat) : Int), (a : Int), (w : Int), (s : Int)], []⟩]
  | .writes _ => .ok [⟨"write", [(addr : Int), x, y, p], bytesInt (List.replicate size data)⟩]
  | .structError => .error "struct.error"

theorem flatten_replicate_singleton (n : Nat) (v : Int) : (List.replicate n [v]).flatten = List.replicate n v :=
  List.flatten_replicate_singleton

/-- `struct.pack('<B', n)` -/
theorem pack_byte (n : Nat) :
    PyFun.pyStructPack false [.B] [(n : Int)] = if n < 256 then .ok [(n : Int)] else .error "struct.error" := by
  rw [PyFunB.pack_B_nat]; rfl

theorem gen_fill (buf addr data size : Nat) (x y p : Int) :
    PyFun.MachineController_fill (addr : Int) (data : Int) (size : Int) x y p
      = fillPy addr data size x y p (fill buf addr data size) := by
  unfold PyFun.MachineController_fill fill
  rw [show Int.fmod size 4 = _ from fmod_natCast size 4, show Int.fmod addr 4 = _ from fmod_natCast addr 4]
  simp only [ne_eq, Int.natCast_eq_zero, or_comm (a := ¬ addr % 4 = 0) (b := ¬ size % 4 = 0)]
  by_cases hc : ¬ size % 4 = 0 ∨ ¬ addr % 4 = 0
  · rw [if_pos hc, if_pos hc, pack_byte]
    by_cases hd : data < 256
    · rw [if_pos hd, if_pos hd]
      simp only [fillPy, Int.toNat_natCast, flatten_replicate_singleton, bytesInt, List.map_replicate, List.nil_append]
    · rw [if_neg hd, if_neg hd]; rfl
  · rw [if_neg hc, if_neg hc]; rfl

/-- the model on an instance with `1 ≤ buf` (the generated functions are not run) -/
example : (write 4 2 [1, 2, 3, 4, 5]).length = 2 ∧ (read 4 2 5).length = 2 := by decide

end Rig.C07
