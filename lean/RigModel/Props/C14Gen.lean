/-
C14 - translator tie: the generator `_get_minimal_core_reservations` (rig/place_and_route/utils.py) = the model's
`minimalRes` (Model/C14.lean).  The pending `reservation` - `None` or a slice - is an optional pair threaded through
the `for` loop; each yielded `ReserveResourceConstraint(core_resource, reservation, chip)` is represented by its slice,
`core_resource` and `chip` being opaque objects passed through.
-/
import RigModel.Model.C14
import RigModel.Gen.PyFun
import RigModel.Lemmas.PyCast

-- see Lemmas/PyCast.lean
set_option linter.unusedSimpArgs false

namespace Rig.C14
open Rig.Gen

def resSlice (r : Reservation) : Int × Int := ((r.start : Int), (r.stop : Int))

def pendI : Option (Nat × Nat) → Option (Int × Int)
  | none => none
  | some (s, e) => some ((s : Int), (e : Int))

/-- the flush after the loop: `if reservation is not None: yield ...` -/
def finish (st : Option (Int × Int) × List (Int × Int)) : List (Int × Int) :=
  match st.1 with
  | some v => st.2 ++ [v]
  | none => st.2

theorem res_step (st : Option (Nat × Nat)) (out : List (Int × Int)) (c : Nat) :
    PyFun.get_minimal_core_reservations_loop1 (pendI st, out) (c : Int)
      = match st with
        | none => (pendI (some (c, c + 1)), out)
        | some (s, e) => if e = c then (pendI (some (s, c + 1)), out)
                         else (pendI (some (c, c + 1)), out ++ [((s : Int), (e : Int))]) := by
  unfold PyFun.get_minimal_core_reservations_loop1
  rcases st with _ | ⟨s, e⟩
  · simp only [pendI, py_cast, py_ac]
  · simp only [pendI, py_cast, py_ac, @eq_comm _ c e]

theorem res_loop (chip : Option (Nat × Nat)) : ∀ (cs : List Nat) (st : Option (Nat × Nat)) (out : List (Int × Int)),
    finish ((cs.map (fun (c : Nat) => (c : Int))).foldl PyFun.get_minimal_core_reservations_loop1 (pendI st, out))
      = out ++ (minimalRes chip cs st).map resSlice
  | [], none, out => by simp [finish, pendI, minimalRes]
  | [], some (s, e), out => by simp [finish, pendI, minimalRes, resSlice]
  | c :: cs, none, out => by
    rw [List.map_cons, List.foldl_cons, res_step, minimalRes]
    exact res_loop chip cs _ _
  | c :: cs, some (s, e), out => by
    rw [List.map_cons, List.foldl_cons, res_step, minimalRes]
    by_cases h : e = c
    · simp only [h, if_true]
      exact res_loop chip cs _ _
    · simp only [h, if_false]
      rw [res_loop chip cs _ _]
      simp [resSlice]

theorem gen_minimal_core_reservations (chip : Option (Nat × Nat)) (cores : List Nat) :
    PyFun.get_minimal_core_reservations (cores.map (fun (c : Nat) => (c : Int)))
      = (minimalRes chip cores none).map resSlice := by
  unfold PyFun.get_minimal_core_reservations
  have := res_loop chip cores none []
  simp only [pendI, List.nil_append] at this
  rw [← this]
  unfold finish
  dsimp only
  generalize List.foldl _ _ _ = r
  obtain ⟨p, o⟩ := r
  cases p <;> rfl

end Rig.C14
