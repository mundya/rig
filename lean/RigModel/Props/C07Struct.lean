/-
C07 - struct and per-core field accessors over the PARSED struct table.

`structRead` / `structWrite` / `vcpuRead` / `vcpuWrite` (Model/C07Struct.lean) are the Lean models of
MachineController.read_struct_field / write_struct_field / read_vcpu_struct_field /
write_vcpu_struct_field; the table they work on is what the model parser `parseStructFile` makes of a
struct file - for the bundled rig/boot/sark.struct, `sarkTable`, whose bytes are regenerated on every run.
`sark_file` (Lemmas/C20Sark.lean) shows that `sarkTable` is `genStructs.map ofDef`, the generated table sent to bytes.
-/
import RigModel.Props.C07
import RigModel.Model.C07Struct
import RigModel.Lemmas.C20Sark
import RigModel.Lemmas.C20Pack

namespace Rig.C07Struct
open Rig.C07 Rig.C20Parse Rig.C20

theorem readMem_length (m : Mem) (a n : Nat) : (readMem m a n).length = n := C07.readMem_length m a n

theorem readMem_getD (m : Mem) (a n i : Nat) (h : i < n) : (readMem m a n).getD i 0 = m (a + i) := by
  simp [readMem, h]

theorem leBytes_length (w n : Nat) : (leBytes w n).length = w := by
  rw [leBytes_eq_le]; exact LE.length_bytes w n

theorem fromLE_eq : ∀ l : List Nat, fromLE l = LE.val l
  | [] => rfl
  | b :: l => congrArg (b + 256 * ·) (fromLE_eq l)

theorem fromLE_leBytes (w n : Nat) : fromLE (leBytes w n) = n % 256 ^ w := by
  rw [fromLE_eq, leBytes_eq_le]; exact LE.val_bytes w n

/-- **Little endian.** Byte `i` of the packed number is digit `i` of the number in base 256. -/
theorem leBytes_getD (w n i : Nat) : (leBytes w n).getD i 0 = if i < w then n / 256 ^ i % 256 else 0 := by
  rw [leBytes_eq, List.getD_eq_getElem?_getD, List.getElem?_map]
  split
  · rw [List.getElem?_range ‹_›]; rfl
  · rw [List.getElem?_eq_none (by rw [List.length_range]; omega)]; rfl

/-- what `struct.pack` makes of a value before storing it: a string is cut / padded to its width -/
def normVal : Item → Val → Val
  | .str n, .bytes b => .bytes (b.take n ++ List.replicate (n - b.length) 0)
  | _, v => v

theorem packItem_ok {it : Item} {v : Val} {d : List Nat} (h : packItem it v = .ok d) :
    (∃ c n, it = .int c ∧ v = .int n ∧ intRange c n = true ∧
      d = leBytes (codeWidth c) (n % (256 : Int) ^ codeWidth c).toNat) ∨
    (∃ w b, it = .str w ∧ v = .bytes b ∧ d = b.take w ++ List.replicate (w - b.length) 0) := by
  cases it <;> cases v <;> simp only [packItem] at h
  · split at h <;> cases h
    exact .inl ⟨_, _, rfl, rfl, ‹_›, rfl⟩
  · cases h
  · cases h
  · cases h
    exact .inr ⟨_, _, rfl, rfl, rfl⟩

/-- **A packed number is its little-endian bytes**, and only numbers of the item's range are packed. -/
theorem packItem_int (c : Nat) (v : Int) (d : List Nat) (h : packItem (.int c) (.int v) = .ok d) :
    intRange c v = true ∧ d = leBytes (codeWidth c) (v % (256 : Int) ^ codeWidth c).toNat := by
  simp only [packItem] at h
  split at h <;> cases h
  exact ⟨‹_›, rfl⟩

theorem packItem_length {it : Item} {v : Val} {d : List Nat} (h : packItem it v = .ok d) :
    d.length = it.size := by
  obtain ⟨c, n, rfl, rfl, _, rfl⟩ | ⟨w, b, rfl, rfl, rfl⟩ := packItem_ok h
  · exact leBytes_length ..
  · simp only [List.length_append, List.length_take, List.length_replicate, Item.size]
    omega

theorem unpack_packItem {it : Item} {v : Val} {d : List Nat} (h : packItem it v = .ok d) :
    unpackItem it d = normVal it v := by
  obtain ⟨c, n, rfl, rfl, hr, rfl⟩ | ⟨w, b, rfl, rfl, rfl⟩ := packItem_ok h
  · have hM : (256 : Int) ^ codeWidth c = ((256 ^ codeWidth c : Nat) : Int) := by simp
    simp only [unpackItem, normVal, fromLE_leBytes]
    rw [Nat.mod_eq_of_lt (by rw [hM]; omega)]
    unfold intRange at hr
    split at hr
    · subst c
      have hw : codeWidth 98 = 1 := by decide
      simp only [decide_eq_true_eq, hw, Int.pow_one, true_and] at hr ⊢
      split <;> (congr 1; omega)
    · simp only [decide_eq_true_eq] at hr
      rw [Int.emod_eq_of_lt hr.1 hr.2, if_neg (fun h => ‹¬ c = 98› h.1), Int.toNat_of_nonneg hr.1]
  · rfl

theorem packAll_length {items : List Item} {vs : List Val} {d : List Nat} (h : packAll items vs = .ok d) :
    d.length = calcsize items := by
  fun_induction packAll items vs generalizing d with
  | case4 it r v vs d1 h1 ds h2 ih =>
    cases h
    rw [List.length_append, ih h2, packItem_length h1]
    rfl
  | case1 => cases h; rfl
  | case2 | case3 | case5 => cases h

/-- **Unpacking what was packed gives the values back** (strings cut / padded to their width). -/
theorem unpackAll_packAll : ∀ (items : List Item) (vs : List Val) (d : List Nat),
    packAll items vs = .ok d → unpackAll items d = List.zipWith normVal items vs := by
  intro items vs d h
  fun_induction packAll items vs generalizing d with
  | case4 it r v vs d1 h1 ds h2 ih =>
    cases h
    rw [unpackAll, ← packItem_length h1, List.take_left, List.drop_left, unpack_packItem h1, ih _ h2,
      List.zipWith_cons_cons]
  | case1 => rfl
  | case2 | case3 | case5 => cases h

/-- what a successful `structAccess` is: struct and field found in the table, the address is the struct's
base plus the field's offset, the items are `length` copies of the field's format -/
def IsAccess (T : List PStruct) (s f : Bytes) (a : Access) : Prop :=
  ∃ st b, getStruct T s = some st ∧ getField st.fields f = some a.field ∧ st.base = some b ∧
    (a.addr : Int) = b + a.field.offset ∧ fmtItems a.field.pack a.field.length = some a.items

theorem structAccess_ok {T : List PStruct} {s f : Bytes} {a : Access} (h : structAccess T s f = .ok a) :
    IsAccess T s f a := by
  unfold structAccess at h
  -- the result is `.ok` only where every lookup succeeded; `split` leaves the lookups as hypotheses
  repeat' split at h
  all_goals cases h
  exact ⟨_, _, ‹_›, ‹_›, ‹_›, by simp only; omega, ‹_›⟩

/-- Whenever `write_struct_field` sends its commands: struct and field are those
of the table, the address is base + offset, the packed bytes fill exactly the field's size, and executing
the write commands in ANY order (each at least once, duplicates allowed) leaves memory with exactly the packed
bytes at `[base + offset, base + offset + size)` and every other byte unchanged.  (`packItem_int`,
`leBytes_getD`: the bytes of a number are its little-endian digits.) -/
theorem struct_write_exact (T : List PStruct) (buf : Nat) (s f : Bytes) (w : WVal) (m : Mem) (hb : 0 < buf)
    (a : Access) (data : List Nat) (cs : List Chunk) (h : structWrite T buf s f w = .ok (a, data, cs)) :
    IsAccess T s f a ∧ structPack a w = .ok data ∧ data.length = a.size ∧
    ∀ ws : List Chunk, (∀ c ∈ ws, c ∈ cs) → (∀ c ∈ cs, c ∈ ws) →
      ws.foldl execWrite m = writeMem m a.addr data ∧
      readMem (ws.foldl execWrite m) a.addr a.size = data ∧
      ∀ x, (x < a.addr ∨ a.addr + a.size ≤ x) → ws.foldl execWrite m x = m x := by
  unfold structWrite at h
  repeat' split at h
  all_goals cases h
  have hlen : data.length = a.size := by
    have hp : structPack a w = .ok data := ‹_›
    unfold structPack at hp
    repeat' split at hp
    all_goals first | cases hp | exact packAll_length hp
  refine ⟨structAccess_ok ‹_›, ‹_›, hlen, fun ws h1 h2 => ?_⟩
  rw [write_exact_any_order buf _ _ m hb ws h1 h2, ← hlen]
  exact ⟨rfl, readMem_writeMem_same .., writeMem_outside m _ _⟩

/-- Whenever `read_struct_field` sends its commands: the address is base + offset
of the table's field, the replies - reassembled in ANY completion order - are exactly the `size` bytes of
memory at that address, and if those bytes are the packing of values `vs` the accessor's result is made of
exactly these values (`unpacked[0]` for a scalar, the tuple for an array). -/
theorem struct_read_exact (T : List PStruct) (buf : Nat) (s f : Bytes) (m : Mem) (hb : 0 < buf)
    (a : Access) (cs : List Chunk) (h : structRead T buf s f = .ok (a, cs)) :
    IsAccess T s f a ∧
    (∀ (buffer0 : Mem) (done : List Chunk), (∀ c ∈ done, c ∈ cs) → (∀ c ∈ cs, c ∈ done) →
      readMem (done.foldl (placeReply m a.addr) buffer0) 0 a.size = readMem m a.addr a.size) ∧
    (∀ vs, packAll a.items vs = .ok (readMem m a.addr a.size) →
      unpackAll a.items (readMem m a.addr a.size) = List.zipWith normVal a.items vs ∧
      structValue a (readMem m a.addr a.size) =
        (if a.field.length = 1 then
          (match List.zipWith normVal a.items vs with
           | v :: _ => .ok (.one v)
           | [] => .error .indexError)
         else .ok (.tuple (List.zipWith normVal a.items vs)))) := by
  unfold structRead at h
  split at h <;> cases h
  refine ⟨structAccess_ok ‹_›, read_exact_any_order buf _ _ m hb, fun vs hv => ?_⟩
  have e := unpackAll_packAll _ _ _ hv
  exact ⟨e, by rw [structValue, e]; rfl⟩

/-- **Write, then read.**  A number written to a scalar field is the number read back, whatever the order
in which the write commands were executed. -/
theorem struct_write_then_read (T : List PStruct) (buf : Nat) (s f : Bytes) (v : Int) (m : Mem) (hb : 0 < buf)
    (a : Access) (data : List Nat) (cs : List Chunk) (c : Nat) (hi : a.items = [.int c]) (hl : a.field.length = 1)
    (h : structWrite T buf s f (.one (.int v)) = .ok (a, data, cs)) (ws : List Chunk)
    (h1 : ∀ c ∈ ws, c ∈ cs) (h2 : ∀ c ∈ cs, c ∈ ws) :
    structValue a (readMem (ws.foldl execWrite m) a.addr a.size) = .ok (.one (.int v)) := by
  obtain ⟨_, hp, _, hw⟩ := struct_write_exact T buf s f _ m hb a data cs h
  rw [structPack, if_neg (fun h => h hl)] at hp
  rw [(hw ws h1 h2).2.1, structValue, unpackAll_packAll _ _ _ hp, if_pos hl, hi]
  rfl

/-- Whenever a per-core accessor has worked out its address, for EVERY core `p`:
the field is the one of the table's `vcpu` struct, the first access was the struct read of `sv.vcpu_base`
(address sv.base + offset of `vcpu_base`), `vb` is the number the machine's memory holds there, and the
address is `vb + size_of(vcpu) * p + offset`; the format is ONE copy of the field's format. -/
theorem vcpu_field_address (T : List PStruct) (m : Mem) (f : Bytes) (p : Nat) (ab a : Access)
    (h : vcpuAccess T m f p = .ok (ab, a)) :
    ∃ st vb sz, getStruct T nVcpu = some st ∧ getField st.fields f = some a.field ∧
      structAccess T nSv nVcpuBase = .ok ab ∧ IsAccess T nSv nVcpuBase ab ∧
      structValue ab (readMem m ab.addr ab.size) = .ok (.one (.int vb)) ∧ st.size = some sz ∧
      (a.addr : Int) = vb + sz * p + a.field.offset ∧ packItems a.field.pack = some a.items := by
  unfold vcpuAccess at h
  repeat' split at h
  all_goals cases h
  have hb : vcpuBase T m = .ok _ := ‹_›
  unfold vcpuBase at hb
  repeat' split at hb
  all_goals cases hb
  exact ⟨_, _, _, ‹_›, ‹_›, ‹_›, structAccess_ok ‹_›, ‹_›, ‹_›, by simp only; omega, ‹_›⟩

/-- `sv.vcpu_base` is a 32-bit word: what `read_struct_field("sv", "vcpu_base")` returns is the number whose
little-endian bytes the memory holds at sv.base + offset -/
theorem vcpuBase_word (T : List PStruct) (m : Mem) (ab : Access) (vb : Nat)
    (hab : structAccess T nSv nVcpuBase = .ok ab) (hi : ab.items = [.int 73]) (hl : ab.field.length = 1)
    (hvb : vb < 2 ^ 32) (hm : readMem m ab.addr 4 = leBytes 4 vb) :
    vcpuBase T m = .ok (ab, .one (.int vb)) := by
  have hs : ab.size = 4 := by rw [Access.size, hi]; rfl
  have e : unpackAll [.int 73] (leBytes 4 vb) = [.int vb] := by
    have t : (leBytes 4 vb).take 4 = leBytes 4 vb := List.take_of_length_le (Nat.le_of_eq (leBytes_length ..))
    simp [unpackAll, unpackItem, Item.size, codeWidth, t, fromLE_leBytes, Nat.mod_eq_of_lt hvb]
  simp only [vcpuBase, hab, hs, hm, structValue, hi, e, hl, if_true]

theorem getField_some {l : List PField} {n : Bytes} {g : PField} (h : getField l n = some g) :
    g ∈ l ∧ g.name = n := by
  induction l with
  | nil => cases h
  | cons x r ih =>
    simp only [getField] at h
    split at h
    · cases h; exact ⟨.head _, ‹_›⟩
    · exact ⟨.tail _ (ih h).1, (ih h).2⟩

def Apart (pc : Bool) (f g : PField) : Prop :=
  f.offset + fieldSize pc f ≤ g.offset ∨ g.offset + fieldSize pc g ≤ f.offset

theorem disjointFrom_spec (pc : Bool) (f : PField) (l : List PField) (h : disjointFrom pc f l = true) :
    ∀ g ∈ l, Apart pc f g := by
  induction l with
  | nil => nofun
  | cons x r ih =>
    simp only [disjointFrom, Bool.and_eq_true, Bool.or_eq_true, decide_eq_true_eq] at h
    exact List.forall_mem_cons.2 ⟨h.1, ih h.2⟩

theorem pairwiseDisjoint_spec (pc : Bool) (l : List PField) (h : pairwiseDisjoint pc l = true) :
    ∀ f ∈ l, ∀ g ∈ l, f.name ≠ g.name → Apart pc f g := by
  induction l with
  | nil => nofun
  | cons x r ih =>
    simp only [pairwiseDisjoint, Bool.and_eq_true] at h
    have hx := disjointFrom_spec pc x r h.1
    intro f hf g hg hne
    rcases List.mem_cons.1 hf with rfl | hf' <;> rcases List.mem_cons.1 hg with rfl | hg'
    · exact absurd rfl hne
    · exact hx g hg'
    · exact (hx f hf').symm
    · exact ih h.2 f hf' g hg' hne

/-- **Layout.**  In a well-formed struct (`layoutWFB`, decided) two fields with different names never share
a byte, and every field lies inside the struct. -/
theorem layout_apart (pc : Bool) (st : PStruct) (h : layoutWFB pc st = true) :
    (∀ f ∈ st.fields, ∀ g ∈ st.fields, f.name ≠ g.name → Apart pc f g) ∧
    (∀ f ∈ st.fields, 0 ≤ f.offset ∧ f.offset + fieldSize pc f ≤ st.size.getD 0 ∧
      (if pc then packItems f.pack else fmtItems f.pack f.length).isSome) := by
  simp only [layoutWFB, Bool.and_eq_true, List.all_eq_true, decide_eq_true_eq] at h
  exact ⟨pairwiseDisjoint_spec pc _ h.2, fun f hf => ⟨(h.1.2 f hf).1.1, (h.1.2 f hf).1.2, (h.1.2 f hf).2⟩⟩

theorem looked_up_apart {pc : Bool} {st : PStruct} (hwf : layoutWFB pc st = true) {f g : Bytes} {x y : PField}
    (hx : getField st.fields f = some x) (hy : getField st.fields g = some y) (hne : f ≠ g) :
    x.offset + fieldSize pc x ≤ y.offset ∨ y.offset + fieldSize pc y ≤ x.offset := by
  obtain ⟨mx, rfl⟩ := getField_some hx
  obtain ⟨my, rfl⟩ := getField_some hy
  exact (layout_apart pc st hwf).1 _ mx _ my hne

theorem fieldSize_eq {pc : Bool} {f : PField} {items : List Item}
    (h : (if pc then packItems f.pack else fmtItems f.pack f.length) = some items) :
    fieldSize pc f = calcsize items := by
  rw [fieldSize, h]

theorem apart_shift {b o1 o2 : Int} {A1 A2 s1 s2 : Nat} (h1 : (A1 : Int) = b + o1) (h2 : (A2 : Int) = b + o2)
    (h : o1 + s1 ≤ o2 ∨ o2 + s2 ≤ o1) : A1 + s1 ≤ A2 ∨ A2 + s2 ≤ A1 := by
  omega

theorem block_lt {vb sz o1 o2 : Int} {A1 A2 s1 p q : Nat} (h1 : (A1 : Int) = vb + sz * p + o1)
    (h2 : (A2 : Int) = vb + sz * q + o2) (hpq : p < q) (hw : o1 + s1 ≤ sz) (ho1 : 0 ≤ o1) (ho2 : 0 ≤ o2) :
    A1 + s1 ≤ A2 := by
  have : sz * ((p : Int) + 1) ≤ sz * q := Int.mul_le_mul_of_nonneg_left (by omega) (by omega)
  rw [Int.mul_add, Int.mul_one] at this
  omega

/-- In a struct with a well-formed layout, writing field `f` - its write commands
executed in any order - changes no byte of another field `g`, so reading `g` afterwards returns what it
returned before. -/
theorem field_isolated (T : List PStruct) (buf : Nat) (s f g : Bytes) (w : WVal) (m : Mem) (hb : 0 < buf)
    (a : Access) (data : List Nat) (cs : List Chunk) (h : structWrite T buf s f w = .ok (a, data, cs))
    (ag : Access) (hg : structAccess T s g = .ok ag) (hne : f ≠ g)
    (st : PStruct) (hst : getStruct T s = some st) (hwf : layoutWFB false st = true)
    (ws : List Chunk) (h1 : ∀ c ∈ ws, c ∈ cs) (h2 : ∀ c ∈ cs, c ∈ ws) :
    (a.addr + a.size ≤ ag.addr ∨ ag.addr + ag.size ≤ a.addr) ∧
    readMem (ws.foldl execWrite m) ag.addr ag.size = readMem m ag.addr ag.size ∧
    structValue ag (readMem (ws.foldl execWrite m) ag.addr ag.size) =
      structValue ag (readMem m ag.addr ag.size) := by
  obtain ⟨hia, _, hlen, hw⟩ := struct_write_exact T buf s f w m hb a data cs h
  have hig := structAccess_ok hg
  obtain ⟨st1, b1, hs1, hf1, hb1, ha1, hi1⟩ := hia
  obtain ⟨st2, b2, hs2, hf2, hb2, ha2, hi2⟩ := hig
  obtain rfl : st = st1 := Option.some.inj (hst.symm.trans hs1)
  obtain rfl : st = st2 := Option.some.inj (hst.symm.trans hs2)
  obtain rfl : b1 = b2 := Option.some.inj (hb1.symm.trans hb2)
  have sa : fieldSize false a.field = a.size := fieldSize_eq hi1
  have sg : fieldSize false ag.field = ag.size := fieldSize_eq hi2
  have hdis := apart_shift ha1 ha2 (sa ▸ sg ▸ looked_up_apart hwf hf1 hf2 hne)
  have hr : readMem (ws.foldl execWrite m) ag.addr ag.size = readMem m ag.addr ag.size := by
    rw [(hw ws h1 h2).1]
    exact readMem_writeMem_disjoint m a.addr data ag.addr ag.size (by rw [hlen]; exact hdis.symm)
  exact ⟨hdis, hr, by rw [hr]⟩

/-- **Per-core isolation.**  With a well-formed `vcpu` layout, the bytes of field `f` of core `p` and of
field `g` of core `q` are disjoint unless it is the same field of the same core - so a per-core write never
changes another field or another core's block. -/
theorem vcpu_field_isolated (T : List PStruct) (m : Mem) (f g : Bytes) (p q : Nat) (ab1 a1 ab2 a2 : Access)
    (h1 : vcpuAccess T m f p = .ok (ab1, a1)) (h2 : vcpuAccess T m g q = .ok (ab2, a2))
    (hne : f ≠ g ∨ p ≠ q) (st : PStruct) (hst : getStruct T nVcpu = some st) (hwf : layoutWFB true st = true) :
    a1.addr + a1.size ≤ a2.addr ∨ a2.addr + a2.size ≤ a1.addr := by
  obtain ⟨st1, vb1, sz, hs1, hf1, e1, _, hv1, hz1, ha1, hi1⟩ := vcpu_field_address T m f p ab1 a1 h1
  obtain ⟨st2, vb2, sz2, hs2, hf2, e2, _, hv2, hz2, ha2, hi2⟩ := vcpu_field_address T m g q ab2 a2 h2
  obtain rfl : st = st1 := Option.some.inj (hst.symm.trans hs1)
  obtain rfl : st = st2 := Option.some.inj (hst.symm.trans hs2)
  obtain rfl : ab1 = ab2 := Except.ok.inj (e1.symm.trans e2)
  obtain rfl : sz = sz2 := Option.some.inj (hz1.symm.trans hz2)
  obtain rfl : vb1 = vb2 := by rw [hv1] at hv2; cases hv2; rfl
  have hl := layout_apart true st hwf
  obtain ⟨o1, w1, _⟩ := hl.2 _ (getField_some hf1).1
  obtain ⟨o2, w2, _⟩ := hl.2 _ (getField_some hf2).1
  have s1 : fieldSize true a1.field = a1.size := fieldSize_eq hi1
  have s2 : fieldSize true a2.field = a2.size := fieldSize_eq hi2
  rw [hz1, Option.getD_some, s1] at w1
  rw [hz1, Option.getD_some, s2] at w2
  rcases Nat.lt_trichotomy p q with hpq | rfl | hpq
  · exact .inl (block_lt ha1 ha2 hpq w1 o1 o2)
  · exact apart_shift ha1 ha2 (s1 ▸ s2 ▸ looked_up_apart hwf hf1 hf2 (hne.resolve_right (· rfl)))
  · exact .inr (block_lt ha2 ha1 hpq w2 o2 o1)

/-- of `tableOKB` (Model/C07Struct.lean), not of `C20.tableOK` -/
theorem tableOK_spec (T : List PStruct) (h : tableOKB T = true) :
    (∃ st, getStruct T nSv = some st ∧ layoutWFB false st = true) ∧
    (∃ st sz, getStruct T nVcpu = some st ∧ layoutWFB true st = true ∧ st.size = some sz ∧ 0 ≤ sz) ∧
    (∃ ab, structAccess T nSv nVcpuBase = .ok ab ∧ ab.items = [.int 73] ∧ ab.field.length = 1) := by
  simp only [tableOKB, Bool.and_eq_true, Option.any_eq_true, decide_eq_true_eq] at h
  obtain ⟨⟨h1, st, hst, hwf, sz, hsz, h0⟩, h3⟩ := h
  refine ⟨h1, ⟨st, sz, hst, hwf, hsz, h0⟩, ?_⟩
  split at h3
  · exact ⟨_, ‹_›, by simpa using h3⟩
  · cases h3

/-- **Per-core address, for every core and field of a well-formed table.**  If the machine's memory holds
the 32-bit number `vb` in `sv.vcpu_base`, then for EVERY core `p` and every field of the `vcpu` struct the
per-core accessors work out the address `vb + size_of(vcpu) * p + offset` and the field's own size. -/
theorem vcpu_field_address_total (T : List PStruct) (hT : tableOKB T = true) (m : Mem) (vb p : Nat)
    (hvb : vb < 2 ^ 32) :
    ∃ ab st sz, structAccess T nSv nVcpuBase = .ok ab ∧ getStruct T nVcpu = some st ∧ st.size = some sz ∧
      (readMem m ab.addr 4 = leBytes 4 vb → ∀ f fld, getField st.fields f = some fld →
        ∃ a, vcpuAccess T m f p = .ok (ab, a) ∧ (a.addr : Int) = vb + sz * p + fld.offset ∧ a.field = fld ∧
          a.size = fieldSize true fld) := by
  obtain ⟨_, ⟨st, sz, hst, hwf, hsz, hsz0⟩, ⟨ab, hab, hi, hl⟩⟩ := tableOK_spec T hT
  refine ⟨ab, st, sz, hab, hst, hsz, fun hm f fld hf => ?_⟩
  obtain ⟨ho, _, hsome⟩ := (layout_apart true st hwf).2 fld (getField_some hf).1
  obtain ⟨items, hit⟩ := Option.isSome_iff_exists.1 hsome
  replace hit : packItems fld.pack = some items := hit
  have h0 : 0 ≤ (vb : Int) + sz * p + fld.offset :=
    Int.add_nonneg (Int.add_nonneg (Int.natCast_nonneg _) (Int.mul_nonneg hsz0 (Int.natCast_nonneg _))) ho
  refine ⟨⟨((vb : Int) + sz * p + fld.offset).toNat, items, fld⟩, ?_, Int.toNat_of_nonneg h0, rfl,
    (fieldSize_eq (pc := true) hit).symm⟩
  simp only [vcpuAccess, hst, hf, vcpuBase_word T m ab vb hab hi hl hvb hm, hsz, hit, Int.not_lt.2 h0, if_false]

/-- **The bundled sark.struct has a well-formed layout** (kernel evaluation over the table parsed from the
file's bytes, regenerated on every run): no two `sv` fields overlap under the struct accessors, no two `vcpu`
fields overlap under the per-core accessors, every field lies inside its struct, `sv.vcpu_base` is a word. -/
theorem sark_layout_ok : tableOKB sarkTable = true :=
  sark_file.2.1 ▸ sark_file.2.2.2.1

/-- `field_isolated` for the system-variable struct of the bundled file: no hypothesis on the layout left -/
theorem sark_field_isolated (buf : Nat) (f g : Bytes) (w : WVal) (m : Mem) (hb : 0 < buf)
    (a : Access) (data : List Nat) (cs : List Chunk) (h : structWrite sarkTable buf nSv f w = .ok (a, data, cs))
    (ag : Access) (hg : structAccess sarkTable nSv g = .ok ag) (hne : f ≠ g)
    (ws : List Chunk) (h1 : ∀ c ∈ ws, c ∈ cs) (h2 : ∀ c ∈ cs, c ∈ ws) :
    (a.addr + a.size ≤ ag.addr ∨ ag.addr + ag.size ≤ a.addr) ∧
    readMem (ws.foldl execWrite m) ag.addr ag.size = readMem m ag.addr ag.size ∧
    structValue ag (readMem (ws.foldl execWrite m) ag.addr ag.size) =
      structValue ag (readMem m ag.addr ag.size) := by
  obtain ⟨⟨st, hst, hwf⟩, _, _⟩ := tableOK_spec _ sark_layout_ok
  exact field_isolated sarkTable buf nSv f g w m hb a data cs h ag hg hne st hst hwf ws h1 h2

theorem sark_vcpu_field_address (m : Mem) (vb p : Nat) (hvb : vb < 2 ^ 32) :
    ∃ ab st sz, structAccess sarkTable nSv nVcpuBase = .ok ab ∧ getStruct sarkTable nVcpu = some st ∧
      st.size = some sz ∧
      (readMem m ab.addr 4 = leBytes 4 vb → ∀ f fld, getField st.fields f = some fld →
        ∃ a, vcpuAccess sarkTable m f p = .ok (ab, a) ∧ (a.addr : Int) = vb + sz * p + fld.offset ∧
          a.field = fld ∧ a.size = fieldSize true fld) :=
  vcpu_field_address_total sarkTable sark_layout_ok m vb p hvb

theorem sark_vcpu_field_isolated (m : Mem) (f g : Bytes) (p q : Nat) (ab1 a1 ab2 a2 : Access)
    (h1 : vcpuAccess sarkTable m f p = .ok (ab1, a1)) (h2 : vcpuAccess sarkTable m g q = .ok (ab2, a2))
    (hne : f ≠ g ∨ p ≠ q) : a1.addr + a1.size ≤ a2.addr ∨ a2.addr + a2.size ≤ a1.addr := by
  obtain ⟨_, ⟨st, _, hst, hwf, _, _⟩, _⟩ := tableOK_spec _ sark_layout_ok
  exact vcpu_field_isolated sarkTable m f g p q ab1 a1 ab2 a2 h1 h2 hne st hst hwf

theorem sark_vectors : SarkVectors (genStructs.map ofDef) := sark_file.2.2.2.2

example : (structAccess (genStructs.map ofDef) nSv nVcpuBase).toOption.map (fun a => (a.addr, a.items)) =
    some (0xf5007f00 + 0xcc, [.int 73]) := sark_vectors.1
example : (structWrite (genStructs.map ofDef) 3 nSv (sbytes "iobuf_size") (.one (.int 0x12345678))).toOption.map
    (fun r => (r.1.addr, r.2.1, r.2.2.length)) = some (0xf5007f00 + 0x50, [0x78, 0x56, 0x34, 0x12], 2) :=
  sark_vectors.2.1
example : (vcpuAccess (genStructs.map ofDef) (memOf [(0xf5007f00 + 0xcc, [0, 0x70, 0, 0xe5])]) (sbytes "user0") 3
    ).toOption.map (fun r => (r.2.addr, r.2.size)) = some (0xe5007000 + 3 * 128 + 112, 4) := sark_vectors.2.2.1
example : (vcpuAccess (genStructs.map ofDef) (memOf [(0xf5007f00 + 0xcc, [0, 0x70, 0, 0xe5])]) (sbytes "app_name") 0
    ).toOption.map (fun r => (r.2.addr, r.2.size)) = some (0xe5007000 + 72, 16) := sark_vectors.2.2.2

end Rig.C07Struct
