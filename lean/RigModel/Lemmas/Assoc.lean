/-
Insertion-ordered association lists as Python dicts, once for all towers: reading is `List.lookup`, writing is `upsert`,
deleting is a filter on the keys (`lookup_filter_key`); with distinct keys, membership is lookup (`mem_iff_lookup`).
A model's own writing function (`d[k] = v`, `d[k] |= v`) is proved equal to `upsert` where it is defined.
-/

namespace Rig.Assoc
variable {κ α β : Type} [BEq κ] [LawfulBEq κ]

/-- `d[k] = f (d.get k)`: an existing key keeps its place (and its key object), a new key goes to the end -/
def upsert : List (κ × α) → κ → (Option α → α) → List (κ × α)
  | [], k, f => [(k, f none)]
  | (k', v) :: t, k, f => if k' == k then (k', f (some v)) :: t else (k', v) :: upsert t k f

/-- `List.lookup` compares `k == k'`, the models `k' == k` -/
theorem lookup_cons (k' : κ) (v : α) (t : List (κ × α)) (k : κ) :
    ((k', v) :: t).lookup k = if k' == k then some v else t.lookup k := by
  rw [List.lookup_cons, BEq.comm]; cases k' == k <;> rfl

theorem lookup_upsert (l : List (κ × α)) (k k' : κ) (f : Option α → α) :
    (upsert l k f).lookup k' = if k == k' then some (f (l.lookup k)) else l.lookup k' := by
  induction l with
  | nil => rw [upsert, lookup_cons]; rfl
  | cons hd t ih =>
    obtain ⟨a, v⟩ := hd
    rw [upsert, lookup_cons a v t k, lookup_cons a v t k']
    cases ha : a == k
    · rw [if_neg Bool.false_ne_true, if_neg Bool.false_ne_true, lookup_cons, ih]
      cases hk : a == k'
      · rfl
      · rw [← eq_of_beq hk, BEq.comm, ha]; rfl
    · rw [if_pos rfl, if_pos rfl, lookup_cons, eq_of_beq ha]
      cases k == k' <;> rfl

theorem keys_upsert (l : List (κ × α)) (k : κ) (f : Option α → α) :
    (upsert l k f).map (·.1) = if k ∈ l.map (·.1) then l.map (·.1) else l.map (·.1) ++ [k] := by
  induction l with
  | nil => rfl
  | cons hd t ih =>
    obtain ⟨a, v⟩ := hd
    rw [upsert]
    cases ha : a == k
    · have hne : k ≠ a := fun e => by rw [e, beq_self_eq_true] at ha; cases ha
      rw [if_neg Bool.false_ne_true, List.map_cons, ih, List.map_cons]
      by_cases hk : k ∈ t.map (·.1)
      · rw [if_pos hk, if_pos (List.mem_cons_of_mem _ hk)]
      · rw [if_neg hk, if_neg fun h => (List.mem_cons.1 h).elim hne hk]; rfl
    · rw [if_pos rfl, if_pos (eq_of_beq ha ▸ List.mem_cons_self)]; rfl

theorem mem_keys_upsert (l : List (κ × α)) (k k' : κ) (f : Option α → α) :
    k' ∈ (upsert l k f).map (·.1) ↔ k' = k ∨ k' ∈ l.map (·.1) := by
  rw [keys_upsert]
  split
  · next h => exact ⟨.inr, fun h' => h'.elim (· ▸ h) id⟩
  · rw [List.mem_append, List.mem_singleton, or_comm]

theorem nodup_keys_upsert (l : List (κ × α)) (k : κ) (f : Option α → α) (h : (l.map (·.1)).Nodup) :
    ((upsert l k f).map (·.1)).Nodup := by
  rw [keys_upsert]
  split
  · exact h
  · next hk =>
    exact List.nodup_append.2 ⟨h, List.pairwise_singleton _ _, fun a ha b hb e =>
      hk (List.mem_singleton.1 hb ▸ e ▸ ha)⟩

theorem upsert_of_lookup_none (l : List (κ × α)) (k : κ) (f : Option α → α) (h : l.lookup k = none) :
    upsert l k f = l ++ [(k, f none)] := by
  induction l with
  | nil => rfl
  | cons hd t ih =>
    obtain ⟨a, v⟩ := hd
    rw [lookup_cons] at h
    split at h
    · cases h
    · next ha => rw [upsert, if_neg ha, ih h]; rfl

/-- keeping the entries whose key passes `q` (`q := (· != k)`: `del d[k]` written as a filter) -/
theorem lookup_filter_key (q : κ → Bool) (l : List (κ × α)) (k : κ) :
    (l.filter fun e => q e.1).lookup k = if q k then l.lookup k else none := by
  induction l with
  | nil => exact (ite_self _).symm
  | cons hd t ih =>
    obtain ⟨a, v⟩ := hd
    rw [List.filter_cons, lookup_cons a v t k]
    cases ha : a == k
    · rw [if_neg Bool.false_ne_true, ← ih]
      cases q a
      · rfl
      · rw [if_pos rfl, lookup_cons, if_neg (ha ▸ Bool.false_ne_true)]
    · cases eq_of_beq ha
      show List.lookup k (if q k = true then _ else _) = _
      cases hq : q k
      · rw [if_neg Bool.false_ne_true, ih, hq]; rfl
      · rw [if_pos rfl, if_pos rfl, lookup_cons, if_pos ha]; rfl

theorem mem_of_lookup {l : List (κ × α)} {k : κ} {v : α} (h : l.lookup k = some v) : (k, v) ∈ l := by
  obtain ⟨l₁, l₂, rfl, _⟩ := List.lookup_eq_some_iff.1 h
  exact List.mem_append_right _ List.mem_cons_self

theorem lookup_isSome_iff {l : List (κ × α)} {k : κ} : (l.lookup k).isSome ↔ k ∈ l.map (·.1) := by
  induction l with
  | nil => exact ⟨nofun, nofun⟩
  | cons hd t ih =>
    obtain ⟨a, w⟩ := hd
    rw [lookup_cons, List.map_cons, List.mem_cons]
    split
    · next e => exact ⟨fun _ => .inl (eq_of_beq e).symm, fun _ => rfl⟩
    · next e => exact ih.trans ⟨.inr, fun h => h.resolve_left fun e' => e (e' ▸ beq_self_eq_true k)⟩

theorem lookup_eq_none_iff {l : List (κ × α)} {k : κ} : l.lookup k = none ↔ k ∉ l.map (·.1) := by
  rw [← lookup_isSome_iff]; exact Option.not_isSome_iff_eq_none.symm

theorem lookup_append_of_not_mem {l1 l2 : List (κ × α)} {k : κ} (h1 : l1.lookup k = none)
    (h2 : k ∉ l2.map (·.1)) : (l1 ++ l2).lookup k = none := by
  rw [List.lookup_append, h1, Option.none_or]
  exact lookup_eq_none_iff.2 h2

theorem lookup_eq_find? (k : κ) (l : List (κ × α)) : l.lookup k = (l.find? (fun e => e.1 == k)).map (·.2) := by
  induction l with
  | nil => rfl
  | cons a t ih =>
    obtain ⟨a1, a2⟩ := a
    simp only [List.lookup, List.find?]
    rw [BEq.comm (a := k)]
    cases h : (a1 == k) <;> simp [ih]

theorem lookup_map {κ' : Type} [BEq κ'] [LawfulBEq κ'] {f : κ → κ'} (hf : ∀ a b, f a = f b → a = b) (g : α → β)
    (k : κ) (l : List (κ × α)) : (l.map fun e => (f e.1, g e.2)).lookup (f k) = (l.lookup k).map g := by
  induction l with
  | nil => rfl
  | cons hd t ih =>
    obtain ⟨a, w⟩ := hd
    rw [List.map_cons, lookup_cons, lookup_cons, ih]
    cases e : a == k
    · rw [if_neg fun h => by rw [hf a k (eq_of_beq h), beq_self_eq_true] at e; cases e]; rfl
    · rw [eq_of_beq e, if_pos (beq_self_eq_true _)]; rfl

theorem lookup_map_self (l : List κ) (f : κ → β) (c : κ) :
    (l.map fun c => (c, f c)).lookup c = if c ∈ l then some (f c) else none := by
  induction l with
  | nil => rfl
  | cons a t ih =>
    rw [List.map_cons, lookup_cons, ih]
    by_cases h : a = c
    · rw [if_pos (beq_iff_eq.2 h), if_pos (h ▸ List.mem_cons_self), h]
    · rw [if_neg (fun e => h (eq_of_beq e))]
      simp only [List.mem_cons, Ne.symm h, false_or]

theorem mem_iff_lookup {l : List (κ × α)} (hn : (l.map (·.1)).Nodup) {k : κ} {v : α} :
    (k, v) ∈ l ↔ l.lookup k = some v := by
  refine ⟨fun h => ?_, mem_of_lookup⟩
  induction l with
  | nil => cases h
  | cons hd t ih =>
    obtain ⟨a, w⟩ := hd
    obtain ⟨ha, ht⟩ := List.nodup_cons.1 hn
    rw [lookup_cons]
    rcases List.mem_cons.1 h with e | h
    · cases e; rw [if_pos (beq_self_eq_true k)]
    · rw [if_neg fun e => ha (List.mem_map.2 ⟨_, h, (eq_of_beq e).symm⟩)]; exact ih ht h

theorem eq_of_key_eq {l : List (κ × α)} (h : (l.map (·.1)).Nodup) {p q : κ × α} (hp : p ∈ l) (hq : q ∈ l)
    (hk : p.1 = q.1) : p = q :=
  Prod.ext hk (Option.some.inj (((mem_iff_lookup h).1 hp).symm.trans (hk ▸ (mem_iff_lookup h).1 hq)))

theorem filterMap_lookup_perm : ∀ {t : List (κ × α)} {ks : List κ}, (t.map (·.1)).Nodup → ks.Nodup →
    (∀ e ∈ t, e.1 ∈ ks) → (ks.filterMap (t.lookup ·)).Perm (t.map (·.2))
  | [], ks, _, _, _ => by
    have : ks.filterMap (List.lookup · ([] : List (κ × α))) = [] := List.filterMap_eq_nil_iff.2 fun _ _ => rfl
    rw [this]; exact .nil
  | (a, b) :: t, ks, hk, hks, hsub => by
    have hk' := List.nodup_cons.1 hk
    have ha : a ∈ ks := hsub _ List.mem_cons_self
    -- move `a` to the front; behind it the first entry of the table is never hit
    refine ((List.perm_cons_erase ha).filterMap _).trans ?_
    rw [List.filterMap_cons, List.lookup_cons_self]
    refine .cons b ?_
    have e : ∀ l : List κ, (∀ k ∈ l, k ≠ a) → l.filterMap (List.lookup · ((a, b) :: t)) = l.filterMap (t.lookup ·) := by
      intro l
      induction l with
      | nil => intro _; rfl
      | cons k l ih =>
        intro h
        rw [List.filterMap_cons, List.filterMap_cons, List.lookup_cons, beq_false_of_ne (h k List.mem_cons_self),
          ih fun x hx => h x (List.mem_cons_of_mem _ hx)]
    rw [e _ fun k hk => (hks.mem_erase_iff.1 hk).1]
    exact filterMap_lookup_perm hk'.2 (hks.erase a) fun e he =>
      hks.mem_erase_iff.2 ⟨fun h => hk'.1 (h ▸ List.mem_map_of_mem (f := (·.1)) he), hsub e (List.mem_cons_of_mem _ he)⟩

end Rig.Assoc
