/-
C04 - user-supplied alias dictionaries of `ordered_covering`: the precondition
`AliasCover` and the exhaustive checker run by the harness.
-/
import RigModel.Model.C04U
import RigModel.Lemmas.C04Brute

namespace Rig.C04

/-- the precondition on a user-supplied dictionary; `alOf A o` is `aliases.get(km(o), {km(o)})` -/
def AliasCover (S : List Entry) (A : Aliases) : Prop :=
  ∀ k o, lookup S k = some o → ∃ a ∈ alOf A o, kmMatches a k = true

theorem aliasKeyOkB_iff (S : List Entry) (A : Aliases) (k : W) :
    aliasKeyOkB S A k = true ↔ ∀ o, lookup S k = some o → Hit k (alOf A o) := by
  rw [aliasKeyOkB]
  cases lookup S k <;>
    simp only [List.any_eq_true, Option.some.injEq, forall_eq', Hit, kmMatches, reduceCtorEq, false_imp_iff, implies_true]

/-- the checker looks only at which of the table's entries and of the listed key/masks match -/
theorem aliasOkBrute_none_iff {S : List Entry} {A : Aliases} :
    aliasOkBrute S A = none ↔ AliasCover S A := by
  refine (brute_none_iff (S ++ aliasEntries A) (aliasKeyOkB S A) (fun k h => ?_) fun k k' h => ?_).trans
    (forall_congr' (aliasKeyOkB_iff S A))
  · rw [aliasKeyOkB, lookup_none_iff.mpr fun d hd => h d (List.mem_append_left _ hd)]
  · rw [aliasKeyOkB, aliasKeyOkB, ← lookup_congr fun e he => h e (List.mem_append_left _ he)]
    cases hl : lookup S k with
    | none => rfl
    | some o =>
      have ho := List.mem_append_left (aliasEntries A) (lookup_some_matches hl).2
      rw [Bool.eq_iff_iff, List.any_eq_true, List.any_eq_true]
      refine exists_congr fun a => and_congr_right fun ha => Bool.eq_iff_iff.mp ?_
      rw [alOf] at ha
      cases hg : alGet A o.km with
      | none =>
        rw [hg] at ha
        cases List.mem_singleton.mp ha
        exact h o ho
      | some v =>
        rw [hg] at ha
        exact h (kmEntry a) (List.mem_append_right _
          (List.mem_flatMap.mpr ⟨(o.km, v), Assoc.mem_of_lookup (alGet_eq_lookup A _ ▸ hg), List.mem_map_of_mem ha⟩))

end Rig.C04
