/-
C03 - `route()`, one net on ANY machine: an unrepaired run is valid; the whole repair loop (`repairAll_spec`: every
processing order, every A* outcome) raises nothing but the disconnected-machine error, and not that on a strongly
connected machine; the only errors of the loop body are oracle errors and `MachineHasDisconnectedSubregion`
(`routeNet_only_failure`).  All nets of one call: only the oracle tape is threaded (`tapes`).
-/
import RigModel.Lemmas.C03Repair
import RigModel.Lemmas.C03Copy
import RigModel.Lemmas.C03Strong
import RigModel.Lemmas.C03NerValid
import Mathlib.Data.List.Perm.Subperm
namespace Rig.C03.L

theorem routeNet_ok {m : Machine} {src : Chip} {dests : List Chip} {radius : Nat} {t : Tape}
    {order : List (Chip × Chip)} {sinks : List Sink} {legacy : Bool} {r : Result}
    (h : routeNet m src dests radius t order sinks legacy = .ok r) :
    ∃ f0 t0, nerNet src dests m.w m.h (hasWrap m) radius t = .ok (f0, t0) ∧
      attachSinks r.forest sinks = .ok r.leaves ∧
      (r.repaired = false ∧ r.root = src ∧ routeHasDeadLinks f0 m = false ∧ r.forest = f0 ∨
       r.repaired = true ∧ ∃ cs paths, copyAndDisconnect f0 src m = .ok cs ∧ cs.root = some r.root ∧
         isOrderingOf order cs.broken = true ∧
         repairAll m (hasWrap m) legacy order cs.lookup [] = .ok (r.forest, paths)) := by
  unfold routeNet at h
  obtain ⟨⟨f0, t0⟩, hner, h⟩ := Except.bind_eq_ok h
  refine ⟨f0, t0, hner, ?_⟩
  simp only at h
  split at h
  · obtain ⟨cs, hcs, h⟩ := Except.bind_eq_ok h
    split at h
    · rename_i root hroot
      obtain ⟨_, ⟨⟩, h⟩ := Except.bind_eq_ok h
      split at h
      · cases h
      · rename_i hord
        obtain ⟨fp, hrep, h⟩ := Except.bind_eq_ok h
        obtain ⟨lv, hlv, h⟩ := Except.bind_eq_ok h
        cases h
        exact ⟨hlv, Or.inr ⟨rfl, cs, fp.2, hcs, hroot, by simpa using hord, hrep⟩⟩
    · obtain ⟨_, ⟨⟩, _⟩ := Except.bind_eq_ok h
  · rename_i hdead
    obtain ⟨lv, hlv, h⟩ := Except.bind_eq_ok h
    cases h
    exact ⟨hlv, Or.inl ⟨rfl, rfl, by simpa using hdead, rfl⟩⟩

theorem routeNet_leaves (m : Machine) (src : Chip) (dests : List Chip) (radius : Nat) (t : Tape)
    (order : List (Chip × Chip)) (sinks : List Sink) (legacy : Bool) (r : Result)
    (h : routeNet m src dests radius t order sinks legacy = .ok r) : r.leaves = expectedLeaves sinks := by
  obtain ⟨_, _, _, hlv, _⟩ := routeNet_ok h
  exact ((attachSinks_sat _ _).ok hlv).2

theorem routeNet_repaired_live (m : Machine) (src : Chip) (dests : List Chip) (radius : Nat) (t : Tape)
    (order : List (Chip × Chip)) (sinks : List Sink) (legacy : Bool) (r : Result)
    (h : routeNet m src dests radius t order sinks legacy = .ok r) (hr : r.repaired = true) :
    ForestLive m r.forest := by
  obtain ⟨f0, t0, _, _, ⟨hf, _⟩ | ⟨_, cs, paths, hcs, _, hord, hrep⟩⟩ := routeNet_ok h
  · rw [hr] at hf; cases hf
  · simp only [isOrderingOf, Bool.and_eq_true, List.all_eq_true, List.contains_iff_mem] at hord
    exact (repairAll_live _ _ _ (copyAndDisconnect_live _ _ _ _ hcs)
      fun pc hpc => (copyAndDisconnect_cinv hcs).alive pc (hord.1.2 pc hpc)).ok hrep

theorem routeNet_links (m : Machine) (src : Chip) (dests : List Chip) (radius : Nat) (t : Tape)
    (order : List (Chip × Chip)) (sinks : List Sink) (legacy : Bool) (r : Result)
    (h : routeNet m src dests radius t order sinks legacy = .ok r) :
    ∀ n, n ∈ r.forest → ∀ k, k ∈ n.2 → k.1 < 6 ∧ linkOk m n.1 k.1 = true ∧ k.2 = step m n.1 k.1 := by
  intro n hn k hk
  obtain ⟨f0, t0, hner, _, ⟨_, _, hd, hf⟩ | ⟨hr, _⟩⟩ := routeNet_ok h
  · rw [hf] at hn
    have h1 := nerNet_hops m src dests (hasWrap m) radius t t0 f0 hner n hn k hk
    simp only [routeHasDeadLinks, List.any_eq_false, Bool.not_eq_true, Bool.not_eq_false'] at hd
    exact ⟨h1.1, by simpa using hd n hn k hk, h1.2⟩
  · have := ((routeNet_repaired_live m src dests radius t order sinks legacy r h hr) n hn).2 k hk
    exact ⟨this.1, this.2.1, this.2.2.2⟩

theorem routeNet_unrepaired_valid (m : Machine) (src : Chip) (dests : List Chip) (radius : Nat) (t : Tape)
    (order : List (Chip × Chip)) (sinks : List Sink) (legacy : Bool) (r : Result)
    (hs : chipOk m src = true) (hd : ∀ d, d ∈ dests → chipOk m d = true)
    (h : routeNet m src dests radius t order sinks legacy = .ok r) (hr : r.repaired = false) :
    r.root = src ∧ ∃ tr, toTree r.forest r.leaves (r.forest.length + 1) r.root = some tr ∧
      ValidTree m src sinks tr := by
  have hsr : InRange m src := chipOk_inRange hs
  have hlinks := routeNet_links m src dests radius t order sinks legacy r h
  obtain ⟨f0, t0, hner, hlv, ⟨_, hroot, _, hf⟩ | ⟨hr', _⟩⟩ := routeNet_ok h
  · rw [hroot, routeNet_leaves m src dests radius t order sinks legacy r h]
    rw [hf] at hlinks hlv ⊢
    obtain ⟨hi, _, hleaf⟩ := (nerNet_spec hsr fun d hd' => chipOk_inRange (hd d hd')).ok hner
    -- the arrival chip has a child, so starts a working link, or is childless, so is the source or a destination
    have hhop : ∀ n, n ∈ f0 → ∀ k, k ∈ n.2 → HopOk m (n.1, k.1, k.2) := fun n hn k hk => by
      have h1 := hlinks n hn k hk
      refine ⟨h1.1, h1.2.1, ?_, h1.2.2⟩
      obtain ⟨n', hn', hk1⟩ := List.mem_map.1 (hi.inv.closed _ _ ⟨n, hn, rfl, hk⟩)
      rw [← hk1]
      cases hk' : n'.2 with
      | nil => exact (hleaf n' hn' hk').elim (fun h => h ▸ hs) (hd _)
      | cons k' ks => exact linkOk_chipOk (hlinks n' hn' k' (hk' ▸ List.mem_cons_self)).2.1
    obtain ⟨tr, h1, h2, _⟩ := rinv_valid hi.inv sinks hhop (attachSinks_keys _ _ hlv)
    exact ⟨rfl, tr, h1, h2⟩
  · rw [hr] at hr'; cases hr'

theorem repairAll_spec {m : Machine} {wrap : Bool} (root : Chip) :
    ∀ (order : List (Chip × Chip)) (f : Forest) (ps : List (List (Nat × Chip))),
      RInv f (root :: order.map (·.2)) → ForestLive m f → (∀ pc, pc ∈ order → chipOk m pc.2 = true) →
      Except.Sat (fun e => e = .disconnected ∧ stronglyConnected m = false)
        (fun r => RInv r.1 [root] ∧ ∀ x, x ∈ f.keys → x ∈ r.1.keys) (repairAll m wrap false order f ps) := by
  intro order
  induction order with
  | nil => intro f ps hi _ _; exact Except.Sat.pure ⟨hi, fun _ h => h⟩
  | cons pc r ih =>
    intro f ps hi hl ho
    have hnd := hi.rootsNodup
    simp only [List.map_cons, List.nodup_cons, List.mem_cons, not_or] at hnd
    have hpc := ho pc List.mem_cons_self
    obtain ⟨sources, hns, hsrc, ⟨f1, p1, hres, hk1, hinv⟩ | ⟨hres, hast⟩⟩ :=
      repairOne_spec (m := m) (wrap := wrap) hi (pc := pc) (by simp) hpc
    · have h1 : RInv f1 (root :: r.map (·.2)) :=
        hinv _ (List.nodup_cons.2 ⟨hnd.1.2, hnd.2.2⟩) (by simp [Ne.symm hnd.1.1, hnd.2.1])
          (fun x => by simp only [List.map_cons, List.mem_cons, or_comm, or_left_comm])
      simp only [repairAll, hres, bind, Except.bind]
      exact (ih f1 (p1 :: ps) h1 ((repairOne_live hl hpc).ok hres) fun pc' h' => ho pc' (List.mem_cons_of_mem _ h')).imp
        fun _ ⟨hi', hk⟩ => ⟨hi', fun x hx => hk x (hk1 x hx)⟩
    · simp only [repairAll, hres, bind, Except.bind]
      refine ⟨rfl, Bool.eq_false_iff.2 fun hs => ?_⟩
      -- the root is a working chip among the A* sources
      obtain ⟨path, hpath⟩ := aStar_succeeds m hs pc.2 pc.1 sources wrap hpc hns
        ⟨root, hsrc root List.mem_cons_self hnd.1.1, (forestLive_iff.1 hl).1 _ (hi.roots root List.mem_cons_self).1⟩
      rw [hpath] at hast
      cases hast

theorem isOrdering_perm {order broken : List (Chip × Chip)} (hb : broken.Nodup)
    (h : isOrderingOf order broken = true) : broken.Perm order := by
  simp only [isOrderingOf, Bool.and_eq_true, List.all_eq_true, List.contains_iff_mem, beq_iff_eq] at h
  exact (hb.subperm h.2).perm_of_length_le (by omega)

theorem rinv_reorder {f : Forest} {src : Chip} {order broken : List (Chip × Chip)}
    (hci : RInv f (src :: broken.map (·.2))) (hord : isOrderingOf order broken = true) :
    RInv f (src :: order.map (·.2)) ∧ ∀ pc, pc ∈ order → pc ∈ broken := by
  have hnd := List.nodup_cons.1 hci.rootsNodup
  have hp := isOrdering_perm (List.Nodup.of_map _ hnd.2) hord
  have hmem : ∀ x, x ∈ order.map (·.2) ↔ x ∈ broken.map (·.2) := fun x => (hp.map _).mem_iff.symm
  exact ⟨hci.congr (List.nodup_cons.2 ⟨fun hm => hnd.1 ((hmem _).1 hm), (hp.map _).nodup_iff.1 hnd.2⟩)
    (fun x => by simp only [List.mem_cons, hmem]), fun pc h => hp.mem_iff.2 h⟩

theorem routeNet_repaired_inv (m : Machine) (src : Chip) (dests : List Chip) (radius : Nat) (t : Tape)
    (order : List (Chip × Chip)) (sinks : List Sink) (r : Result)
    (h : routeNet m src dests radius t order sinks false = .ok r) (hr : r.repaired = true) :
    r.root = src ∧ RInv r.forest [src] ∧ ∀ s, s ∈ sinks → s.chip ∈ r.forest.keys := by
  obtain ⟨f0, t0, _, hlv, ⟨hf, _⟩ | ⟨_, cs, paths, hcs, hroot, hord, hrep⟩⟩ := routeNet_ok h
  · rw [hr] at hf; cases hf
  · have hc := copyAndDisconnect_cinv hcs
    obtain ⟨hi0, hsub⟩ := rinv_reorder hc.inv hord
    have hi' := ((repairAll_spec src order cs.lookup [] hi0 hc.live fun pc hpc => hc.alive pc (hsub pc hpc)).ok hrep).1
    exact ⟨Option.some.inj (hroot.symm.trans hc.rootEq), hi', attachSinks_keys _ _ hlv⟩

/-- what the documentation of `route()` allows: the disconnected-machine error; plus the errors of the oracle
inputs of the model (a tape / order that is not a recording of a real run) -/
def Err.allowed (e : Err) : Prop := e = .tape ∨ e = .badDraw ∨ e = .badOracle ∨ e = .disconnected

theorem routeNet_only_failure (m : Machine) (src : Chip) (dests : List Chip) (radius : Nat) (t : Tape)
    (order : List (Chip × Chip)) (sinks : List Sink)
    (hs : chipOk m src = true) (hd : ∀ d, d ∈ dests → InRange m d)
    (hsk : ∀ s, s ∈ sinks → (s.chip = src ∨ s.chip ∈ dests) ∧ chipOk m s.chip = true) :
    ∀ e, routeNet m src dests radius t order sinks false = .error e →
      Err.allowed e ∧ (e = .disconnected → stronglyConnected m = false) := by
  have hsr : InRange m src := chipOk_inRange hs
  have key : Except.Sat (fun e => Err.allowed e ∧ (e = .disconnected → stronglyConnected m = false)) (fun _ => True)
      (routeNet m src dests radius t order sinks false) := by
    unfold routeNet
    refine ((nerNet_spec hsr hd).imp_error fun e he => he.elim (fun h => h ▸ ⟨Or.inl rfl, nofun⟩)
      fun h => h ▸ ⟨Or.inr (Or.inl rfl), nofun⟩).bind fun ⟨f0, t0⟩ _ ⟨hi, hall, _⟩ => ?_
    have hkeys0 : ∀ s, s ∈ sinks → s.chip ∈ f0.keys := fun s hs' =>
      (hsk s hs').1.elim (fun h => h ▸ hi.srcKey) (hall _)
    simp only
    split
    · have ht : TreeAt f0 src := ⟨hi.inv.wf, hi.inv.closed, hi.srcKey, (hi.inv.roots src List.mem_cons_self).2⟩
      have hconn : ∀ c, c ∈ f0.keys → Below f0 src c := fun c hc =>
        let ⟨r, hr, hb⟩ := hi.inv.conn c hc; List.mem_singleton.1 hr ▸ hb
      refine ((copyAndDisconnect_sat f0 src m).imp_error fun _ h =>
        (h.elim (fun h => by rw [hs] at h; cases h) (· ht)).elim).bind fun cs _ ⟨hc, hcov⟩ => ?_
      simp only [hc.rootEq, pure_bind]
      split
      · exact ⟨Or.inr (Or.inr (Or.inl rfl)), nofun⟩
      · rename_i hord
        obtain ⟨hi0, hsub⟩ := rinv_reorder hc.inv (by simpa using hord)
        refine ((repairAll_spec src order cs.lookup [] hi0 hc.live fun pc hpc => hc.alive pc (hsub pc hpc)).imp_error
          fun e ⟨he, hsc⟩ => ⟨Or.inr (Or.inr (Or.inr he)), fun _ => hsc⟩).bind fun ⟨f, paths⟩ _ ⟨_, hk⟩ => ?_
        rw [attachSinks_ok sinks fun s hs' => hk _ (hcov ht _ (hconn _ (hkeys0 s hs')) (hsk s hs').2)]
        exact trivial
    · rw [attachSinks_ok sinks hkeys0]
      exact trivial
  exact fun e h => key.error h

end Rig.C03.L

namespace Rig.C03

/-- the tape each net of the call starts with: the tape of the call minus the draws of the nets before it -/
def tapes (m : Machine) : List NetIn → Tape → List Tape
  | [], _ => []
  | n :: rest, t => t :: tapes m rest (tapeAfter m n t)

namespace L

theorem tapes_length (m : Machine) : ∀ (nets : List NetIn) (t : Tape), (tapes m nets t).length = nets.length
  | [], _ => rfl
  | _ :: rest, _ => congrArg (· + 1) (tapes_length m rest _)

theorem routeNets_error {m : Machine} {legacy : Bool} (nets : List NetIn) (t : Tape) :
    Except.Sat (fun e => ∃ n t', n ∈ nets ∧ routeNet m n.src n.dests n.radius t' n.order n.sinks legacy = .error e)
      (fun _ => True) (routeNets m legacy nets t) := by
  fun_induction routeNets m legacy nets t with
  | case1 t => trivial
  | case2 n rest t ih =>
    refine (Except.Sat.of_forall (fun e he => ⟨n, t, List.mem_cons_self, he⟩) fun _ _ => trivial).bind fun r _ _ => ?_
    exact (ih.imp_error fun e ⟨n', t', hn', h'⟩ => ⟨n', t', List.mem_cons_of_mem _ hn', h'⟩).bind
      fun _ _ _ => trivial

end L
end Rig.C03
