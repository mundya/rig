/-
C04 - one round of `_refine_downcheck`: unless the stringency is 0 there is an option, and every
option removes a member.
-/
import RigModel.Lemmas.C04Merged

namespace Rig.C04

theorem popcount_le (x : W) : popcount x ≤ 32 := by
  unfold popcount
  have := List.countP_le_length (p := fun i => x.getLsbD i) (l := List.range 32)
  simpa using this

theorem popcount_mono {x y : W} (h : ∀ i, i < 32 → x.getLsbD i = true → y.getLsbD i = true) :
    popcount x ≤ popcount y := by
  unfold popcount
  apply List.countP_mono_left
  intro i hi hx
  exact h i (by simpa using hi) hx

theorem popcount_pos {x : W} (h : popcount x ≠ 0) : ∃ i, i < 32 ∧ x.getLsbD i = true := by
  unfold popcount at h
  have : 0 < List.countP (fun i => x.getLsbD i) (List.range 32) := Nat.pos_of_ne_zero h
  rw [List.countP_pos_iff] at this
  obtain ⟨i, hi, hx⟩ := this
  exact ⟨i, by simpa using hi, hx⟩

theorem foldl_eq_step {α β} (f : β → α → β) (b : β) {l : List α} (h : l ≠ []) :
    ∃ st a, a ∈ l ∧ l.foldl f b = f st a := by
  rw [← List.dropLast_concat_getLast h, List.foldl_append]
  exact ⟨_, _, List.mem_append_right _ (List.mem_singleton_self _), rfl⟩

theorem stringency_spec (m : Merge) (cov : List KM) (hne : cov ≠ []) :
    ((stringency m cov).1 ≠ 0 → (stringency m cov).2 ≠ []) ∧
    (∀ bv ∈ (stringency m cov).2, bv.1 < 32 ∧ m.mask.getLsbD bv.1 = false) := by
  have h1 : (stringency m cov).1 ≤ 32 := by
    unfold stringency
    obtain ⟨st, km, _, heq⟩ := foldl_eq_step _ _ hne
    rw [heq]
    have hp := popcount_le (km.2 &&& ~~~m.mask)
    dsimp only
    by_cases hle : popcount (km.2 &&& ~~~m.mask) ≤ st.1
    · rw [if_pos hle]; exact hp
    · rw [if_neg hle]; exact Nat.le_trans (Nat.le_of_lt (Nat.lt_of_not_le hle)) hp
  -- the premise `≤ 32` disposes of the start state `(33, [])` (`most_stringent = 33`)
  have h2 : ((stringency m cov).1 ≠ 0 → (stringency m cov).1 ≤ 32 → (stringency m cov).2 ≠ []) ∧
      ∀ bv ∈ (stringency m cov).2, bv.1 < 32 ∧ m.mask.getLsbD bv.1 = false := by
    unfold stringency
    refine List.foldlRecOn cov _ (motive := fun (st : Nat × List (Nat × Bool)) => (st.1 ≠ 0 → st.1 ≤ 32 → st.2 ≠ []) ∧
      ∀ bv ∈ st.2, bv.1 < 32 ∧ m.mask.getLsbD bv.1 = false)
      ⟨fun _ h => absurd h (by decide), fun _ h => absurd h List.not_mem_nil⟩ ?_
    intro st ⟨w1, w2⟩ km _
    dsimp only
    by_cases hle : popcount (km.2 &&& ~~~m.mask) ≤ st.1
    · rw [if_pos hle]
      refine ⟨fun hn0 _ => ?_, fun bv hbv => ?_⟩
      · obtain ⟨i, hi, hx⟩ := popcount_pos hn0
        exact List.ne_nil_of_mem (List.mem_append_right _
          (List.mem_map.mpr ⟨i, List.mem_filter.mpr ⟨List.mem_range.mpr hi, hx⟩, rfl⟩))
      · rcases List.mem_append.mp hbv with hb | hb
        · by_cases hlt : popcount (km.2 &&& ~~~m.mask) < st.1
          · rw [if_pos hlt] at hb; cases hb
          · rw [if_neg hlt] at hb; exact w2 bv hb
        · obtain ⟨i, hi, rfl⟩ := List.mem_map.mp hb
          obtain ⟨hi1, hi2⟩ := List.mem_filter.mp hi
          rw [BitVec.getLsbD_and, BitVec.getLsbD_not, Bool.and_eq_true, Bool.and_eq_true,
            Bool.not_eq_true'] at hi2
          exact ⟨List.mem_range.mp hi1, hi2.2.2⟩
    · rw [if_neg hle]; exact ⟨w1, w2⟩
  exact ⟨fun h0 => h2.1 h0 h1, h2.2⟩

theorem mem_bitsDesc (i : Nat) (v : Bool) (hi : i < 32) : (i, v) ∈ bitsDesc := by
  simp only [bitsDesc, List.mem_flatMap, List.mem_reverse, List.mem_range]
  exact ⟨i, hi, by cases v <;> simp⟩

theorem chooseRemove_spec (T : List Entry) (m : Merge) (bav : List (Nat × Bool)) (hne : bav ≠ [])
    (hb : ∀ bv ∈ bav, bv.1 < 32)
    (hw : ∀ bv ∈ bav, workingRemove T m bv.1 bv.2 ≠ []) :
    chooseRemove T m bav ≠ [] ∧ ∀ x ∈ chooseRemove T m bav, x ∈ m.entries := by
  unfold chooseRemove
  constructor
  · have hC : bitsDesc.filter (fun bv => bav.contains bv) ≠ [] := by
      obtain ⟨bv, hbv⟩ := List.exists_mem_of_ne_nil bav hne
      exact List.ne_nil_of_mem (List.mem_filter.mpr
        ⟨mem_bitsDesc bv.1 bv.2 (hb bv hbv), List.contains_iff_mem.mpr hbv⟩)
    obtain ⟨st, bv, hbv, heq⟩ := foldl_eq_step _ _ hC
    rw [heq]
    dsimp only
    split
    · exact hw bv (List.contains_iff_mem.mp (List.mem_filter.mp hbv).2)
    · rename_i hc
      intro h
      rw [h] at hc
      exact hc rfl
  · refine List.foldlRecOn _ _ (motive := fun (r : List Nat) => ∀ x ∈ r, x ∈ m.entries)
      (fun x hx => absurd hx List.not_mem_nil)
      fun st ih bv _ => ?_
    dsimp only
    split
    · exact fun x hx => (List.mem_filter.mp hx).1
    · exact ih

/-- if no member had to go, the merged mask would select the bit -/
theorem workingRemove_ne_nil (T : List Entry) (es : List Nat) (hne : ∃ i ∈ es, i < T.length)
    (bit : Nat) (val : Bool) (hbit : bit < 32) (hx : (mkMerge T es).mask.getLsbD bit = false) :
    workingRemove T (mkMerge T es) bit val ≠ [] := by
  cases hall : (members T es).all (fun e => e.mask.getLsbD bit && (e.key.getLsbD bit == val)) with
  | true =>
    have := mergedMask_bit_of (members_ne_nil hne) hbit val fun e he => by
      have := List.all_eq_true.mp hall e he
      rw [Bool.and_eq_true, beq_iff_eq] at this
      exact this
    rw [show (mkMerge T es).mask = mergedMask (members T es) from rfl, this] at hx
    cases hx
  | false =>
    obtain ⟨e, he, hcond⟩ := List.all_eq_false.mp hall
    obtain ⟨j, hj, hTj⟩ := mem_members.mp he
    refine List.ne_nil_of_mem (a := j) (List.mem_filter.mpr ⟨hj, ?_⟩)
    simp only [hTj]
    revert hcond
    cases e.mask.getLsbD bit <;> cases e.key.getLsbD bit <;> cases val <;> decide

end Rig.C04
