/-
C11 - translator tie: `to_xyz`, `minimise_xyz`, `shortest_mesh_path_length`, `shortest_mesh_path`,
`shortest_torus_path_length` and the generator `concentric_hexagons` of rig/geometry.py, `Links.opposite`,
`Links.from_vector`, `Links.to_vector` (rig/links.py) and `Machine.__contains__` (rig/place_and_route/machine.py), as
regenerated into `Gen/PyFun.lean`, = the model functions the C11 theorems are about: for these the tie to the code is a
kernel-checked obligation, not a sample.  `concentric_hexagons` is three nested `for` loops; the generated loop bodies
`concentric_hexagons_loop1..3` do what the model's `rings` / `walkRing` / `walkSide` do, by induction over the
iterated lists.
-/
import RigModel.Model.C11
import RigModel.Gen.PyFun
import RigModel.Lemmas.Assoc
import Mathlib.Tactic.SplitIfs
import Mathlib.Tactic.Ring
import RigModel.Lemmas.PyCast

-- see Lemmas/PyCast.lean
set_option linter.unusedTactic false
set_option linter.unreachableTactic false

namespace Rig.C11
open Rig.Gen Rig.PyLoops

def t3 (v : V3) : Int × Int × Int := (v.x, v.y, v.z)

theorem gen_to_xyz (p : P2) : PyFun.to_xyz p = t3 (toXyz p) := by
  obtain ⟨x, y⟩ := p; rfl

theorem gen_minimise_xyz (v : V3) : PyFun.minimise_xyz (t3 v) = t3 (minimiseXyz v) := by
  simp only [PyFun.minimise_xyz, minimiseXyz, t3, py_ac]

theorem gen_mesh_len (s d : V3) : PyFun.shortest_mesh_path_length (t3 s) (t3 d) = meshLen s d := by
  obtain ⟨sx, sy, sz⟩ := s; obtain ⟨dx, dy, dz⟩ := d
  first
  | rfl
  | (simp only [PyFun.shortest_mesh_path_length, meshLen, t3]
     repeat' split
     all_goals omega)

/-- for every w, h; Python itself raises ZeroDivisionError when one of them is 0 (`gen_torus_len`) -/
theorem gen_torus_len_is_model (s d : V3) (w h : Int) :
    PyFun.shortest_torus_path_length (t3 s) (t3 d) w h = torusLenCore s d w h := by
  obtain ⟨sx, sy, sz⟩ := s; obtain ⟨dx, dy, dz⟩ := d
  first
  | rfl
  | -- any other way of writing it: by cases on the `%` branches
    (simp only [PyFun.shortest_torus_path_length, torusLenCore, pyMod, t3]
     repeat' split
     all_goals omega)

theorem gen_torus_len (s d : V3) (w h : Int) (hw : w ≠ 0) (hh : h ≠ 0) :
    torusLen s d w h = .ok (PyFun.shortest_torus_path_length (t3 s) (t3 d) w h) := by
  have : ¬ (w = 0 ∨ h = 0) := by simp [hw, hh]
  simp only [torusLen, this, if_false, gen_torus_len_is_model]

/-- `Links((self + 3) % 6)`: the enum lookup never fails -/
theorem gen_links_opposite (l : Nat) : PyFun.Links_opposite l = .ok ((opposite l : Nat) : Int) := by
  simp only [PyFun.Links_opposite, opposite, Rig.IntBits.fmod_lit]
  split
  · first | rfl | (refine congrArg Except.ok ?_; omega)
  · rename_i h
    simp only [List.contains_eq_mem, List.mem_cons, List.mem_nil_iff, or_false, decide_eq_true_eq] at h
    omega

def optExc : Option Nat → Except String Int
  | some l => .ok (l : Int)
  | none => .error "KeyError"

theorem gen_links_from_vector (x y : Int) : PyFun.Links_from_vector (x, y) = optExc (fromVector x y) := by
  first
  | -- both sides clamp the coordinates by the same tests (on `Int` there, on `Nat` here), then look the pair up
    (have c (z : Int) : ((z.natAbs : Int) > 1) = (z.natAbs > 1) := propext (Int.ofNat_lt (n := 1))
     simp only [PyFun.Links_from_vector, fromVector, lookupDir, Assoc.lookup_eq_find?, c]
     cases List.find? _ _ <;> rfl)
  | -- any other way of writing the clamp: by cases on the signs and sizes of the coordinates
    (have hx : x ≤ -2 ∨ x = -1 ∨ x = 0 ∨ x = 1 ∨ 2 ≤ x := by omega
     have hy : y ≤ -2 ∨ y = -1 ∨ y = 0 ∨ y = 1 ∨ 2 ≤ y := by omega
     simp only [PyFun.Links_from_vector, fromVector, lookupDir]
     rcases hx with hx | rfl | rfl | rfl | hx <;> rcases hy with hy | rfl | rfl | rfl | hy <;>
       (try simp (config := {decide := true}) only []) <;> (try split_ifs) <;>
       first | omega | rfl | decide)

def optExcP2 : Option P2 → Except String (Int × Int)
  | some v => .ok v
  | none => .error "KeyError"

theorem gen_links_to_vector (l : Nat) : PyFun.Links_to_vector l = optExcP2 (toVector l) := by
  simp only [PyFun.Links_to_vector, toVector, Int.toNat_natCast, Assoc.lookup_eq_find?]
  have : ¬ ((l : Int) < 0) := by omega
  simp only [this, if_false]
  cases (List.find? (fun e => e.1 == l) Rig.Gen.Links.directionLinkLookup) <;> rfl

theorem gen_links_to_vector_neg (l : Int) (h : l < 0) : PyFun.Links_to_vector l = .error "KeyError" := by
  simp only [PyFun.Links_to_vector, h, if_true]

theorem gen_mesh_path (s d : V3) : PyFun.shortest_mesh_path (t3 s) (t3 d) = t3 (meshPath s d) := by
  obtain ⟨sx, sy, sz⟩ := s; obtain ⟨dx, dy, dz⟩ := d
  first
  | rfl
  | (simp only [PyFun.shortest_mesh_path, PyFun.minimise_xyz, meshPath, minimiseXyz, t3, Prod.mk.injEq]
     refine ⟨?_, ?_, ?_⟩ <;> omega)

/-- one side: `for _ in range(r): yield (x, y); x += dx; y += dy` for ANY step function that does this -/
theorem side_fold {f : List P2 × Int × Int → Int → List P2 × Int × Int} {dx dy : Int}
    (hf : ∀ o x y i, f (o, x, y) i = (o ++ [(x, y)], x + dx, y + dy)) :
    ∀ (l : List Int) (o : List P2) (x y : Int), l.foldl f (o, x, y)
      = (o ++ walkSide (dx, dy) l.length (x, y), (sideEnd (dx, dy) l.length (x, y)).1, (sideEnd (dx, dy) l.length (x, y)).2)
  | [], o, x, y => by simp [walkSide, sideEnd]
  | a :: t, o, x, y => by
    rw [List.foldl_cons, hf, side_fold hf t]
    simp only [walkSide, sideEnd, List.length_cons, List.append_assoc, List.singleton_append, Prod.mk.injEq, true_and]
    constructor <;> (push_cast; ring)

/-- one ring: `for dx, dy in dirs: <side>` -/
theorem ring_fold {g : List P2 × Int × Int → P2 → List P2 × Int × Int} {n : Nat}
    (hg : ∀ o x y d, g (o, x, y) d
      = (o ++ walkSide d n (x, y), (sideEnd d n (x, y)).1, (sideEnd d n (x, y)).2)) :
    ∀ (ds : List P2) (o : List P2) (x y : Int), ds.foldl g (o, x, y)
      = (o ++ walkRing n ds (x, y), (ringEnd n ds (x, y)).1, (ringEnd n ds (x, y)).2)
  | [], o, x, y => by simp [walkRing, ringEnd]
  | d :: t, o, x, y => by
    rw [List.foldl_cons, hg, ring_fold hg t]
    simp only [walkRing, ringEnd, List.append_assoc]

/-- all rings: `for r in range(r0, r0 + n): y -= 1; <ring r>` (state order of the generated code: y, out, x) -/
theorem rings_fold {h : Int × List P2 × Int → Int → Int × List P2 × Int}
    (hh : ∀ y o x (r : Nat), h (y, o, x) (r : Int)
      = ((ringEnd r hexDirs (x, y - 1)).2, o ++ walkRing r hexDirs (x, y - 1), (ringEnd r hexDirs (x, y - 1)).1)) :
    ∀ (n r0 : Nat) (y : Int) (o : List P2) (x : Int), ∃ y' x',
      ((List.range n).map (fun (k : Nat) => ((r0 : Nat) : Int) + (k : Int))).foldl h (y, o, x)
        = (y', o ++ rings n r0 (x, y), x')
  | 0, r0, y, o, x => ⟨y, x, by simp [rings]⟩
  | n + 1, r0, y, o, x => by
    rw [List.range_succ_eq_map, List.map_cons, List.foldl_cons, List.map_map]
    have e : ((r0 : Nat) : Int) + ((0 : Nat) : Int) = ((r0 : Nat) : Int) := by simp
    rw [e, hh]
    have e2 : ((fun (k : Nat) => ((r0 : Nat) : Int) + (k : Int)) ∘ Nat.succ)
        = (fun (k : Nat) => (((r0 + 1 : Nat)) : Int) + (k : Int)) := by
      funext k; simp only [Function.comp, Nat.succ_eq_add_one]; push_cast; ring
    rw [e2]
    obtain ⟨y', x', e3⟩ := rings_fold hh n (r0 + 1) (ringEnd r0 hexDirs (x, y - 1)).2
      (o ++ walkRing r0 hexDirs (x, y - 1)) (ringEnd r0 hexDirs (x, y - 1)).1
    exact ⟨y', x', by rw [e3]; simp only [rings, List.append_assoc]⟩

theorem hex_loop3 (dx dy : Int) (o : List P2) (x y i : Int) :
    PyFun.concentric_hexagons_loop3 dx dy (o, x, y) i = (o ++ [(x, y)], x + dx, y + dy) := by
  simp only [PyFun.concentric_hexagons_loop3, py_ac]

theorem hex_loop2 (r : Nat) (o : List P2) (x y : Int) (d : P2) :
    PyFun.concentric_hexagons_loop2 r (o, x, y) d
      = (o ++ walkSide d r (x, y), (sideEnd d r (x, y)).1, (sideEnd d r (x, y)).2) := by
  unfold PyFun.concentric_hexagons_loop2
  dsimp only
  rw [side_fold (dx := d.1) (dy := d.2) (hex_loop3 d.1 d.2)]
  simp only [length_pyRange1, Int.sub_zero, Int.toNat_natCast]

theorem hex_loop1 (y : Int) (o : List P2) (x : Int) (r : Nat) :
    PyFun.concentric_hexagons_loop1 (y, o, x) (r : Int)
      = ((ringEnd r hexDirs (x, y - 1)).2, o ++ walkRing r hexDirs (x, y - 1), (ringEnd r hexDirs (x, y - 1)).1) := by
  unfold PyFun.concentric_hexagons_loop1
  dsimp only
  rw [ring_fold (n := r) (hex_loop2 r)]
  simp only [hexDirs, Int.sub_eq_add_neg, py_ac]

theorem gen_concentric_hexagons (radius : Int) (start : P2) :
    PyFun.concentric_hexagons radius start = concentricHexagons radius start := by
  obtain ⟨x, y⟩ := start
  unfold PyFun.concentric_hexagons concentricHexagons
  have hn : (radius + 1 - 1).toNat = radius.toNat := by congr 1; omega
  obtain ⟨y', x', e⟩ := rings_fold hex_loop1 radius.toNat 1 y [(x, y)] x
  simp only [Nat.cast_one] at e
  dsimp only [List.nil_append]
  rw [pyRange1_eq, hn, e]
  rfl

def deadLinksPy (m : Mach) : List (Int × Int × Int) := m.deadLinks.map (fun e => (e.1.1, e.1.2, (e.2 : Int)))

/-- `(x, y) in machine` -/
theorem gen_machine_contains_chip (m : Mach) (p : P2) :
    (PyFun.Machine_contains_chip m.w m.h m.deadChips (deadLinksPy m) p).1 = m.hasChip p := by
  obtain ⟨x, y⟩ := p
  unfold PyFun.Machine_contains_chip Mach.hasChip
  first
    | (simp only [Bool.decide_and, Bool.and_assoc, decide_not, Bool.decide_eq_true]; done)
    | (rw [Bool.eq_iff_iff]
       simp only [decide_eq_true_eq, Bool.and_eq_true, Bool.not_eq_true', Bool.not_eq_true, decide_not,
         Bool.decide_eq_true, Bool.decide_and]
       cases m.deadChips.contains (x, y) <;> simp <;> omega)

/-- `(x, y, link) in machine` -/
theorem gen_machine_contains_link (m : Mach) (p : P2) (l : Nat) :
    (PyFun.Machine_contains_link m.w m.h m.deadChips (deadLinksPy m) (p.1, p.2, (l : Int))).1 = m.hasLink p l := by
  obtain ⟨x, y⟩ := p
  unfold PyFun.Machine_contains_link Mach.hasLink
  simp only [gen_machine_contains_chip]
  have hc : (deadLinksPy m).contains (x, y, (l : Int)) = m.deadLinks.contains ((x, y), l) := by
    have := contains_map_inj (fun (e : P2 × Nat) => (e.1.1, e.1.2, (e.2 : Int)))
      (by intro a b h; obtain ⟨⟨a1, a2⟩, a3⟩ := a; obtain ⟨⟨b1, b2⟩, b3⟩ := b; simp at h ⊢; omega) m.deadLinks ((x, y), l)
    exact this
  simp only [hc, Bool.decide_and, decide_not, Bool.decide_eq_true]

end Rig.C11
