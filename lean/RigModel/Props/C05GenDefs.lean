/-
C05 - translator tie, outer loops: the three outer loops of the model (`allocResources`, `allocVertices`,
`allocChips`) with the body of the innermost one (`allocOne`) as a parameter, so that the same loops can be run
with the uniform-fuel body `allocOneF fuel` (what the generated `allocate` does: one `fuel` for every `while`).
-/
import RigModel.Props.C05Gen

namespace Rig.C05

/-- the body of the resource loop -/
abbrev One := Chip → Vertex → Res → Int → Ptrs → Except Err (Ptrs × Entry)

def allocResourcesG (one : One) (xy : Chip) (v : Vertex) :
    List (Res × Int) → Ptrs → Except Err (Ptrs × List Entry)
  | [], ptrs => .ok (ptrs, [])
  | (res, d) :: rest, ptrs =>
    match one xy v res d ptrs with
    | .error e => .error e
    | .ok (ptrs', e) =>
      match allocResourcesG one xy v rest ptrs' with
      | .error e => .error e
      | .ok (ptrs'', es) => .ok (ptrs'', e :: es)

def allocVerticesG (one : One) (vr : List (Vertex × List (Res × Int))) (xy : Chip) :
    List Vertex → Ptrs → Except Err (List (Vertex × List Entry))
  | [], _ => .ok []
  | v :: vs, ptrs =>
    match vr.lookup v with
    | none => .error .keyError
    | some rs =>
      match allocResourcesG one xy v rs ptrs with
      | .error e => .error e
      | .ok (ptrs', es) =>
        match allocVerticesG one vr xy vs ptrs' with
        | .error e => .error e
        | .ok rest => .ok ((v, es) :: rest)

/-- the chip loop over `chip_contents` = `[(xy, [vertex, ...]), ...]` -/
def allocChipsL (one : One) (vr : List (Vertex × List (Res × Int))) :
    List (Chip × List Vertex) → Except Err (List (Vertex × List Entry))
  | [] => .ok []
  | (xy, vs) :: rest =>
    match allocVerticesG one vr xy vs (fun _ => 0) with
    | .error e => .error e
    | .ok a =>
      match allocChipsL one vr rest with
      | .error e => .error e
      | .ok b => .ok (a ++ b)

/-- `chip_contents` as the model sees it -/
def chipContents (inp : Input) : List (Chip × List Vertex) :=
  (chipOrder inp).map fun xy => (xy, chipVertices inp xy)

/-- the model with one fuel for every proposal loop -/
def allocateF (fuel : Nat) (inp : Input) : Except Err (List (Vertex × List Entry)) :=
  allocChipsL (allocOneF fuel inp) inp.vr (chipContents inp)

theorem allocVerticesG_keys (one : One) (vr : List (Vertex × List (Res × Int))) (xy : Chip) (vs : List Vertex)
    (ptrs : Ptrs) :
    Except.Sat (fun _ => True) (fun out => out.map (·.1) = vs) (allocVerticesG one vr xy vs ptrs) := by
  fun_induction allocVerticesG one vr xy vs ptrs with
  | case1 => rfl
  | case2 | case3 | case4 => trivial
  | case5 v vs ptrs rs hl p1 es h1 rest h2 ih => exact congrArg (v :: ·) (ih.ok h2)

end Rig.C05
