/-
C18 - commands go to the chip, core and application the caller named.
Property theorems about the model of rig/utils/contexts.py and the controllers'
connection choice.  All statements are generic in the method signature, the call
shape, the context stack and the program, unless they name a generated signature.
-/
import RigModel.Lemmas.C18
import RigModel.Lemmas.C18Table
import RigModel.Lemmas.Lists

namespace Rig.C18
open Rig.Gen.Signatures

/-- every decorated method of both controllers is well-formed for the decorator:
first parameter `self`, no repeated names, keyword-only names distinct from the
parameters, keyword-only defaults only on methods taking `**kwargs`, fewer defaults than parameters -/
theorem signatures_wellformed : ∀ s ∈ sigs, s.wf = true :=
  fun s hs => (sigs_checked.1 s hs).1

/-- every decorated method has a wire rule in the model (`application` sends nothing itself) -/
theorem every_method_has_rule :
    ∀ s ∈ sigs, s.name = "application" ∨ (bodyOf s.cls s.name).length > 0 :=
  fun s hs => (sigs_checked.1 s hs).2.1

/-- **Precedence.**  The value the wrapper hands on for name `n` is: the explicit
keyword argument if there is one; else, for a name that may still be set (a
parameter after the positional prefix, or a keyword-only argument), the value of
the innermost context that sets it; else its default (`Required` for parameters
without one); names that may not be set are never introduced by a context. -/
theorem precedence (s : Sig) (nPos : Nat) (kwargs : Dict) (stack : List Dict) (n : String) :
    dget (newKwargs s nPos kwargs stack) n =
      (match dgetLast kwargs n with
       | some v => some v
       | none =>
         match dget (baseKwargs s nPos) n with
         | none => none
         | some dflt =>
           match ctxLookup stack n with
           | some v => some v
           | none => some dflt) := by
  unfold newKwargs
  rw [dget_dupdate, dget_applyCtx]
  cases dgetLast kwargs n with
  | some v => rfl
  | none =>
    simp only
    cases dget (baseKwargs s nPos) n with
    | none => rfl
    | some d =>
      simp only
      rw [dgetLast_eq_dget _ (nodup_merged stack), dget_merged]
      cases ctxLookup stack n <;> rfl

/-- the same for the dictionary of an accepted call, with plain lookups when the
caller's keyword arguments are a Python dict (no repeated keys) -/
theorem precedence_accepted (s : Sig) (nPos : Nat) (kwargs : Dict) (stack : List Dict) (r : Dict)
    (hk : (keys kwargs).Nodup) (h : resolve s nPos kwargs stack = .ok r) (n : String) :
    dget r n =
      (match dget kwargs n with
       | some v => some v
       | none =>
         match dget (baseKwargs s nPos) n with
         | none => none
         | some dflt =>
           match ctxLookup stack n with
           | some v => some v
           | none => some dflt) := by
  rw [(resolve_ok h).1, precedence, dgetLast_eq_dget _ hk]

theorem ctxLookup_append (newer rest : List Dict) (n : String) (hn : ∀ d ∈ newer, dgetLast d n = none) :
    ctxLookup (newer ++ rest) n = ctxLookup rest n := by
  induction newer with
  | nil => rfl
  | cons d t ih =>
    simp only [List.cons_append, ctxLookup, hn d List.mem_cons_self]
    exact ih fun e he => hn e (List.mem_cons_of_mem _ he)

/-- `ctxLookup` is "the innermost context that sets it": contexts newer than `c`
that do not set `n` are skipped, older ones are not consulted (stack newest-first) -/
theorem ctxLookup_innermost (newer older : List Dict) (c : Dict) (n : String) (v : Val)
    (hn : ∀ d ∈ newer, dgetLast d n = none) (hc : dgetLast c n = some v) :
    ctxLookup (newer ++ c :: older) n = some v := by
  rw [ctxLookup_append _ _ _ hn, ctxLookup, hc]

theorem ctxLookup_none (stack : List Dict) (n : String) (h : ∀ d ∈ stack, dgetLast d n = none) :
    ctxLookup stack n = none := by
  rw [← List.append_nil stack, ctxLookup_append _ _ _ h]; rfl

/-- the default of a parameter that may still be set is the one the code zips it with
(the source default, or `Required` from the padding) -/
theorem default_param (s : Sig) (hwf : s.wf = true) (nPos : Nat) (n : String) (d : Val)
    (h : (n, d) ∈ (s.argNames.drop (1 + nPos)).zip ((paddedDefaults s).drop (1 + nPos))) :
    dget (baseKwargs s nPos) n = some d := by
  obtain ⟨hn, hk, hdisj⟩ := wf_parts s hwf
  have hnk : n ∉ keys s.kwOnly := fun hc => hdisj n hc (List.mem_of_mem_drop (List.of_mem_zip h).1)
  have hz : (keys ((s.argNames.drop (1 + nPos)).zip ((paddedDefaults s).drop (1 + nPos)))).Nodup :=
    nodup_keys_zip _ _ (List.Nodup.sublist (List.drop_sublist _ _) hn)
  unfold baseKwargs dictOf
  rw [dget_dupdate, dgetLast_none_of_not_mem _ _ hnk]
  simp only
  rw [dget_dupdate, dgetLast_eq_dget _ hz, dget_of_mem _ hz _ _ h]

/-- the default of a keyword-only argument is the decorator's -/
theorem default_kwonly (s : Sig) (hwf : s.wf = true) (nPos : Nat) (k : String) (d : Val)
    (h : (k, d) ∈ s.kwOnly) : dget (baseKwargs s nPos) k = some d := by
  have hk := (wf_parts s hwf).2.1
  unfold baseKwargs
  rw [dget_dupdate, dgetLast_eq_dget _ hk, dget_of_mem _ hk _ _ h]

/-- **Passing styles agree.**  For a name that may still be set and is not given
otherwise, passing `v` as an explicit keyword argument and setting it in the
innermost enclosing context hand the same value to the method. -/
theorem passing_styles_agree (s : Sig) (nPos : Nat) (kw : Dict) (stack : List Dict) (n : String) (v d : Val)
    (hkw : dgetLast kw n = none) (hb : dget (baseKwargs s nPos) n = some d) :
    dget (newKwargs s nPos ((n, v) :: kw) stack) n = some v ∧
    dget (newKwargs s nPos kw ([(n, v)] :: stack)) n = some v := by
  constructor
  · rw [precedence]; simp [dgetLast, hkw]
  · rw [precedence]; simp [dgetLast, hkw, hb, ctxLookup]

/-- **Rejected.**  A call is rejected with `TypeError` exactly when some argument is
still the `Required` sentinel after explicit values, contexts and defaults. -/
theorem required_rejected (s : Sig) (nPos : Nat) (kwargs : Dict) (stack : List Dict) :
    (∃ k, (k, Val.required) ∈ newKwargs s nPos kwargs stack) ↔
    (∃ k, resolve s nPos kwargs stack = .error (.missing k)) := by
  constructor
  · intro ⟨k, hk⟩
    cases hf : firstRequired (newKwargs s nPos kwargs stack) with
    | some k' => exact ⟨k', resolve_missing.mpr hf⟩
    | none => exact absurd rfl ((firstRequired_none _).mp hf (k, Val.required) hk)
  · intro ⟨k, hk⟩
    exact ⟨k, firstRequired_some _ _ (resolve_missing.mp hk)⟩

/-- the name reported is one whose value really is `Required` -/
theorem rejected_names_required (s : Sig) (nPos : Nat) (kwargs : Dict) (stack : List Dict) (k : String)
    (h : resolve s nPos kwargs stack = .error (.missing k)) :
    dget (newKwargs s nPos kwargs stack) k = some Val.required :=
  dget_of_mem _ (nodup_newKwargs s nPos kwargs stack) _ _ (firstRequired_some _ _ (resolve_missing.mp h))

/-- **Accepted.**  An accepted call hands `f` exactly the precedence dictionary and
no argument of it is the sentinel. -/
theorem accepted_complete (s : Sig) (nPos : Nat) (kwargs : Dict) (stack : List Dict) (r : Dict)
    (h : resolve s nPos kwargs stack = .ok r) :
    r = newKwargs s nPos kwargs stack ∧ ∀ n, dget r n ≠ some Val.required := by
  obtain ⟨rfl, hf⟩ := resolve_ok h
  exact ⟨rfl, fun n hn => (firstRequired_none _).mp hf _ (mem_of_dget _ _ _ hn) rfl⟩

/-- **Before anything is sent.**  A call rejected by the `Required` check produces no datagram pattern at
all: the result of the call carries nothing that may be sent. -/
theorem rejected_sends_nothing (E : Env) (m : String) (pos : List Val) (kw : Dict) (stack : List Dict)
    (s : Sig) (e : Err) (hs : findSig E.sigs E.cls m = some s)
    (hr : resolve s pos.length kw stack = .error e) :
    callRes E m pos kw stack = .rejected e := by
  simp [callRes, hs, hr]

/-! The stack of `ContextMixin` holds context OBJECTS.  An object may be kept and entered again - while
it is already active (`a = mc(x=1); with a: with mc(x=2): with a: ...`), or later, after it was
left - by plain blocks and by application blocks alike; the theorems below make no assumption about
which objects are entered: `o` may occur in `s`. -/

/-- **Restore (the stack of context objects).**  After `with o: body` - whatever `o`, the body and the
`before_close` callbacks `cb` are (they may call methods, enter blocks, update the context, raise), and whether or
not the stop signal of an application object fails - the stack of active contexts is exactly the stack before.
(That the exit pops the newest entry is the model's `exec`, not part of this statement.) -/
theorem restore (E : Env) (h : Heap) (s : List Nat) (id o : Nat) (sf : Bool) (body cb : Prog) :
    (exec E h s (.enter id o sf body cb .done)).stack = s := exec_stack E _ h s

/-- the same for `with c(**ctx): body` (a fresh object per `with`) -/
theorem restore_block (E : Env) (h : Heap) (s : List Nat) (id : Nat) (ctx : Dict) (body cb : Prog) :
    (exec E h s (Prog.block id ctx body cb .done)).stack = s := exec_stack E _ h s

/-- and for `with mc.application(..): body`, also when the application call is rejected -/
theorem restore_application (E : Env) (h : Heap) (s : List Nat) (id : Nat) (pos : List Val) (kw : Dict)
    (stopFails : Bool) (body cb : Prog) :
    (exec E h s (Prog.app id pos kw stopFails body cb .done)).stack = s := exec_stack E _ h s

/-- for whole programs (arbitrary well-bracketed enter/exit histories with repeated objects): the
stack of active objects never changes across a statement sequence, and an object that is neither
created nor updated (`update_current_context` while it is on top) keeps its arguments -/
theorem restore_inner (E : Env) (p : Prog) (h : Heap) (s : List Nat) :
    (exec E h s p).stack = s ∧
    (∀ i, i ∉ (exec E h s p).touched → hget (exec E h s p).heap i = hget h i) :=
  ⟨exec_stack E p h s, exec_unchanged E p h s⟩

/-- **Restore (the arguments in force).**  `get_context_arguments()` after the block is what it was
before it, provided no object that was active before the block was updated during it.  (Without the
proviso the statement is false, for the code as for the model: `update_current_context` inside a
re-entered block changes the one object that is also active further down - that is what the caller
asked for.)  `touched_subset` bounds the updated objects statically: only objects the block names,
each only where it is on top. -/
theorem restore_arguments (E : Env) (h : Heap) (s : List Nat) (id o : Nat) (sf : Bool) (body cb : Prog)
    (hd : ∀ i ∈ (exec E h s (.enter id o sf body cb .done)).touched, i ∉ s) :
    inForce (exec E h s (.enter id o sf body cb .done)).heap (exec E h s (.enter id o sf body cb .done)).stack =
      inForce h s :=
  exec_inForce E _ h s hd

/-- a statement sequence with no `update_current_context` at its own level that neither creates nor enters an
object active at its start restores the arguments -/
theorem restore_arguments_static (E : Env) (h : Heap) (s : List Nat) (p : Prog)
    (hn : ∀ i ∈ s, i ∉ oidsOf p) (hu : noTopUpdate p = true) :
    inForce (exec E h s p).heap (exec E h s p).stack = inForce h s :=
  exec_inForce E p h s fun i hi his => not_touched E p h s i (hn i his) hu hi

/-- the exact event list of `with o: body`: enter; the body in the context with `o` pushed; (for an
application object) the stop signal resolved at that point; the callbacks unless the stop signal
raised; the exit, recording the arguments in force before and after; the rest unless something raised -/
theorem enter_events (E : Env) (h : Heap) (s : List Nat) (id o : Nat) (sf : Bool) (body cb next : Prog)
    (ob : Obj) (ho : hget h o = some ob) :
    ∃ B C N : Res, ∃ stop : Option CallRes,
      B = exec E h (o :: s) body ∧
      stop = (if ob.stop then some (callRes E "send_signal" [.other "'stop'"] [] (frames B.heap (o :: s))) else none) ∧
      C = orElse (match stop with | some r => r.isRejected || sf | none => false) B.heap (o :: s)
            (exec E B.heap (o :: s) cb) ∧
      N = orElse (B.raised || C.raised) C.heap s (exec E C.heap s next) ∧
      (exec E h s (.enter id o sf body cb next)).evs =
        Ev.enter id (inForce h (o :: s)) ::
          (B.evs ++ C.evs ++ [Ev.exit id stop (inForce h s) (inForce C.heap s)]) ++ N.evs ∧
      (exec E h s (.enter id o sf body cb next)).raised = N.raised := by
  rw [exec_enter ho]
  exact ⟨_, _, _, _, rfl, rfl, rfl, rfl, rfl, rfl⟩

/-- **Callbacks.**  For a plain context object: the callbacks run after the body on every exit path,
inside the context (so a decorated method called from a callback resolves its arguments against the
context that is being closed), and an exception thrown by the body or by a callback propagates -
after the context has been removed all the same. -/
theorem block_events (E : Env) (h : Heap) (s : List Nat) (id o : Nat) (body cb next : Prog)
    (ob : Obj) (ho : hget h o = some ob) (hplain : ob.stop = false) :
    (exec E h s (.enter id o false body cb next)).evs =
      Ev.enter id (inForce h (o :: s)) ::
        ((exec E h (o :: s) body).evs ++ (exec E (exec E h (o :: s) body).heap (o :: s) cb).evs ++
          [Ev.exit id none (inForce h s) (inForce (exec E (exec E h (o :: s) body).heap (o :: s) cb).heap s)]) ++
        (orElse ((exec E h (o :: s) body).raised || (exec E (exec E h (o :: s) body).heap (o :: s) cb).raised)
          (exec E (exec E h (o :: s) body).heap (o :: s) cb).heap s
          (exec E (exec E (exec E h (o :: s) body).heap (o :: s) cb).heap s next)).evs ∧
    (((exec E h (o :: s) body).raised || (exec E (exec E h (o :: s) body).heap (o :: s) cb).raised) = true →
      (exec E h s (.enter id o false body cb next)).raised = true ∧
      (exec E h s (.enter id o false body cb next)).stack = s) := by
  rw [exec_enter ho]
  simp only [hplain, orElse, Bool.false_eq_true, if_false, true_and]
  intro hr
  simp only [hr, if_true, true_and]

/-- a method body that raises after resolution (SCP error, failed allocation, ...) inside a block
leaves, like any exception: what it has sent stays in the event list and the block removes its entry -/
theorem failing_call_unwinds (E : Env) (h : Heap) (s : List Nat) (id o cid : Nat) (m : String)
    (pos : List Val) (kw : Dict) (rest cb : Prog) (ob : Obj) (ho : hget h o = some ob) :
    (exec E h s (.enter id o false (.call cid m pos kw false true rest) cb .done)).stack = s ∧
    (exec E h s (.enter id o false (.call cid m pos kw false true rest) cb .done)).raised = true ∧
    ∃ post, (exec E h s (.enter id o false (.call cid m pos kw false true rest) cb .done)).evs =
      Ev.enter id (inForce h (o :: s)) :: Ev.call cid (callRes E m pos kw (frames h (o :: s))) :: post := by
  refine ⟨exec_stack E _ h s, ?_, ?_⟩ <;> rw [exec_enter ho] <;> simp [exec, orElse]

private theorem stop_kwargs (a : Val) (s : List Dict) :
    newKwargs mc_send_signal 1 [] ([("app_id", a)] :: s) = [("app_id", a)] := by
  have hb : baseKwargs mc_send_signal 1 = [("app_id", Val.required)] := by decide +kernel
  apply eq_singleton
  · show keys (applyCtx _ _) = _
    rw [keys_applyCtx, hb]; rfl
  · rw [precedence, hb]; simp [dgetLast, dget, ctxLookup]

/-- the callback `self.send_signal("stop")` run inside a context whose newest entry
is `{app_id: a}` is accepted and may only send the signal to application `a`
(destination (255, 255, 0)) -/
theorem stop_targets_application (E : Env) (hs : E.sigs = sigs) (hc : E.cls = "MachineController")
    (a : Val) (ha : a ≠ Val.required) (s : List Dict) :
    callRes E "send_signal" [Val.other "'stop'"] [] ([("app_id", a)] :: s) =
      .sent [("app_id", a)] [⟨.scp, .int 255, .int 255, .int 0, some a⟩] := by
  obtain ⟨hf, hbd⟩ := sigs_checked.2.2.2.2
  have hr : resolve mc_send_signal 1 [] ([("app_id", a)] :: s) = .ok [("app_id", a)] := by
    simp [resolve, stop_kwargs, firstRequired, ha]
  have hb : bind mc_send_signal [Val.other "'stop'"] [("app_id", a)] =
      .ok [("signal", Val.other "'stop'"), ("app_id", a)] := rfl
  have hw : wire sigs "MachineController" wireFuel "send_signal"
      [("signal", Val.other "'stop'"), ("app_id", a)] ([("app_id", a)] :: s) =
      [⟨.scp, .int 255, .int 255, .int 0, some a⟩] := by
    rw [wire, wireFuel, wireB, hbd]; rfl
  rw [callRes, hs, hc, hf]
  simp only [List.length_singleton, hr, hb, hw]
  exact if_neg fun h => absurd h.1 (by decide)

/-- `enter_events` for an application object: the stop signal is the one for the object's application, resolved in
the block's context BEFORE any user callback runs; the callbacks `cb` are skipped if it raised -/
theorem application_events (E : Env) (hs : E.sigs = sigs) (hc : E.cls = "MachineController")
    (h : Heap) (s : List Nat) (id o : Nat) (stopFails : Bool) (body cb next : Prog) (a : Val)
    (ho : hget h o = some ⟨[("app_id", a)], true⟩) (hreq : a ≠ Val.required)
    (hbody : o ∉ (exec E h (o :: s) body).touched) :
    ∃ B C N : Res,
      B = exec E h (o :: s) body ∧
      C = orElse stopFails B.heap (o :: s) (exec E B.heap (o :: s) cb) ∧
      N = orElse (B.raised || C.raised) C.heap s (exec E C.heap s next) ∧
      (exec E h s (.enter id o stopFails body cb next)).evs =
        Ev.enter id (inForce h (o :: s)) ::
          (B.evs ++ C.evs ++
            [Ev.exit id (some (.sent [("app_id", a)] [⟨.scp, .int 255, .int 255, .int 0, some a⟩]))
              (inForce h s) (inForce C.heap s)]) ++ N.evs := by
  have hargs : argsOf (exec E h (o :: s) body).heap o = [("app_id", a)] := by
    unfold argsOf; rw [exec_unchanged E body h (o :: s) o hbody, ho]
  refine ⟨_, _, _, rfl, rfl, rfl, ?_⟩
  rw [exec_enter ho]
  simp only [frames, List.map_cons, hargs, if_true, stop_targets_application E hs hc a hreq, CallRes.isRejected,
    Bool.false_or]

/-- **Application objects.**  Leaving `with o: body` where `o` was made by `mc.application(a)` - a
fresh object, one that is already active further down (`app30 / application(31) / app30`) or one
used before; normally, by exception, at any nesting - emits the stop signal resolved to the object's
application id `a`, provided the body does not itself update or re-create `o`. -/
theorem application_stops_object (E : Env) (hs : E.sigs = sigs) (hc : E.cls = "MachineController")
    (h : Heap) (s : List Nat) (id o : Nat) (stopFails : Bool) (body cb next : Prog) (a : Val)
    (ho : hget h o = some ⟨[("app_id", a)], true⟩) (hreq : a ≠ Val.required)
    (hbody : o ∉ (exec E h (o :: s) body).touched) :
    ∃ pre post aft,
      (exec E h s (.enter id o stopFails body cb next)).evs =
        pre ++ Ev.exit id (some (.sent [("app_id", a)] [⟨.scp, .int 255, .int 255, .int 0, some a⟩]))
          (inForce h s) aft :: post := by
  obtain ⟨B, C, N, _, _, _, hev⟩ := application_events E hs hc h s id o stopFails body cb next a ho hreq hbody
  exact ⟨Ev.enter id (inForce h (o :: s)) :: (B.evs ++ C.evs), N.evs, inForce C.heap s, by simp [hev]⟩

/-- an accepted `o = mc.application(..)` creates the object `{app_id: a}` with the stop callback -/
theorem newApp_creates (E : Env) (hs : E.sigs = sigs) (hc : E.cls = "MachineController")
    (h : Heap) (s : List Nat) (id o : Nat) (pos : List Val) (kw : Dict) (next : Prog) (bound : Dict) (a : Val)
    (hacc : (resolve mc_application pos.length kw (frames h s) >>= bind mc_application pos) = .ok bound)
    (ha : dget bound "app_id" = some a) :
    (exec E h s (.newApp id o pos kw next)).evs = (exec E (hset h o ⟨[("app_id", a)], true⟩) s next).evs ∧
    (exec E h s (.newApp id o pos kw next)).touched = o :: (exec E (hset h o ⟨[("app_id", a)], true⟩) s next).touched := by
  have hf := sigs_checked.2.2.2.1
  simp only [exec, hs, hc, hf, hacc, ha, Option.getD_some, and_self]

/-- **Application blocks.**  `with mc.application(..): body`: the exit of the block carries the stop
signal for the application id `a` the call resolved, provided the body does not itself call
`update_current_context` at its top level, whatever the key (`hbody`), and neither creates nor enters
the object the block stands for, `sugarOid id` (`hfresh`) -/
theorem application_stops (E : Env) (hs : E.sigs = sigs) (hc : E.cls = "MachineController")
    (h : Heap) (s : List Nat) (id : Nat) (pos : List Val) (kw : Dict) (stopFails : Bool) (body cb next : Prog)
    (bound : Dict) (a : Val)
    (hacc : (resolve mc_application pos.length kw (frames h s) >>= bind mc_application pos) = .ok bound)
    (ha : dget bound "app_id" = some a) (hreq : a ≠ Val.required)
    (hbody : noTopUpdate body = true) (hfresh : sugarOid id ∉ oidsOf body) :
    ∃ pre post bef aft,
      (exec E h s (Prog.app id pos kw stopFails body cb next)).evs =
        pre ++ Ev.exit id (some (.sent [("app_id", a)] [⟨.scp, .int 255, .int 255, .int 0, some a⟩]))
          bef aft :: post := by
  unfold Prog.app
  rw [(newApp_creates E hs hc h s id (sugarOid id) pos kw _ bound a hacc ha).1]
  obtain ⟨pre, post, aft, hev⟩ := application_stops_object E hs hc (hset h (sugarOid id) ⟨[("app_id", a)], true⟩) s id
    (sugarOid id) stopFails body cb next a (by simp [hget_hset]) hreq (not_touched E body _ _ _ hfresh hbody)
  exact ⟨pre, post, _, aft, hev⟩

private theorem nested_shape (e1 x1 x2 : Ev) (pre2 post2 C X : List Ev) :
    e1 :: ((pre2 ++ x2 :: post2) ++ C ++ [x1]) ++ X =
      (e1 :: pre2) ++ x2 :: ((post2 ++ C) ++ x1 :: X) := by simp

/-- **Nested application blocks.**  `with mc.application(a): with mc.application(b): body` (the inner
block followed by any further statements `next2` of the outer body, any callbacks, any exit path of
`body`): the inner block's exit carries the stop signal for `b`; later, the outer block's exit
carries the stop signal for `a` - under the provisos of `application_stops` for each block. -/
theorem nested_applications_stop_inner_first (E : Env) (hs : E.sigs = sigs) (hc : E.cls = "MachineController")
    (h : Heap) (s : List Nat) (id1 id2 : Nat) (pos1 pos2 : List Val) (kw1 kw2 : Dict) (sf1 sf2 : Bool)
    (body cb1 cb2 next1 next2 : Prog) (bound1 bound2 : Dict) (a b : Val)
    (hacc1 : (resolve mc_application pos1.length kw1 (frames h s) >>= bind mc_application pos1) = .ok bound1)
    (ha : dget bound1 "app_id" = some a) (hreqa : a ≠ Val.required)
    (hacc2 : (resolve mc_application pos2.length kw2
        (frames (hset h (sugarOid id1) ⟨[("app_id", a)], true⟩) (sugarOid id1 :: s)) >>= bind mc_application pos2) = .ok bound2)
    (hb : dget bound2 "app_id" = some b) (hreqb : b ≠ Val.required)
    (hbody : noTopUpdate body = true) (hnext2 : noTopUpdate next2 = true)
    (hne : id1 ≠ id2) (hf1 : sugarOid id1 ∉ oidsOf body ++ oidsOf cb2 ++ oidsOf next2)
    (hf2 : sugarOid id2 ∉ oidsOf body) :
    ∃ pre mid post b1 a1 b2 a2,
      (exec E h s (Prog.app id1 pos1 kw1 sf1 (Prog.app id2 pos2 kw2 sf2 body cb2 next2) cb1 next1)).evs =
        pre ++ Ev.exit id2 (some (.sent [("app_id", b)] [⟨.scp, .int 255, .int 255, .int 0, some b⟩])) b1 a1 ::
        (mid ++ Ev.exit id1 (some (.sent [("app_id", a)] [⟨.scp, .int 255, .int 255, .int 0, some a⟩])) b2 a2 ::
          post) := by
  have hso : sugarOid id1 ≠ sugarOid id2 := by unfold sugarOid; omega
  have hinner := application_stops E hs hc (hset h (sugarOid id1) ⟨[("app_id", a)], true⟩) (sugarOid id1 :: s)
    id2 pos2 kw2 sf2 body cb2 next2 bound2 b hacc2 hb hreqb hbody hf2
  obtain ⟨pre2, post2, b1, a1, hin⟩ := hinner
  have hnt := not_touched E (Prog.app id2 pos2 kw2 sf2 body cb2 next2) (hset h (sugarOid id1) ⟨[("app_id", a)], true⟩)
    (sugarOid id1 :: s) (sugarOid id1) (by simpa [Prog.app, oidsOf, hso] using hf1)
    (by simpa [Prog.app, noTopUpdate] using hnext2)
  obtain ⟨B, C, N, hB, hC, hN, hev⟩ := application_events E hs hc (hset h (sugarOid id1) ⟨[("app_id", a)], true⟩) s id1
    (sugarOid id1) sf1 (Prog.app id2 pos2 kw2 sf2 body cb2 next2) cb1 next1 a (by simp [hget_hset]) hreqa hnt
  unfold Prog.app at hev ⊢
  rw [(newApp_creates E hs hc h s id1 (sugarOid id1) pos1 kw1 _ bound1 a hacc1 ha).1, hev, hB]
  rw [hin]
  exact ⟨_, _, _, b1, a1, _, _, nested_shape _ _ _ _ _ _ _⟩

/-- **Connection (MachineController).**  When the machine's size and root chip are
known and a connection to the target's local Ethernet chip has been discovered,
that connection is used; in every other case the initial connection is. -/
theorem connection_choice_mc (c : McCfg) (x y : Int) :
    (∀ w h rx ry, c.dims = some (w, h) → c.root = some (rx, ry) →
        localEth x y w h rx ry ∈ c.conns →
        getConnection c x y = some (localEth x y w h rx ry)) ∧
    (∀ e, getConnection c x y = some e →
        e ∈ c.conns ∧
        ∃ w h rx ry, c.dims = some (w, h) ∧ c.root = some (rx, ry) ∧ e = localEth x y w h rx ry) ∧
    ((c.dims = none ∨ c.root = none) → getConnection c x y = none) := by
  refine ⟨?_, ?_, ?_⟩
  · intro w h rx ry hd hr hc
    simp [getConnection, hd, hr, hc]
  · intro e he
    unfold getConnection at he
    split at he
    · rename_i w h rx ry hd hr
      split at he
      · rename_i hc
        cases he
        exact ⟨by simpa using hc, w, h, rx, ry, hd, hr, rfl⟩
      · cases he
    · cases he
  · intro h
    unfold getConnection
    split
    · rename_i w h' rx ry hd hr
      rcases h with h | h <;> simp_all
    · rfl

/-- **Connection (BMPController).**  The board's own connection if there is one, else
its frame's, else the command is refused (nothing is sent). -/
theorem connection_choice_bmp (conns : List (List Int)) (c f b : Int) :
    ([c, f, b] ∈ conns → bmpConnection conns c f b = .ok [c, f, b]) ∧
    ([c, f, b] ∉ conns → [c, f] ∈ conns → bmpConnection conns c f b = .ok [c, f]) ∧
    ([c, f, b] ∉ conns → [c, f] ∉ conns → bmpConnection conns c f b = .error .noConnection) := by
  refine ⟨?_, ?_, ?_⟩ <;> intros <;> simp_all [bmpConnection]

theorem maxOf_eq : ∀ l : List Nat, maxOf l = l.foldl max 0
  | [] => rfl
  | a :: t => by rw [maxOf, maxOf_eq t, Lists.foldl_max_cons]

theorem le_maxOf (l : List Nat) (a : Nat) (h : a ∈ l) : a ≤ maxOf l := maxOf_eq l ▸ Lists.le_foldl_max h

theorem maxOf_mem (l : List Nat) (h : l ≠ []) : maxOf l ∈ l := maxOf_eq l ▸ Lists.foldl_max_mem h

/-- **Dimensions.**  The width and height `discover_connections` stores cover every chip the P2P
table has a route to, and are tight in each direction separately: some working chip lies in the last
column and some - possibly another one - in the last row.  (So dead chips in the top right corner
shrink neither dimension as long as their column and their row have a working chip elsewhere.) -/
theorem discoveredDims_covers (ws : List (Nat × Nat)) (w h : Nat) (hd : discoveredDims ws = some (w, h)) :
    (∀ c ∈ ws, c.1 < w ∧ c.2 < h) ∧ (∃ c ∈ ws, c.1 + 1 = w) ∧ (∃ c ∈ ws, c.2 + 1 = h) := by
  unfold discoveredDims at hd
  split at hd
  · cases hd
  · rename_i hne
    cases hd
    have hne' : ∀ f : Nat × Nat → Nat, ws.map f ≠ [] := fun f e => hne (by simpa using e)
    exact ⟨fun c hc => ⟨Nat.lt_succ_of_le (le_maxOf _ _ (List.mem_map_of_mem hc)),
        Nat.lt_succ_of_le (le_maxOf _ _ (List.mem_map_of_mem hc))⟩,
      (List.mem_map.mp (maxOf_mem _ (hne' _))).imp fun c h => ⟨h.1, congrArg (· + 1) h.2⟩,
      (List.mem_map.mp (maxOf_mem _ (hne' _))).imp fun c h => ⟨h.1, congrArg (· + 1) h.2⟩⟩

/-- a machine whose only dead chip is the top right corner keeps both dimensions; with the whole top
row dead the height shrinks -/
example : discoveredDims (workingChips 4 3 [(3, 2)]) = some (4, 3) := by decide
example : discoveredDims (workingChips 3 3 [(0, 2), (1, 2), (2, 2)]) = some (3, 2) := by decide

/-- `with mc(x=9, y=2): with mc(p=3): mc.read(0x100, 4, x=1)` under the initial context -/
example :
    resolve mc_read 2 [("x", .int 1)]
      [[("p", .int 3)], [("x", .int 9), ("y", .int 2)], [("app_id", .int 66)]] =
    .ok [("x", .int 1), ("y", .int 2), ("p", .int 3)] := by rfl

/-- the same call outside any block lacks `y` -/
example : resolve mc_read 2 [("x", .int 1)] [[("app_id", .int 66)]] = .error (.missing "y") := by rfl

/-- hypotheses of `application_stops` are satisfiable: `with mc.application(54): ...` -/
example : (resolve mc_application 1 [] [[("app_id", .int 66)]] >>= bind mc_application [.int 54]) =
    .ok [("app_id", .int 54)] := by rfl

/-- a block left by exception inside a block: the stack is the one before -/
example :
    (exec ⟨sigs, "MachineController", []⟩ [(0, ⟨[("app_id", .int 66)], false⟩)] [0]
      (Prog.block 1 [("x", .int 1)] (.update [("y", .int 5)] (Prog.block 2 [("x", .int 2)] .raise .done .done)) .raise .done)).stack =
    [0] := by rfl

/-- the same context object active twice: `a = mc(x=1, y=1); with a: with mc(x=2, y=2): with a: pass`
followed by `mc.sdram_free(ptr)`: the command after the inner block goes to chip (2, 2) - the
arguments in force before the inner block - and the exit event of the inner block says so -/
example :
    ((exec ⟨sigs, "MachineController", []⟩ [(0, ⟨[("app_id", .int 66)], false⟩)] [0]
      (.new 7 [("x", .int 1), ("y", .int 1)]
        (.enter 1 7 false
          (Prog.block 2 [("x", .int 2), ("y", .int 2)]
            (.enter 3 7 false .done .done
              (.call 4 "sdram_free" [.int 4096] [] true false .done)) .done .done) .done .done))).evs.filterMap
      fun e => match e with
        | .call _ (.sent kw _) => some kw
        | .exit 3 _ bef aft => some (if bef == aft then aft else [])
        | _ => none) =
    [[("app_id", .int 66), ("x", .int 2), ("y", .int 2)], [("x", .int 2), ("y", .int 2)]] := by decide +kernel

end Rig.C18
