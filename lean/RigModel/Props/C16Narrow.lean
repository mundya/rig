/-
C16 (companion) - NumpyFloatToFixConverter on float32 / float16 input arrays.
`npFloatToFixNarrow` models the code WITHOUT fixes/c16-float32-arrays.diff (the arithmetic runs in
the dtype of the input); with the fix the input is first converted (exactly) to float64, so the
element is converted by `npFloatToFixG` and the float64 theorems apply unchanged.
-/
import RigModel.Props.C16

namespace Rig.C16
open Rig.Gen.TypeCasts

/-- **The narrow-dtype defect, concrete (finding `array-float32-wrap`).**  Code without the fix:
* float16 array, S15.16 (`n_frac = 16`): `2.0**16` is inf as a float16, `0.5` becomes inf and
  saturates to `2^31 - 1`; the rule (and `float_to_fp`) gives `32768`;
* float32 array, `n_frac = 128`: `0.0 * inf` is NaN, the cast of NaN is unspecified (observed
  `-2^31`), and the least subnormal `2^-149` saturates to `2^31 - 1`; the rule gives `0` for both;
* without fixes/c16-saturate-64bit.diff either: `float32(1e30)` in the signed 32-bit integer format is clipped
  to `float32(2^31 - 1) = 2^31` and cast out of range (observed `-2^31`); the rule gives `2^31 - 1`. -/
theorem array_narrow_defect :
    npFloatToFixNarrow true f16 ⟨true, 32, 16⟩ ⟨1, -1⟩ = .ok (.val (2 ^ 31 - 1)) ∧
    floatToFp ⟨true, 32, 16⟩ ⟨1, -1⟩ = .ok 32768 ∧
    ¬ SpecFp ⟨true, 32, 16⟩ ⟨1, -1⟩ (2 ^ 31 - 1) ∧
    npFloatToFixNarrow true f32 ⟨true, 32, 128⟩ ⟨0, 0⟩ = .ok .unspecified ∧
    floatToFp ⟨true, 32, 128⟩ ⟨0, 0⟩ = .ok 0 ∧
    npFloatToFixNarrow true f32 ⟨true, 32, 128⟩ ⟨1, -149⟩ = .ok (.val (2 ^ 31 - 1)) ∧
    floatToFp ⟨true, 32, 128⟩ ⟨1, -149⟩ = .ok 0 ∧
    npFloatToFixNarrow false f32 ⟨true, 32, 0⟩ ⟨6617445, 77⟩ = .ok .unspecified ∧
    floatToFp ⟨true, 32, 0⟩ ⟨6617445, 77⟩ = .ok (2 ^ 31 - 1) := by decide +kernel

/-- the clip bounds of the accepted widths convert to float16 / float32 to the same value (`<=` both
ways; the (m, e) pair may differ) whether the Python int is rounded directly or through a double first
(so the model does not depend on which of the two NumPy does) -/
theorem narrow_bounds_single_rounding :
    ∀ b ∈ npBits, ∀ s ∈ [true, false], ∀ P ∈ [f16, f32],
      (roundP P (round53Val (Fmt.maxV ⟨s, b, 0⟩))).le (roundP P (Fmt.maxV ⟨s, b, 0⟩)) = true ∧
      (roundP P (Fmt.maxV ⟨s, b, 0⟩)).le (roundP P (round53Val (Fmt.maxV ⟨s, b, 0⟩))) = true ∧
      (roundP P (round53Val (Fmt.minV ⟨s, b, 0⟩))).le (roundP P (Fmt.minV ⟨s, b, 0⟩)) = true ∧
      (roundP P (Fmt.minV ⟨s, b, 0⟩)).le (roundP P (round53Val (Fmt.minV ⟨s, b, 0⟩))) = true := by
  decide +kernel

/-- `roundP` never produces NaN, so `+inf` is at or above every clip bound -/
theorem roundP_le_inf (P : Prec) (k : Int) : (roundP P k).le (.inf false) = true := by
  fun_cases roundP P k
  · rfl
  · cases decide (k < 0) <;> rfl

/-- **The defect for every input (code without the fix):** as soon as `2.0**n_frac` is not a finite
value of the input's dtype (`n_frac >= 16` for float16, `>= 128` for float32), EVERY positive
element saturates to the maximum - whatever its value - and every zero becomes NaN (unspecified
cast), although the rule may demand any value of the range.  (The positive case is stated for the code with
fixes/c16-saturate-64bit.diff only.) -/
theorem array_narrow_scale_overflow (P : Prec) (fmt : Fmt) (v : Dy)
    (hw : npBits.contains fmt.bits = true) (h1 : (P.emax : Int) ≤ fmt.frac) (h2 : fmt.frac < 1024) :
    (v.m = 0 → ∀ rep, npFloatToFixNarrow rep P fmt v = .ok .unspecified) ∧
    (0 < v.m → npFloatToFixNarrow true P fmt v = .ok (.val fmt.maxV)) := by
  have hp := pow2f_ok (show -1074 ≤ fmt.frac by omega) h2
  constructor
  · intro hv rep
    unfold npFloatToFixNarrow
    simp only [hw, Bool.not_true, Bool.false_eq_true, if_false, hp, bind, Except.bind, scaleN, h1,
      if_true, mulScaleN, hv]
    rfl
  · intro hv
    have hv0 : ¬ v.m = 0 := by omega
    have hv1 : ¬ v.m < 0 := by omega
    unfold npFloatToFixNarrow
    simp only [hw, Bool.not_true, Bool.false_eq_true, if_false, hp, bind, Except.bind, scaleN, h1,
      if_true, mulScaleN, hv0, hv1, decide_false, roundP_le_inf, Bool.true_and, pure, Except.pure]

example : npBits.contains (⟨true, 32, 16⟩ : Fmt).bits = true ∧ ((f16.emax : Int) ≤ 16) ∧
    (0 : Int) < (⟨1, -1⟩ : Dy).m := by decide

/-- **With fixes/c16-float32-arrays.diff** an element of a float16 / float32 (any format with at
most 53 significant bits) array is converted by the float64 code applied to its exact value, and that
equals `float_to_fp` for every supported width. -/
theorem array_eq_scalar_narrow_fixed (P : Prec) (hP : P.p ≤ 53) (fmt : Fmt) (v : Dy)
    (hv : v.m.natAbs < 2 ^ P.p)
    (hw : npBits.contains fmt.bits = true) (h1 : fmt.frac < 1024) (h2 : -1074 ≤ fmt.frac)
    (hfin : FiniteScaled fmt v) :
    npFloatToFixRepaired fmt v = (floatToFp fmt v).map Cast.val := by
  apply array_eq_scalar_repaired
  refine ⟨hw, h1, h2, hfin, ?_⟩
  unfold IsDouble
  have : (2 : Nat) ^ P.p ≤ 2 ^ 53 := Nat.pow_le_pow_right (by norm_num) hP
  omega

example : f16.p ≤ 53 ∧ f32.p ≤ 53 ∧ (⟨1, -1⟩ : Dy).m.natAbs < 2 ^ f16.p ∧
    FiniteScaled ⟨true, 32, 16⟩ ⟨1, -1⟩ ∧
    npFloatToFixRepaired ⟨true, 32, 16⟩ ⟨1, -1⟩ = .ok (.val 32768) := by decide +kernel

end Rig.C16
