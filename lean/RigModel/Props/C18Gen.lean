/-
C18 - translator tie: the connection used for a chip (`MachineController._get_connection`, Model/C18 `getConnection`)
is chosen by `rig.geometry.spinn5_local_eth_coord` (tied to the C19 model in Props/C19Gen.lean).  Here the C18 model's
own transcription `localEth` = the generated definition, so C18's connection rule speaks about the geometry function
as it is written.
-/
import RigModel.Model.C18
import RigModel.Gen.PyFun
import RigModel.Lemmas.IntBits

namespace Rig.C18
open Rig.Gen

theorem gen_localEth (x y : Int) (w h : Nat) (rx ry : Int) :
    localEth x y w h rx ry = PyFun.spinn5_local_eth_coord x y (w : Int) (h : Int) rx ry := by
  unfold localEth PyFun.spinn5_local_eth_coord ethOffsetAt
  simp only [Int.fmod_eq_emod_of_nonneg _ (Int.natCast_nonneg _), IntBits.fmod_lit]
  rfl

theorem gen_getConnection (c : McCfg) (x y : Int) :
    getConnection c x y =
      match c.dims, c.root with
      | some (w, h), some (rx, ry) =>
        if c.conns.contains (PyFun.spinn5_local_eth_coord x y (w : Int) (h : Int) rx ry)
        then some (PyFun.spinn5_local_eth_coord x y (w : Int) (h : Int) rx ry) else none
      | _, _ => none := by
  unfold getConnection
  cases c.dims with
  | none => rfl
  | some wh =>
    cases c.root with
    | none => rfl
    | some r => simp only [gen_localEth]

end Rig.C18
