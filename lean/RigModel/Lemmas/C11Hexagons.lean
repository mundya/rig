/-
C11 - concentric hexagons: ring `r` is the set of chips at hexagonal distance `r`, walked without repetition.
-/
import RigModel.Lemmas.C11

namespace Rig.C11

theorem mem_walkSide (d : P2) (n : Nat) (q p : P2) :
    p ∈ walkSide d n q ↔ ∃ k : Int, 0 ≤ k ∧ k < n ∧ p.1 = q.1 + k * d.1 ∧ p.2 = q.2 + k * d.2 := by
  induction n generalizing q with
  | zero => simp only [walkSide, List.not_mem_nil, false_iff]; rintro ⟨k, h0, hk, _⟩; omega
  | succ n ih =>
    simp only [walkSide, List.mem_cons, ih, Prod.ext_iff]
    constructor
    · rintro (⟨h1, h2⟩ | ⟨k, h0, hk, h1, h2⟩)
      · exact ⟨0, by omega⟩
      · refine ⟨k + 1, ?_⟩
        rw [Int.add_mul, Int.add_mul]
        omega
    · rintro ⟨k, h0, hk, h1, h2⟩
      by_cases hz : k = 0
      · subst hz; left; simpa using And.intro h1 h2
      · refine .inr ⟨k - 1, ?_⟩
        rw [Int.sub_mul, Int.sub_mul]
        omega

theorem walkSide_length (d : P2) (n : Nat) (q : P2) : (walkSide d n q).length = n := by
  induction n generalizing q with
  | zero => rfl
  | succ n ih => simp [walkSide, ih]

theorem ringEnd_hexDirs (r : Nat) (p : P2) : ringEnd r hexDirs p = p := by
  simp only [ringEnd, hexDirs, sideEnd]
  ext <;> simp <;> omega

theorem walkRing_length (r : Nat) (p : P2) : (walkRing r hexDirs p).length = 6 * r := by
  simp only [walkRing, hexDirs, List.length_append, walkSide_length, List.length_nil]; omega

theorem ring_sides (c : P2) (r : Nat) : walkRing r hexDirs (c.1, c.2 - r) =
    walkSide (1, 1) r (c.1, c.2 - r) ++ (walkSide (0, 1) r (c.1 + r, c.2) ++
    (walkSide (-1, 0) r (c.1 + r, c.2 + r) ++ (walkSide (-1, -1) r (c.1, c.2 + r) ++
    (walkSide (0, -1) r (c.1 - r, c.2) ++ walkSide (1, 0) r (c.1 - r, c.2 - r))))) := by
  simp only [walkRing, hexDirs, sideEnd, List.append_nil, Int.mul_one, Int.mul_zero, Int.mul_neg, Int.add_zero]
  rw [show c.2 - (r : Int) + r = c.2 by omega, show c.1 + (r : Int) + -r = c.1 by omega,
    show c.2 + (r : Int) + -r = c.2 by omega, show c.1 + -(r : Int) = c.1 - r by omega,
    show c.2 + -(r : Int) = c.2 - r by omega]

/-- each side of ring `r` around `c` is the part of the ring in one half-open sector -/
theorem side_sector (c p : P2) (r : Nat) :
    (p ∈ walkSide (1, 1) r (c.1, c.2 - r) ↔
      0 ≤ p.1 - c.1 ∧ p.2 - c.2 < 0 ∧ p.1 - c.1 - (p.2 - c.2) = r) ∧
    (p ∈ walkSide (0, 1) r (c.1 + r, c.2) ↔
      0 ≤ p.2 - c.2 ∧ p.2 - c.2 < p.1 - c.1 ∧ p.1 - c.1 = r) ∧
    (p ∈ walkSide (-1, 0) r (c.1 + r, c.2 + r) ↔
      0 < p.1 - c.1 ∧ p.1 - c.1 ≤ p.2 - c.2 ∧ p.2 - c.2 = r) ∧
    (p ∈ walkSide (-1, -1) r (c.1, c.2 + r) ↔
      p.1 - c.1 ≤ 0 ∧ 0 < p.2 - c.2 ∧ p.2 - c.2 - (p.1 - c.1) = r) ∧
    (p ∈ walkSide (0, -1) r (c.1 - r, c.2) ↔
      p.1 - c.1 < p.2 - c.2 ∧ p.2 - c.2 ≤ 0 ∧ -(p.1 - c.1) = r) ∧
    (p ∈ walkSide (1, 0) r (c.1 - r, c.2 - r) ↔
      p.2 - c.2 ≤ p.1 - c.1 ∧ p.1 - c.1 < 0 ∧ -(p.2 - c.2) = r) := by
  simp only [mem_walkSide, Int.mul_one, Int.mul_zero, Int.mul_neg, Int.add_zero]
  refine ⟨⟨?_, fun h => ⟨p.1 - c.1, by omega⟩⟩, ⟨?_, fun h => ⟨p.2 - c.2, by omega⟩⟩,
    ⟨?_, fun h => ⟨c.1 + r - p.1, by omega⟩⟩, ⟨?_, fun h => ⟨c.1 - p.1, by omega⟩⟩,
    ⟨?_, fun h => ⟨c.2 - p.2, by omega⟩⟩, ⟨?_, fun h => ⟨p.1 - c.1 + r, by omega⟩⟩⟩ <;>
  (rintro ⟨k, h0, hk, h1, h2⟩; omega)

theorem mem_ring (c : P2) {r : Nat} (hr : 1 ≤ r) (p : P2) :
    p ∈ walkRing r hexDirs (c.1, c.2 - r) ↔ hexDist c p = r := by
  obtain ⟨sA, sB, sC, sD, sE, sF⟩ := side_sector c p r
  simp only [ring_sides, List.mem_append, sA, sB, sC, sD, sE, sF, hexDist]
  exact (hexLen_eq_iff_sector (by omega)).symm

theorem walkSide_nodup (d : P2) (hd : d ∈ hexDirs) (n : Nat) (q : P2) : (walkSide d n q).Nodup := by
  induction n generalizing q with
  | zero => simp [walkSide]
  | succ n ih =>
    simp only [walkSide, List.nodup_cons, ih, and_true, mem_walkSide]
    rintro ⟨i, hi0, hi, h1, h2⟩
    simp only [hexDirs, List.mem_cons, List.not_mem_nil, or_false] at hd
    rcases hd with rfl | rfl | rfl | rfl | rfl | rfl <;>
      simp only [Int.mul_one, Int.mul_zero, Int.mul_neg] at h1 h2 <;> omega

theorem ring_nodup (c : P2) (r : Nat) : (walkRing r hexDirs (c.1, c.2 - r)).Nodup := by
  have hs : ∀ {d}, d ∈ hexDirs → ∀ {q}, (walkSide d r q).Nodup := fun hd => walkSide_nodup _ hd r _
  simp only [ring_sides, List.nodup_append]
  refine ⟨hs (by decide), ⟨hs (by decide), ⟨hs (by decide), ⟨hs (by decide), ⟨hs (by decide), hs (by decide), ?_⟩,
    ?_⟩, ?_⟩, ?_⟩, ?_⟩
  -- the sectors are disjoint
  all_goals
    intro a ha b hb hab
    subst hab
    obtain ⟨sA, sB, sC, sD, sE, sF⟩ := side_sector c a r
    simp only [List.mem_append, sA, sB, sC, sD, sE, sF] at ha hb
    omega

theorem hexDist_nonneg (c p : P2) : 0 ≤ hexDist c p := hexLen_nonneg _ _

/-- main invariant of the ring walk: started at `p = (c.1, c.2 - r0 + 1)`, `rings n r0 p` lists exactly the points at
hexagonal distance `r0 ≤ d < r0 + n` from `c`, each once, by non-decreasing distance; their number is the sum of `6 r`
over these rings, `6 n r0 + 3 n (n - 1)` (stated without subtraction) -/
theorem rings_spec (c : P2) (n : Nat) : ∀ (r0 : Nat) (p : P2), 1 ≤ r0 → p = (c.1, c.2 - r0 + 1) →
    (∀ q, q ∈ rings n r0 p ↔ (r0 : Int) ≤ hexDist c q ∧ hexDist c q < r0 + n) ∧
    (rings n r0 p).Nodup ∧ (rings n r0 p).Pairwise (fun a b => hexDist c a ≤ hexDist c b) ∧
    (rings n r0 p).length + 3 * n = 6 * (n * r0) + 3 * (n * n) := by
  induction n with
  | zero =>
    intro r0 p _ _
    refine ⟨fun q => ?_, by simp [rings], by simp [rings], by simp [rings]⟩
    simp only [rings, List.not_mem_nil, false_iff]
    omega
  | succ n ih =>
    intro r0 p hr0 hp
    have hp' : (p.1, p.2 - 1) = (c.1, c.2 - (r0 : Int)) := by rw [hp]; ext <;> simp <;> omega
    obtain ⟨im, ind, ipw, il⟩ := ih (r0 + 1) (c.1, c.2 - (r0 : Int)) (by omega) (by ext <;> simp <;> omega)
    have hm := mem_ring c hr0
    simp only [rings, hp', ringEnd_hexDirs]
    refine ⟨fun q => ?_, ?_, ?_, ?_⟩
    · rw [List.mem_append, hm, im]; omega
    · refine List.nodup_append.2 ⟨ring_nodup c r0, ind, fun a ha b hb hab => ?_⟩
      have := (hm a).1 ha
      have := (im b).1 hb
      rw [hab] at *; omega
    · refine List.pairwise_append.2 ⟨(ring_nodup c r0).imp_of_mem fun ha hb _ => ?_, ipw, fun a ha b hb => ?_⟩
      · rw [(hm _).1 ha, (hm _).1 hb]; omega
      · have := (hm a).1 ha
        have := (im b).1 hb
        omega
    · simp only [List.length_append, walkRing_length, Nat.add_mul, Nat.mul_add, Nat.one_mul, Nat.mul_one] at il ⊢
      omega

theorem hexDist_self (c : P2) : hexDist c c = 0 := by simp [hexDist, hexLen]

theorem hexDist_eq_zero (c p : P2) (h : hexDist c p = 0) : p = c := by
  have := hexLen_ge (p.1 - c.1) (p.2 - c.2)
  rw [hexDist] at h
  ext <;> omega

end Rig.C11
