/-
C19 - helper lemmas: the Ethernet lattice and the 48-chip board tile the plane, the generated
tables against that hand-written description, one coordinate of `spinn5_eth_coords`, the divisor search.
-/
import Mathlib.Data.List.Nodup
import RigModel.Model.C19

namespace Rig.C19
open Rig.Gen.Spinn5

theorem pymod_pos (a : Int) {b : Int} (hb : 0 < b) : pymod a b = a % b :=
  Int.fmod_eq_emod_of_nonneg a (Int.le_of_lt hb)

theorem emod12_of_emod {w a b : Int} (hw : w % 12 = 0) (h : a % w = b % w) (r : Int) : (a - r) % 12 = (b - r) % 12 := by
  have := congrArg (· % 12) h
  simp only [Int.emod_emod_of_dvd _ (Int.dvd_of_emod_eq_zero hw)] at this
  exact (Int.emod_sub_cancel_right r).2 this

theorem emod_of_add_emod {w e b c : Int} (h : (e + b) % w = c % w) : e % w = (c - b) % w := by
  have := (Int.emod_sub_cancel_right b).2 h
  rwa [Int.add_sub_cancel] at this

theorem isEth_congr {p q : Pt} (h1 : p.1 % 12 = q.1 % 12) (h2 : p.2 % 12 = q.2 % 12) : IsEth p ↔ IsEth q := by
  unfold IsEth; rw [h1, h2]

theorem IsEth.sub {p q : Pt} (hp : IsEth p) (hq : IsEth q) : IsEth (p.1 - q.1, p.2 - q.2) := by
  unfold IsEth at *
  simp only [Int.sub_emod p.1, Int.sub_emod p.2]
  rcases hp with ⟨h1, h2⟩ | ⟨h1, h2⟩ | ⟨h1, h2⟩ <;> rcases hq with ⟨h3, h4⟩ | ⟨h3, h4⟩ | ⟨h3, h4⟩ <;>
    rw [h1, h2, h3, h4] <;> decide

theorem lattice_small (x y : Int) (h : IsEth (x, y)) (h1 : -7 ≤ x ∧ x ≤ 7) (h2 : -7 ≤ y ∧ y ≤ 7)
    (h3 : -7 ≤ x - y ∧ x - y ≤ 7) : x = 0 ∧ y = 0 := by
  unfold IsEth at h; omega

/-- a point is a lattice point plus a board offset in at most one way: the difference of the
offsets is a lattice vector, and the board is too small to contain a non-zero one -/
theorem decomp_unique {p q b b' : Pt} (hp : IsEth p) (hq : IsEth q) (hb : InBoard b) (hb' : InBoard b')
    (h1 : p.1 + b.1 = q.1 + b'.1) (h2 : p.2 + b.2 = q.2 + b'.2) : b = b' := by
  have hd := hp.sub hq
  clear hp hq
  unfold InBoard at hb hb'
  have := lattice_small _ _ hd (by omega) (by omega) (by omega)
  exact Prod.ext (by omega) (by omega)

theorem offset_unique (root c b b' : Pt) (hb : InBoard b) (hb' : InBoard b')
    (he : IsEthAt root (c.1 - b.1, c.2 - b.2)) (he' : IsEthAt root (c.1 - b'.1, c.2 - b'.2)) : b = b' :=
  decomp_unique he he' hb hb' (by dsimp only; omega) (by dsimp only; omega)

theorem onBoard_sub {root b : Pt} {x y : Int} :
    OnBoard root (x - b.1, y - b.2) (x, y) ↔ IsEthAt root (x - b.1, y - b.2) ∧ InBoard b := by
  unfold OnBoard
  rw [Int.sub_sub_self, Int.sub_sub_self]

def cellOk (i j : Nat) : Bool :=
  match offAt i j with
  | .ok d => decide (IsEth ((i:Int) + d.1, (j:Int) + d.2)) && decide (InBoard (-d.1, -d.2))
  | .error _ => false

theorem cells_ok : ∀ i < 12, ∀ j < 12, cellOk i j = true := by decide +kernel

theorem mem_range12 {W x : Int} (h : W % 12 = 0) :
    x ∈ range12 W ↔ 0 ≤ x ∧ x < W ∧ x % 12 = 0 := by
  simp only [range12, List.mem_map, List.mem_range]
  constructor
  · rintro ⟨a, ha, rfl⟩
    omega
  · rintro ⟨h0, h1, h2⟩
    refine ⟨(x / 12).toNat, ?_, ?_⟩ <;> omega

theorem range12_nodup (W : Int) : (range12 W).Nodup :=
  List.nodup_range.map fun a b h => by omega

theorem ethTriple_lt : ∀ d ∈ ethTriple, (0 ≤ d.1 ∧ d.1 < 12) ∧ 0 ≤ d.2 ∧ d.2 < 12 := by decide

/-- one coordinate of `spinn5_eth_coords`: `t ↦ (t + r) % W` is inverted by `n ↦ (n - r) % W`, and
`t = x + dx` determines the block `x` and the offset `dx` -/
theorem dim1 {W x dx : Int} (r n : Int) (h12 : W % 12 = 0) (hx : x ∈ range12 W) (hd : 0 ≤ dx ∧ dx < 12) :
    pymod (x + dx + r) W = n ↔
      0 ≤ n ∧ n < W ∧ x = (n - r) % W - (n - r) % 12 ∧ dx = (n - r) % 12 := by
  rw [mem_range12 h12] at hx
  obtain ⟨hW, hlt, hdx⟩ : 0 < W ∧ x + dx < W ∧ (x + dx) % 12 = dx := by omega
  have hm := Int.emod_emod_of_dvd (n - r) (Int.dvd_of_emod_eq_zero h12)
  rw [pymod_pos _ hW]
  constructor
  · rintro rfl
    rw [Int.emod_sub_emod, Int.add_sub_cancel, Int.emod_eq_of_lt (by omega) hlt] at hm ⊢
    rw [← hm, hdx, Int.add_sub_cancel]
    exact ⟨Int.emod_nonneg _ (Int.ne_of_gt hW), Int.emod_lt_of_pos _ hW, rfl, rfl⟩
  · rintro ⟨h0, h1, h2, h3⟩
    rw [h2, h3, Int.sub_add_cancel, Int.emod_add_emod, Int.sub_add_cancel, Int.emod_eq_of_lt h0 h1]

theorem dim1_exists {W r n : Int} (h12 : W % 12 = 0) (h0 : 0 ≤ n) (h1 : n < W) :
    ∃ x ∈ range12 W, pymod (x + (n - r) % 12 + r) W = n := by
  have hW : 0 < W := by omega
  have hx : (n - r) % W - (n - r) % 12 ∈ range12 W := by
    have := Int.emod_emod_of_dvd (n - r) (Int.dvd_of_emod_eq_zero h12)
    have := Int.emod_nonneg (n - r) (Int.ne_of_gt hW)
    have := Int.emod_lt_of_pos (n - r) hW
    rw [mem_range12 h12]; omega
  exact ⟨_, hx, (dim1 r n h12 hx (by omega)).2 ⟨h0, h1, rfl, rfl⟩⟩

theorem nodup_flatMap_of {α β : Type} {l : List α} {f : α → List β} (hl : l.Nodup) (hf : ∀ a ∈ l, (f a).Nodup)
    (hg : ∃ g : β → α, ∀ a ∈ l, ∀ b ∈ f a, g b = a) : (l.flatMap f).Nodup := by
  obtain ⟨g, hg⟩ := hg
  exact List.nodup_flatMap.2 ⟨hf, hl.pairwise_of_forall_ne fun a ha a' ha' hne =>
    List.disjoint_left.2 fun b hb hb' => hne ((hg a ha b hb).symm.trans (hg a' ha' b hb'))⟩

theorem length_flatMap_const {α β : Type} (l : List α) (f : α → List β) (c : Nat)
    (h : ∀ a ∈ l, (f a).length = c) : (l.flatMap f).length = l.length * c := by
  induction l with
  | nil => simp
  | cons a t ih =>
    rw [List.flatMap_cons, List.length_append, h a List.mem_cons_self,
      ih (fun b hb => h b (List.mem_cons_of_mem _ hb)), List.length_cons, Nat.succ_mul, Nat.add_comm]

theorem range12_length {w : Int} (hw : w % 12 = 0) : (range12 w).length = (w / 12).toNat := by
  simp only [range12, List.length_map, List.length_range]; congr 1; omega

theorem mem_grid (width height : Int) (p : Pt) :
    p ∈ grid width height ↔ 0 ≤ p.1 ∧ p.1 < width ∧ 0 ≤ p.2 ∧ p.2 < height := by
  obtain ⟨px, py⟩ := p
  simp only [grid, List.mem_flatMap, List.mem_map, List.mem_range, Prod.mk.injEq]
  constructor
  · rintro ⟨x, hx, y, hy, rfl, rfl⟩
    omega
  · rintro ⟨h0, h1, h2, h3⟩
    exact ⟨px.toNat, by omega, py.toNat, by omega, by omega, by omega⟩

theorem mem_boardChips (b : Pt) : b ∈ boardChips ↔ InBoard b := by
  obtain ⟨bx, by'⟩ := b
  simp only [boardChips, List.mem_flatMap, List.mem_filterMap, List.mem_range, Option.ite_none_right_eq_some,
    Option.some.injEq, Prod.mk.injEq]
  constructor
  · rintro ⟨x, hx, y, hy, hc, rfl, rfl⟩
    exact hc
  · intro hb
    have hb' := hb
    simp only [InBoard] at hb'
    refine ⟨bx.toNat, by omega, by'.toNat, by omega, ?_⟩
    rw [Int.toNat_of_nonneg hb'.1, Int.toNat_of_nonneg hb'.2.2.1]
    exact ⟨hb, rfl, rfl⟩

theorem boardChips_nodup : boardChips.Nodup :=
  nodup_flatMap_of List.nodup_range (fun x _ => List.nodup_range.filterMap fun y y' p hy hy' => by
    simp only [Option.mem_def, Option.ite_none_right_eq_some, Option.some.injEq] at hy hy'
    have := congrArg Prod.snd (hy.2.trans hy'.2.symm); simp only at this; omega)
    ⟨fun p => p.1.toNat, fun x _ p hp => by
      simp only [List.mem_filterMap, Option.ite_none_right_eq_some, Option.some.injEq] at hp
      obtain ⟨_, _, _, rfl⟩ := hp; rfl⟩

/-- link `l` of board chip `b` goes to a chip that is not on the board -/
def leaves (b : Pt) (l : Int) : Bool :=
  match dirVec l with
  | some v => decide (¬ InBoard (b.1 + v.1, b.2 + v.2))
  | none => false

-- In two directions: evaluating "entry iff leaving" itself on the 48 x 6 cells means 240 failing lookups, each a scan
-- of the whole table.
theorem fpga_keys_ok : ∀ e ∈ fpgaLinks,
    InBoard (e.1.1, e.1.2.1) ∧ 0 ≤ e.1.2.2 ∧ e.1.2.2 < 6 ∧ leaves (e.1.1, e.1.2.1) e.1.2.2 = true := by
  decide +kernel

theorem fpga_leaving_ok : ∀ b ∈ boardChips, ∀ l ∈ [(0 : Int), 1, 2, 3, 4, 5],
    leaves b l = true → (fpgaLinks.lookup (b.1, b.2, l)).isSome = true := by
  decide +kernel

theorem dirVec_none {l : Int} (h : l ∉ [(0 : Int), 1, 2, 3, 4, 5]) : dirVec l = none := by
  simp only [List.mem_cons, List.not_mem_nil, or_false, not_or] at h
  obtain ⟨h0, h1, h2, h3, h4, h5⟩ := h
  simp only [dirVec, if_neg h0, if_neg h1, if_neg h2, if_neg h3, if_neg h4, if_neg h5]

theorem searchDown_spec (k s : Nat) (hs : 1 ≤ s) :
    1 ≤ searchDown k s ∧ searchDown k s ≤ s ∧ k % searchDown k s = 0 ∧
      ∀ d, searchDown k s < d → d ≤ s → k % d ≠ 0 := by
  fun_induction searchDown k s with
  | case1 => omega
  | case2 s hdiv => exact ⟨by omega, by omega, hdiv, fun d h1 h2 => by omega⟩
  | case3 s hdiv ih =>
    -- the scan stops at 1 at the latest
    obtain ⟨a, b, c, d⟩ := ih (Nat.pos_of_ne_zero fun h0 => hdiv (by subst h0; exact Nat.mod_one k))
    exact ⟨a, by omega, c, fun d' h1 h2 => if hd : d' = s + 1 then hd ▸ hdiv else d d' h1 (by omega)⟩

theorem noDivFrom_iff (k lo c : Nat) : noDivFrom k lo c = true ↔ ∀ d, lo < d → d ≤ lo + c → k % d ≠ 0 := by
  fun_induction noDivFrom k lo c with
  | case1 => exact iff_of_true rfl fun d h1 h2 => by omega
  | case2 c h0 => exact iff_of_false Bool.false_ne_true fun h => h _ (by omega) (by omega) h0
  | case3 c h0 ih =>
    rw [ih]
    exact ⟨fun h d h1 h2 => if hd : d = lo + c + 1 then hd ▸ h0 else h d h1 (by omega),
      fun h d h1 h2 => h d h1 (by omega)⟩

end Rig.C19
