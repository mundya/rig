/-
C08 - bit-field keys are collision-free.  Property theorems about the model `RigModel/Model/C08.lean` of
rig/bitfield.py.

`Reachable L st`: `st` is the field tree after some history of `add_field` / `__call__` /
`assign_fields` (successful or raising half-way) on a `BitField(L)`, with *arbitrary*
instance values at every step (more general than the instances the code can create).
-/
import RigModel.Lemmas.C08Complete

namespace Rig.C08
open Rig.Gen.BitfieldConsts

/-- translator obligation: `_Field.__init__(max_value=1)` -/
theorem max_value_default : MAX_VALUE_DEFAULT = 1 := by decide

theorem inv_init (L : Nat) : Inv ⟨L, []⟩ :=
  ⟨.nil, List.forall_mem_nil _, .nil, List.forall_mem_nil _, List.forall_mem_nil _, List.forall_mem_nil _⟩

theorem inv_addField {st st' : State} {fv : Reqs} {ident : Ident} {length : Option Int} {startAt : Option Nat}
    {tags : List String} (hinv : Inv st) (h : addField st fv ident length startAt tags = .ok st') :
    Inv st' ∧ st'.length = st.length :=
  addField_inv max_value_default hinv h

theorem inv_call {st st' : State} {fv fv' : Reqs} {kw : List (Ident × Int)} (hinv : Inv st)
    (h : call st fv kw = .ok (st', fv')) : Inv st' ∧ st'.length = st.length := by
  have hchk := call_values_checked h
  obtain ⟨_, _, rfl⟩ := call_ok h
  -- every `max_value` update keeps the invariant and the bounds that the check established
  refine ⟨(List.foldlRecOn (motive := fun es => Inv ⟨st.length, es⟩ ∧ ∀ y ∈ es, ∀ iv ∈ fv', y.ident = iv.1 →
    y.enabled fv' = true → ∀ l, y.field.length = some l → iv.2 < 2 ^ l) fv' _ ⟨hinv, ?_⟩ ?_).1, rfl⟩
  · intro y hy iv hiv hid hen l hl
    obtain ⟨e, hg, hlt⟩ := hchk iv hiv
    cases hg.symm.trans (hid ▸ getField_of_enabled hinv.unique hy hen)
    exact hlt l hl
  · intro es ⟨hi, hq⟩ kv hkv
    refine ⟨inv_modifyField_benign (st := ⟨_, es⟩) hi (fun _ => rfl) (fun _ => rfl) ?_,
      forall_modifyFirst hq fun y hy => hq y (List.mem_of_find?_eq_some hy)⟩
    exact fun y hy l hl =>
      let ⟨hm, hid, hen⟩ := getField_some hy
      Nat.max_lt.mpr ⟨hi.wide y hm l hl, hq y hm kv hkv hid hen l hl⟩

/-- also for the state left behind by an `assign_fields` that raised -/
theorem inv_assignFields {st : State} (hinv : Inv st) :
    Inv (assignFieldsP st).1 ∧ (assignFieldsP st).1.length = st.length :=
  assignFieldsP_inv hinv

inductive Reachable (L : Nat) : State → Prop
  | init : Reachable L ⟨L, []⟩
  | add {st st' fv ident length startAt tags} :
      Reachable L st → addField st fv ident length startAt tags = .ok st' → Reachable L st'
  | call {st st' fv fv' kw} : Reachable L st → call st fv kw = .ok (st', fv') → Reachable L st'
  | assign {st} : Reachable L st → Reachable L (assignFieldsP st).1
  /-- model-only: before an `assign_fields`, any set of `max_value`s may be marked as "the floating-point length has
  a spare bit" (the driver marks those the implementation shows; the mark only counts from `SPARE_FROM` on) -/
  | spare {st} (g : Nat → Bool) : Reachable L st → Reachable L { st with entries := markSpare g st.entries }

theorem reachable_inv {L : Nat} {st : State} (h : Reachable L st) : Inv st ∧ st.length = L := by
  induction h with
  | init => exact ⟨inv_init L, rfl⟩
  | add _ h ih => obtain ⟨a, b⟩ := inv_addField ih.1 h; exact ⟨a, b.trans ih.2⟩
  | call _ h ih => obtain ⟨a, b⟩ := inv_call ih.1 h; exact ⟨a, b.trans ih.2⟩
  | assign _ ih => obtain ⟨a, b⟩ := inv_assignFields ih.1; exact ⟨a, b.trans ih.2⟩
  | spare g _ ih => exact ⟨inv_markSpare g ih.1, ih.2⟩

/-- After any history (in particular after `assign_fields`), any two fields that can be
present together and have a position occupy disjoint, non-empty bit ranges inside `[0, L)`. -/
theorem assign_disjoint {L : Nat} {st : State} (h : Reachable L st) :
    SpecDisjoint st.entries ∧ SpecInRange L st.entries := by
  obtain ⟨hi, hl⟩ := reachable_inv h
  exact ⟨hi.disjoint, hl ▸ hi.inRange⟩

/-- the same for two fields present in one instance (enabled by the same values) -/
theorem enabled_disjoint {L : Nat} {st : State} (h : Reachable L st) {fv : Reqs} {e e' : Entry}
    (he : e ∈ enabledFields st.entries fv) (he' : e' ∈ enabledFields st.entries fv) :
    e = e' ∨ EntryDisjoint e e' :=
  enabled_pair (reachable_inv h).1.disjoint he he'

/-- the scope rule: fields that can be present together have different names (so `get_field` is unambiguous) -/
theorem scope_unique {L : Nat} {st : State} (h : Reachable L st) : SpecUnique st.entries :=
  (reachable_inv h).1.unique

/-- Every length covers the largest value ever given to the field ... -/
theorem wide_enough {L : Nat} {st : State} (h : Reachable L st) : SpecWide st.entries :=
  (reachable_inv h).1.wide

/-- ... and `__call__` rejects a value that does not fit a field whose length is known. -/
theorem call_rejects_wide {st st' : State} {fv fv' : Reqs} {kw : List (Ident × Int)}
    (h : call st fv kw = .ok (st', fv')) :
    ∀ iv ∈ fv', ∃ e, getField st.entries iv.1 fv' = some e ∧ ∀ len, e.field.length = some len → iv.2 < 2 ^ len :=
  call_values_checked h

/-- The length `assign_fields` chooses for a field without a given length - the exact bit
length of `max_value`, or (only for `max_value ≥ SPARE_FROM = 2^44`, where the implementation's double-precision
logarithm may round up) one bit more - always covers `max_value`, and is never more than one bit above the exact
bit length. -/
theorem auto_length_covers (f : Field) (h : f.length = none) :
    f.maxValue < 2 ^ f.chosenLen ∧ autoLen f.maxValue ≤ f.chosenLen ∧ f.chosenLen ≤ autoLen f.maxValue + 1 ∧
      (f.maxValue < SPARE_FROM → f.chosenLen = autoLen f.maxValue) := by
  refine ⟨chosenLen_wide_of_none h, ?_⟩
  unfold Field.chosenLen
  rw [h]
  simp only
  split
  · rename_i hsp
    simp only [Bool.and_eq_true, decide_eq_true_eq] at hsp
    omega
  · omega

/-- `assign_fields` - also one that raises half-way - never moves a field that has a start position: field by field
the tree afterwards is the tree before, with every given `start_at` unchanged.  With `assign_disjoint`: overlapping
explicit definitions are never silently relocated, they make `assign_fields` raise. -/
theorem assign_keeps_starts (st : State) : startsKeptB st.entries (assignFieldsP st).1.entries = true :=
  assignFieldsP_preserves (P := fun es => startsKeptB st.entries es = true)
    (fun _ _ _ _ _ hg hs h => startsKeptB_trans h (startsKeptB_modifyFirst hg fun s h => by rw [hs s h]; rfl))
    st (startsKeptB_refl _)

/-- `startsKeptB` entry by entry: equal lengths, and an entry with a start keeps start, path and name -/
theorem startsKeptB_getElem : ∀ {pre post : List Entry}, startsKeptB pre post = true →
    pre.length = post.length ∧ ∀ n (h : n < pre.length) (h' : n < post.length) s,
      pre[n].field.startAt = some s → post[n].field.startAt = some s ∧ post[n].path = pre[n].path ∧ post[n].ident = pre[n].ident := by
  intro pre post h
  fun_induction startsKeptB pre post with
  | case1 => exact ⟨rfl, fun n hn => nomatch hn⟩
  | case2 a as b bs ih =>
    obtain ⟨⟨hp, hi, hs⟩, ht⟩ := startsKeptB_cons.mp h
    obtain ⟨hlen, hrest⟩ := ih ht
    refine ⟨congrArg (· + 1) hlen, fun n hn hn' s hsn => ?_⟩
    cases n with
    | zero => exact ⟨hs s hsn, hp.symm, hi.symm⟩
    | succ n => exact hrest n (Nat.lt_of_succ_lt_succ hn) (Nat.lt_of_succ_lt_succ hn') s hsn
  | case3 => cases h

theorem addField_guard {st : State} {fv : Reqs} (ident : Ident) {length : Option Int} {startAt : Option Nat}
    (tags : List String) (h : badLength length = true ∨ doesNotFit st.length (length.map Int.toNat) startAt = true ∨
      overlapsExisting st.entries fv (length.map Int.toNat) startAt = true) :
    addField st fv ident length startAt tags = .error .valueError := by
  unfold addField
  by_cases h0 : badLength length = true
  · exact if_pos h0
  · by_cases h1 : doesNotFit st.length (length.map Int.toNat) startAt = true
    · exact (if_neg h0).trans (if_pos h1)
    · exact (if_neg h0).trans ((if_neg h1).trans (if_pos ((h.resolve_left h0).resolve_left h1)))

/-- An explicit definition that is empty or reaches beyond the bit field is rejected by `add_field`. -/
theorem reject_explicit_overflow (st : State) (fv : Reqs) (ident : Ident) (l : Int) (s : Nat) (tags : List String)
    (h : l ≤ 0 ∨ s + l.toNat > st.length) :
    addField st fv ident (some l) (some s) tags = .error .valueError :=
  addField_guard ident tags <| h.imp (fun h0 => by simp [badLength, h0])
    fun h1 => .inl (by simp [doesNotFit, orOne, h1])

/-- An explicit definition overlapping a positioned field that can be present with it
is rejected by `add_field`; one whose length is only known later can never be *assigned* overlapping
(`assign_disjoint` holds for the state after every `assign_fields`). -/
theorem reject_explicit {st : State} {fv : Reqs} (ident : Ident) (l : Int) (s : Nat) (tags : List String)
    {x : Entry} (hx : x ∈ st.entries) (hp : x.potential fv = true) {l' s' : Nat}
    (hl' : x.field.length = some l') (hs' : x.field.startAt = some s')
    (hov : ¬ Disjoint s l.toNat s' l') :
    addField st fv ident (some l) (some s) tags = .error .valueError := by
  refine addField_guard ident tags (.inr (.inr ?_))
  simp only [Option.map_some, overlapsExisting, List.any_eq_true]
  refine ⟨x, List.mem_filter.mpr ⟨hx, hp⟩, ?_⟩
  simp only [hs', hl', orOne, overlaps, Bool.and_eq_true, decide_eq_true_eq]
  unfold Disjoint at hov
  exact ⟨decide_eq_true (by omega), by omega⟩

/-! The side condition `ValuesFit` of the key theorems: `__call__` checks it for every field whose length is known
(`call_rejects_wide`); for lengths fixed later it follows from `value ≤ max_value` and `wide_enough`
(`valuesFit_of_le_max`).  Over histories `values_fit` below gets `value ≤ max_value` from `InstOK`. -/

theorem valuesFit_of_le_max {es : List Entry} {fv : Reqs} (hw : SpecWide es)
    (hle : ∀ e ∈ enabledFields es fv, ∀ x, fv.lookup e.ident = some x → x ≤ e.field.maxValue) : ValuesFit es fv := by
  intro e he x l hx hl
  exact Nat.lt_of_le_of_lt (hle e he x hx) (hw e (List.mem_filter.mp he).1 l hl)

/-- For every present field of an instance, the value is read back from `get_value()` at the
position and length that `get_location_and_length` reports. -/
theorem readback {L : Nat} {st : State} (h : Reachable L st) {fv : Reqs} (hfit : ValuesFit st.entries fv) {key : Nat}
    (hk : getValue st.entries fv none none = .ok key) {e : Entry} (he : e ∈ enabledFields st.entries fv)
    {x s l : Nat} (hx : fv.lookup e.ident = some x) (hloc : getLocationAndLength st.entries fv e.ident = .ok (s, l)) :
    ReadBack key s l x := by
  have hi := (reachable_inv h).1
  obtain ⟨he1, he2⟩ := List.mem_filter.mp he
  -- the field that get_location_and_length looks up is e
  rw [getLocationAndLength, getField_of_enabled hi.unique he1 he2] at hloc
  cases hl : e.field.length <;> cases hs : e.field.startAt <;> simp [hl, hs] at hloc
  obtain ⟨rfl, rfl⟩ := hloc
  exact readback_lemma hi.disjoint hfit hk he hx hl hs

/-- `get_mask()` has exactly the bits of the present fields ... -/
theorem mask_exact {es : List Entry} {fv : Reqs} {m : Nat} (h : getMask es fv none none = .ok m) (j : Nat) :
    m.testBit j = true ↔ ∃ e ∈ enabledFields es fv, ∃ l s,
      e.field.length = some l ∧ e.field.startAt = some s ∧ s ≤ j ∧ j < s + l := by
  rw [getMask_all h, testBit_unionBits]

/-- ... and `get_mask(tag=t)` exactly the bits of the present fields carrying the tag. -/
theorem mask_exact_tag {es : List Entry} {fv : Reqs} {t : String} {m : Nat}
    (h : getMask es fv (some t) none = .ok m) (j : Nat) :
    m.testBit j = true ↔ ∃ e ∈ enabledFields es fv, t ∈ e.field.tags ∧ ∃ l s,
      e.field.length = some l ∧ e.field.startAt = some s ∧ s ≤ j ∧ j < s + l := by
  rw [getMask_tag h, testBit_unionBits]
  simp only [List.mem_filter, List.contains_iff_mem]
  constructor
  · rintro ⟨e, ⟨he, ht⟩, r⟩; exact ⟨e, he, ht, r⟩
  · rintro ⟨e, he, ht, r⟩; exact ⟨e, ⟨he, ht⟩, r⟩

/-- Two instances that give different values to a field present in both produce key/mask pairs
that do not match each other (neither key matches the other pair, and `key & mask' ≠ key' & mask`). -/
theorem orthogonal {L : Nat} {st : State} (h : Reachable L st) {fv fv' : Reqs} {k m k' m' : Nat}
    (hfit : ValuesFit st.entries fv) (hfit' : ValuesFit st.entries fv')
    (hk : getValue st.entries fv none none = .ok k) (hm : getMask st.entries fv none none = .ok m)
    (hk' : getValue st.entries fv' none none = .ok k') (hm' : getMask st.entries fv' none none = .ok m')
    {e : Entry} (he : e ∈ enabledFields st.entries fv) (he' : e ∈ enabledFields st.entries fv') {x x' : Nat}
    (hx : fv.lookup e.ident = some x) (hx' : fv'.lookup e.ident = some x') (hne : x ≠ x') :
    k &&& m' ≠ k' &&& m ∧ ¬ Matches k k' m' ∧ ¬ Matches k' k m :=
  orthogonal_lemma (reachable_inv h).1.disjoint hfit hfit' hk hm hk' hm' he he' hx hx' hne

theorem inv2_init (L : Nat) : Inv2 ⟨L, []⟩ :=
  ⟨List.forall_mem_nil _, List.forall_mem_nil _⟩

theorem reachable_inv2 {L : Nat} {st : State} (h : Reachable L st) : Inv2 st := by
  induction h with
  | init => exact inv2_init L
  | add hr h ih => exact addField_inv2 (reachable_inv hr).1 ih h
  | call _ h ih => exact call_inv2 ih h
  | assign _ ih => exact assignFieldsP_inv2 ih
  | spare g _ ih => exact inv2_markSpare g ih

/-- Over every history: every child key of the tree is a non-empty tuple of (identifier, value)
pairs whose identifiers are fields of the parent node (so inner nodes are never empty and a field's requirements
name fields that are present with it). -/
theorem tree_structure {L : Nat} {st : State} (h : Reachable L st) : Struct st.entries :=
  (reachable_inv2 h).struct

/-- Over every history: every field named in the requirements of a tagged field (and present with
it) carries the tag - `get_mask(tag=t)` / `get_value(tag=t)` always include the fields a tagged field depends on. -/
theorem tag_closed {L : Nat} {st : State} (h : Reachable L st) : SpecTagClosed st.entries :=
  (reachable_inv2 h).tagClosed

/-- the same in terms of `get_field`: for a present field `e` with tag `t`, every identifier of `e`'s requirements
resolves (in the same instance) to a field carrying `t` -/
theorem tag_closed_getField {L : Nat} {st : State} (h : Reachable L st) {fv : Reqs} {e : Entry}
    (he : e ∈ enabledFields st.entries fv) {t : String} (ht : t ∈ e.field.tags) {i : Ident} {v : Nat}
    (hiv : (i, v) ∈ e.reqs) : ∃ p, getField st.entries i fv = some p ∧ t ∈ p.field.tags := by
  have hi := (reachable_inv h).1
  have hi2 := reachable_inv2 h
  obtain ⟨he1, he2⟩ := List.mem_filter.mp he
  obtain ⟨y, hy, rfl, hye⟩ := parent_exists hi2.struct hi.selfc he1 hiv
  exact ⟨y, getField_of_enabled hi.unique hy (enabled_trans he2 hye), hi2.tagClosed e he1 y hy ⟨v, hiv⟩ hye t ht⟩

/-- After a successful `assign_fields` every field has a position and a length. -/
theorem all_fixed_after_assign {L : Nat} {st st' : State} (h : Reachable L st)
    (ha : assignFields st = .ok st') : AllFixed st'.entries :=
  allFixed_of_assign (reachable_inv h).1 (reachable_inv2 h).struct ha

/-- hence `get_mask()` succeeds on every instance -/
theorem getMask_ok_after_assign {L : Nat} {st st' : State} (h : Reachable L st)
    (ha : assignFields st = .ok st') (fv : Reqs) : ∃ m, getMask st'.entries fv none none = .ok m := by
  refine ⟨_, (getMask_of_select (sel := enabledFields st'.entries fv) rfl).trans (if_neg fun hany => ?_)⟩
  obtain ⟨e, he, hfalse⟩ := List.any_eq_true.mp hany
  rw [all_fixed_after_assign h ha e (List.mem_filter.mp he).1] at hfalse
  cases hfalse

/-! `ReachableI L st insts`: `st` is the tree and `insts` the `field_values` dicts of all `BitField` instances created
so far (the root instance `{}` first), exactly as the code creates them: `__call__` on an existing instance
appends one.  `add_field` is allowed with arbitrary values (more general than the code). -/

inductive ReachableI (L : Nat) : State → List Reqs → Prop
  | init : ReachableI L ⟨L, []⟩ [[]]
  | add {st st' insts fv ident length startAt tags} :
      ReachableI L st insts → addField st fv ident length startAt tags = .ok st' → ReachableI L st' insts
  | call {st st' insts fv fv' kw} : ReachableI L st insts → fv ∈ insts → call st fv kw = .ok (st', fv') →
      ReachableI L st' (insts ++ [fv'])
  | assign {st insts} : ReachableI L st insts → ReachableI L (assignFieldsP st).1 insts
  | spare {st insts} (g : Nat → Bool) : ReachableI L st insts →
      ReachableI L { st with entries := markSpare g st.entries } insts

theorem reachableI_reachable {L : Nat} {st : State} {insts : List Reqs} (h : ReachableI L st insts) :
    Reachable L st := by
  induction h with
  | init => exact Reachable.init
  | add _ h ih => exact Reachable.add ih h
  | call _ _ h ih => exact Reachable.call ih h
  | assign _ ih => exact Reachable.assign ih
  | spare g _ ih => exact Reachable.spare g ih

/-- every value of every instance names a field present in that instance and is at most
that field's `max_value` -/
theorem reachableI_instOK {L : Nat} {st : State} {insts : List Reqs} (h : ReachableI L st insts) :
    ∀ fv ∈ insts, InstOK st.entries fv := by
  induction h with
  | init => intro fv hfv; cases List.mem_singleton.mp hfv; exact List.forall_mem_nil _
  | add _ h ih => exact fun fv hfv => addField_instOK h (ih fv hfv)
  | call _ _ h ih =>
    obtain ⟨hnew, hold⟩ := call_instOK h
    intro fv hfv
    rcases List.mem_append.mp hfv with hfv | hfv
    · exact hold fv (ih fv hfv)
    · cases List.mem_singleton.mp hfv; exact hnew
  | assign _ ih => exact fun fv hfv => assignFieldsP_instOK (ih fv hfv)
  | spare g _ ih => exact fun fv hfv => instOK_markSpare g (ih fv hfv)

/-- Over every history, every value of every instance fits the length of the field holding it
(whenever that length is known): the `ValuesFit` hypothesis of `readback` / `orthogonal` holds for every instance
the code can create. -/
theorem values_fit {L : Nat} {st : State} {insts : List Reqs} (h : ReachableI L st insts) {fv : Reqs}
    (hfv : fv ∈ insts) : ValuesFit st.entries fv :=
  valuesFit_of_instOK (reachable_inv (reachableI_reachable h)).1 (reachableI_instOK h fv hfv)

/-- the decidable forms evaluated by the oracle on the implementation's instances are the predicates above -/
theorem instOKB_iff (es : List Entry) (fv : Reqs) : instOKB es fv = true ↔ InstOK es fv := by
  simp only [instOKB, InstOK, ValOK, List.all_eq_true, List.any_eq_true, Bool.and_eq_true, beq_iff_eq,
    decide_eq_true_eq, and_assoc]

theorem valuesFitB_iff (es : List Entry) (fv : Reqs) : valuesFitB es fv = true ↔ ValuesFit es fv := by
  simp only [valuesFitB, ValuesFit, List.all_eq_true]
  constructor
  · intro h e he x l hx hl
    have := h e he
    simpa [hx, hl] using this
  · intro h e he
    cases hx : fv.lookup e.ident <;> cases hl : e.field.length <;> simp
    exact h e he _ _ hx hl

/-- `readback` for every instance of every history, without side condition. -/
theorem readback_instance {L : Nat} {st : State} {insts : List Reqs} (h : ReachableI L st insts) {fv : Reqs}
    (hfv : fv ∈ insts) {key : Nat} (hk : getValue st.entries fv none none = .ok key) {e : Entry}
    (he : e ∈ enabledFields st.entries fv) {x s l : Nat} (hx : fv.lookup e.ident = some x)
    (hloc : getLocationAndLength st.entries fv e.ident = .ok (s, l)) : ReadBack key s l x :=
  readback (reachableI_reachable h) (values_fit h hfv) hk he hx hloc

/-- Two instances of one history whose dicts differ (as mappings) differ on a
field that is present in both.  (For arbitrary dicts this needs "every key names a present field":
`{zz: 1}` and `{}` differ on no field.) -/
theorem instances_differ_on_common {L : Nat} {st : State} {insts : List Reqs} (h : ReachableI L st insts)
    {fv fv' : Reqs} (hfv : fv ∈ insts) (hfv' : fv' ∈ insts) (hne : ∃ i, fv.lookup i ≠ fv'.lookup i) :
    ∃ e, e ∈ enabledFields st.entries fv ∧ e ∈ enabledFields st.entries fv' ∧
      fv.lookup e.ident ≠ fv'.lookup e.ident := by
  obtain ⟨e, he, h1, h2, h3⟩ := differ_on_common (reachable_inv2 (reachableI_reachable h)).struct
    (reachableI_instOK h fv hfv) (reachableI_instOK h fv' hfv') hne
  exact ⟨e, List.mem_filter.mpr ⟨he, h1⟩, List.mem_filter.mpr ⟨he, h2⟩, h3⟩

/-- Any two *different* complete value assignments (instances of one history for which
`get_value()` succeeds) produce key/mask pairs that do not match each other - no side condition. -/
theorem orthogonal_instances {L : Nat} {st : State} {insts : List Reqs} (h : ReachableI L st insts)
    {fv fv' : Reqs} (hfv : fv ∈ insts) (hfv' : fv' ∈ insts) {k m k' m' : Nat}
    (hk : getValue st.entries fv none none = .ok k) (hm : getMask st.entries fv none none = .ok m)
    (hk' : getValue st.entries fv' none none = .ok k') (hm' : getMask st.entries fv' none none = .ok m')
    (hne : ∃ i, fv.lookup i ≠ fv'.lookup i) :
    k &&& m' ≠ k' &&& m ∧ ¬ Matches k k' m' ∧ ¬ Matches k' k m := by
  obtain ⟨e, he, he', h3⟩ := instances_differ_on_common h hfv hfv' hne
  obtain ⟨⟨x, hx⟩, _⟩ := (getValue_all hk).2 e he
  obtain ⟨⟨x', hx'⟩, _⟩ := (getValue_all hk').2 e he'
  exact orthogonal (reachableI_reachable h) (values_fit h hfv) (values_fit h hfv') hk hm hk' hm' he he' hx hx'
    fun hxx => h3 (by rw [hx, hx', hxx])

/-! `SCAN_SLACK = 1` is the repaired scan bound `range(0, self.length - length + 1)` of `_assign_field`; the constant is
regenerated from the source on every run.  With the unrepaired bound (0) the statement is false (`BitField(8)`,
one 8-bit field).  Without `Nested` it is false as well (known finding complete-floating-cross-scope). -/

/-- After any history that positioned nothing explicitly, if scopes are nested
(fields that can be present together lie on one root-to-leaf chain of nodes) and along every such chain the widths
(given length, else the length `assign_fields` will choose from `max_value`) sum to at most the bit-field length,
`assign_fields` succeeds. -/
theorem complete_floating_chains (hs : SCAN_SLACK = 1) {L : Nat} {st : State} (h : Reachable L st)
    (hF : ∀ e ∈ st.entries, e.field.startAt = none) (hn : Nested st.entries)
    (hchain : ∀ e ∈ st.entries, ((st.entries.filter fun y => y.path.isPrefixOf e.path).map (·.width)).sum ≤ L) :
    ∃ st', assignFields st = .ok st' := by
  obtain ⟨hinv, rfl⟩ := reachable_inv h
  have hnone : (assignFieldsP st).2 = none := by
    refine complete_floating_lemma hs hinv hF hn fun x hx => ?_
    obtain ⟨e, he, rfl⟩ := List.mem_map.mp hx
    refine Nat.le_trans (Nat.le_of_eq ?_) (hchain e he)
    simp only [segSum, skel, List.filter_map, List.map_map]
    rfl
  fun_cases assignFields st with
  | case1 st' => exact ⟨st', rfl⟩
  | case2 _ _ hr => rw [hr] at hnone; cases hnone

theorem compatibleB_iff (r r' : Reqs) : compatibleB r r' = true ↔ compatible r r' := by
  simp only [compatibleB, compatible, List.all_eq_true, Bool.or_eq_true, Bool.not_eq_true', beq_eq_false_iff_ne,
    beq_iff_eq, Prod.forall]
  constructor
  · intro h i v v' hv hv'
    rcases h i v hv i v' hv' with h | h
    · exact absurd rfl h
    · exact h
  · intro h i v hv j v' hv'
    by_cases hij : i = j
    · subst hij; exact Or.inr (h i v v' hv hv')
    · exact Or.inl hij

theorem pairwiseB_iff (r : Entry → Entry → Bool) (es : List Entry) :
    pairwiseB r es = true ↔ es.Pairwise fun a b => r a b = true := by
  induction es with
  | nil => simp [pairwiseB]
  | cons e es ih => simp [pairwiseB, ih, List.all_eq_true]

theorem nested_of_nestedB {es : List Entry} (h : nestedB es = true) : Nested es := by
  unfold nestedB at h
  rw [pairwiseB_iff] at h
  intro e he e' he' hc
  have key : ∀ a b : Entry, compatible a.reqs b.reqs →
      (!compatibleB a.reqs b.reqs || a.path.isPrefixOf b.path || b.path.isPrefixOf a.path) = true →
      a.path <+: b.path ∨ b.path <+: a.path := by
    intro a b hab hr
    have : compatibleB a.reqs b.reqs = true := (compatibleB_iff _ _).mpr hab
    simp only [this, Bool.not_true, Bool.false_or, Bool.or_eq_true, List.isPrefixOf_iff_prefix] at hr
    exact hr
  rcases Lists.pairwise_mem h he he' with rfl | h1 | h1
  · exact Or.inl (List.prefix_refl _)
  · exact key e e' hc h1
  · exact (key e' e (compatible_symm hc) h1).symm

theorem filter_mem_sublists (p : Entry → Bool) (es : List Entry) : es.filter p ∈ sublists es := by
  induction es with
  | nil => simp [sublists]
  | cons e es ih =>
    simp only [sublists, List.filter_cons, List.mem_append, List.mem_map]
    split
    · exact Or.inr ⟨_, ih, rfl⟩
    · exact Or.inl ih

/-- The completeness clause in the form the oracle evaluates (`floatingFitsB`: nothing is
positioned and the widths of every set of fields that can be present together sum to at most the length) for nested
scopes (`nestedB`): `assign_fields` succeeds. -/
theorem complete_floating (hs : SCAN_SLACK = 1) {L : Nat} {st : State} (h : Reachable L st)
    (hfit : floatingFitsB L st.entries = true) (hn : nestedB st.entries = true) :
    ∃ st', assignFields st = .ok st' := by
  have hinv := (reachable_inv h).1
  simp only [floatingFitsB, Bool.and_eq_true, List.all_eq_true, Option.isNone_iff_eq_none, Bool.or_eq_true,
    Bool.not_eq_true', decide_eq_true_eq] at hfit
  obtain ⟨hF, hsub⟩ := hfit
  refine complete_floating_chains hs h hF (nested_of_nestedB hn) ?_
  intro e he
  rcases hsub _ (filter_mem_sublists (fun y => y.path.isPrefixOf e.path) st.entries) with hbad | hgood
  · exfalso
    have : pairwiseB (fun a b => compatibleB a.reqs b.reqs)
        (st.entries.filter fun y => y.path.isPrefixOf e.path) = true := by
      refine (pairwiseB_iff _ _).mpr (List.pairwise_of_forall_mem_list fun a ha b hb => ?_)
      -- the fields on the nodes above `e` are present whenever `e` is
      have hen : ∀ y ∈ st.entries.filter fun y => y.path.isPrefixOf e.path, y.enabled e.reqs = true := fun y hy =>
        List.all_eq_true.mpr fun k hk => List.all_eq_true.mp (enabled_self (hinv.selfc e he)) k
          ((List.isPrefixOf_iff_prefix.mp (List.mem_filter.mp hy).2).subset hk)
      exact (compatibleB_iff _ _).mpr (compatible_of_enabled (hen a ha) (hen b hb))
    rw [this] at hbad; cases hbad
  · exact hgood

/-! non-vacuity: a reachable state with one field, after assignment -/
example : ∃ st, Reachable 8 st ∧ st.entries.length = 1 ∧ allFixedB st.entries = true := by
  refine ⟨_, Reachable.assign (Reachable.add (fv := []) (ident := "a") (length := some 3) (startAt := none)
    (tags := []) Reachable.init rfl), ?_, ?_⟩ <;> decide

/-- non-vacuity of the key theorems: a 3-bit field `a` placed behind an explicit 2-bit field `b`; the instance a=5, b=2
has key 0b10110 and mask 0b11111, and its values fit -/
example : ∃ st fv, Reachable 8 st ∧ getValue st.entries fv none none = .ok 22 ∧ getMask st.entries fv none none = .ok 31 ∧
    ValuesFit st.entries fv := by
  refine ⟨_, [("a", 5), ("b", 2)], Reachable.assign (Reachable.add (fv := []) (ident := "b") (length := some 2)
    (startAt := some 0) (tags := []) (Reachable.add (fv := []) (ident := "a") (length := some 3) (startAt := none)
    (tags := ["t"]) Reachable.init rfl) rfl), by rfl, by rfl, (valuesFitB_iff _ _).mp (by decide +kernel)⟩

/-- non-vacuity of `tag_closed` / `tree_structure`: a tagged field `b` in the scope a=0 passes its tag to `a` -/
example : ∃ st, Reachable 8 st ∧
    (st.entries.map fun e => (e.ident, e.path, e.field.tags)) = [("a", [], ["t"]), ("b", [[("a", 0)]], ["t"])] := by
  refine ⟨_, Reachable.add (fv := [("a", 0)]) (ident := "b") (length := none) (startAt := none) (tags := ["t"])
    (Reachable.add (fv := []) (ident := "a") (length := none) (startAt := none) (tags := []) Reachable.init rfl) rfl, ?_⟩
  decide

/-- non-vacuity of the instance theorems: two different complete instances (a=1 with b=2 in its scope, and a=0) of
one history, both with keys -/
example : ∃ st insts fv fv', ReachableI 8 st insts ∧ fv ∈ insts ∧ fv' ∈ insts ∧
    getValue st.entries fv none none = .ok 6 ∧ getValue st.entries fv' none none = .ok 0 ∧
    getMask st.entries fv none none = .ok 7 ∧ getMask st.entries fv' none none = .ok 4 ∧
    (∃ i, fv.lookup i ≠ fv'.lookup i) := by
  refine ⟨_, _, [("a", 1), ("b", 2)], [("a", 0)],
    ReachableI.call (fv := []) (kw := [("a", 0)])
      (ReachableI.call (fv := []) (kw := [("a", 1), ("b", 2)])
        (ReachableI.add (fv := [("a", 1)]) (ident := "b") (length := some 2) (startAt := some 0) (tags := [])
          (ReachableI.add (fv := []) (ident := "a") (length := some 1) (startAt := some 2) (tags := [])
            ReachableI.init rfl) rfl)
        (by decide +kernel) rfl)
      (by decide +kernel) rfl, by decide +kernel, by decide +kernel, by rfl, by rfl, by rfl, by rfl, ⟨"b", by decide⟩⟩

/-- non-vacuity of the completeness theorems: a 2-bit field `a` with a 3-bit field `b` in scope a=1 and a 1-bit field
`c` in scope a=0, nothing positioned, nested, in a 5-bit bit field (a 4-bit one does not fit) -/
example : ∃ st, Reachable 5 st ∧ st.entries.length = 3 ∧ floatingFitsB 5 st.entries = true ∧
    nestedB st.entries = true ∧ floatingFitsB 4 st.entries = false := by
  refine ⟨_, Reachable.add (fv := [("a", 0)]) (ident := "c") (length := some 1) (startAt := none) (tags := [])
    (Reachable.add (fv := [("a", 1)]) (ident := "b") (length := some 3) (startAt := none) (tags := [])
      (Reachable.add (fv := []) (ident := "a") (length := some 2) (startAt := none) (tags := [])
        Reachable.init rfl) rfl) rfl, ?_, ?_, ?_, ?_⟩ <;> decide

/-- non-vacuity of the spare-bit rule: for max_value 2^48 - 1 (where CPython's `int(log(v, 2)) + 1` gives 49) the marked
field gets 49 bits, the unmarked one the exact 48; below 2^44 the mark has no effect -/
example : Field.chosenLen ⟨none, none, [], 2 ^ 48 - 1, true⟩ = 49 ∧ Field.chosenLen ⟨none, none, [], 2 ^ 48 - 1, false⟩ = 48 ∧
    Field.chosenLen ⟨none, none, [], 2 ^ 31 - 1, true⟩ = 31 := by
  refine ⟨?_, ?_, ?_⟩ <;> decide +kernel

end Rig.C08
