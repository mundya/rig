/-
C06 - translator tie: the sequence-number generator `seqs` (rig/machine_control/scp_connection.py:
`i = 0; while True: yield i; i = (i + 1) & mask`).  The generator is infinite; the generated `seqs mask fuel` is the
list of the values yielded by the first `fuel` iterations, its loop body `seqs_loop1`.  For `mask = 2^b - 1` (the
default 0xffff is b = 16) the values are 0, 1, 2, ... modulo `2^b`, and one step of the generator is the counter
update `(ctr + 1) % modulus` of the model's `drawSeq` (Model/C06.lean) with `modulus = mask + 1`.
-/
import RigModel.Model.C06
import RigModel.Gen.PyFun
import RigModel.Lemmas.PyCast

namespace Rig.C06
open Rig.Gen

theorem seqs_step (b ctr : Nat) (o : List Int) (k : Nat) :
    PyFun.seqs_loop1 ((2 ^ b - 1 : Nat) : Int) (o, (ctr : Int)) k
      = (o ++ [(ctr : Int)], (((ctr + 1) % 2 ^ b : Nat) : Int)) := by
  simp only [PyFun.seqs_loop1, py_cast, Nat.and_two_pow_sub_one_eq_mod, py_ac]

theorem seqs_fold (b ctr : Nat) (o : List Int) (h : ctr < 2 ^ b) : ∀ n : Nat,
    (List.range n).foldl (PyFun.seqs_loop1 ((2 ^ b - 1 : Nat) : Int)) (o, (ctr : Int))
      = (o ++ (List.range n).map (fun k => (((ctr + k) % 2 ^ b : Nat) : Int)), (((ctr + n) % 2 ^ b : Nat) : Int))
  | 0 => by rw [Nat.add_zero, Nat.mod_eq_of_lt h]; exact (congrArg (·, _) (List.append_nil o)).symm
  | n + 1 => by
    rw [List.range_succ, List.foldl_append, seqs_fold b ctr o h n, List.foldl_cons, List.foldl_nil, seqs_step,
      Nat.mod_add_mod, List.map_append, List.append_assoc]
    rfl

theorem gen_seqs (b n : Nat) :
    PyFun.seqs ((2 ^ b - 1 : Nat) : Int) n = (List.range n).map (fun k => ((k % 2 ^ b : Nat) : Int)) := by
  unfold PyFun.seqs
  dsimp only
  have := seqs_fold b 0 [] (Nat.two_pow_pos b) n
  simp only [Nat.cast_zero, Nat.zero_add, List.nil_append] at this
  rw [this]

/-- the model draws the generator's next value: a free counter value is taken and the counter advances by the
generator's own update -/
theorem drawSeq_is_seqs (b : Nat) (outs : List (Nat × Out)) (fuel ctr : Nat) (hfree : hasSeq outs ctr = false) :
    drawSeq (2 ^ b) outs fuel ctr = (ctr, (ctr + 1) % 2 ^ b) ∧
    (PyFun.seqs_loop1 ((2 ^ b - 1 : Nat) : Int) ([], (ctr : Int)) 0)
      = ([(ctr : Int)], (((drawSeq (2 ^ b) outs fuel ctr).2 : Nat) : Int)) := by
  have h1 : drawSeq (2 ^ b) outs fuel ctr = (ctr, (ctr + 1) % 2 ^ b) := by
    cases fuel <;> simp [drawSeq, hfree]
  exact ⟨h1, by rw [seqs_step, h1]; rfl⟩

/-- the default mask -/
example : PyFun.seqs 65535 3 = [0, 1, 2] := by decide

end Rig.C06
