/-
C18 - helper lemmas: insertion-ordered dicts, the decorator's dictionary, the stack discipline of `exec`
(`exec_stack`) and which heap objects a program can touch (`Unchanged`, `exec_unchanged`, `touched_subset`).
-/
import RigModel.Model.C18
import RigModel.Lemmas.Assoc

namespace Rig.C18

theorem dget_eq_lookup (d : Dict) (k : String) : dget d k = d.lookup k := by
  induction d with
  | nil => rfl
  | cons hd t ih => obtain ⟨a, v⟩ := hd; simp only [dget, ih, Assoc.lookup_cons, beq_iff_eq]

theorem dset_eq_upsert (d : Dict) (k : String) (v : Val) : dset d k v = Assoc.upsert d k fun _ => v := by
  induction d with
  | nil => rfl
  | cons hd t ih => obtain ⟨a, w⟩ := hd; simp only [dset, Assoc.upsert, ih, beq_iff_eq]

theorem dget_dset (d : Dict) (k k' : String) (v : Val) :
    dget (dset d k v) k' = if k = k' then some v else dget d k' := by
  simp only [dget_eq_lookup, dset_eq_upsert, Assoc.lookup_upsert, beq_iff_eq]

theorem dget_dupdate (d u : Dict) (k : String) :
    dget (dupdate d u) k = (match dgetLast u k with | some v => some v | none => dget d k) := by
  fun_induction dupdate d u with
  | case1 d => rfl
  | case2 d a b t ih =>
    simp only [ih, dgetLast, dget_dset]
    cases dgetLast t k with
    | some w => rfl
    | none => by_cases h : a = k <;> simp [h]

theorem dget_append (z nk : Dict) (n : String) :
    dget (z ++ nk) n = (match dget z n with | some v => some v | none => dget nk n) := by
  simp only [dget_eq_lookup, List.lookup_append]
  cases z.lookup n <;> rfl

theorem dget_merged (s : List Dict) (k : String) : dget (merged s) k = ctxLookup s k := by
  induction s with
  | nil => simp [merged, ctxLookup, dget]
  | cons c older ih =>
    simp only [merged, ctxLookup, dget_dupdate, ih]
    cases dgetLast c k <;> rfl

theorem dhas_eq (d : Dict) (k : String) : dhas d k = (dget d k).isSome := rfl

theorem dget_applyCtx (nk ctx : Dict) (k : String) :
    dget (applyCtx nk ctx) k =
      (match dget nk k with
       | none => none
       | some d => (match dgetLast ctx k with | some v => some v | none => some d)) := by
  fun_induction applyCtx nk ctx with
  | case1 nk => simp only [dgetLast]; cases dget nk k <;> rfl
  | case2 nk n v rest ih =>
    have hstep : dget (if dhas nk n then dset nk n v else nk) k =
        if n = k then (dget nk k).map fun _ => v else dget nk k := by
      by_cases hk : n = k
      · subst hk; cases hd' : dget nk n <;> simp [dhas, hd', dget_dset]
      · split <;> simp [dget_dset, hk]
    simp only [ih, dgetLast, hstep]
    by_cases hk : n = k <;> cases dget nk k <;> cases dgetLast rest k <;> simp [hk]

theorem mem_of_dget (d : Dict) (k : String) (v : Val) (h : dget d k = some v) : (k, v) ∈ d :=
  Assoc.mem_of_lookup (dget_eq_lookup d k ▸ h)

theorem mem_keys_of_dhas {d : Dict} {k : String} (h : dhas d k = true) : k ∈ keys d := by
  obtain ⟨v, hv⟩ := Option.isSome_iff_exists.mp h
  exact List.mem_map.mpr ⟨_, mem_of_dget d k v hv, rfl⟩

theorem keys_dset (d : Dict) (k : String) (v : Val) :
    keys (dset d k v) = if k ∈ keys d then keys d else keys d ++ [k] := by
  rw [dset_eq_upsert]; exact Assoc.keys_upsert d k _

theorem nodup_dset (d : Dict) (k : String) (v : Val) (h : (keys d).Nodup) : (keys (dset d k v)).Nodup := by
  rw [dset_eq_upsert]; exact Assoc.nodup_keys_upsert d k _ h

theorem nodup_dupdate (d u : Dict) (h : (keys d).Nodup) : (keys (dupdate d u)).Nodup := by
  fun_induction dupdate d u with
  | case1 d => exact h
  | case2 d a b t ih => exact ih (nodup_dset d a b h)

theorem nodup_merged (stack : List Dict) : (keys (merged stack)).Nodup := by
  induction stack with
  | nil => exact List.nodup_nil
  | cons c o ih => exact nodup_dupdate _ c ih

theorem keys_applyCtx (nk ctx : Dict) : keys (applyCtx nk ctx) = keys nk := by
  fun_induction applyCtx nk ctx with
  | case1 nk => rfl
  | case2 nk n v rest ih =>
    rw [ih]
    split
    · rename_i hh; rw [keys_dset, if_pos (mem_keys_of_dhas hh)]
    · rfl

theorem nodup_newKwargs (s : Sig) (nPos : Nat) (kw : Dict) (stack : List Dict) :
    (keys (newKwargs s nPos kw stack)).Nodup := by
  unfold newKwargs baseKwargs dictOf
  apply nodup_dupdate
  rw [keys_applyCtx]
  apply nodup_dupdate
  apply nodup_dupdate
  simp [keys]

theorem eq_singleton {d : Dict} {k : String} {v : Val} (hk : keys d = [k]) (hg : dget d k = some v) :
    d = [(k, v)] := by
  match d with
  | [] => cases hk
  | [(k', w)] => cases hk; simp only [dget, if_true, Option.some.injEq] at hg; rw [hg]
  | _ :: _ :: _ => cases hk

theorem dget_of_mem (d : Dict) (h : (keys d).Nodup) (k : String) (v : Val) (hm : (k, v) ∈ d) :
    dget d k = some v := by
  rw [dget_eq_lookup]; exact (Assoc.mem_iff_lookup h).1 hm

theorem dgetLast_eq_dget (d : Dict) (h : (keys d).Nodup) (k : String) : dgetLast d k = dget d k := by
  fun_induction dgetLast d k with
  | case1 => rfl
  | case2 k' v t k w hw ih =>
    obtain ⟨hk, ht⟩ := List.nodup_cons.1 h
    have hg := (ih ht).symm.trans hw
    rw [dget, if_neg fun e => hk (by rw [e]; exact List.mem_map.2 ⟨_, mem_of_dget t k w hg, rfl⟩), hg]
  | case3 v t k hw ih => rw [dget, if_pos rfl]
  | case4 k' v t k hw hne ih => rw [dget, if_neg hne, ← ih (List.nodup_cons.1 h).2, hw]

theorem dgetLast_none_of_not_mem (d : Dict) (k : String) (h : k ∉ keys d) : dgetLast d k = none := by
  induction d with
  | nil => rfl
  | cons hd t ih =>
    simp only [keys, List.map_cons, List.mem_cons, not_or] at h
    simp only [dgetLast, ih h.2, Ne.symm h.1, if_false]

theorem keys_zip_sublist (a : List String) (b : List Val) : (keys (a.zip b)).Sublist a := by
  induction a generalizing b with
  | nil => exact List.Sublist.slnil
  | cons x t ih =>
    cases b with
    | nil => exact List.nil_sublist _
    | cons y bt => exact (ih bt).cons_cons x

theorem nodup_keys_zip (a : List String) (b : List Val) (h : a.Nodup) : (keys (a.zip b)).Nodup :=
  h.sublist (keys_zip_sublist a b)

theorem wf_parts (s : Sig) (h : s.wf = true) :
    s.argNames.Nodup ∧ (keys s.kwOnly).Nodup ∧ (∀ k ∈ keys s.kwOnly, k ∉ s.argNames) := by
  simp only [Sig.wf, Bool.and_eq_true, decide_eq_true_eq, List.all_eq_true, Bool.not_eq_true',
    List.contains_eq_mem, decide_eq_false_iff_not] at h
  exact ⟨h.1.1.1.1.2, h.1.1.1.2, fun k hk => h.1.1.2 k hk⟩

theorem firstRequired_none (d : Dict) : firstRequired d = none ↔ ∀ kv ∈ d, kv.2 ≠ Val.required := by
  induction d with
  | nil => simp [firstRequired]
  | cons hd t ih => simp only [firstRequired, List.forall_mem_cons, ← ih]; grind

theorem firstRequired_some (d : Dict) (k : String) (h : firstRequired d = some k) : (k, Val.required) ∈ d := by
  fun_induction firstRequired d with
  | case1 => cases h
  | case2 k' u => cases h; exact List.mem_cons_self
  | case3 k' v u hv ih => exact List.mem_cons_of_mem _ (ih h)

theorem resolve_ok {s : Sig} {nPos : Nat} {kw r : Dict} {stack : List Dict}
    (h : resolve s nPos kw stack = .ok r) : r = newKwargs s nPos kw stack ∧ firstRequired r = none := by
  unfold resolve at h
  split at h
  · cases h
  · cases h; exact ⟨rfl, ‹_›⟩

theorem resolve_missing {s : Sig} {nPos : Nat} {kw : Dict} {stack : List Dict} {k : String} :
    resolve s nPos kw stack = .error (.missing k) ↔ firstRequired (newKwargs s nPos kw stack) = some k := by
  unfold resolve
  split <;> simp_all

theorem bind_ok {s : Sig} {pos : List Val} {nk b : Dict} (h : bind s pos nk = .ok b) :
    b = (s.argNames.drop 1).zip pos ++ nk := by
  have peel : ∀ {c : Prop} [Decidable c] {e : Except Err Dict}, (if c then .error .bind else e) = .ok b → e = .ok b := by
    intro c _ e h; split at h
    · cases h
    · exact h
  exact (Except.ok.inj (peel (peel (peel h)))).symm

theorem orElse_stack {st : Bool} {h : Heap} {s : List Nat} {r : Res} (hr : r.stack = s) :
    (orElse st h s r).stack = s := by
  unfold orElse; split <;> simp [hr]

theorem orElse_touched (st : Bool) (h : Heap) (s : List Nat) (r : Res) (i : Nat)
    (hi : i ∈ (orElse st h s r).touched) : i ∈ r.touched := by
  unfold orElse at hi; split at hi
  · cases hi
  · exact hi

/-- **every statement sequence leaves the stack of context objects exactly as it found it** - whatever
objects are entered (fresh, already active, left before), whatever raises, whatever the callbacks do -/
theorem exec_stack (E : Env) (p : Prog) : ∀ (h : Heap) (s : List Nat), (exec E h s p).stack = s := by
  intro h s
  fun_induction exec E h s p with
  | case3 h s id m pos kw caught fails next r n ih => exact orElse_stack ih        -- a call
  | case6 h s body next b n ihb ihn => exact ihn.trans ihb                                   -- `try:`
  | case12 h s id o sf body cb next ob ho b stop skip c s' n ihb ihc ihn =>                  -- `with o:`
    have hs' : s' = s := congrArg List.tail ((orElse_stack ihc).trans ihb)
    exact (orElse_stack ihn).trans hs'
  | _ => first | rfl | assumption

/-- `with o:` unfolded, with what `exec_stack` says put in: the body and the callbacks run under `o :: s`,
the rest of the sequence under `s` -/
theorem exec_enter {E : Env} {h : Heap} {s : List Nat} {id o : Nat} {sf : Bool} {body cb next : Prog} {ob : Obj}
    (ho : hget h o = some ob) :
    exec E h s (.enter id o sf body cb next) =
      let B := exec E h (o :: s) body
      let stop := if ob.stop then some (callRes E "send_signal" [.other "'stop'"] [] (frames B.heap (o :: s))) else none
      let C := orElse (match stop with | some r => r.isRejected || sf | none => false) B.heap (o :: s)
        (exec E B.heap (o :: s) cb)
      let N := orElse (B.raised || C.raised) C.heap s (exec E C.heap s next)
      ⟨N.heap, N.stack,
       Ev.enter id (inForce h (o :: s)) :: (B.evs ++ C.evs ++ [Ev.exit id stop (inForce h s) (inForce C.heap s)]) ++ N.evs,
       N.raised, B.touched ++ C.touched ++ N.touched⟩ := by
  have hc : ∀ sk h', (orElse sk h' (o :: s) (exec E h' (o :: s) cb)).stack = o :: s :=
    fun _ _ => orElse_stack (exec_stack E cb _ _)
  simp only [exec, ho, exec_stack, hc, List.tail_cons]
  rfl

theorem hget_hset (h : Heap) (o i : Nat) (v : Obj) : hget (hset h o v) i = if o = i then some v else hget h i := rfl

/-- heap `h'` holds what heap `h` holds at every object name outside `t` -/
def Unchanged (t : List Nat) (h h' : Heap) : Prop := ∀ i, i ∉ t → hget h' i = hget h i

theorem Unchanged.trans {t₁ t₂ : List Nat} {h h₁ h₂ : Heap} (a : Unchanged t₁ h h₁) (b : Unchanged t₂ h₁ h₂) :
    Unchanged (t₁ ++ t₂) h h₂ := fun i hi =>
  (b i fun hm => hi (List.mem_append_right _ hm)).trans (a i fun hm => hi (List.mem_append_left _ hm))

theorem Unchanged.cons {t : List Nat} {h h' : Heap} {o : Nat} {v : Obj} (a : Unchanged t (hset h o v) h') :
    Unchanged (o :: t) h h' := fun i hi => by
  rw [a i fun hm => hi (List.mem_cons_of_mem _ hm), hget_hset, if_neg fun e : o = i => hi (e ▸ List.mem_cons_self)]

theorem Unchanged.orElse {h' : Heap} {s : List Nat} {r : Res} (st : Bool) (a : Unchanged r.touched h' r.heap) :
    Unchanged (orElse st h' s r).touched h' (orElse st h' s r).heap := by
  unfold Rig.C18.orElse; split
  · exact fun _ _ => rfl
  · exact a

theorem exec_unchanged (E : Env) (p : Prog) : ∀ (h : Heap) (s : List Nat),
    Unchanged (exec E h s p).touched h (exec E h s p).heap := by
  intro h s
  fun_induction exec E h s p with
  | case3 h s id m pos kw caught fails next r n ih => exact ih.orElse _
  | case6 h s body next b n ihb ihn => exact ihb.trans ihn
  | case12 h s id o sf body cb next ob ho b stop skip c s' n ihb ihc ihn =>
    exact (ihb.trans (ihc.orElse _)).trans (ihn.orElse _)
  | case5 | case7 | case10 => exact Unchanged.cons ‹_›      -- an object is updated or created
  | _ => first | exact fun _ _ => rfl | assumption

theorem frames_congr (h h' : Heap) (s : List Nat) (hs : ∀ i ∈ s, hget h' i = hget h i) :
    frames h' s = frames h s := by
  unfold frames
  apply List.map_congr_left
  intro i hi
  simp only [argsOf, hs i hi]

theorem exec_inForce (E : Env) (p : Prog) (h : Heap) (s : List Nat)
    (hd : ∀ i ∈ (exec E h s p).touched, i ∉ s) :
    inForce (exec E h s p).heap (exec E h s p).stack = inForce h s := by
  unfold inForce
  rw [exec_stack, frames_congr _ _ _ fun i hi => exec_unchanged E p h s i fun ht => hd i ht hi]

/-- `update_current_context` does not occur at the level of this statement sequence
(it may occur inside nested blocks and their callbacks, where it acts on the object entered there) -/
def noTopUpdate : Prog → Bool
  | .done => true
  | .raise => true
  | .call _ _ _ _ _ _ next => noTopUpdate next
  | .update _ _ => false
  | .new _ _ next => noTopUpdate next
  | .newApp _ _ _ _ next => noTopUpdate next
  | .enter _ _ _ _ _ next => noTopUpdate next
  | .attempt body next => noTopUpdate body && noTopUpdate next

/-- the object names a program creates or enters, at any depth -/
def oidsOf : Prog → List Nat
  | .done => []
  | .raise => []
  | .call _ _ _ _ _ _ next => oidsOf next
  | .update _ next => oidsOf next
  | .new o _ next => o :: oidsOf next
  | .newApp _ o _ _ next => o :: oidsOf next
  | .enter _ o _ body cb next => o :: (oidsOf body ++ oidsOf cb ++ oidsOf next)
  | .attempt body next => oidsOf body ++ oidsOf next

/-- static bound: only objects the program names can be created or updated, and the object on top
at the start only by an `update_current_context` at the program's own level -/
theorem touched_subset (E : Env) (p : Prog) : ∀ (h : Heap) (s : List Nat) (i : Nat),
    i ∈ (exec E h s p).touched → i ∈ oidsOf p ∨ (noTopUpdate p = false ∧ s.head? = some i) := by
  intro h s i hi
  -- by the cases of `exec`: once the stacks the parts run under are known, what is left is propositional
  fun_induction exec E h s p with
  | case3 h s id m pos kw caught fails next r n ih => exact ih (orElse_touched _ _ _ _ _ hi)
  | case6 h s body next b n ihb ihn =>
    have hb : b.stack = s := exec_stack E body h s
    simp only [oidsOf, noTopUpdate, List.mem_append, Bool.and_eq_false_iff] at hi ⊢
    grind
  | case12 h s _ o sf body cb next ob ho b stop skip c s' n ihb ihc ihn =>
    -- inside the block `o` is on top: whatever the body or the callbacks update there is `o`, which the block names
    have hb : b.stack = o :: s := exec_stack E body h (o :: s)
    have hs' : s' = s := congrArg List.tail ((orElse_stack (exec_stack E cb _ _)).trans hb)
    have hc := orElse_touched skip b.heap b.stack (exec E b.heap b.stack cb) i
    have hn := orElse_touched (b.raised || c.raised) c.heap s' (exec E c.heap s' next) i
    simp only [oidsOf, noTopUpdate, List.mem_cons, List.mem_append] at hi ⊢
    grind
  | case4 | case5 | case7 | case10 =>       -- `update_current_context`; an object is created
    simp only [oidsOf, noTopUpdate, List.mem_cons] at hi ⊢
    grind
  | _ => cases hi

theorem not_touched (E : Env) (p : Prog) (h : Heap) (s : List Nat) (i : Nat) (hf : i ∉ oidsOf p)
    (hu : noTopUpdate p = true) : i ∉ (exec E h s p).touched :=
  fun hi => (touched_subset E p h s i hi).elim hf fun h1 => by rw [hu] at h1; cases h1.1

end Rig.C18
