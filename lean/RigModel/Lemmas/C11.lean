/-
C11 - the hexagonal norm, minimal vectors, longest-dimension-first walks, distance in the mesh and (by lifting
walks) in the torus, the torus vector.
-/
import RigModel.Model.C11
import RigModel.Lemmas.Lists

namespace Rig.C11

/-! `hexLen x y` is the largest of the six linear forms `±x`, `±y`, `±(x - y)`.  Later proofs use the norm through
the `hexLen_*` lemmas only, so that `omega` never has to split nested `max`/`min` (which is very slow). -/

theorem hexLen_ge (x y : Int) :
    x ≤ hexLen x y ∧ -x ≤ hexLen x y ∧ y ≤ hexLen x y ∧ -y ≤ hexLen x y ∧
    x - y ≤ hexLen x y ∧ y - x ≤ hexLen x y := by
  have h1 := Int.le_max_left x y; have h2 := Int.le_max_right x y
  have h3 := Int.le_max_left (max x y) 0; have h4 := Int.le_max_right (max x y) 0
  have h5 := Int.min_le_left x y; have h6 := Int.min_le_right x y
  have h7 := Int.min_le_left (min x y) 0; have h8 := Int.min_le_right (min x y) 0
  simp only [hexLen]
  generalize max x y = a at *; generalize max a 0 = M at *
  generalize min x y = b at *; generalize min b 0 = m at *
  omega

theorem hexLen_of_nonneg {x y : Int} (hx : 0 ≤ x) (hy : 0 ≤ y) : hexLen x y = max x y := by
  rw [hexLen, Int.max_eq_left (Int.le_trans hx (Int.le_max_left x y)),
    Int.min_eq_right (Int.le_min.2 ⟨hx, hy⟩), Int.sub_zero]

theorem hexLen_of_nonneg_nonpos {x y : Int} (hx : 0 ≤ x) (hy : y ≤ 0) : hexLen x y = x - y := by
  rw [hexLen, Int.max_eq_left (Int.le_trans hy hx), Int.max_eq_left hx,
    Int.min_eq_right (Int.le_trans hy hx), Int.min_eq_left hy]

theorem hexLen_comm (x y : Int) : hexLen x y = hexLen y x := by
  rw [hexLen, hexLen, Int.max_comm x y, Int.min_comm x y]

theorem hexLen_neg (x y : Int) : hexLen (-x) (-y) = hexLen x y := by
  rw [hexLen, hexLen, Int.neg_max_neg, Int.neg_min_neg, ← Int.neg_zero, Int.neg_max_neg, Int.neg_min_neg,
    Int.neg_zero]
  generalize max (max x y) 0 = M
  generalize min (min x y) 0 = m
  omega

theorem hexLen_eq_of_sector {x y n : Int}
    (h : 0 ≤ x ∧ y < 0 ∧ x - y = n ∨ 0 ≤ y ∧ y < x ∧ x = n ∨ 0 < x ∧ x ≤ y ∧ y = n ∨
      x ≤ 0 ∧ 0 < y ∧ y - x = n ∨ x < y ∧ y ≤ 0 ∧ -x = n ∨ y ≤ x ∧ x < 0 ∧ -y = n) : hexLen x y = n := by
  rcases h with ⟨h1, h2, rfl⟩ | ⟨h1, h2, rfl⟩ | ⟨h1, h2, rfl⟩ | ⟨h1, h2, rfl⟩ | ⟨h1, h2, rfl⟩ | ⟨h1, h2, rfl⟩
  · exact hexLen_of_nonneg_nonpos h1 (Int.le_of_lt h2)
  · rw [hexLen_of_nonneg (Int.le_trans h1 (Int.le_of_lt h2)) h1, Int.max_eq_left (Int.le_of_lt h2)]
  · rw [hexLen_of_nonneg (Int.le_of_lt h1) (Int.le_trans (Int.le_of_lt h1) h2), Int.max_eq_right h2]
  · rw [hexLen_comm]; exact hexLen_of_nonneg_nonpos (Int.le_of_lt h2) h1
  · rw [← hexLen_neg, hexLen_of_nonneg (Int.neg_nonneg_of_nonpos (Int.le_trans (Int.le_of_lt h1) h2))
      (Int.neg_nonneg_of_nonpos h2), Int.max_eq_left (Int.neg_le_neg (Int.le_of_lt h1))]
  · rw [← hexLen_neg, hexLen_of_nonneg (Int.neg_nonneg_of_nonpos (Int.le_of_lt h2))
      (Int.neg_nonneg_of_nonpos (Int.le_trans h1 (Int.le_of_lt h2))), Int.max_eq_right (Int.neg_le_neg h1)]

theorem hexLen_eq_iff_sector {x y n : Int} (hn : 1 ≤ n) : hexLen x y = n ↔
    0 ≤ x ∧ y < 0 ∧ x - y = n ∨ 0 ≤ y ∧ y < x ∧ x = n ∨ 0 < x ∧ x ≤ y ∧ y = n ∨
    x ≤ 0 ∧ 0 < y ∧ y - x = n ∨ x < y ∧ y ≤ 0 ∧ -x = n ∨ y ≤ x ∧ x < 0 ∧ -y = n := by
  refine ⟨fun hd => ?_, hexLen_eq_of_sector⟩
  have val := fun {m : Int} h => (hexLen_eq_of_sector (x := x) (y := y) (n := m) h).symm.trans hd
  rcases Int.lt_or_le y 0 with hy | hy
  · rcases Int.lt_or_le x 0 with hx | hx
    · rcases Int.lt_or_le x y with hxy | hxy
      · exact .inr (.inr (.inr (.inr (.inl ⟨hxy, Int.le_of_lt hy,
          val (.inr (.inr (.inr (.inr (.inl ⟨hxy, Int.le_of_lt hy, rfl⟩)))))⟩))))
      · exact .inr (.inr (.inr (.inr (.inr ⟨hxy, hx, val (.inr (.inr (.inr (.inr (.inr ⟨hxy, hx, rfl⟩)))))⟩))))
    · exact .inl ⟨hx, hy, val (.inl ⟨hx, hy, rfl⟩)⟩
  · rcases Int.lt_or_le y x with hxy | hxy
    · exact .inr (.inl ⟨hy, hxy, val (.inr (.inl ⟨hy, hxy, rfl⟩))⟩)
    · rcases Int.lt_or_le 0 x with hx | hx
      · exact .inr (.inr (.inl ⟨hx, hxy, val (.inr (.inr (.inl ⟨hx, hxy, rfl⟩)))⟩))
      · rcases Int.lt_or_le 0 y with hy' | hy'
        · exact .inr (.inr (.inr (.inl ⟨hx, hy', val (.inr (.inr (.inr (.inl ⟨hx, hy', rfl⟩))))⟩)))
        · -- `y = 0`, and `x < 0` because the norm is not 0
          have hx' : x < y := Int.lt_of_not_ge fun h => by
            cases Int.le_antisymm hx (Int.le_trans hy h)
            cases Int.le_antisymm hy' hy
            have : hexLen 0 0 = 0 := by decide
            omega
          exact .inr (.inr (.inr (.inr (.inl ⟨hx', hy', val (.inr (.inr (.inr (.inr (.inl ⟨hx', hy', rfl⟩)))))⟩))))

theorem hexLen_attained (x y : Int) :
    hexLen x y = x ∨ hexLen x y = -x ∨ hexLen x y = y ∨ hexLen x y = -y ∨
    hexLen x y = x - y ∨ hexLen x y = y - x := by
  have mc : ∀ a b : Int, max a b = a ∨ max a b = b := fun a b => by omega
  rcases Int.le_total 0 x with hx | hx <;> rcases Int.le_total 0 y with hy | hy
  · rw [hexLen_of_nonneg hx hy]; rcases mc x y with h | h <;> simp [h]
  · rw [hexLen_of_nonneg_nonpos hx hy]; simp
  · rw [hexLen_comm, hexLen_of_nonneg_nonpos hy hx]; simp
  · rw [← hexLen_neg, hexLen_of_nonneg (Int.neg_nonneg_of_nonpos hx) (Int.neg_nonneg_of_nonpos hy)]
    rcases mc (-x) (-y) with h | h <;> simp [h]

theorem hexLen_le_iff {x y n : Int} :
    hexLen x y ≤ n ↔ x ≤ n ∧ -x ≤ n ∧ y ≤ n ∧ -y ≤ n ∧ x - y ≤ n ∧ y - x ≤ n := by
  have := hexLen_ge x y
  have := hexLen_attained x y
  omega

theorem hexLen_nonneg (x y : Int) : 0 ≤ hexLen x y := by have := hexLen_ge x y; omega

theorem hexLen_add_le (x y a b : Int) : hexLen (x + a) (y + b) ≤ hexLen x y + hexLen a b := by
  have := hexLen_ge x y
  have := hexLen_ge a b
  rw [hexLen_le_iff]; omega

theorem hexLen_mono {x x' y y' : Int} (hx : 0 ≤ x ∧ x ≤ x' ∨ x' ≤ x ∧ x ≤ 0)
    (hy : 0 ≤ y ∧ y ≤ y' ∨ y' ≤ y ∧ y ≤ 0) : hexLen x y ≤ hexLen x' y' := by
  have := hexLen_ge x' y'
  rw [hexLen_le_iff]; omega

theorem ite_gt_eq_max (a b : Int) : (if a > b then a else b) = max a b := by omega
theorem ite_lt_eq_min (a b : Int) : (if a < b then a else b) = min a b := by omega

theorem hexLen_sub (x y z : Int) : hexLen (x - z) (y - z) = max z (max y x) - min z (min y x) := by
  rw [hexLen, ← Int.sub_self z, Int.sub_max_sub_right, Int.sub_max_sub_right, Int.sub_min_sub_right,
    Int.sub_min_sub_right, Int.max_comm x y, Int.max_comm _ z, Int.min_comm x y, Int.min_comm _ z]
  omega

theorem hexLen_of_step : ∀ d ∈ hexSteps, hexLen d.1 d.2 = 1 := by decide

@[simp] theorem stepTo_none (p d : P2) : stepTo none none p d = (p.1 + d.1, p.2 + d.2) := rfl

theorem reach_mesh_lower {n : Nat} {a b : P2} (h : Reach none none n a b) :
    hexLen (b.1 - a.1) (b.2 - a.2) ≤ n := by
  induction h with
  | refl a => simp [hexLen]
  | @step n a b d hr hd ih =>
    have := hexLen_of_step d hd ▸ hexLen_add_le (b.1 - a.1) (b.2 - a.2) d.1 d.2
    rw [stepTo_none, show b.1 + d.1 - a.1 = b.1 - a.1 + d.1 by omega,
      show b.2 + d.2 - a.2 = b.2 - a.2 + d.2 by omega]
    omega

/-- minimal form: the median component is zero -/
def Minimal (v : V3) : Prop := max (min v.x v.y) (min (max v.x v.y) v.z) = 0

theorem Minimal.signs {v : V3} (hv : Minimal v) :
    (0 < v.x → v.y ≤ 0 ∧ v.z ≤ 0) ∧ (v.x < 0 → 0 ≤ v.y ∧ 0 ≤ v.z) ∧
    (0 < v.y → v.z ≤ 0) ∧ (v.y < 0 → 0 ≤ v.z) := by
  have hv : max (min v.x v.y) (min (max v.x v.y) v.z) = 0 := hv
  omega

theorem absSum_of_minimal {v : V3} (hv : Minimal v) : absSum v = hexLen (proj v).1 (proj v).2 := by
  apply Int.le_antisymm
  · have := hv.signs
    have := hexLen_ge (v.x - v.z) (v.y - v.z)
    simp only [absSum, proj]; omega
  · have nb : ∀ a : Int, a ≤ a.natAbs ∧ -a ≤ a.natAbs :=
      fun a => ⟨Int.le_natAbs, Int.natAbs_neg a ▸ Int.le_natAbs (a := -a)⟩
    have := nb v.x; have := nb v.y; have := nb v.z
    simp only [proj, hexLen_le_iff, absSum]
    generalize (v.x.natAbs : Int) = a at *
    generalize (v.y.natAbs : Int) = b at *
    generalize (v.z.natAbs : Int) = c at *
    omega

theorem minimise_spec (v : V3) :
    proj (minimiseXyz v) = proj v ∧ Minimal (minimiseXyz v) ∧
    absSum (minimiseXyz v) = hexLen (proj v).1 (proj v).2 := by
  have hp : proj (minimiseXyz v) = proj v := by
    simp only [minimiseXyz, proj]
    generalize max (min v.x v.y) (min (max v.x v.y) v.z) = m
    ext <;> simp only <;> omega
  have hm : Minimal (minimiseXyz v) := by
    simp only [Minimal, minimiseXyz, Int.sub_min_sub_right, Int.sub_max_sub_right, Int.sub_self]
  exact ⟨hp, hm, hp ▸ absSum_of_minimal hm⟩

theorem randint_range (lo hi : Int) (t : Nat) (h : lo ≤ hi) :
    lo ≤ randint lo hi t ∧ randint lo hi t ≤ hi := by
  have h1 := Int.emod_nonneg (t : Int) (b := hi - lo + 1) (by omega)
  have h2 := Int.emod_lt_of_pos (t : Int) (b := hi - lo + 1) (by omega)
  simp only [randint]; omega

theorem spiral_bound (x m : Int) (hm : 0 < m) (t : Nat) :
    let ms := pyDiv (if x < 0 then x + m - 1 else x) m
    let d := randint (min 0 ms) (max 0 ms) t * m
    (0 ≤ x → 0 ≤ d ∧ d ≤ x) ∧ (x < 0 → x ≤ d ∧ d ≤ 0) ∧ ∃ r : Int, d = m * r := by
  intro ms d
  have hm0 := Int.le_of_lt hm
  obtain ⟨r, hd, hr1, hr2⟩ : ∃ r, d = r * m ∧ (0 ≤ ms → 0 ≤ r ∧ r ≤ ms) ∧ (ms ≤ 0 → ms ≤ r ∧ r ≤ 0) := by
    have hr := randint_range (min 0 ms) (max 0 ms) t (by omega)
    exact ⟨_, rfl, by omega, by omega⟩
  refine ⟨fun hx => ?_, fun hx => ?_, r, by rw [hd, Int.mul_comm]⟩
  · have hms : ms = x / m := by
      simp only [ms, pyDiv, if_neg (Int.not_lt.2 hx)]
      exact Int.fdiv_eq_ediv_of_nonneg _ hm0
    obtain ⟨r0, r1⟩ := hr1 (hms ▸ Int.ediv_nonneg hx hm0)
    have h2 : x / m * m ≤ x := Int.ediv_mul_le x (Int.ne_of_gt hm)
    have h3 := Int.mul_le_mul_of_nonneg_right (hms ▸ r1) hm0
    have h4 := Int.mul_nonneg r0 hm0
    omega
  · have hms : ms = (x + m - 1) / m := by
      simp only [ms, pyDiv, if_pos hx]
      exact Int.fdiv_eq_ediv_of_nonneg _ hm0
    -- `(x + m - 1) / m` is `x / m` rounded up: not above 0, and its multiple of `m` not below `x`
    have h1 : (x + m - 1) / m < 1 := Int.ediv_lt_of_lt_mul hm (by omega)
    obtain ⟨r0, r1⟩ := hr2 (by omega)
    have h2 := Int.emod_def (x + m - 1) m
    have h0 := Int.emod_lt_of_pos (x + m - 1) hm
    have h3 := Int.mul_le_mul_of_nonneg_right (hms ▸ r0) hm0
    have h4 := Int.mul_nonpos_of_nonpos_of_nonneg r1 hm0
    rw [Int.mul_comm] at h2
    omega

theorem natAbs_shift {x z d : Int} (h0 : x ≠ 0) (b1 : 0 ≤ x → 0 ≤ d ∧ d ≤ x) (b2 : x < 0 → x ≤ d ∧ d ≤ 0)
    (z1 : 0 < x → z ≤ 0) (z2 : x < 0 → 0 ≤ z) :
    ((x - d).natAbs : Int) + (z - d).natAbs = x.natAbs + z.natAbs := by
  rcases Int.lt_or_gt_of_ne h0 with h | h
  · obtain ⟨h1, h2⟩ := b2 h
    have h3 := z2 h
    rw [Int.ofNat_natAbs_of_nonpos (Int.sub_nonpos_of_le h1), Int.ofNat_natAbs_of_nonpos (Int.le_of_lt h),
      Int.natAbs_of_nonneg (Int.sub_nonneg_of_le (Int.le_trans h2 h3)), Int.natAbs_of_nonneg h3]
    omega
  · obtain ⟨h1, h2⟩ := b1 (Int.le_of_lt h)
    have h3 := z1 h
    rw [Int.natAbs_of_nonneg (Int.sub_nonneg_of_le h2), Int.natAbs_of_nonneg (Int.le_of_lt h),
      Int.ofNat_natAbs_of_nonpos (Int.sub_nonpos_of_le (Int.le_trans h3 h1)), Int.ofNat_natAbs_of_nonpos h3]
    omega

theorem spiral_ok (v : V3) (w h : Int) (hw : 0 < w) (hh : 0 < h) (hv : Minimal v) (t : Nat) :
    absSum (spiral v w h t) = absSum v ∧
    ∃ i j : Int, (proj (spiral v w h t)).1 = (proj v).1 + w * i ∧
      (proj (spiral v w h t)).2 = (proj v).2 + h * j := by
  have hs := hv.signs
  by_cases hc : (v.x.natAbs : Int) ≥ h
  · have h0 : v.x ≠ 0 := by omega
    obtain ⟨b1, b2, r, hr⟩ := spiral_bound v.x h hh t
    simp only [spiral, if_pos hc]
    generalize randint _ _ t * h = d at *
    have := natAbs_shift h0 b1 b2 (fun h => (hs.1 h).2) (fun h => (hs.2.1 h).2)
    exact ⟨by simp only [absSum]; omega, 0, r, by simp only [proj]; omega, by simp only [proj]; omega⟩
  · by_cases hc' : (v.y.natAbs : Int) ≥ w
    · have h0 : v.y ≠ 0 := by omega
      obtain ⟨b1, b2, r, hr⟩ := spiral_bound v.y w hw t
      simp only [spiral, if_neg hc, if_pos hc']
      generalize randint _ _ t * w = d at *
      have := natAbs_shift h0 b1 b2 hs.2.2.1 hs.2.2.2
      exact ⟨by simp only [absSum]; omega, r, 0, by simp only [proj]; omega, by simp only [proj]; omega⟩
    · rw [spiral, if_neg hc, if_neg hc']
      exact ⟨rfl, 0, 0, by omega, by omega⟩

theorem lastPos_cons (p : P2) (e : Nat × P2) (rest : List (Nat × P2)) :
    lastPos p (e :: rest) = lastPos e.2 rest := by
  cases rest with
  | nil => simp [lastPos]
  | cons a t =>
    rw [lastPos, lastPos, List.getLast?_cons_cons]
    cases hh : (a :: t).getLast? with
    | none => simp at hh
    | some x => rfl

theorem specVec_lt {l : Nat} {d : P2} (h : specVec l = some d) : l < 6 := by
  rcases Nat.lt_or_ge l 6 with h6 | h6
  · exact h6
  · obtain ⟨n, rfl⟩ := Nat.exists_eq_add_of_le h6
    rw [Nat.add_comm] at h; exact nomatch h

theorem specVec_facts : ∀ l < 6, ∀ d ∈ specVec l,
    d ∈ hexSteps ∧ (d.1 = -1 ∨ d.1 = 0 ∨ d.1 = 1) ∧ (d.2 = -1 ∨ d.2 = 0 ∨ d.2 = 1) ∧ lookupDir d = some l := by
  decide

theorem specVec_mem {l : Nat} {d : P2} (h : specVec l = some d) : d ∈ hexSteps :=
  (specVec_facts l (specVec_lt h) d h).1

theorem reach_cons {w h : Option Int} {n : Nat} {p q b : P2} {d : P2} (hd : d ∈ hexSteps)
    (hq : q = stepTo w h p d) (r : Reach w h n q b) : Reach w h (n + 1) p b := by
  induction r with
  | refl a => subst hq; exact Reach.step d (Reach.refl p) hd
  | step d' hr hd' ih => exact Reach.step d' (ih hq) hd'

theorem walkOk_cons {w h : Option Int} {p : P2} {l : Nat} {q : P2} {rest : List (Nat × P2)}
    (hok : walkOk w h p ((l, q) :: rest) = true) :
    ∃ d, specVec l = some d ∧ d ∈ hexSteps ∧ q = stepTo w h p d ∧ walkOk w h q rest = true := by
  simp only [walkOk, Bool.and_eq_true] at hok
  cases hs : specVec l with
  | none => simp [hs] at hok
  | some d =>
    simp only [hs, beq_iff_eq] at hok
    exact ⟨d, rfl, specVec_mem hs, hok.1.symm, hok.2⟩

theorem walkOk_reach (w h : Option Int) (p : P2) (path : List (Nat × P2)) (hok : walkOk w h p path = true) :
    Reach w h path.length p (lastPos p path) := by
  induction path generalizing p with
  | nil => exact Reach.refl p
  | cons e rest ih =>
    obtain ⟨d, _, hd, hq, hrest⟩ := walkOk_cons hok
    rw [lastPos_cons]
    exact reach_cons hd hq (ih _ hrest)

theorem walkOk_suffix {w h : Option Int} : ∀ (pre : List (Nat × P2)) (p : P2) (d : Nat) (q : P2)
    (rest : List (Nat × P2)), walkOk w h p (pre ++ (d, q) :: rest) = true → walkOk w h q rest = true
  | [], _, _, _, _, hok => (walkOk_cons hok).choose_spec.2.2.2
  | (_, x) :: pre, _, d, q, rest, hok => walkOk_suffix pre x d q rest (walkOk_cons hok).choose_spec.2.2.2

theorem lastPos_append_cons (p : P2) : ∀ (pre : List (Nat × P2)) (e : Nat × P2) (rest : List (Nat × P2)),
    lastPos p (pre ++ e :: rest) = lastPos e.2 rest
  | [], e, rest => lastPos_cons p e rest
  | a :: pre, e, rest => by rw [List.cons_append, lastPos_cons]; exact lastPos_append_cons a.2 pre e rest

theorem lastPos_mem (p : P2) : ∀ (path : List (Nat × P2)), lastPos p path = p ∨ lastPos p path ∈ path.map (·.2)
  | [] => Or.inl rfl
  | e :: rest => by
    rw [lastPos_cons]
    rcases lastPos_mem e.2 rest with h | h
    · exact Or.inr (by rw [h]; exact List.mem_cons_self)
    · exact Or.inr (List.mem_cons_of_mem _ h)

/-! The covering map.  `wrapP w h p` is the chip that the point `p` of the unbounded mesh stands for on a machine with
periods `w`, `h`.  A step depends on where it starts only through `wrapP` (`stepTo_cong`), so what walks on the machine
is the image, chip by chip, of what walks on the mesh, and "equal up to the periods" is equality of images.  Nothing
here asks the periods to be positive. -/

def wrapP (w h : Option Int) (p : P2) : P2 := (wrap p.1 w, wrap p.2 h)

def wrapE (w h : Option Int) (e : Nat × P2) : Nat × P2 := (e.1, wrapP w h e.2)

theorem wrap_add_cong {a b : Int} {w : Option Int} (e : wrap a w = wrap b w) (d : Int) :
    wrap (a + d) w = wrap (b + d) w := by
  cases w with
  | none => exact congrArg (· + d) e
  | some m => exact Int.add_fmod_eq_add_fmod_right d e

theorem wrapP_wrapP (w h : Option Int) (p : P2) : wrapP w h (wrapP w h p) = wrapP w h p := by
  cases w <;> cases h <;> simp only [wrapP, wrap, pyMod, Int.fmod_fmod]

theorem stepTo_cong {w h : Option Int} {p p' : P2} (e : wrapP w h p' = wrapP w h p) (d : P2) :
    stepTo w h p' d = wrapP w h (stepTo none none p d) :=
  Prod.ext (wrap_add_cong (congrArg Prod.fst e) d.1) (wrap_add_cong (congrArg Prod.snd e) d.2)

theorem congr?_iff {a b : Int} {w : Option Int} : congr? a b w = true ↔ wrap a w = wrap b w := by
  cases w with
  | none => simp only [congr?, wrap, beq_iff_eq]
  | some m =>
    simp only [congr?, wrap, pyMod, beq_iff_eq, Int.fmod_eq_fmod_iff_fmod_sub_eq_zero, ← Int.dvd_iff_emod_eq_zero,
      ← Int.dvd_iff_fmod_eq_zero]

theorem walkOk_wrap {w h : Option Int} : ∀ (path : List (Nat × P2)) {p p' : P2}, wrapP w h p' = wrapP w h p →
    walkOk none none p path = true → walkOk w h p' (path.map (wrapE w h)) = true
  | [], _, _, _, _ => rfl
  | (l, q) :: rest, p, p', e, hok => by
    obtain ⟨d, hs, _, hq, hrest⟩ := walkOk_cons hok
    simp only [List.map_cons, wrapE, walkOk, hs, stepTo_cong e d, ← hq, beq_self_eq_true, Bool.true_and]
    exact walkOk_wrap rest (wrapP_wrapP ..) hrest

theorem lastPos_wrap (w h : Option Int) : ∀ (path : List (Nat × P2)) {p p' : P2}, wrapP w h p' = wrapP w h p →
    wrapP w h (lastPos p' (path.map (wrapE w h))) = wrapP w h (lastPos p path)
  | [], _, _, e => e
  | x :: rest, p, p', _ => by
    rw [List.map_cons, lastPos_cons, lastPos_cons]
    exact lastPos_wrap w h rest (wrapP_wrapP ..)

theorem lastPos_fixed (w h : Option Int) : ∀ (path : List (Nat × P2)) {p : P2}, wrapP w h p = p →
    wrapP w h (lastPos p (path.map (wrapE w h))) = lastPos p (path.map (wrapE w h))
  | [], _, e => e
  | x :: rest, _, _ => by
    rw [List.map_cons, lastPos_cons]
    exact lastPos_fixed w h rest (wrapP_wrapP ..)

theorem reach_wrap {w h : Option Int} {n : Nat} {a b : P2} (r : Reach none none n a b) :
    Reach w h n (wrapP w h a) (wrapP w h b) := by
  induction r with
  | refl a => exact Reach.refl _
  | step d _ hd ih => exact stepTo_cong (wrapP_wrapP ..) d ▸ Reach.step d ih hd

theorem reach_unwrap {w h : Option Int} {n : Nat} {a b : P2} (r : Reach w h n a b) :
    ∃ b', wrapP w h b' = wrapP w h b ∧ Reach none none n a b' := by
  induction r with
  | refl a => exact ⟨a, rfl, Reach.refl a⟩
  | step d _ hd ih =>
    obtain ⟨b', e, r'⟩ := ih
    exact ⟨stepTo none none b' d, by rw [stepTo_cong e.symm d, wrapP_wrapP], Reach.step d r' hd⟩

theorem emod_range {w : Int} (hw : 0 < w) (a : Int) : 0 ≤ a % w ∧ a % w < w :=
  ⟨Int.emod_nonneg _ (Int.ne_of_gt hw), Int.emod_lt_of_pos _ hw⟩

theorem wrap_some_pos {m : Int} (hm : 0 < m) (c : Int) : wrap c (some m) = c % m := by
  simp [wrap, pyMod, Int.fmod_eq_emod_of_nonneg _ (Int.le_of_lt hm)]

theorem stepTo_some {w h : Int} (hw : 0 < w) (hh : 0 < h) (p d : P2) :
    stepTo (some w) (some h) p d = ((p.1 + d.1) % w, (p.2 + d.2) % h) := by
  simp [stepTo, wrap_some_pos hw, wrap_some_pos hh]

theorem wrapP_pos {w h : Int} (hw : 0 < w) (hh : 0 < h) (p : P2) : wrapP (some w) (some h) p = (p.1 % w, p.2 % h) :=
  Prod.ext (wrap_some_pos hw _) (wrap_some_pos hh _)

/-- the model's `walkDim` with the label looked up (`walkDim_eq`) -/
def segP (w h : Option Int) (l : Nat) (dv : P2) : Nat → P2 → List (Nat × P2)
  | 0, _ => []
  | n + 1, p => let q := stepTo w h p dv; (l, q) :: segP w h l dv n q

def some1 (e : Nat × P2) : Option Nat × P2 := (some e.1, e.2)

theorem walkDim_eq (w h : Option Int) (l : Nat) (dv : P2) (n : Nat) (p : P2) :
    walkDim w h dv (some l) n p = (segP w h l dv n p).map some1 := by
  induction n generalizing p with
  | zero => rfl
  | succ n ih => simp [walkDim, segP, ih, some1]

theorem segP_length (w h : Option Int) (l : Nat) (dv : P2) (n : Nat) (p : P2) :
    (segP w h l dv n p).length = n := by
  induction n generalizing p with
  | zero => rfl
  | succ n ih => simp [segP, ih]

theorem segP_walk (w h : Option Int) (l : Nat) (dv : P2) (hl : specVec l = some dv) (n : Nat) (p : P2)
    (rest : List (Nat × P2)) :
    walkOk w h p (segP w h l dv n p ++ rest) = walkOk w h (posAfter w h dv n p) rest ∧
    lastPos p (segP w h l dv n p ++ rest) = lastPos (posAfter w h dv n p) rest := by
  induction n generalizing p with
  | zero => simp [segP, posAfter]
  | succ n ih =>
    obtain ⟨i1, i2⟩ := ih (stepTo w h p dv)
    simp only [segP, posAfter, List.cons_append, walkOk, hl, lastPos_cons, i1, i2]
    simp

theorem segP_wrap (w h : Option Int) (l : Nat) (dv : P2) : ∀ (n : Nat) {p p' : P2}, wrapP w h p' = wrapP w h p →
    segP w h l dv n p' = (segP none none l dv n p).map (wrapE w h) ∧
    wrapP w h (posAfter w h dv n p') = wrapP w h (posAfter none none dv n p)
  | 0, _, _, e => ⟨rfl, e⟩
  | n + 1, p, p', e => by
    have s := stepTo_cong e dv
    obtain ⟨i1, i2⟩ := segP_wrap w h l dv n (p := stepTo none none p dv) (p' := stepTo w h p' dv)
      (by rw [s, wrapP_wrapP])
    rw [s] at i1 i2
    simp only [segP, posAfter, List.map_cons, wrapE, i1, i2, s, and_self]

theorem posAfter_none (dv : P2) (n : Nat) (p : P2) :
    posAfter none none dv n p = (p.1 + n * dv.1, p.2 + n * dv.2) := by
  induction n generalizing p with
  | zero => simp [posAfter]
  | succ n ih =>
    rw [posAfter, ih, stepTo_none, Int.natCast_succ, Int.add_mul, Int.add_mul]
    ext <;> simp only <;> omega

/-- the link label the code looks up for one unit step of a dimension -/
def labOf (dim : Nat) (mag : Int) : Nat :=
  if dim = 0 then (if mag > 0 then 0 else 3)
  else if dim = 1 then (if mag > 0 then 2 else 5)
  else (if mag > 0 then 4 else 1)

def dvOf (dim : Nat) (mag : Int) : P2 := unitOf dim (if mag > 0 then 1 else -1)

theorem lab_ok (dim : Nat) (mag : Int) :
    fromVector (dvOf dim mag).1 (dvOf dim mag).2 = some (labOf dim mag) ∧
    specVec (labOf dim mag) = some (dvOf dim mag) := by
  by_cases h0 : dim = 0 <;> by_cases h1 : dim = 1 <;> by_cases hm : mag > 0 <;>
    simp only [dvOf, labOf, unitOf, h0, h1, hm, if_true, if_false] <;> decide

def itemPath (w h : Option Int) (it : Nat × Int × Int) (p : P2) : List (Nat × P2) :=
  segP w h (labOf it.1 it.2.1) (dvOf it.1 it.2.1) it.2.1.natAbs p

def itemEnd (w h : Option Int) (it : Nat × Int × Int) (p : P2) : P2 :=
  posAfter w h (dvOf it.1 it.2.1) it.2.1.natAbs p

theorem itemPath_zero (w h : Option Int) (it : Nat × Int × Int) (p : P2) (hz : it.2.1 = 0) :
    itemPath w h it p = [] ∧ itemEnd w h it p = p := by
  simp [itemPath, itemEnd, hz, segP, posAfter]

/-- the walk for a list of (dimension, magnitude, key) items: one straight segment per item -/
def itemsPath (w h : Option Int) : List (Nat × Int × Int) → P2 → List (Nat × P2)
  | [], _ => []
  | it :: rest, p => itemPath w h it p ++ itemsPath w h rest (itemEnd w h it p)

theorem itemsPath_zero (w h : Option Int) : ∀ (items : List (Nat × Int × Int)) (p : P2),
    (∀ it ∈ items, it.2.1 = 0) → itemsPath w h items p = []
  | [], _, _ => rfl
  | it :: rest, p, hz => by
    obtain ⟨e1, e2⟩ := itemPath_zero w h it p (hz it (List.mem_cons_self ..))
    rw [itemsPath, e1, e2, List.nil_append]
    exact itemsPath_zero w h rest p fun it hi => hz it (List.mem_cons_of_mem _ hi)

/-- with zero magnitudes last, `break` loses nothing: the loop output is the segments of all items -/
theorem ldfLoop_eq (w h : Option Int) (items : List (Nat × Int × Int)) (p : P2)
    (hp : items.Pairwise (fun a b => a.2.1 = 0 → b.2.1 = 0)) :
    ldfLoop w h items p = (itemsPath w h items p).map some1 := by
  fun_induction ldfLoop w h items p with
  | case1 p => rfl
  | case2 dim k rest p =>
    rw [List.pairwise_cons] at hp
    rw [itemsPath_zero w h _ p (List.forall_mem_cons.2 ⟨rfl, fun b hb => hp.1 b hb rfl⟩)]; rfl
  | case3 dim mag k rest p hm sign dv ih =>
    have hl := (lab_ok dim mag).1
    simp only [dvOf] at hl
    simp only [dv, sign, hl, walkDim_eq, itemsPath, List.map_append, ih (List.pairwise_cons.1 hp).2]
    rfl

theorem mapM_some1 (path : List (Nat × P2)) :
    (path.map some1).mapM (fun e : Option Nat × P2 =>
      match e.1 with
      | some l => (Except.ok (l, e.2) : Except Err (Nat × P2))
      | none => .error .keyError) = .ok path := by
  induction path with
  | nil => rfl
  | cons a t ih =>
    simp only [List.map_cons, List.mapM_cons, some1, ih]
    rfl

theorem itemsPath_wrap (w h : Option Int) : ∀ (items : List (Nat × Int × Int)) {p p' : P2},
    wrapP w h p' = wrapP w h p → itemsPath w h items p' = (itemsPath none none items p).map (wrapE w h)
  | [], _, _, _ => rfl
  | it :: rest, p, p', e => by
    obtain ⟨i1, i2⟩ := segP_wrap w h (labOf it.1 it.2.1) (dvOf it.1 it.2.1) it.2.1.natAbs e
    rw [itemsPath, itemsPath, List.map_append, itemPath, itemPath, i1]
    exact congrArg _ (itemsPath_wrap w h rest i2)

theorem itemsPath_mesh : ∀ (items : List (Nat × Int × Int)) (p : P2),
    walkOk none none p (itemsPath none none items p) = true ∧
    ((itemsPath none none items p).length : Int) = (items.map fun it => (it.2.1.natAbs : Int)).sum ∧
    lastPos p (itemsPath none none items p) =
      (p.1 + (items.map fun it => (it.2.1.natAbs : Int) * (dvOf it.1 it.2.1).1).sum,
       p.2 + (items.map fun it => (it.2.1.natAbs : Int) * (dvOf it.1 it.2.1).2).sum)
  | [], p => ⟨rfl, rfl, by simp [itemsPath, lastPos]⟩
  | it :: rest, p => by
    obtain ⟨hw, hl, he⟩ := itemsPath_mesh rest (itemEnd none none it p)
    obtain ⟨s1, s2⟩ := segP_walk none none _ _ (lab_ok it.1 it.2.1).2 it.2.1.natAbs p
      (itemsPath none none rest (itemEnd none none it p))
    refine ⟨s1.trans hw, ?_, (s2.trans he).trans ?_⟩
    · simp only [itemsPath, itemPath, List.length_append, segP_length, List.map_cons, List.sum_cons]
      omega
    · rw [itemEnd, posAfter_none]
      simp only [List.map_cons, List.sum_cons]
      ext <;> simp only <;> omega

theorem key_le (a b : Int) (den ka kb : Nat) (hkb : kb < den)
    (h : a * den + ka ≤ b * den + kb) : a ≤ b :=
  Int.not_lt.1 fun hab => by
    have h1 := Int.mul_le_mul_of_nonneg_right (show b + 1 ≤ a from hab) (Int.natCast_nonneg den)
    rw [Int.add_mul] at h1
    omega

/-- sorted by `|m| * den + k`, `k < den`: once a magnitude is zero, so are all later ones -/
theorem zero_chain {den : Nat} {a b : Nat × Int × Int}
    (ha : ∃ k : Nat, k < den ∧ a.2.2 = (a.2.1.natAbs : Int) * den + k)
    (hb : ∃ k : Nat, k < den ∧ b.2.2 = (b.2.1.natAbs : Int) * den + k) (hle : b.2.2 ≤ a.2.2) :
    a.2.1 = 0 → b.2.1 = 0 := by
  obtain ⟨ka, hka, ea⟩ := ha
  obtain ⟨kb, hkb, eb⟩ := hb
  intro hz
  rw [ea, eb, hz] at hle
  have := key_le _ 0 den kb ka hka (by simpa using hle)
  omega

theorem insertDesc_perm (a : Nat × Int × Int) (l) : (insertDesc a l).Perm (a :: l) := by
  fun_induction insertDesc a l with
  | case1 => exact .refl _
  | case2 b t h ih => exact (ih.cons b).trans (List.Perm.swap a b t)
  | case3 b t h => exact .refl _

theorem insertDesc_sorted (a : Nat × Int × Int) (l)
    (h : l.Pairwise (fun p q => q.2.2 ≤ p.2.2)) : (insertDesc a l).Pairwise (fun p q => q.2.2 ≤ p.2.2) := by
  fun_induction insertDesc a l with
  | case1 => exact List.pairwise_singleton _ _
  | case2 b t hb ih =>
    rw [List.pairwise_cons] at h
    refine List.pairwise_cons.2 ⟨fun q hq => ?_, ih h.2⟩
    rcases List.mem_cons.1 ((insertDesc_perm a t).mem_iff.1 hq) with rfl | hq
    · omega
    · exact h.1 q hq
  | case3 b t hb =>
    refine List.pairwise_cons.2 ⟨fun q hq => ?_, h⟩
    rcases List.mem_cons.1 hq with rfl | hq
    · omega
    · have := (List.pairwise_cons.1 h).1 q hq; omega

theorem ldfOrder_spec (v : V3) (den k0 k1 k2 : Nat) (h0 : k0 < den) (h1 : k1 < den) (h2 : k2 < den) :
    (ldfOrder v den k0 k1 k2).Perm [(0, v.x, (v.x.natAbs : Int) * den + k0),
      (1, v.y, (v.y.natAbs : Int) * den + k1), (2, v.z, (v.z.natAbs : Int) * den + k2)] ∧
    (ldfOrder v den k0 k1 k2).Pairwise (fun a b => a.2.1 = 0 → b.2.1 = 0) := by
  refine (and_iff_left_of_imp fun hp => ?_).2
    ((insertDesc_perm _ _).trans (((insertDesc_perm _ _).trans ((insertDesc_perm _ []).cons _)).cons _))
  have hk : ∀ it ∈ ldfOrder v den k0 k1 k2, ∃ k : Nat, k < den ∧ it.2.2 = (it.2.1.natAbs : Int) * den + k := by
    intro it hi
    have := hp.mem_iff.1 hi
    simp only [List.mem_cons, List.not_mem_nil, or_false] at this
    rcases this with rfl | rfl | rfl
    · exact ⟨k0, h0, rfl⟩
    · exact ⟨k1, h1, rfl⟩
    · exact ⟨k2, h2, rfl⟩
  exact (insertDesc_sorted _ _ (insertDesc_sorted _ _ (insertDesc_sorted _ [] .nil))).imp_of_mem
    fun ha hb hle => zero_chain (hk _ ha) (hk _ hb) hle

theorem ldf_path (v : V3) (start : P2) (w h : Option Int) (den k0 k1 k2 : Nat)
    (h0 : k0 < den) (h1 : k1 < den) (h2 : k2 < den) :
    ldf v start w h den k0 k1 k2 = .ok (itemsPath w h (ldfOrder v den k0 k1 k2) start) := by
  rw [ldf, ldfRaw, ldfLoop_eq w h _ _ (ldfOrder_spec v den k0 k1 k2 h0 h1 h2).2]
  exact mapM_some1 _

theorem dv_sum (m : Int) :
    ((m.natAbs : Int) * (dvOf 0 m).1 = m ∧ (m.natAbs : Int) * (dvOf 0 m).2 = 0) ∧
    ((m.natAbs : Int) * (dvOf 1 m).1 = 0 ∧ (m.natAbs : Int) * (dvOf 1 m).2 = m) ∧
    ((m.natAbs : Int) * (dvOf 2 m).1 = -m ∧ (m.natAbs : Int) * (dvOf 2 m).2 = -m) := by
  by_cases h : m > 0 <;> simp [dvOf, unitOf, h] <;> omega

/-- the general statement about `longest_dimension_first`: its path is the image of a walk of the mesh with exact end -/
theorem ldf_image (v : V3) (start : P2) (w h : Option Int) (den k0 k1 k2 : Nat)
    (h0 : k0 < den) (h1 : k1 < den) (h2 : k2 < den) :
    ∃ upath, ldf v start w h den k0 k1 k2 = .ok (upath.map (wrapE w h)) ∧
      walkOk none none start upath = true ∧ (upath.length : Int) = absSum v ∧
      lastPos start upath = (start.1 + v.x - v.z, start.2 + v.y - v.z) := by
  have hp := (ldfOrder_spec v den k0 k1 k2 h0 h1 h2).1
  obtain ⟨hw, hl, he⟩ := itemsPath_mesh (ldfOrder v den k0 k1 k2) start
  rw [Lists.perm_sum _ hp] at hl
  rw [Lists.perm_sum _ hp, Lists.perm_sum _ hp] at he
  simp only [List.map_cons, List.map_nil, List.sum_cons, List.sum_nil, Int.add_zero, (dv_sum _).1.1,
    (dv_sum _).2.1.1, (dv_sum _).2.2.1, (dv_sum _).1.2, (dv_sum _).2.1.2, (dv_sum _).2.2.2] at hl he
  refine ⟨_, (ldf_path v start w h den k0 k1 k2 h0 h1 h2).trans (congrArg _ (itemsPath_wrap w h _ rfl)), hw,
    by rw [hl, absSum, Int.add_assoc], he.trans ?_⟩
  ext <;> simp only <;> omega

/-- upper bound: walking the minimised vector, one dimension after the other, takes `hexLen x y` hops -/
theorem reach_mesh_upper (a : P2) (x y : Int) :
    Reach none none (hexLen x y).toNat a (a.1 + x, a.2 + y) := by
  obtain ⟨hp, _, hs⟩ := minimise_spec ⟨x, y, 0⟩
  obtain ⟨path, _, hw, hl, he⟩ :=
    ldf_image (minimiseXyz ⟨x, y, 0⟩) a none none 1 0 0 0 Nat.one_pos Nat.one_pos Nat.one_pos
  have := walkOk_reach none none a path hw
  have e : lastPos a path = (a.1 + x, a.2 + y) := by
    have := congrArg Prod.fst hp; have := congrArg Prod.snd hp
    simp only [proj] at *
    rw [he]; ext <;> simp only <;> omega
  have n : path.length = (hexLen x y).toNat := by simp only [proj, Int.sub_zero] at hs; omega
  rwa [e, n] at this

/-- the hexagonal norm on the `w × h` torus of a displacement reduced to `0 ≤ x < w`, `0 ≤ y < h`: the least
norm among its four lifts nearest to the origin (in the order `shortest_torus_path_length` tries them) -/
def torusF (x y w h : Int) : Int :=
  min (hexLen (x - w) (y - h)) (min (hexLen x (y - h)) (min (hexLen (x - w) y) (hexLen x y)))

theorem torusF_le (x y w h : Int) {a b : Int} (ha : a = x ∨ a = x - w) (hb : b = y ∨ b = y - h) :
    torusF x y w h ≤ hexLen a b := by
  have r := fun p q : Int => Int.min_le_right p q
  rcases ha with rfl | rfl <;> rcases hb with rfl | rfl
  · exact Int.le_trans (r ..) (Int.le_trans (r ..) (r ..))
  · exact Int.le_trans (r ..) (Int.min_le_left ..)
  · exact Int.le_trans (r ..) (Int.le_trans (r ..) (Int.min_le_left ..))
  · exact Int.min_le_left ..

theorem torusF_is_lift (x y w h : Int) :
    ∃ a b, (a = x ∨ a = x - w) ∧ (b = y ∨ b = y - h) ∧ torusF x y w h = hexLen a b := by
  let P : Int → Prop := fun n => ∃ a b, (a = x ∨ a = x - w) ∧ (b = y ∨ b = y - h) ∧ n = hexLen a b
  have mn : ∀ {p q : Int}, P p → P q → P (min p q) := fun hp hq => by
    rw [Int.min_def]; split <;> assumption
  have c : ∀ {a b}, (a = x ∨ a = x - w) → (b = y ∨ b = y - h) → P (hexLen a b) :=
    fun ha hb => ⟨_, _, ha, hb, rfl⟩
  exact mn (c (.inr rfl) (.inr rfl)) (mn (c (.inl rfl) (.inr rfl)) (mn (c (.inr rfl) (.inl rfl))
    (c (.inl rfl) (.inl rfl))))

/-- every integer lies beyond its residue, or beyond its residue less the period, as seen from 0 -/
theorem near_rep {w : Int} (hw : 0 < w) (a : Int) :
    ∃ a', (a' = a % w ∨ a' = a % w - w) ∧ (0 ≤ a' ∧ a' ≤ a ∨ a ≤ a' ∧ a' ≤ 0) := by
  obtain ⟨h0, h1⟩ := emod_range hw a
  have e := Int.emod_add_mul_ediv a w
  rcases Int.lt_or_le (a / w) 0 with hk | hk
  · have := Int.mul_le_mul_of_nonneg_left (show a / w ≤ -1 by omega) (Int.le_of_lt hw)
    exact ⟨a % w - w, .inr rfl, .inr (by omega)⟩
  · have := Int.mul_nonneg (Int.le_of_lt hw) hk
    exact ⟨a % w, .inl rfl, .inl (by omega)⟩

theorem torusF_emod_le {w h : Int} (hw : 0 < w) (hh : 0 < h) (a b : Int) :
    torusF (a % w) (b % h) w h ≤ hexLen a b := by
  obtain ⟨a', ha, ma⟩ := near_rep hw a
  obtain ⟨b', hb, mb⟩ := near_rep hh b
  exact Int.le_trans (torusF_le _ _ w h ha hb) (hexLen_mono ma mb)

/-- the closed forms the code uses for the norms of the four nearest lifts -/
theorem lifts_len {x y w h : Int} (hx : 0 ≤ x) (hxw : x ≤ w) (hy : 0 ≤ y) (hyh : y ≤ h) :
    hexLen x y = max x y ∧ hexLen (x - w) y = w - x + y ∧ hexLen x (y - h) = x + h - y ∧
    hexLen (x - w) (y - h) = max (w - x) (h - y) := by
  have hxw' := Int.sub_nonpos_of_le hxw
  have hyh' := Int.sub_nonpos_of_le hyh
  refine ⟨hexLen_of_nonneg hx hy, ?_, ?_, ?_⟩
  · rw [hexLen_comm, hexLen_of_nonneg_nonpos hy hxw']; omega
  · rw [hexLen_of_nonneg_nonpos hx hyh']; omega
  · rw [← hexLen_neg, Int.neg_sub, Int.neg_sub,
      hexLen_of_nonneg (Int.sub_nonneg_of_le hxw) (Int.sub_nonneg_of_le hyh)]

theorem torusLenCore_eq (s d : V3) (w h : Int) (hw : 0 < w) (hh : 0 < h) :
    torusLenCore s d w h = torusF (((proj d).1 - (proj s).1) % w) (((proj d).2 - (proj s).2) % h) w h := by
  have e1 : d.x - s.x - (d.z - s.z) = (proj d).1 - (proj s).1 := by simp only [proj]; omega
  have e2 : d.y - s.y - (d.z - s.z) = (proj d).2 - (proj s).2 := by simp only [proj]; omega
  obtain ⟨hx0, hx1⟩ := emod_range hw ((proj d).1 - (proj s).1)
  obtain ⟨hy0, hy1⟩ := emod_range hh ((proj d).2 - (proj s).2)
  obtain ⟨l0, l1, l2, l3⟩ := lifts_len hx0 (Int.le_of_lt hx1) hy0 (Int.le_of_lt hy1)
  simp only [torusLenCore, torusF, pyMod, Int.fmod_eq_emod_of_nonneg _ (Int.le_of_lt hw),
    Int.fmod_eq_emod_of_nonneg _ (Int.le_of_lt hh), e1, e2, ite_gt_eq_max, ite_lt_eq_min, l0, l1, l2, l3]

theorem lift_cong {s d v a x i w : Int} (hx : (d - s) % w = x) (ha : a = x ∨ a = x - w) (hv : v = a + w * i) :
    (s + v - d) % w = 0 := by
  have da : w ∣ a - x := by
    rcases ha with rfl | rfl
    · exact ⟨0, by omega⟩
    · exact ⟨-1, by omega⟩
  rw [show s + v - d = w * i + (a - x) - (d - s - x) by omega]
  exact Int.emod_eq_zero_of_dvd
    (Int.dvd_sub (Int.dvd_add (Int.dvd_mul_right w i) da) (Int.dvd_self_sub_of_emod_eq hx))

theorem lift_emod {A D x a w : Int} (hx : (D - A) % w = x) (ha : a = x ∨ a = x - w) :
    (A + a) % w = D % w :=
  Int.emod_eq_emod_iff_emod_sub_eq_zero.2 (lift_cong (i := 0) hx ha (by omega))

/-- walks of the torus are the images of walks of the mesh (`reach_wrap`, `reach_unwrap`): the distance is the least
mesh distance to a lift of the destination -/
theorem torus_dist (A D : P2) (w h : Int) (hw : 0 < w) (hh : 0 < h) :
    0 ≤ torusF ((D.1 - A.1) % w) ((D.2 - A.2) % h) w h ∧
    IsDist (some w) (some h) (A.1 % w, A.2 % h) (D.1 % w, D.2 % h)
      (torusF ((D.1 - A.1) % w) ((D.2 - A.2) % h) w h).toNat := by
  obtain ⟨a, b, ha, hb, hF⟩ := torusF_is_lift ((D.1 - A.1) % w) ((D.2 - A.2) % h) w h
  refine ⟨hF ▸ hexLen_nonneg a b, ?_, fun m r => ?_⟩
  · have r := reach_wrap (w := some w) (h := some h) (reach_mesh_upper A a b)
    rwa [wrapP_pos hw hh, wrapP_pos hw hh, lift_emod rfl ha, lift_emod rfl hb, ← hF] at r
  · obtain ⟨b', e, rm⟩ := reach_unwrap r
    rw [wrapP_pos hw hh, wrapP_pos hw hh] at e
    have lb := reach_mesh_lower rm
    have := torusF_emod_le hw hh (b'.1 - A.1 % w) (b'.2 - A.2 % h)
    have e1 : b'.1 % w = D.1 % w := (congrArg Prod.fst e).trans (Int.emod_emod_of_dvd _ (Int.dvd_refl w))
    have e2 : b'.2 % h = D.2 % h := (congrArg Prod.snd e).trans (Int.emod_emod_of_dvd _ (Int.dvd_refl h))
    rw [Int.sub_emod, Int.sub_emod b'.2, e1, e2, Int.emod_emod_of_dvd _ (Int.dvd_refl w),
      Int.emod_emod_of_dvd _ (Int.dvd_refl h), ← Int.sub_emod, ← Int.sub_emod] at this
    dsimp only at lb
    omega

theorem minByKey_spec (a : Int × V3) (t : List (Int × V3)) :
    minByKey a t ∈ a :: t ∧ ∀ c ∈ a :: t, (minByKey a t).1 ≤ c.1 := by
  induction t generalizing a with
  | nil => simp [minByKey]
  | cons b t ih =>
    have ih := ih (if b.1 < a.1 then b else a)
    simp only [minByKey, List.foldl_cons, List.forall_mem_cons] at ih ⊢
    simp only [List.mem_cons] at ih ⊢
    by_cases h : b.1 < a.1 <;> simp only [h, if_true, if_false] at ih ⊢
    · exact ⟨ih.1.elim (.inr ∘ .inl) (.inr ∘ .inr), by omega, ih.2.1, ih.2.2⟩
    · exact ⟨ih.1.elim .inl (.inr ∘ .inr), ih.2.1, by omega, ih.2.2⟩

/-- `min(approaches, key=lambda a: (a[0], random.random()))`: with keys `n * den + k`, `k < den`, the pick has
least `n` -/
theorem minByKey_graded {N : V3 → Int} {den : Nat} {a best : Int × V3} {t : List (Int × V3)}
    (hb : minByKey a t = best) (hg : ∀ c ∈ a :: t, ∃ k : Nat, k < den ∧ c.1 = N c.2 * den + k) :
    best ∈ a :: t ∧ ∀ c ∈ a :: t, N best.2 ≤ N c.2 := by
  subst hb
  obtain ⟨hm, hle⟩ := minByKey_spec a t
  refine ⟨hm, fun c hc => ?_⟩
  obtain ⟨kb, hkb, eb⟩ := hg _ hm
  obtain ⟨kc, hkc, ec⟩ := hg c hc
  have := hle c hc
  rw [eb, ec] at this
  exact key_le _ _ den kb kc hkc this

def lifts (x y w h : Int) : List V3 := [⟨x, y, 0⟩, ⟨x - w, y, 0⟩, ⟨x, y - h, 0⟩, ⟨x - w, y - h, 0⟩]

theorem mem_lifts {x y w h : Int} {v : V3} (hv : v ∈ lifts x y w h) :
    (v.x = x ∨ v.x = x - w) ∧ (v.y = y ∨ v.y = y - h) ∧ v.z = 0 := by
  simp only [lifts, List.mem_cons, List.not_mem_nil, or_false] at hv
  rcases hv with rfl | rfl | rfl | rfl <;> simp

theorem approaches_eq {x y w h : Int} (hx : 0 ≤ x) (hxw : x ≤ w) (hy : 0 ≤ y) (hyh : y ≤ h) :
    approaches x y w h = (lifts x y w h).map fun v => (hexLen v.x v.y, v) := by
  obtain ⟨l0, l1, l2, l3⟩ := lifts_len hx hxw hy hyh
  simp only [approaches, lifts, List.map, Int.neg_sub, l0, l1, l2, l3]

/-- `approaches` is `lifts` tagged with their norms (`approaches_eq`), so the keyed minimum is a nearest lift of least norm,
`torusF`; `minimise_spec` keeps its projection, `spiral_ok` adds multiples of the periods -/
theorem torusPathCore_ok (s d : V3) (w h : Int) (hw : 0 < w) (hh : 0 < h) (den k0 k1 k2 k3 t : Nat)
    (h0 : k0 < den) (h1 : k1 < den) (h2 : k2 < den) (h3 : k3 < den) :
    let v := torusPathCore s d w h den k0 k1 k2 k3 t
    absSum v = torusLenCore s d w h ∧
    ((proj s).1 + (proj v).1 - (proj d).1) % w = 0 ∧ ((proj s).2 + (proj v).2 - (proj d).2) % h = 0 := by
  intro v
  rw [torusLenCore_eq s d w h hw hh]
  have e1 : d.x - d.z - (s.x - s.z) = (proj d).1 - (proj s).1 := rfl
  have e2 : d.y - d.z - (s.y - s.z) = (proj d).2 - (proj s).2 := rfl
  obtain ⟨hx0, hx1⟩ := emod_range hw ((proj d).1 - (proj s).1)
  obtain ⟨hy0, hy1⟩ := emod_range hh ((proj d).2 - (proj s).2)
  have hv : v = torusPathCore s d w h den k0 k1 k2 k3 t := rfl
  simp only [torusPathCore, pyMod, Int.fmod_eq_emod_of_nonneg _ (Int.le_of_lt hw),
    Int.fmod_eq_emod_of_nonneg _ (Int.le_of_lt hh), e1, e2,
    approaches_eq hx0 (Int.le_of_lt hx1) hy0 (Int.le_of_lt hy1), lifts, List.map] at hv
  generalize hxe : ((proj d).1 - (proj s).1) % w = x at *
  generalize hye : ((proj d).2 - (proj s).2) % h = y at *
  generalize hb : minByKey _ _ = best at hv
  obtain ⟨hm, hle⟩ := minByKey_graded (N := fun v => hexLen v.x v.y) hb (by
    simp only [List.forall_mem_cons]
    exact ⟨⟨k0, h0, rfl⟩, ⟨k1, h1, rfl⟩, ⟨k2, h2, rfl⟩, ⟨k3, h3, rfl⟩, fun _ h => nomatch h⟩)
  obtain ⟨ha, hb, hz⟩ := mem_lifts (x := x) (y := y) (w := w) (h := h) (List.mem_map_of_mem (f := Prod.snd) hm)
  simp only [List.forall_mem_cons] at hle
  obtain ⟨g0, g1, g2, g3, _⟩ := hle
  have hl : hexLen best.2.x best.2.y = torusF x y w h :=
    Int.le_antisymm (Int.le_min.2 ⟨g3, Int.le_min.2 ⟨g2, Int.le_min.2 ⟨g1, g0⟩⟩⟩) (torusF_le x y w h ha hb)
  obtain ⟨mp, mm, ms⟩ := minimise_spec best.2
  obtain ⟨sa, i, j, sx, sy⟩ := spiral_ok (minimiseXyz best.2) w h hw hh mm t
  have pb : proj best.2 = (best.2.x, best.2.y) := by simp only [proj, hz, Int.sub_zero]
  rw [← hv, mp, pb] at sx sy
  rw [pb] at ms
  exact ⟨by rw [hv, sa, ms, hl], lift_cong hxe ha sx, lift_cong hye hb sy⟩

theorem emod_add_of_sub {s x z d w : Int} (h : (s + (x - z) - d) % w = 0) : (s % w + x - z) % w = d % w := by
  rw [Int.add_sub_assoc, Int.emod_add_emod]
  exact Int.emod_eq_emod_iff_emod_sub_eq_zero.2 h

theorem absSum_zero (v : V3) (h : absSum v = 0) : v.x = 0 ∧ v.y = 0 ∧ v.z = 0 := by
  have : v.x.natAbs = 0 ∧ v.y.natAbs = 0 ∧ v.z.natAbs = 0 := by
    simp only [absSum] at h
    generalize v.x.natAbs = a at h
    generalize v.y.natAbs = b at h
    generalize v.z.natAbs = c at h
    omega
  exact ⟨Int.natAbs_eq_zero.1 this.1, Int.natAbs_eq_zero.1 this.2.1, Int.natAbs_eq_zero.1 this.2.2⟩

end Rig.C11
