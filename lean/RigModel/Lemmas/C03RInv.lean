/-
C03 - the forest invariant `RInv f R`: a well-formed closed forest whose parentless component roots include the pairwise
distinct chips `R`, every node below one of them.  Two moves keep it: a chip becomes a new component root (`rinv_root`)
and a component root is hung below a node that is not its descendant (`rinv_graft`); `ner_net`, the disconnecting copy
and the dead-link repair are sequences of these.  `rinv_valid`: with `R = [root]` and working hops the forest unfolds
to a valid routing tree that covers every entry.  `attachSinks` returns `expectedLeaves` and raises only for a sink
whose chip has no entry (`attachSinks_sat`).
-/
import RigModel.Lemmas.C03Forest
import RigModel.Lemmas.C03Unfold
import RigModel.Lemmas.ExceptSat
namespace Rig.C03.L

/-- `R` is `[src]` for `ner_net`, the root and the heads of the broken links not yet reconnected for copy and repair -/
structure RInv (f : Forest) (R : List Chip) : Prop where
  wf : ∃ rank, WF f rank
  closed : ClosedF f
  rootsNodup : R.Nodup
  roots : ∀ r, r ∈ R → r ∈ f.keys ∧ NoParent f r
  conn : ∀ x, x ∈ f.keys → ∃ r, r ∈ R ∧ Below f r x

theorem RInv.congr {f : Forest} {R R' : List Chip} (hi : RInv f R) (hn : R'.Nodup)
    (h : ∀ r, r ∈ R' ↔ r ∈ R) : RInv f R' :=
  ⟨hi.wf, hi.closed, hn, fun r hr => hi.roots r ((h r).1 hr),
    fun x hx => let ⟨r, hr, hb⟩ := hi.conn x hx; ⟨r, (h r).2 hr, hb⟩⟩

/-- `g` is `f` with the chip `c` made parentless: a new entry, or an old one cut from its parent -/
theorem rinv_root {f g : Forest} {R : List Chip} {c : Chip} (hi : RInv f R) (hc : c ∉ R)
    (gwf : ∃ rank, WF g rank) (gnp : NoParent g c) (gkeys : ∀ x, x ∈ g.keys ↔ x ∈ f.keys ∨ x = c)
    (gsub : ∀ q k, Edge g q k → Edge f q k) (gsplit : ∀ r x, Below f r x → Below g r x ∨ Below g c x) :
    RInv g (R ++ [c]) := by
  refine ⟨gwf, fun q k he => (gkeys _).2 (Or.inl (hi.closed _ _ (gsub _ _ he))), ?_, ?_, ?_⟩
  · exact Lists.nodup_snoc hi.rootsNodup hc
  · intro r hr
    rcases List.mem_append.1 hr with hr | hr
    · exact ⟨(gkeys r).2 (Or.inl (hi.roots r hr).1), fun q k he => (hi.roots r hr).2 _ _ (gsub _ _ he)⟩
    · cases List.mem_singleton.1 hr
      exact ⟨(gkeys _).2 (Or.inr rfl), gnp⟩
  · intro x hx
    rcases (gkeys x).1 hx with hx | rfl
    · obtain ⟨r, hr, hb⟩ := hi.conn x hx
      rcases gsplit r x hb with h | h
      · exact ⟨r, List.mem_append_left _ hr, h⟩
      · exact ⟨c, by simp, h⟩
    · exact ⟨x, by simp, Below.refl⟩

theorem rinv_newRoot {f : Forest} {R : List Chip} (hi : RInv f R) {c : Chip} (hc : c ∉ f.keys) :
    RInv (f.insertNew c) (R ++ [c]) := by
  obtain ⟨rank, hw⟩ := hi.wf
  refine rinv_root hi (fun h => hc (hi.roots c h).1) ⟨rank, wf_insertNew hw hc⟩ ?_ ?_
    (fun _ _ => edge_insertNew.1) (fun _ _ hb => Or.inl (below_insertNew.2 hb))
  · intro q k he hk
    exact hc (hk ▸ hi.closed _ _ (edge_insertNew.1 he))
  · exact fun x => mem_keys_insertNew

theorem rinv_graft {g : Forest} {R R' : List Chip} {p c : Chip} (d : Nat) (hi : RInv g R) (hp : p ∈ g.keys)
    (hnb : ¬ Below g c p) (hn : R'.Nodup) (hc : c ∉ R') (hR : ∀ r, r ∈ R ↔ r ∈ R' ∨ r = c) :
    RInv (g.addChild p (d, c)) R' := by
  obtain ⟨rank, hw⟩ := hi.wf
  obtain ⟨hck, hcnp⟩ := hi.roots c ((hR c).2 (Or.inr rfl))
  obtain ⟨r0, hr0, hr0b⟩ := hi.conn p hp
  have hr0' : r0 ∈ R' := ((hR r0).1 hr0).resolve_right fun h => hnb (h ▸ hr0b)
  have hcb : Below (g.addChild p (d, c)) r0 c :=
    Below.step (below_addChild_mono hr0b) (edge_addChild_new hp)
  refine ⟨wf_addEdge hw d hcnp hnb, ?_, hn, ?_, ?_⟩
  · intro q k he
    rw [keys_addChild]
    rcases edge_addChild_inv he with he | ⟨rfl, rfl⟩
    · exact hi.closed _ _ he
    · exact hck
  · intro r hr
    obtain ⟨hrk, hrnp⟩ := hi.roots r ((hR r).2 (Or.inl hr))
    refine ⟨by rw [keys_addChild]; exact hrk, fun q k he hk => ?_⟩
    rcases edge_addChild_inv he with he | ⟨rfl, rfl⟩
    · exact hrnp _ _ he hk
    · exact hc ((show c = r from hk) ▸ hr)
  · intro x hx
    rw [keys_addChild] at hx
    obtain ⟨r, hr, hb⟩ := hi.conn x hx
    rcases (hR r).1 hr with hr | rfl
    · exact ⟨r, hr, below_addChild_mono hb⟩
    · exact ⟨r0, hr0', below_trans hcb (below_addChild_mono hb)⟩

theorem rinv_attachLeaf {f : Forest} {R : List Chip} (hi : RInv f R) {p c : Chip} (d : Nat)
    (hc : c ∉ f.keys) (hp : p ∈ f.keys) : RInv ((f.insertNew c).addChild p (d, c)) R := by
  refine rinv_graft d (rinv_newRoot hi hc) (mem_keys_insertNew.2 (Or.inl hp)) ?_
    hi.rootsNodup (fun h => hc (hi.roots c h).1) (fun r => by simp)
  intro hb
  rcases below_head (below_insertNew.1 hb) with heq | ⟨k, hk, _⟩
  · exact hc (heq ▸ hp)
  · exact hc (edge_key hk)

theorem rinv_nil : RInv [] [] :=
  ⟨⟨fun _ => 0, List.nodup_nil, fun _ h => (nomatch h), fun _ _ _ _ h => (nomatch h), fun _ _ h => (nomatch h)⟩,
    fun _ _ ⟨_, h, _⟩ => (nomatch h), List.nodup_nil, fun _ h => (nomatch h), fun _ h => (nomatch h)⟩

theorem rinv_valid {m : Machine} {f : Forest} {root : Chip} (hi : RInv f [root]) (sinks : List Sink)
    (hhop : ∀ n, n ∈ f → ∀ k, k ∈ n.2 → HopOk m (n.1, k.1, k.2)) (hsk : ∀ s, s ∈ sinks → s.chip ∈ f.keys) :
    ∃ tr, toTree f (expectedLeaves sinks) (f.length + 1) root = some tr ∧ ValidTree m root sinks tr ∧
      ∀ c, c ∈ f.keys → c ∈ tr.chips := by
  obtain ⟨rank, hw⟩ := hi.wf
  obtain ⟨tr, htr, hu⟩ := wf_unfolds_len hw hi.closed (expectedLeaves sinks) (hi.roots root List.mem_cons_self).1
  have hall : ∀ x, x ∈ f.keys → x ∈ tr.chips := fun x hx =>
    let ⟨r, hr, hb⟩ := hi.conn x hx; hu.cover x (List.mem_singleton.1 hr ▸ hb)
  refine ⟨tr, htr, ⟨hu.chip, hu.nodup, fun c l c' he => ?_, toTree_leaves _ _ _ htr, fun lf hlf => ?_⟩, hall⟩
  · obtain ⟨n, hn0, hn1, hn2⟩ := toTree_edges _ _ _ htr _ he
    exact (show n.1 = c from hn1) ▸ hhop n hn0 (l, c') hn2
  · refine hu.leavesAll lf hlf (hall _ ?_)
    simp only [expectedLeaves, List.mem_flatMap, Sink.leaves, List.mem_map] at hlf
    obtain ⟨s, hs', r, _, rfl⟩ := hlf
    exact hsk s hs'

theorem attachSinks_sat (f : Forest) (sinks : List Sink) :
    Except.Sat (fun _ => ∃ s, s ∈ sinks ∧ s.chip ∉ f.keys)
      (fun lv => (∀ s, s ∈ sinks → s.chip ∈ f.keys) ∧ lv = expectedLeaves sinks) (attachSinks f sinks) := by
  fun_induction attachSinks f sinks with
  | case1 => exact ⟨fun _ h => (nomatch h), rfl⟩
  | case2 s r hhas ih =>
    refine (ih.imp_error fun _ ⟨s', hs', h⟩ => ⟨s', List.mem_cons_of_mem _ hs', h⟩).bind fun rest _ ⟨hk, he⟩ =>
      Except.Sat.pure ⟨fun s' hs' => ?_, by simp [he, expectedLeaves]⟩
    exact (List.mem_cons.1 hs').elim (fun e => e ▸ (has_iff _ _).1 hhas) (hk s')
  | case3 s r hhas => exact ⟨s, List.mem_cons_self, fun h => hhas ((has_iff _ _).2 h)⟩

theorem attachSinks_ok {f : Forest} (sinks : List Sink) (hk : ∀ s, s ∈ sinks → s.chip ∈ f.keys) :
    attachSinks f sinks = .ok (expectedLeaves sinks) := by
  obtain ⟨lv, h, _, rfl⟩ := ((attachSinks_sat f sinks).imp_error fun _ ⟨s, hs, h⟩ => h (hk s hs)).exists_ok
  exact h

theorem attachSinks_keys {f : Forest} (sinks : List Sink) (lv : List Leaf) (h : attachSinks f sinks = .ok lv) :
    ∀ s, s ∈ sinks → s.chip ∈ f.keys :=
  ((attachSinks_sat f sinks).ok h).1

end Rig.C03.L
