/-
C07 - remote memory reads and writes are byte-exact for any address and length.
First the lemmas other towers use too: windows of a memory, patches.
-/
import RigModel.Model.C07

namespace Rig.C07
open Rig.Gen.Scp

/-- the access-type table regenerated from `consts.address_length_dtype` is exactly the hardware
rule, for every address and size -/
theorem dtype_table_is_hardware_rule (addr size : Nat) : dtype addr size = dtypeSpec addr size := by
  have h : ∀ a, a < 4 → ∀ s, s < 4 →
      dtypeTable.getD (4 * a + s) 0 = (if a = 0 ∧ s = 0 then 2 else if a % 2 = 0 ∧ s % 2 = 0 then 1 else 0) := by
    decide +kernel
  rw [dtype, dtypeSpec, h _ (Nat.mod_lt _ (by decide)) _ (Nat.mod_lt _ (by decide)),
    Nat.mod_mod_of_dvd addr (by decide : 2 ∣ 4), Nat.mod_mod_of_dvd size (by decide : 2 ∣ 4)]

theorem readMem_length (m : Mem) (a n : Nat) : (readMem m a n).length = n := by simp [readMem]

theorem readMem_add (m : Mem) (a k n : Nat) : readMem m a (k + n) = readMem m a k ++ readMem m (a + k) n := by
  simp [readMem, List.range_add, Nat.add_assoc]

theorem readMem_congr {f g : Mem} {a n : Nat} (h : ∀ i, i < n → f (a + i) = g (a + i)) :
    readMem f a n = readMem g a n :=
  List.map_congr_left fun i hi => h i (List.mem_range.1 hi)

theorem readMem_ofList (l : List Nat) : readMem (fun i => l.getD i 0) 0 l.length = l := by
  apply List.ext_getElem (readMem_length ..)
  intro i _ h
  simp [readMem, h]

theorem writeMem_outside (m : Mem) (addr : Nat) (data : List Nat) (x : Nat)
    (h : x < addr ∨ addr + data.length ≤ x) : writeMem m addr data x = m x :=
  if_neg (by omega)

theorem readMem_writeMem_same (m : Mem) (addr : Nat) (data : List Nat) :
    readMem (writeMem m addr data) addr data.length = data := by
  apply List.ext_getElem (readMem_length ..)
  intro i _ h
  simp [readMem, writeMem, h]

theorem readMem_writeMem_disjoint (m : Mem) (addr : Nat) (data : List Nat) (b n : Nat)
    (h : b + n ≤ addr ∨ addr + data.length ≤ b) :
    readMem (writeMem m addr data) b n = readMem m b n :=
  List.map_congr_left fun i hi => writeMem_outside m addr data (b + i) (by have := List.mem_range.1 hi; omega)

/-- a patch `(a, bs)` stores the bytes `bs` from address `a`; `applyAll` stores the patches one after the other -/
def applyAll (m : Mem) (ps : List (Nat × List Nat)) : Mem :=
  ps.foldl (fun m p => writeMem m p.1 p.2) m

def Agrees (t : Mem) (p : Nat × List Nat) : Prop :=
  ∀ i, i < p.2.length → p.2.getD i 0 = t (p.1 + i)

def InPatch (p : Nat × List Nat) (a : Nat) : Prop := p.1 ≤ a ∧ a < p.1 + p.2.length

theorem agrees_append {t : Mem} {a : Nat} {p r : List Nat} (h : Agrees t (a, p ++ r)) :
    Agrees t (a, p) ∧ Agrees t (a + p.length, r) := by
  simp only [Agrees, List.getD_eq_getElem?_getD, List.length_append] at *
  refine ⟨fun i hi => ?_, fun i hi => ?_⟩
  · rw [← h i (by omega), List.getElem?_append_left hi]
  · rw [Nat.add_assoc, ← h (p.length + i) (by omega), List.getElem?_append_right (by omega),
      Nat.add_sub_cancel_left]

theorem applyAll_spec (t : Mem) (ps : List (Nat × List Nat)) :
    ∀ (m : Mem), (∀ p ∈ ps, Agrees t p) → ∀ a,
      ((∃ p ∈ ps, InPatch p a) → applyAll m ps a = t a) ∧
      ((¬ ∃ p ∈ ps, InPatch p a) → applyAll m ps a = m a) := by
  induction ps with
  | nil => intro m _ a; exact ⟨fun ⟨_, h, _⟩ => (nomatch h), fun _ => rfl⟩
  | cons p ps ih =>
    intro m hag a
    rw [List.forall_mem_cons] at hag
    have ih := ih (writeMem m p.1 p.2) hag.2 a
    simp only [List.mem_cons, exists_eq_or_imp]
    show (_ → applyAll (writeMem m p.1 p.2) ps a = t a) ∧ (_ → applyAll (writeMem m p.1 p.2) ps a = m a)
    by_cases hc : ∃ q ∈ ps, InPatch q a
    · exact ⟨fun _ => ih.1 hc, fun h => absurd (.inr hc) h⟩
    · rw [ih.2 hc]
      by_cases hin : InPatch p a
      · refine ⟨fun _ => ?_, fun h => absurd (.inl hin) h⟩
        obtain ⟨h1, h2⟩ := hin
        rw [writeMem, if_pos ⟨h1, h2⟩, hag.1 _ (by omega), Nat.add_sub_of_le h1]
      · exact ⟨fun h => absurd h (not_or.2 ⟨hin, hc⟩), fun _ => if_neg hin⟩

theorem applyAll_map {α : Type} (pat : α → Nat × List Nat) (ws : List α) (m : Mem) :
    applyAll m (ws.map pat) = ws.foldl (fun m w => writeMem m (pat w).1 (pat w).2) m :=
  List.foldl_map

/-- the patches `pat c` of the commands `cs` lie one after the other from address `a`,
and their bytes, concatenated, are `d` -/
def Tiled (pat : Chunk → Nat × List Nat) : Nat → List Nat → List Chunk → Prop
  | _, d, [] => d = []
  | a, d, c :: cs => (pat c).1 = a ∧ ∃ r, d = (pat c).2 ++ r ∧ Tiled pat (a + (pat c).2.length) r cs

theorem tiled_facts (t : Mem) {pat : Chunk → Nat × List Nat} {cs : List Chunk} {a : Nat} {d : List Nat}
    (h : Tiled pat a d cs) (ht : Agrees t (a, d)) :
    (∀ c ∈ cs, Agrees t (pat c)) ∧ (∀ x, (∃ c ∈ cs, InPatch (pat c) x) ↔ (a ≤ x ∧ x < a + d.length)) := by
  induction cs generalizing a d with
  | nil =>
    obtain rfl : d = [] := h
    exact ⟨nofun, fun x => ⟨fun ⟨_, h, _⟩ => (nomatch h), fun h => absurd h.2 (Nat.not_lt.2 h.1)⟩⟩
  | cons c cs ih =>
    simp only [Tiled] at h
    obtain ⟨h1, r, rfl, h⟩ := h
    replace ht := agrees_append ht
    obtain ⟨ihA, ihC⟩ := ih h ht.2
    refine ⟨List.forall_mem_cons.2 ⟨by rw [← h1] at ht; exact ht.1, ihA⟩, fun x => ?_⟩
    simp only [List.mem_cons, exists_eq_or_imp, ihC x]
    simp only [InPatch, h1, List.length_append]
    omega

theorem agrees_writeMem (m : Mem) (a : Nat) (d : List Nat) : Agrees (writeMem m a d) (a, d) := fun i hi => by
  simp only [writeMem]
  rw [if_pos ⟨Nat.le_add_right .., Nat.add_lt_add_left hi _⟩, Nat.add_sub_cancel_left]

/-- some of the patches of a tiling, stored in any order and any number of times: a byte that one of them covers has its
final value, every other byte is untouched -/
theorem applyAll_tiled_part {pat : Chunk → Nat × List Nat} {a : Nat} {d : List Nat} {cs : List Chunk}
    (h : Tiled pat a d cs) (m : Mem) (ws : List Chunk) (hsub : ∀ w ∈ ws, w ∈ cs) (x : Nat) :
    ((∃ w ∈ ws, InPatch (pat w) x) → applyAll m (ws.map pat) x = writeMem m a d x) ∧
    ((¬ ∃ w ∈ ws, InPatch (pat w) x) → applyAll m (ws.map pat) x = m x) := by
  have sp := applyAll_spec (writeMem m a d) (ws.map pat) m
    (List.forall_mem_map.2 fun c hc => (tiled_facts _ h (agrees_writeMem m a d)).1 c (hsub c hc)) x
  have e : (∃ p ∈ ws.map pat, InPatch p x) ↔ ∃ w ∈ ws, InPatch (pat w) x :=
    ⟨fun ⟨p, hp, hi⟩ => by obtain ⟨w, hw, rfl⟩ := List.mem_map.1 hp; exact ⟨w, hw, hi⟩,
      fun ⟨w, hw, hi⟩ => ⟨pat w, List.mem_map_of_mem hw, hi⟩⟩
  rwa [e] at sp

theorem applyAll_tiled {pat : Chunk → Nat × List Nat} {a : Nat} {d : List Nat} {cs : List Chunk}
    (h : Tiled pat a d cs) (m : Mem) (ws : List Chunk) (hsub : ∀ w ∈ ws, w ∈ cs) (hall : ∀ c ∈ cs, c ∈ ws) :
    applyAll m (ws.map pat) = writeMem m a d := by
  funext x
  have sp := applyAll_tiled_part h m ws hsub x
  by_cases hin : ∃ w ∈ ws, InPatch (pat w) x
  · exact sp.1 hin
  · rw [sp.2 hin]
    refine (if_neg fun hx => hin ?_).symm
    obtain ⟨c, hc, hi⟩ := ((tiled_facts _ h (agrees_writeMem m a d)).2 x).2 hx
    exact ⟨c, hall c hc, hi⟩

theorem fuel_step {len n f : Nat} (h : len ≤ f + 1) (hn : 0 < n) : len - n ≤ f := by omega

/-- the commands `cs` are consecutive from address `a`, each non-empty,
at most `buf` bytes, carries exactly its slice of `data`, and together they carry all of `data` -/
def WCovers (buf : Nat) : Nat → List Nat → List Chunk → Prop
  | _, data, [] => data = []
  | a, data, c :: cs =>
    c.addr = a ∧ 0 < c.size ∧ c.size ≤ buf ∧ c.size ≤ data.length ∧ c.data = data.take c.size ∧
      c.dt = dtype c.addr c.size ∧ WCovers buf (a + c.size) (data.drop c.size) cs

/-- read commands: same shape, the "data" is the number of bytes still to fetch -/
def RCovers (buf : Nat) : Nat → Nat → List Chunk → Prop
  | _, n, [] => n = 0
  | a, n, c :: cs =>
    c.addr = a ∧ 0 < c.size ∧ c.size ≤ buf ∧ c.size ≤ n ∧ c.dt = dtype c.addr c.size ∧
      RCovers buf (a + c.size) (n - c.size) cs

theorem readChunks_covers {buf fuel addr len : Nat} (hb : 0 < buf) (h : len ≤ fuel) :
    RCovers buf addr len (readChunks buf fuel addr len) := by
  fun_induction readChunks buf fuel addr len with
  | case1 => exact Nat.le_zero.1 h
  | case2 fuel addr len hl block ih =>
    have n0 := Nat.lt_min.2 ⟨hl, hb⟩
    exact ⟨rfl, n0, Nat.min_le_right .., Nat.min_le_left .., rfl, ih (fuel_step h n0)⟩
  | case3 fuel addr len hl => exact Nat.eq_zero_of_not_pos hl

theorem writeChunks_covers {buf fuel addr : Nat} {data : List Nat} (hb : 0 < buf) (h : data.length ≤ fuel) :
    WCovers buf addr data (writeChunks buf fuel addr data) := by
  fun_induction writeChunks buf fuel addr data with
  | case1 => exact List.eq_nil_of_length_eq_zero (Nat.le_zero.1 h)
  | case2 fuel addr data hl block ih =>
    have ih := ih (List.length_drop ▸ fuel_step h hb)
    simp only [WCovers, block, List.length_take, ← List.take_eq_take_min, ← List.drop_eq_drop_min] at ih ⊢
    exact ⟨trivial, Nat.lt_min.2 ⟨hb, hl⟩, Nat.min_le_left .., Nat.min_le_right .., trivial, trivial, ih⟩
  | case3 fuel addr data hl => exact List.eq_nil_of_length_eq_zero (Nat.eq_zero_of_not_pos hl)

theorem wcovers_tiled {buf a : Nat} {data : List Nat} {cs : List Chunk} (h : WCovers buf a data cs) :
    Tiled (fun c => (c.addr, c.data)) a data cs := by
  induction cs generalizing a data with
  | nil => exact h
  | cons c cs ih =>
    obtain ⟨h1, _, _, h4, h5, _, h6⟩ := h
    have hl : c.data.length = c.size := by rw [h5, List.length_take, Nat.min_eq_left h4]
    simp only [Tiled, hl]
    exact ⟨h1, data.drop c.size, by rw [h5, List.take_append_drop], ih h6⟩

theorem rcovers_tiled (m : Mem) {base buf a n : Nat} {cs : List Chunk} (h : RCovers buf a n cs) (hba : base ≤ a) :
    Tiled (fun c => (c.addr - base, readMem m c.addr c.size)) (a - base) (readMem m a n) cs := by
  induction cs generalizing a n with
  | nil => obtain rfl : n = 0 := h; rfl
  | cons c cs ih =>
    obtain ⟨h1, _, _, h4, _, h6⟩ := h
    simp only [Tiled, readMem_length, h1]
    refine ⟨trivial, readMem m (a + c.size) (n - c.size), ?_, ?_⟩
    · rw [← readMem_add, Nat.add_sub_of_le h4]
    · rw [← Nat.sub_add_comm hba]
      exact ih h6 (Nat.le_add_right_of_le hba)

theorem foldl_execWrite (ws : List Chunk) : ∀ m : Mem,
    ws.foldl execWrite m = applyAll m (ws.map (fun c => (c.addr, c.data))) :=
  fun m => (applyAll_map (fun c : Chunk => (c.addr, c.data)) ws m).symm

theorem foldl_placeReply (m : Mem) (base : Nat) (cs : List Chunk) : ∀ b : Mem,
    cs.foldl (placeReply m base) b =
      applyAll b (cs.map (fun c => (c.addr - base, readMem m c.addr c.size))) :=
  fun b => (applyAll_map (fun c : Chunk => (c.addr - base, readMem m c.addr c.size)) cs b).symm

/-- **Read partition.** The read commands are consecutive from `addr`, non-empty, at most `buf`
bytes each, cover exactly `len` bytes and carry the access type of the table. -/
theorem read_partition (buf addr len : Nat) (hb : 0 < buf) : RCovers buf addr len (read buf addr len) :=
  readChunks_covers hb (Nat.le_refl _)

/-- **Write partition.** Likewise, and each command carries exactly its slice of the data. -/
theorem write_partition (buf addr : Nat) (data : List Nat) (hb : 0 < buf) :
    WCovers buf addr data (write buf addr data) :=
  writeChunks_covers hb (Nat.le_refl _)

/-- **Write exactness, any order, with duplicates.** Executing the write commands generated for
`(addr, data)` in any order, each at least once and any number of times, leaves exactly `data`
at `[addr, addr + len)` and changes no other byte. -/
theorem write_exact_any_order (buf addr : Nat) (data : List Nat) (m : Mem) (hb : 0 < buf)
    (ws : List Chunk) (hsub : ∀ w ∈ ws, w ∈ write buf addr data)
    (hall : ∀ c ∈ write buf addr data, c ∈ ws) :
    ws.foldl execWrite m = writeMem m addr data := by
  rw [foldl_execWrite]
  exact applyAll_tiled (wcovers_tiled (write_partition buf addr data hb)) m ws hsub hall

/-- **Read exactness, any completion order.** Storing the reply of every read command at its
offset of the receive buffer - in any order, each at least once - yields exactly the bytes of
memory `[addr, addr + len)`, whatever the buffer held before. -/
theorem read_exact_any_order (buf addr len : Nat) (m : Mem) (hb : 0 < buf) (buffer0 : Mem)
    (done : List Chunk) (hsub : ∀ c ∈ done, c ∈ read buf addr len)
    (hall : ∀ c ∈ read buf addr len, c ∈ done) :
    readMem (done.foldl (placeReply m addr) buffer0) 0 len = readMem m addr len := by
  have h := rcovers_tiled m (read_partition buf addr len hb) (Nat.le_refl addr)
  rw [foldl_placeReply, applyAll_tiled h buffer0 done hsub hall, Nat.sub_self]
  have := readMem_writeMem_same buffer0 0 (readMem m addr len)
  rwa [readMem_length] at this

/-- **Access type soundness.** A word access is used only when address and length are word
aligned, a half-word access only when both are half-word aligned. -/
theorem dtype_sound (addr size : Nat) :
    (dtype addr size = 2 → addr % 4 = 0 ∧ size % 4 = 0) ∧
    (dtype addr size = 1 → addr % 2 = 0 ∧ size % 2 = 0) ∧ dtype addr size ≤ 2 := by
  rw [dtype_table_is_hardware_rule, dtypeSpec]
  split
  · exact ⟨fun _ => ‹_›, nofun, Nat.le_refl 2⟩
  · split
    · exact ⟨nofun, fun _ => ‹_›, by decide⟩
    · exact ⟨nofun, nofun, by decide⟩

theorem linkBlock {buf len addr n : Nat} (hb : 4 ≤ buf) (hl : 0 < len) (h4 : len % 4 = 0) (ha : addr % 4 = 0)
    (hn : n = min len (buf / 4 * 4)) :
    0 < n ∧ n ≤ buf ∧ n ≤ len ∧ n % 4 = 0 ∧ (addr + n) % 4 = 0 ∧ (len - n) % 4 = 0 := by
  have K4 : buf / 4 * 4 % 4 = 0 := Nat.mul_mod_left ..
  have n4 : n % 4 = 0 := by rw [hn, Nat.min_def]; split <;> assumption
  subst hn
  exact ⟨Nat.lt_min.2 ⟨hl, Nat.mul_pos (Nat.div_pos hb (by decide)) (by decide)⟩,
    Nat.le_trans (Nat.min_le_right ..) (Nat.div_mul_le_self ..), Nat.min_le_left .., n4, by rw [Nat.add_mod, ha, n4],
    Nat.mod_eq_zero_of_dvd (Nat.dvd_sub (Nat.dvd_of_mod_eq_zero h4) (Nat.dvd_of_mod_eq_zero n4))⟩

theorem link_guard {α : Type} {p q : Prop} [Decidable p] [Decidable q] {x : α} {r : Except LinkErr α}
    (hr : r = if ¬ p then .error .valueError else if ¬ q then .error .valueError else .ok x) :
    (r = .error .valueError ↔ ¬ p ∨ ¬ q) ∧ ∀ y, r = .ok y → p ∧ q ∧ x = y := by
  subst hr
  by_cases hp : p
  · by_cases hq : q <;> simp [hp, hq]
  · simp [hp]

/-- link commands: consecutive whole words, word aligned, at most `buf` bytes -/
def LCovers (buf : Nat) : Nat → List Nat → List Chunk → Prop
  | _, data, [] => data = []
  | a, data, c :: cs =>
    c.addr = a ∧ 0 < c.size ∧ c.size ≤ buf ∧ c.size ≤ data.length ∧ c.size % 4 = 0 ∧ c.addr % 4 = 0 ∧
      c.dt = 2 ∧ c.data = data.take c.size ∧ LCovers buf (a + c.size) (data.drop c.size) cs

theorem linkWriteChunks_covers {buf fuel addr : Nat} {data : List Nat} (hb : 4 ≤ buf) (h : data.length ≤ fuel)
    (ha : addr % 4 = 0) (hd : data.length % 4 = 0) : LCovers buf addr data (linkWriteChunks buf fuel addr data) := by
  fun_induction linkWriteChunks buf fuel addr data with
  | case1 => exact List.eq_nil_of_length_eq_zero (Nat.le_zero.1 h)
  | case2 fuel addr data hl n ih =>
    obtain ⟨n0, nb, nl, n4, na, nd⟩ := linkBlock hb hl hd ha rfl
    rw [← List.length_drop] at nd
    exact ⟨rfl, n0, nb, nl, n4, ha, rfl, rfl, ih (List.length_drop ▸ fuel_step h n0) na nd⟩
  | case3 fuel addr data hl => exact List.eq_nil_of_length_eq_zero (Nat.eq_zero_of_not_pos hl)

/-- **Link write partition.** Rejected iff misaligned; otherwise whole-word consecutive commands
carrying exactly the data. -/
theorem link_write_partition (buf addr : Nat) (data : List Nat) (hb : 4 ≤ buf) :
    (linkWrite buf addr data = .error .valueError ↔ (addr % 4 ≠ 0 ∨ data.length % 4 ≠ 0)) ∧
    (∀ cs, linkWrite buf addr data = .ok cs → LCovers buf addr data cs) := by
  refine ⟨(link_guard rfl).1, fun cs h => ?_⟩
  obtain ⟨ha, hd, rfl⟩ := (link_guard rfl).2 cs h
  exact linkWriteChunks_covers hb (Nat.le_refl _) ha hd

/-- read variant: sizes only -/
def LRCovers (buf : Nat) : Nat → Nat → List Chunk → Prop
  | _, n, [] => n = 0
  | a, n, c :: cs =>
    c.addr = a ∧ 0 < c.size ∧ c.size ≤ buf ∧ c.size ≤ n ∧ c.size % 4 = 0 ∧ c.addr % 4 = 0 ∧
      c.dt = 2 ∧ LRCovers buf (a + c.size) (n - c.size) cs

theorem linkReadChunks_covers {buf fuel addr len : Nat} (hb : 4 ≤ buf) (h : len ≤ fuel)
    (ha : addr % 4 = 0) (hd : len % 4 = 0) : LRCovers buf addr len (linkReadChunks buf fuel addr len) := by
  fun_induction linkReadChunks buf fuel addr len with
  | case1 => exact Nat.le_zero.1 h
  | case2 fuel addr len hl n ih =>
    obtain ⟨n0, nb, nl, n4, na, nd⟩ := linkBlock hb hl hd ha rfl
    exact ⟨rfl, n0, nb, nl, n4, ha, rfl, ih (fuel_step h n0) na nd⟩
  | case3 fuel addr len hl => exact Nat.eq_zero_of_not_pos hl

/-- **Link read partition.** Rejected iff misaligned; otherwise consecutive whole-word reads of exactly `len` bytes. -/
theorem link_read_partition (buf addr len : Nat) (hb : 4 ≤ buf) :
    (linkRead buf addr len = .error .valueError ↔ (addr % 4 ≠ 0 ∨ len % 4 ≠ 0)) ∧
    (∀ cs, linkRead buf addr len = .ok cs → LRCovers buf addr len cs) := by
  refine ⟨(link_guard rfl).1, fun cs h => ?_⟩
  obtain ⟨ha, hd, rfl⟩ := (link_guard rfl).2 cs h
  exact linkReadChunks_covers hb (Nat.le_refl _) ha hd

/-- **Fill.** Word-aligned fills are one fill command whose execution stores the repeated
little-endian word; anything else is a byte-wise write of `size` copies of the byte, exact in
any order; a byte value that does not fit is rejected. -/
theorem fill_exact (buf addr data size : Nat) (m : Mem) (hb : 0 < buf) :
    match fill buf addr data size with
    | .fillCmd a w s => a = addr ∧ w = data ∧ s = size ∧ addr % 4 = 0 ∧ size % 4 = 0 ∧
        execFill m a w s = writeMem m addr ((List.replicate (size / 4) (le32 data)).flatten)
    | .writes cs => (size % 4 ≠ 0 ∨ addr % 4 ≠ 0) ∧ data < 256 ∧
        ∀ ws : List Chunk, (∀ w ∈ ws, w ∈ cs) → (∀ c ∈ cs, c ∈ ws) →
          ws.foldl execWrite m = writeMem m addr (List.replicate size data)
    | .structError => 256 ≤ data := by
  fun_cases fill buf addr data size
  · next h hd => exact ⟨h, hd, write_exact_any_order buf addr _ m hb⟩
  · next h hd => exact Nat.le_of_not_lt hd
  · next h =>
    exact ⟨rfl, rfl, rfl, Decidable.of_not_not fun a => h (.inr a), Decidable.of_not_not fun a => h (.inl a), rfl⟩

/-! non-vacuity: a 10-byte write at an odd address with a 4-byte buffer needs three commands,
executed here in reverse order and then once more -/
example : (write 4 13 [1,2,3,4,5,6,7,8,9,10]).length = 3 := by decide
example : let cs := write 4 13 [1,2,3,4,5,6,7,8,9,10]
    readMem ((cs.reverse ++ cs).foldl execWrite (fun _ => 0)) 12 12 = [0,1,2,3,4,5,6,7,8,9,10,0] := by
  decide
example : (read 8 6 20).map (fun c => (c.addr, c.size, c.dt)) = [(6, 8, 1), (14, 8, 1), (22, 4, 1)] := by
  decide

end Rig.C07
