/-
C08 lemmas: the pre-order listing and its elementary operations - dicts as association lists, enabled and potential
fields, `get_field` and the update of the field it returns, the shape of the tree, insertion, sets of tags.
-/
import RigModel.Model.C08
import RigModel.Lemmas.Assoc
import RigModel.Lemmas.Lists

namespace Rig.C08

theorem lookup_of_mem_selfCompat {r : Reqs} (hs : compatible r r) {i : Ident} {v : Nat} (h : (i, v) ∈ r) :
    r.lookup i = some v := by
  cases hw : r.lookup i with
  | none => simpa using List.lookup_eq_none_iff.mp hw _ h
  | some w => rw [hs i w v (Assoc.mem_of_lookup hw) h]

theorem satisfied_iff (fv r : Reqs) : satisfied fv r = true ↔ ∀ iv ∈ r, fv.lookup iv.1 = some iv.2 := by
  simp only [satisfied, List.all_eq_true, beq_iff_eq]

theorem noConflict_iff (fv r : Reqs) :
    noConflict fv r = true ↔ ∀ iv ∈ r, ∀ w, fv.lookup iv.1 = some w → w = iv.2 := by
  simp only [noConflict, List.all_eq_true]
  refine forall₂_congr fun iv _ => ?_
  cases fv.lookup iv.1 <;> simp

theorem enabled_iff {fv : Reqs} {e : Entry} :
    e.enabled fv = true ↔ ∀ iv ∈ e.reqs, fv.lookup iv.1 = some iv.2 := by
  simp only [Entry.enabled, Entry.reqs, List.all_eq_true, satisfied_iff, List.forall_mem_flatten]

theorem potential_iff (fv : Reqs) (e : Entry) :
    e.potential fv = true ↔ ∀ iv ∈ e.reqs, ∀ w, fv.lookup iv.1 = some w → w = iv.2 := by
  simp only [Entry.potential, Entry.reqs, List.all_eq_true, noConflict_iff, List.forall_mem_flatten]

theorem enabled_congr_path {e e' : Entry} (h : e'.path = e.path) (fv : Reqs) : e'.enabled fv = e.enabled fv := by
  simp only [Entry.enabled, h]

theorem reqs_congr_path {e e' : Entry} (h : e'.path = e.path) : e'.reqs = e.reqs := by
  simp only [Entry.reqs, h]

theorem compatible_symm {r r' : Reqs} (h : compatible r r') : compatible r' r :=
  fun i v v' h1 h2 => (h i v' v h2 h1).symm

theorem enabled_self {e : Entry} (hs : compatible e.reqs e.reqs) : e.enabled e.reqs = true :=
  enabled_iff.mpr fun _ hiv => lookup_of_mem_selfCompat hs hiv

theorem compatible_of_enabled {fv : Reqs} {e e' : Entry} (h : e.enabled fv = true) (h' : e'.enabled fv = true) :
    compatible e.reqs e'.reqs := by
  rw [enabled_iff] at h h'
  intro i v v' hv hv'
  exact Option.some.inj ((h (i, v) hv).symm.trans (h' (i, v') hv'))

theorem enabled_trans {fv : Reqs} {e p : Entry} (he : e.enabled fv = true) (hp : p.enabled e.reqs = true) :
    p.enabled fv = true :=
  enabled_iff.mpr fun iv hiv => enabled_iff.mp he _ (Assoc.mem_of_lookup (enabled_iff.mp hp iv hiv))

theorem EntryDisjoint.symm {e e' : Entry} (h : EntryDisjoint e e') : EntryDisjoint e' e :=
  fun l s l' s' h1 h2 h3 h4 => (h l' s' l s h3 h4 h1 h2).symm

theorem potential_of_compatible {fv r : Reqs} {e : Entry} (hfv : ∀ i w, fv.lookup i = some w → (i, w) ∈ r)
    (h : compatible r e.reqs) : e.potential fv = true :=
  (potential_iff _ _).mpr fun iv hiv w hw => h iv.1 w iv.2 (hfv _ _ hw) hiv

theorem compatible_of_potential {r : Reqs} {e : Entry} (hs : compatible r r) (h : e.potential r = true) :
    compatible r e.reqs :=
  fun j v v' hv hv' => (potential_iff _ _).mp h (j, v') hv' v (lookup_of_mem_selfCompat hs hv)

theorem enabled_imp_potential {fv : Reqs} {e : Entry} (h : e.enabled fv = true) : e.potential fv = true :=
  (potential_iff _ _).mpr fun iv hiv _ hw => Option.some.inj (hw.symm.trans (enabled_iff.mp h iv hiv))

theorem getField_some {es : List Entry} {i : Ident} {fv : Reqs} {e : Entry} (h : getField es i fv = some e) :
    e ∈ es ∧ e.ident = i ∧ e.enabled fv = true := by
  have h2 := List.find?_some h
  simp only [Bool.and_eq_true, beq_iff_eq] at h2
  exact ⟨List.mem_of_find?_eq_some h, h2⟩

def Entry.upd (f : Field → Field) (e : Entry) : Entry := { e with field := f e.field }

@[simp] theorem upd_path (f : Field → Field) (e : Entry) : (e.upd f).path = e.path := rfl
@[simp] theorem upd_ident (f : Field → Field) (e : Entry) : (e.upd f).ident = e.ident := rfl
@[simp] theorem upd_reqs (f : Field → Field) (e : Entry) : (e.upd f).reqs = e.reqs := rfl
@[simp] theorem upd_field (f : Field → Field) (e : Entry) : (e.upd f).field = f e.field := rfl
@[simp] theorem upd_enabled (f : Field → Field) (e : Entry) (fv : Reqs) : (e.upd f).enabled fv = e.enabled fv := rfl
@[simp] theorem upd_potential (f : Field → Field) (e : Entry) (fv : Reqs) : (e.upd f).potential fv = e.potential fv := rfl

theorem modifyFirst_cons (p : Entry → Bool) (f : Field → Field) (e : Entry) (es : List Entry) :
    modifyFirst p f (e :: es) = if p e then e.upd f :: es else e :: modifyFirst p f es := rfl

/-- the one entry `modifyFirst` touches is the one `find?` returns (for `modifyField`: the one `get_field` returns) -/
theorem mem_modifyFirst {p : Entry → Bool} {f : Field → Field} {es : List Entry} {x : Entry}
    (h : x ∈ modifyFirst p f es) : x ∈ es ∨ ∃ y, es.find? p = some y ∧ x = y.upd f := by
  fun_induction modifyFirst p f es with
  | case1 => cases h
  | case2 e es hp =>
    rcases List.mem_cons.mp h with h | h
    · exact Or.inr ⟨e, List.find?_cons_of_pos hp, h⟩
    · exact Or.inl (List.mem_cons_of_mem _ h)
  | case3 e es hp ih =>
    rw [List.find?_cons_of_neg hp]
    rcases List.mem_cons.mp h with h | h
    · exact Or.inl (h ▸ List.mem_cons_self)
    · exact (ih h).imp_left (List.mem_cons_of_mem _)

theorem forall_modifyFirst {P : Entry → Prop} {p : Entry → Bool} {f : Field → Field} {es : List Entry}
    (h : ∀ e ∈ es, P e) (hu : ∀ y, es.find? p = some y → P (y.upd f)) : ∀ e ∈ modifyFirst p f es, P e :=
  fun e he => (mem_modifyFirst he).elim (h e) fun ⟨y, hy, hx⟩ => hx ▸ hu y hy

theorem pairwise_modifyFirst {R : Entry → Entry → Prop} {p : Entry → Bool} {f : Field → Field} {es : List Entry}
    (hp : es.Pairwise R)
    (h : ∀ y, es.find? p = some y → ∀ x ∈ es, (R y x → R (y.upd f) x) ∧ (R x y → R x (y.upd f))) :
    (modifyFirst p f es).Pairwise R := by
  fun_induction modifyFirst p f es with
  | case1 => exact hp
  | case2 e es hpe =>
    rw [List.pairwise_cons] at hp ⊢
    exact ⟨fun x hx => (h e (List.find?_cons_of_pos hpe) x (List.mem_cons_of_mem _ hx)).1 (hp.1 x hx), hp.2⟩
  | case3 e es hpe ih =>
    rw [List.find?_cons_of_neg hpe] at h
    rw [List.pairwise_cons] at hp ⊢
    refine ⟨fun x hx => ?_, ih hp.2 fun y hy x hx => h y hy x (List.mem_cons_of_mem _ hx)⟩
    rcases mem_modifyFirst hx with h1 | ⟨y, hy, rfl⟩
    · exact hp.1 x h1
    · exact (h y hy e List.mem_cons_self).2 (hp.1 y (List.mem_of_find?_eq_some hy))

theorem specUnique_modifyFirst {p : Entry → Bool} {f : Field → Field} {es : List Entry} (hu : SpecUnique es) :
    SpecUnique (modifyFirst p f es) :=
  pairwise_modifyFirst hu fun _ _ _ _ => ⟨id, id⟩

theorem modifyFirst_eq_map {pm : Entry → Bool} {f : Field → Field} {es : List Entry}
    (hp : es.Pairwise fun a b => ¬ (pm a = true ∧ pm b = true)) :
    modifyFirst pm f es = es.map fun x => if pm x then x.upd f else x := by
  fun_induction modifyFirst pm f es with
  | case1 => rfl
  | case2 e es he =>
    have : ∀ x ∈ es, (if pm x then x.upd f else x) = x :=
      fun x hx => if_neg fun h => (List.pairwise_cons.mp hp).1 x hx ⟨he, h⟩
    rw [List.map_cons, if_pos he, List.map_congr_left this, List.map_id']; rfl
  | case3 e es he ih => rw [List.map_cons, if_neg he, ih (List.pairwise_cons.mp hp).2]

theorem upd_mem_modifyFirst {pm : Entry → Bool} {f : Field → Field} {es : List Entry} {y : Entry}
    (h : es.find? pm = some y) : y.upd f ∈ modifyFirst pm f es := by
  fun_induction modifyFirst pm f es with
  | case1 => cases h
  | case2 x xs hp =>
    cases (List.find?_cons_of_pos hp).symm.trans h
    exact List.mem_cons_self
  | case3 x xs hp ih => exact List.mem_cons_of_mem _ (ih (List.find?_cons_of_neg hp ▸ h))

theorem getField_modifyFirst (pm : Entry → Bool) (f : Field → Field) (j : Ident) (fv : Reqs) (es : List Entry) :
    getField (modifyFirst pm f es) j fv = getField es j fv ∨ ∃ y, es.find? pm = some y ∧ getField es j fv = some y ∧
      getField (modifyFirst pm f es) j fv = some (y.upd f) := by
  unfold getField
  induction es with
  | nil => exact .inl rfl
  | cons e es ih =>
    rw [modifyFirst_cons]
    cases hq : (e.ident == j && e.enabled fv) <;> cases hp : pm e <;>
      simp only [List.find?_cons, upd_ident, upd_enabled, hq, hp, if_true, Bool.false_eq_true, if_false]
    · exact ih
    · exact .inl trivial
    · exact .inl trivial
    · exact .inr ⟨e, rfl, rfl, rfl⟩

theorem eq_of_enabled_same_ident {es : List Entry} (hu : SpecUnique es) {y e : Entry} {fv : Reqs}
    (hy : y ∈ es) (he : e ∈ es) (hid : y.ident = e.ident) (h1 : y.enabled fv = true) (h2 : e.enabled fv = true) :
    y = e := by
  rcases Lists.pairwise_mem hu hy he with h | h | h
  · exact h
  · exact absurd hid (h (compatible_of_enabled h1 h2))
  · exact absurd hid.symm (h (compatible_of_enabled h2 h1))

theorem getField_of_enabled {es : List Entry} (hu : SpecUnique es) {y : Entry} {fv : Reqs} (hy : y ∈ es)
    (hen : y.enabled fv = true) : getField es y.ident fv = some y := by
  cases hg : getField es y.ident fv with
  | none => simpa [hen] using List.find?_eq_none.mp hg y hy
  | some e' =>
    obtain ⟨h1, h2, h3⟩ := getField_some hg
    rw [eq_of_enabled_same_ident hu h1 hy h2 h3 hen]

theorem unique_pairwise_match {es : List Entry} (hu : SpecUnique es) (i : Ident) (fv : Reqs) :
    es.Pairwise fun a b => ¬ ((a.ident == i && a.enabled fv) = true ∧ (b.ident == i && b.enabled fv) = true) := by
  refine hu.imp ?_
  intro a b hab ⟨ha, hb⟩
  simp only [Bool.and_eq_true, beq_iff_eq] at ha hb
  exact hab (compatible_of_enabled ha.2 hb.2) (ha.1.trans hb.1.symm)

/-! `shape`: what no update of a `_Field` object changes. -/

def shape (es : List Entry) : List (Path × Ident) := es.map fun e => (e.path, e.ident)

theorem mem_shape {es : List Entry} {p : Path} {i : Ident} :
    (p, i) ∈ shape es ↔ ∃ e ∈ es, e.path = p ∧ e.ident = i := by
  simp only [shape, List.mem_map, Prod.mk.injEq]

theorem map_modifyFirst {β : Type} (π : Entry → β) {pm : Entry → Bool} {g : Field → Field} {es : List Entry}
    (h : ∀ y, es.find? pm = some y → π (y.upd g) = π y) : (modifyFirst pm g es).map π = es.map π := by
  fun_induction modifyFirst pm g es with
  | case1 => rfl
  | case2 e es hp => exact congrArg (· :: _) (h e (List.find?_cons_of_pos hp))
  | case3 e es hp ih => exact congrArg (_ :: ·) (ih fun y hy => h y (by rwa [List.find?_cons_of_neg hp]))

theorem shape_modifyField {es : List Entry} {i : Ident} {fv : Reqs} {f : Field → Field} :
    shape (modifyField es i fv f) = shape es := map_modifyFirst _ fun _ _ => rfl

theorem exists_of_shape_eq {es es' : List Entry} (h : shape es' = shape es) {x' : Entry} (hx : x' ∈ es') :
    ∃ x ∈ es, x.path = x'.path ∧ x.ident = x'.ident :=
  mem_shape.mp (h ▸ mem_shape.mpr ⟨x', hx, rfl, rfl⟩)

theorem insertAfterLast_perm (pred : Entry → Bool) (e : Entry) (es : List Entry) :
    (insertAfterLast pred e es).Perm (e :: es) :=
  List.perm_middle.trans (by rw [List.take_append_drop])

theorem insertEntry_perm (es : List Entry) (e : Entry) : (insertEntry es e).Perm (e :: es) := by
  unfold insertEntry
  split <;> exact insertAfterLast_perm _ _ _

theorem mem_insertSorted {t x : String} {l : List String} : x ∈ insertSorted t l ↔ x = t ∨ x ∈ l := by
  fun_induction insertSorted t l with
  | case1 | case2 => simp
  | case3 y _ _ h => simp [show t = y by simpa using h]
  | case4 _ _ _ _ ih => simp only [List.mem_cons, ih, or_left_comm]

theorem mem_tagUnion {x : String} {a b : List String} : x ∈ tagUnion a b ↔ x ∈ a ∨ x ∈ b := by
  unfold tagUnion
  induction b generalizing a with
  | nil => simp
  | cons t ts ih => simp only [List.foldl_cons, ih, mem_insertSorted, List.mem_cons, or_left_comm, or_assoc]

end Rig.C08
