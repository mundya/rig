/-
C04 - `_refine_merge` and `_get_best_merge` on a generality-sorted table: they return, and a
returned merge that is still good enough passes the up-check and the down-check.
-/
import RigModel.Lemmas.C04Apply
import RigModel.Lemmas.C04Ins
import RigModel.Lemmas.C04Down

namespace Rig.C04

theorem mkMerge_entries (T : List Entry) (es : List Nat) : (mkMerge T es).entries = es := rfl

theorem mkMerge_goodness (T : List Entry) (es : List Nat) :
    (mkMerge T es).goodness = (es.length : Int) - 1 := rfl

theorem mkMerge_gen_eq (T : List Entry) (es : List Nat) :
    generality (mkMerge T es).key (mkMerge T es).mask = (mkMerge T es).gen := by
  simp only [mkMerge]

theorem mkMerge_ins_eq (T : List Entry) (es : List Nat) :
    (mkMerge T es).ins = insertionIndex T (mkMerge T es).gen := by
  simp only [mkMerge]

theorem mkMerge_nil_goodness (T : List Entry) {minG : Int} (h0 : 0 ≤ minG) :
    ¬ (mkMerge T []).goodness > minG := by
  show ¬ ((0 : Int) - 1 > minG)
  omega

theorem exists_valid_of_goodness {T : List Entry} {es : List Nat} {minG : Int}
    (hv : ∀ i ∈ es, i < T.length) (h0 : 0 ≤ minG) (hg : (mkMerge T es).goodness > minG) :
    ∃ i ∈ es, i < T.length := by
  cases es with
  | nil => exact absurd hg (mkMerge_nil_goodness T h0)
  | cons i r => exact ⟨i, List.mem_cons_self, hv i List.mem_cons_self⟩

theorem gen_merged (ms : List Entry) :
    generality (mergedKey ms) (mergedMask ms) = popcount (~~~ mergedMask ms) := by
  unfold generality mergedKey
  congr 1
  apply BitVec.eq_of_getLsbD_eq
  intro i hi
  simp only [BitVec.getLsbD_and, BitVec.getLsbD_not, hi, decide_true, Bool.true_and]
  cases (mergedMask ms).getLsbD i <;> simp

theorem mkMerge_gen_mono {T : List Entry} {es es' : List Nat} (hsub : ∀ i ∈ es', i ∈ es)
    (hne : ∃ i ∈ es', i < T.length) : (mkMerge T es').gen ≤ (mkMerge T es).gen := by
  show generality (mergedKey (members T es')) (mergedMask (members T es')) ≤
    generality (mergedKey (members T es)) (mergedMask (members T es))
  rw [gen_merged, gen_merged]
  apply popcount_mono
  intro i hi h
  simp only [BitVec.getLsbD_not, hi, decide_true, Bool.true_and, Bool.not_eq_true'] at h ⊢
  cases hc : (mergedMask (members T es)).getLsbD i with
  | false => rfl
  | true =>
    rw [mergedMask_bit_of (members_ne_nil hne) hi _ fun e he =>
      merged_bit_of hi hc (members_subset hsub e he)] at h
    cases h

theorem mkMerge_ins_mono {T : List Entry} {es es' : List Nat} (hs : SortedGen T)
    (hsub : ∀ i ∈ es', i ∈ es) (hne : ∃ i ∈ es', i < T.length) :
    (mkMerge T es').ins ≤ (mkMerge T es).ins := by
  rw [mkMerge_ins_eq, mkMerge_ins_eq]
  exact insertionIndex_mono T _ _ hs (mkMerge_gen_mono hsub hne)

/-- member `i` is not hidden by an entry between it and position `ins` -/
def UpOkAt (T : List Entry) (ins i : Nat) : Prop :=
  ∀ e, T[i]? = some e → ∀ o ∈ (T.take ins).drop (i + 1), e.meets o = false

theorem upOkAt_mono {T : List Entry} {ins ins' i : Nat} (h : ins' ≤ ins) (hu : UpOkAt T ins i) :
    UpOkAt T ins' i := by
  intro e he o ho
  refine hu e he o (List.Sublist.subset (List.Sublist.drop ?_ _) ho)
  rw [← Nat.min_eq_left h, ← List.take_take]
  exact List.take_sublist _ _

theorem upOk_iff (T : List Entry) (m : Merge) : UpOk T m ↔ ∀ i ∈ m.entries, UpOkAt T m.ins i := Iff.rfl

theorem upOk_mono {T : List Entry} {es es' : List Nat} (hs : SortedGen T) (hsub : ∀ i ∈ es', i ∈ es)
    (hne : ∃ i ∈ es', i < T.length) (h : UpOk T (mkMerge T es)) : UpOk T (mkMerge T es') :=
  fun i hi => upOkAt_mono (mkMerge_ins_mono hs hsub hne) (h i (hsub i hi))

/-- `is` are the positions still to be examined; members outside `is` are known not to be hidden -/
theorem upLoop_spec (T : List Entry) (minG : Int) (hs : SortedGen T) (h0 : 0 ≤ minG)
    (is : List Nat) (m : Merge) (ch : Bool) (es : List Nat) (hm : m = mkMerge T es)
    (hv : ∀ i ∈ es, i < T.length) (hP : ∀ i ∈ es, i ∉ is → UpOkAt T m.ins i) :
    ∃ es' ch', upLoop T minG is m ch = (mkMerge T es', ch') ∧ es'.Sublist es ∧
      ((mkMerge T es').goodness > minG → UpOk T (mkMerge T es')) ∧ (ch' = false → es' = es) ∧
      (ch = true → ch' = true) := by
  fun_induction upLoop T minG is m ch generalizing es with
  | case1 m ch =>
    subst hm
    exact ⟨es, ch, rfl, List.Sublist.refl _, fun _ _ hi => hP _ hi List.not_mem_nil, fun _ => rfl, id⟩
  | case2 i rest m ch he ih =>
    refine ih es hm hv fun j hj hjr => ?_
    by_cases hji : j = i
    · intro e he'; rw [hji, he] at he'; cases he'
    · exact hP j hj fun h => (List.mem_cons.mp h).elim hji hjr
  | case3 i rest m ch e he hany m' hg =>
    exact ⟨[], true, rfl, List.nil_sublist _, fun h => absurd h (mkMerge_nil_goodness T h0),
      fun h => absurd h (by decide), fun _ => rfl⟩
  | case4 i rest m ch e he hany m' hg ih =>
    -- member i is hidden and removed
    subst hm
    have hsub : (es.filter (· != i)).Sublist es := List.filter_sublist
    have hv' : ∀ j ∈ es.filter (· != i), j < T.length := fun j hj => hv j (hsub.subset hj)
    have hmono := mkMerge_ins_mono hs hsub.subset (exists_valid_of_goodness hv' h0 (Int.lt_of_not_ge hg))
    obtain ⟨es', ch', h1, h2, h3, _, h5⟩ := ih (es.filter (· != i)) rfl hv' fun j hj hjr =>
      have hj' := List.mem_filter.mp hj
      upOkAt_mono hmono (hP j hj'.1 fun h => (List.mem_cons.mp h).elim (bne_iff_ne.mp hj'.2) hjr)
    -- once a member was removed the `changed` flag stays set
    have hch : ch' = true := h5 rfl
    exact ⟨es', ch', h1, h2.trans hsub, h3, fun hf => absurd (hch ▸ hf) (by decide), fun _ => hch⟩
  | case5 i rest m ch e he hany ih =>
    -- member i stays: it is not hidden up to the current insertion index
    refine ih es hm hv fun j hj hjr => ?_
    by_cases hji : j = i
    · intro e' he' o ho
      rw [hji, he] at he'; cases he'
      exact Bool.eq_false_iff.mpr fun hm => hany (List.any_eq_true.mpr ⟨o, hji ▸ ho, hm⟩)
    · exact hP j hj fun h => (List.mem_cons.mp h).elim hji hjr

theorem upcheck_spec (T : List Entry) (minG : Int) (hs : SortedGen T) (h0 : 0 ≤ minG)
    (es : List Nat) (hv : ∀ i ∈ es, i < T.length) :
    ∃ es' ch', upcheck T (mkMerge T es) minG = (mkMerge T es', ch') ∧ es'.Sublist es ∧
      ((mkMerge T es').goodness > minG → UpOk T (mkMerge T es')) ∧ (ch' = false → es' = es) :=
  have ⟨es', ch', h1, h2, h3, h4, _⟩ := upLoop_spec T minG hs h0 es.reverse _ false es rfl hv
    fun _ hi hn => absurd (List.mem_reverse.mpr hi) hn
  ⟨es', ch', h1, h2, h3, h4⟩

/-- every round removes a member, so fuel above the number of members suffices -/
theorem downLoop_ok (T : List Entry) (A : Aliases) (minG : Int) (h0 : 0 ≤ minG) (fuel : Nat)
    (m : Merge) (es : List Nat) (hm : m = mkMerge T es) (hv : ∀ i ∈ es, i < T.length)
    (hf : es.length + 1 ≤ fuel) :
    ∃ es', downLoop T A minG fuel m = some (mkMerge T es') ∧ es'.Sublist es ∧
      ((mkMerge T es').goodness > minG → DownOk T A (mkMerge T es')) := by
  have hnil : ∀ es : List Nat, ∃ es', some (mkMerge T []) = some (mkMerge T es') ∧ es'.Sublist es ∧
      ((mkMerge T es').goodness > minG → DownOk T A (mkMerge T es')) :=
    fun _ => ⟨[], rfl, List.nil_sublist _, fun h => absurd h (mkMerge_nil_goodness T h0)⟩
  fun_induction downLoop T A minG fuel m generalizing es with
  | case1 => cases hf
  | case2 fuel m hg cov hc =>
    subst hm
    exact ⟨es, rfl, List.Sublist.refl _, fun _ => List.isEmpty_iff.mp hc⟩
  | case3 => exact hnil es
  | case4 fuel m hg cov hc sb hs0 remove ih =>
    subst hm
    obtain ⟨s2, s3⟩ := stringency_spec (mkMerge T es) cov (mt List.isEmpty_iff.mpr hc)
    have hne := exists_valid_of_goodness hv h0 hg
    obtain ⟨c1, c2⟩ := chooseRemove_spec T (mkMerge T es) sb.2
      (s2 fun h => hs0 (beq_iff_eq.mpr h)) (fun bv hbv => (s3 bv hbv).1)
      (fun bv hbv => workingRemove_ne_nil T es hne bv.1 bv.2 (s3 bv hbv).1 (s3 bv hbv).2)
    obtain ⟨x, hx⟩ := List.exists_mem_of_ne_nil _ c1
    have hsub := List.filter_sublist (l := es) (p := fun i => !remove.contains i)
    have hlt : (es.filter fun i => !remove.contains i).length < es.length :=
      List.length_filter_lt_length_iff_exists.mpr
        ⟨x, c2 x hx, fun h => by rw [List.contains_iff_mem.mpr hx] at h; cases h⟩
    obtain ⟨es', h1, h2, h3⟩ := ih _ rfl (fun i hi => hv i (hsub.subset hi))
      (Nat.le_of_lt_succ (Nat.lt_of_lt_of_le (Nat.succ_lt_succ hlt) hf))
    exact ⟨es', h1, h2.trans hsub, h3⟩
  | case5 => exact hnil es

theorem downcheck_ok (T : List Entry) (A : Aliases) (minG : Int) (h0 : 0 ≤ minG)
    (es : List Nat) (hv : ∀ i ∈ es, i < T.length) :
    ∃ es', downcheck T A (mkMerge T es) minG = some (mkMerge T es') ∧ es'.Sublist es ∧
      ((mkMerge T es').goodness > minG → DownOk T A (mkMerge T es')) :=
  downLoop_ok T A minG h0 _ _ es rfl hv (Nat.le_succ _)

theorem refineMerge_ok (T : List Entry) (A : Aliases) (minG : Int) (hs : SortedGen T)
    (h0 : 0 ≤ minG) (es : List Nat) (hv : ∀ i ∈ es, i < T.length) :
    ∃ es', refineMerge T A (mkMerge T es) minG = some (mkMerge T es') ∧ es'.Sublist es ∧
      ((mkMerge T es').goodness > minG → UpOk T (mkMerge T es') ∧ DownOk T A (mkMerge T es')) := by
  obtain ⟨es1, hd1, hsub1, hdown1⟩ := downcheck_ok T A minG h0 es hv
  have hv1 : ∀ i ∈ es1, i < T.length := fun i hi => hv i (hsub1.subset hi)
  by_cases hg1 : (mkMerge T es1).goodness > minG
  · obtain ⟨es2, ch2, hu, hsub2, hup2, hch2⟩ := upcheck_spec T minG hs h0 es1 hv1
    have hv2 : ∀ i ∈ es2, i < T.length := fun i hi => hv1 i (hsub2.subset hi)
    by_cases hc : (ch2 && decide ((mkMerge T es2).goodness > minG)) = true
    · simp only [refineMerge, hd1, hg1, hu, hc, ↓reduceIte]
      rw [Bool.and_eq_true, decide_eq_true_eq] at hc
      obtain ⟨es3, hd3, hsub3, hdown3⟩ := downcheck_ok T A minG h0 es2 hv2
      exact ⟨es3, hd3, hsub3.trans (hsub2.trans hsub1), fun hg3 =>
        ⟨upOk_mono hs hsub3.subset
          (exists_valid_of_goodness (fun i hi => hv2 i (hsub3.subset hi)) h0 hg3) (hup2 hc.2),
          hdown3 hg3⟩⟩
    · simp only [refineMerge, hd1, hg1, hu, hc, ↓reduceIte]
      refine ⟨es2, rfl, hsub2.trans hsub1, fun hg2 => ?_⟩
      -- nothing was flagged: this is the merge the first down-check returned
      have hch : ch2 = false := Bool.eq_false_iff.mpr fun hb =>
        hc (Bool.and_eq_true_iff.mpr ⟨hb, decide_eq_true hg2⟩)
      obtain rfl := hch2 hch
      exact ⟨hup2 hg2, hdown1 hg2⟩
  · simp only [refineMerge, hd1, hg1, ↓reduceIte]
    exact ⟨es1, rfl, hsub1, fun hg => absurd hg hg1⟩

theorem allMergesGo_spec (T : List Entry) (is considered : List Nat) :
    ∀ es ∈ allMergesGo T is considered, es.Sublist is ∧ SameRoute T es := by
  fun_induction allMergesGo T is considered with
  | case1 => intro es h; cases h
  | case2 i rest _ _ ih => exact fun es h => ⟨(ih es h).1.cons i, (ih es h).2⟩
  | case3 i rest _ _ _ ih => exact fun es h => ⟨(ih es h).1.cons i, (ih es h).2⟩
  | case4 i rest _ _ e he merge _ _ ih =>
    intro es h
    rcases List.mem_cons.mp h with rfl | h
    · refine ⟨List.filter_sublist.cons_cons i, ?_⟩
      have key : ∀ a ∈ members T merge, a.route = e.route := by
        intro a ha
        obtain ⟨j, hj, hTj⟩ := mem_members.mp ha
        rcases List.mem_cons.mp hj with rfl | hj
        · rw [he] at hTj; cases hTj; rfl
        · have h2 := (List.mem_filter.mp hj).2
          rw [hTj] at h2
          exact (beq_iff_eq.mp h2).symm
      exact fun a ha b hb => (key a ha).trans (key b hb).symm
    · exact ⟨(ih es h).1.cons i, (ih es h).2⟩
  | case5 i rest _ _ _ _ _ _ _ ih => exact fun es h => ⟨(ih es h).1.cons i, (ih es h).2⟩

/-- what `_get_best_merge` hands to `apply` -/
def GoodMerge (T : List Entry) (A : Aliases) (m : Merge) : Prop :=
  ∃ es, m = mkMerge T es ∧ es.Sublist (List.range T.length) ∧ SameRoute T es ∧ UpOk T m ∧ DownOk T A m

theorem bestLoop_ok (T : List Entry) (A : Aliases) (hs : SortedGen T) (ms : List (List Nat))
    (hms : ∀ es ∈ ms, es.Sublist (List.range T.length) ∧ SameRoute T es)
    (best : Merge) (bg : Int) (h0 : 0 ≤ bg) (hbest : best.goodness > 0 → GoodMerge T A best) :
    ∃ m, bestLoop T A ms best bg = some m ∧ (m.goodness > 0 → GoodMerge T A m) := by
  induction ms generalizing best bg with
  | nil => exact ⟨best, rfl, hbest⟩
  | cons es rest ih =>
    have hrest : ∀ es ∈ rest, es.Sublist (List.range T.length) ∧ SameRoute T es :=
      fun x hx => hms x (List.mem_cons_of_mem _ hx)
    by_cases hle : (mkMerge T es).goodness ≤ bg
    · simp only [bestLoop, hle, ↓reduceIte]
      exact ih hrest best bg h0 hbest
    · obtain ⟨hrange, hsr⟩ := hms es List.mem_cons_self
      obtain ⟨es', hr, hsub, hok⟩ := refineMerge_ok T A bg hs h0 es
        fun i hi => List.mem_range.mp (hrange.subset hi)
      by_cases hg : (mkMerge T es').goodness > bg
      · simp only [bestLoop, hle, hr, hg, ↓reduceIte]
        refine ih hrest _ _ (Int.le_trans h0 (Int.le_of_lt hg)) fun _ => ?_
        obtain ⟨hu, hd⟩ := hok hg
        exact ⟨es', rfl, hsub.trans hrange, fun a ha b hb =>
          hsr a (members_subset hsub.subset a ha) b (members_subset hsub.subset b hb), hu, hd⟩
      · simp only [bestLoop, hle, hr, hg, ↓reduceIte]
        exact ih hrest best bg h0 hbest

/-- positive goodness is the condition under which `ordered_covering` applies the merge -/
theorem bestMerge_ok (T : List Entry) (A : Aliases) (hs : SortedGen T) :
    ∃ m, bestMerge T A = some m ∧ (m.goodness > 0 → GoodMerge T A m) :=
  bestLoop_ok T A hs _ (allMergesGo_spec T _ _) _ 0 (Int.le_refl _)
    fun h => absurd h (mkMerge_nil_goodness T (Int.le_refl _))

end Rig.C04
