/-
C01 - bridge lemmas between the stage models for the composed model pipeline
(Model/C01Pipe.lean): placement -> working chips, allocation -> core ranges, `minimise_tables` on the
chip-indexed dict -> per-chip `RouteEquiv` of the final tables, `Domain` -> C05 `WellFormed` and C02 `WF`.
`namespace Rig.C01Pipe.L`, for Props/C01Pipe.
-/
import RigModel.Model.C01Pipe
import RigModel.Lemmas.C01Pipe
import RigModel.Props.C01
import RigModel.Props.C05
import RigModel.Props.C02

namespace Rig.C01Pipe.L
open Rig.C01 Rig.C01Pipe
open Rig.C03 (Chip chipOk linkOk Sink)
open Rig.C04 (RouteEquiv minimiseTables Good Method)
open Rig.Assoc (mem_of_lookup)

theorem forall₂_right {α β : Type} {R : α → β → Prop} {as : List α} {bs : List β}
    (h : List.Forall₂ R as bs) : ∀ b ∈ bs, ∃ a ∈ as, R a b := by
  induction h with
  | nil => exact fun _ hb => nomatch hb
  | cons h _ ih =>
    intro b hb
    rcases List.mem_cons.1 hb with rfl | hb
    · exact ⟨_, List.mem_cons_self .., h⟩
    · obtain ⟨a, ha, hr⟩ := ih b hb
      exact ⟨a, List.mem_cons_of_mem _ ha, hr⟩

theorem forall₂_imp_mem {α β : Type} {R S : α → β → Prop} {as : List α} {bs : List β}
    (h : List.Forall₂ R as bs) (hi : ∀ a b, b ∈ bs → R a b → S a b) : List.Forall₂ S as bs := by
  induction h with
  | nil => exact .nil
  | cons h _ ih => exact .cons (hi _ _ (List.mem_cons_self ..) h) (ih fun a b hb => hi a b (List.mem_cons_of_mem _ hb))

theorem mem_chipsFor {T : Tables} {targets : Chip → Option Nat} {x : Nat × List Entry × Option Nat} :
    x ∈ chipsFor T targets ↔ ∃ ct, T[x.1]? = some ct ∧ x.2.1 = ct.2 ∧ x.2.2 = targets ct.1 := by
  obtain ⟨i, t, tg⟩ := x
  simp only [chipsFor, List.mem_map, Prod.mk.injEq]
  constructor
  · rintro ⟨⟨ct, j⟩, hm, rfl, rfl, rfl⟩
    exact ⟨ct, List.mem_zipIdx_iff_getElem?.1 hm, rfl, rfl⟩
  · rintro ⟨ct, h, rfl, rfl⟩
    exact ⟨(ct, i), List.mem_zipIdx_iff_getElem?.2 h, rfl, rfl, rfl⟩

theorem mem_finalTables {T : Tables} {out : List (Nat × List Entry)} {q : Chip × List Entry} :
    q ∈ finalTables T out ↔ ∃ y ∈ out, ∃ ct, T[y.1]? = some ct ∧ (ct.1, y.2) = q := by
  simp only [finalTables, List.mem_filterMap, Option.map_eq_some_iff]

theorem final_equiv {T : Tables} (hn : (T.map (·.1)).Nodup)
    (hg : ∀ ct ∈ T, Good ct.2 ∧ ∀ e ∈ ct.2, e.sources ≠ 0)
    {targets : Chip → Option Nat} {methods : List Method} {out : List (Nat × List Entry)}
    (h : minimiseTables (chipsFor T targets) methods = .ok out) (c : Chip) :
    RouteEquiv (tableAt T c) (tableAt (finalTables T out) c) := by
  by_cases hc : c ∈ T.map (·.1)
  · obtain ⟨ct, hct, rfl⟩ := List.mem_map.1 hc
    obtain ⟨i, hi⟩ := List.mem_iff_getElem?.1 hct
    obtain ⟨h1, h2⟩ := Rig.C04.minimiseTables_equiv _ _ _ h
    obtain ⟨T', hT', hout⟩ := h1 (i, ct.2, targets ct.1) (mem_chipsFor.2 ⟨ct, hi, rfl, rfl⟩)
    rw [Rig.C01.L.tableAt_of_mem hn hct, Rig.C01.L.tableAt_eq (X := T') ?_ (hout.imp_right fun ho =>
      ⟨_, mem_finalTables.2 ⟨(i, T'), ho, ct, hi, rfl⟩, rfl⟩)]
    · exact (Rig.C04.minimiseTable_equiv ct.2 (targets ct.1) methods T' (hg ct hct).1 (hg ct hct).2 hT').1
    -- every table the minimiser returned for this chip is `T'`
    · intro q hq hc1
      obtain ⟨y, hy, ct', hy1, rfl⟩ := mem_finalTables.1 hq
      obtain ⟨_, x', hx', hx1, hm⟩ := h2 y hy
      obtain ⟨ct'', hg1, hg2, hg3⟩ := mem_chipsFor.1 hx'
      rw [hx1, hy1] at hg1
      cases hg1
      cases List.inj_on_of_nodup_map hn (List.mem_of_getElem? hy1) hct hc1
      rw [hg2, hg3, hT'] at hm
      cases hm; rfl
  · rw [Rig.C01.L.tableAt_of_not_mem hc]
    exact fun k e he => by simp [Rig.C04.lookup] at he

theorem machine3_eq (pb : Problem) : machine3 pb = machineOf02 pb.m2 pb.deadLinks := rfl

/-- C02 => C03: a placed vertex sits on a working chip of the router's machine -/
theorem chipOf_ok {pb : Problem} {p : Rig.C02.Placement}
    (hf : Rig.C02.Feasible (vr02 pb) (cs02 pb) pb.m2 p) {v : Nat} {c : Chip} (h : chipOf p v = some c) :
    chipOk (machine3 pb) c = true := by
  obtain ⟨c0, h0, rfl⟩ := Option.map_eq_some_iff.1 h
  have hk : Rig.C02.Vtx.o v ∈ Rig.C02.keys p :=
    List.mem_map_of_mem (f := Prod.fst) (Rig.C02.aget_some_mem h0)
  obtain ⟨c', h1, h2⟩ := placement_bridge (vr02 pb) (cs02 pb) pb.m2 p pb.deadLinks hf _ (hf.onlyVertices _ hk)
  cases h0.symm.trans h1
  exact h2

theorem mem_endpoints {cs : List PC} {v r : Nat} : (v, r) ∈ endpoints cs ↔ PC.endpoint v r ∈ cs := by
  simp only [endpoints, List.mem_filterMap]
  constructor
  · rintro ⟨c, hc, h⟩
    cases c <;> simp at h
    obtain ⟨rfl, rfl⟩ := h
    exact hc
  · intro h; exact ⟨_, h, rfl⟩

theorem endpointOf_mem {cs : List PC} {v r : Nat} (h : endpointOf cs v = some r) : PC.endpoint v r ∈ cs :=
  mem_endpoints.1 (List.mem_reverse.1 (mem_of_lookup h))

theorem mem_devLinks {pb : Problem} {p : Rig.C02.Placement} {d : Chip × Nat} :
    d ∈ devLinks pb p ↔ ∃ v, endpointOf pb.cs v = some d.2 ∧ chipOf p v = some d.1 ∧ d.2 < 6 := by
  simp only [devLinks, List.mem_filterMap]
  constructor
  · rintro ⟨vr, _, h⟩
    split at h
    · rename_i r c he hc
      split at h
      · cases h; exact ⟨vr.1, he, hc, by assumption⟩
      · cases h
    · cases h
  · rintro ⟨v, he, hc, hr⟩
    exact ⟨(v, d.2), mem_endpoints.2 (endpointOf_mem he), by simp [he, hc, hr]⟩

section sinks
variable {pb : Problem} {p : Rig.C02.Placement} {A : Rig.C05.Alloc}

theorem sinkOf_spec {v : Nat} {s : Sink} (h : sinkOf pb p A v = some s) :
    chipOf p v = some s.chip ∧ (s.kind = 2 → endpointOf pb.cs v = some s.a) ∧
    (s.kind = 1 → endpointOf pb.cs v = none ∧
      ∃ sl, coresOf A pb.coreRes v = some sl ∧ s.a = sl.start.toNat ∧ s.b = sl.stop.toNat) := by
  revert h
  fun_cases sinkOf pb p A v with
  | case1 => nofun
  | case2 c hc r he =>
    rintro ⟨⟩
    exact ⟨hc, fun _ => he, fun h => by simp at h⟩
  | case3 c hc he sl hs =>
    rintro ⟨⟩
    exact ⟨hc, fun h => by simp at h, fun _ => ⟨he, sl, hs, rfl, rfl⟩⟩
  | case4 c hc he hs =>
    rintro ⟨⟩
    exact ⟨hc, fun h => by simp at h, fun h => by simp at h⟩

theorem sinksOf_forall₂ {vs : List Nat} {ss : List Sink} (h : sinksOf pb p A vs = some ss) :
    List.Forall₂ (fun v s => sinkOf pb p A v = some s) vs ss := by
  fun_induction sinksOf pb p A vs generalizing ss with
  | case1 => cases h; exact .nil
  | case2 v r s0 ss0 hr hv ih => cases h; exact .cons hv (ih hr)
  | case3 => cases h

theorem sinksOf_mem {vs : List Nat} {ss : List Sink} (h : sinksOf pb p A vs = some ss) :
    ∀ s ∈ ss, ∃ v ∈ vs, sinkOf pb p A v = some s :=
  forall₂_right (sinksOf_forall₂ h)

theorem sinksOf_complete {vs : List Nat} {ss : List Sink} (h : sinksOf pb p A vs = some ss) :
    ∀ v ∈ vs, ∃ s ∈ ss, sinkOf pb p A v = some s :=
  forall₂_right (R := flip _) (sinksOf_forall₂ h).flip

end sinks

theorem coresOf_flat {A : Rig.C05.Alloc} {coreRes v : Nat} {sl : Rig.C05.Slice}
    (h : coresOf A coreRes v = some sl) : (v, coreRes, sl) ∈ Rig.C05.flat A := by
  obtain ⟨va, h1, h2⟩ := Option.bind_eq_some_iff.1 h
  simp only [Rig.C05.flat, List.mem_flatMap, List.mem_map]
  exact ⟨(v, va), mem_of_lookup h1, (coreRes, sl), mem_of_lookup h2, rfl⟩

theorem mem_pl05 {p : Rig.C02.Placement} {q : Nat × Rig.C05.Chip} :
    q ∈ pl05 p ↔ ∃ c, (Rig.C02.Vtx.o q.1, c) ∈ p ∧ q.2 = chipZ c := by
  simp only [pl05, List.mem_filterMap]
  constructor
  · rintro ⟨⟨v, c⟩, hvc, hq⟩
    cases v with
    | m k => cases hq
    | o n => cases hq; exact ⟨c, hvc, rfl⟩
  · rintro ⟨c, hc, hq⟩
    exact ⟨_, hc, by rw [← hq]⟩

theorem pl05_keys (p : Rig.C02.Placement) (hn : (Rig.C02.keys p).Nodup) : ((pl05 p).map (·.1)).Nodup := by
  induction p with
  | nil => exact List.nodup_nil
  | cons vc rest ih =>
    obtain ⟨v, c⟩ := vc
    rw [Rig.C02.keys, List.map_cons, List.nodup_cons] at hn
    cases v with
    | m k => exact ih hn.2
    | o n =>
      refine List.nodup_cons.2 ⟨fun hm => hn.1 ?_, ih hn.2⟩
      obtain ⟨q, hq, rfl⟩ := List.mem_map.1 hm
      obtain ⟨c', hc', _⟩ := mem_pl05.1 hq
      exact List.mem_map.2 ⟨_, hc', rfl⟩

theorem wellFormed05 {pb : Problem} (dom : Domain pb) {p : Rig.C02.Placement} (hn : (Rig.C02.keys p).Nodup) :
    Rig.C05.WellFormed (input05 pb p) where
  placementsNodup := pl05_keys p hn
  vrNodup := dom.vrNodup
  resNodup := dom.resNodup
  demandNonneg := dom.demandNonneg
  alignPos := by
    rintro c hc r a rfl
    obtain ⟨pc, hpc, h⟩ := List.mem_map.1 hc
    cases pc <;> simp [PC.to05] at h
    obtain ⟨rfl, rfl⟩ := h
    exact dom.alignPos _ _ hpc

theorem sameSet_iff {a b : List Chip} : sameSet a b = true ↔ (∀ x ∈ a, x ∈ b) ∧ ∀ x ∈ b, x ∈ a := by
  simp only [sameSet, Bool.and_eq_true, List.all_eq_true, List.contains_iff_mem]

section routing
variable {pb : Problem} (dom : Domain pb) {p : Rig.C02.Placement} (hf : Rig.C02.Feasible (vr02 pb) (cs02 pb) pb.m2 p)
include dom hf

/-- C02 + domain => the device links are dead links -/
theorem devLinks_dead : ∀ d ∈ devLinks pb p, linkOk (machine3 pb) d.1 d.2 = false := by
  intro d hd
  obtain ⟨v, he, hc, _⟩ := mem_devLinks.1 hd
  obtain ⟨c, hloc, hdead⟩ := dom.endpointDead v d.2 (endpointOf_mem he)
  have := hf.location _ _ (List.mem_map.2 ⟨_, hloc, rfl⟩ : Rig.C02.Constraint.loc (.o v) c ∈ cs02 pb)
  simp only [chipOf, this, Option.map_some, Option.some.injEq] at hc
  rw [← hc]; exact hdead

variable {a : List (Rig.C05.Vertex × List Rig.C05.Entry)} (ha : Rig.C05.allocate (input05 pb p) = .ok a)
include ha

/-- C05 + domain => the facts `pipeline_delivery` needs of every sink -/
theorem sink_facts {v : Nat} {s : Sink} (hs : sinkOf pb p (Rig.C05.strip a) v = some s) :
    chipOk (machine3 pb) s.chip = true ∧ (s.kind = 1 → s.b ≤ 18) ∧
    (s.kind = 2 → s.a < 6 ∧ (s.chip, s.a) ∈ devLinks pb p) := by
  obtain ⟨hc, h2, h1⟩ := sinkOf_spec hs
  refine ⟨chipOf_ok hf hc, fun hk => ?_, fun hk => ?_⟩
  · obtain ⟨_, sl, hsl, _, hb⟩ := h1 hk
    have hv := Rig.C05.alloc_sound _ _ (wellFormed05 dom hf.keysNodup) ha
    exact hb ▸ Int.toNat_le.2
      (allocation_bridge (input05 pb p) (Rig.C05.strip a) pb.coreRes hv dom.cores18 _ (coresOf_flat hsl) rfl).2
  · have hr := dom.endpointIsLink _ _ (endpointOf_mem (h2 hk))
    exact ⟨hr, mem_devLinks.2 ⟨v, h2 hk, hc, hr⟩⟩

end routing

theorem keys_disjoint {R : ANet → PNet → Prop} (hR : ∀ n q, R n q → q.key = n.key ∧ q.mask = n.mask)
    {nets : List ANet} {pn : List PNet} (h : List.Forall₂ R nets pn)
    (hp : nets.Pairwise (fun a b => Rig.C04.intersect a.key a.mask b.key b.mask = false)) :
    pn.Pairwise (fun a b => Rig.C04.intersect a.key a.mask b.key b.mask = false) := by
  induction h with
  | nil => exact .nil
  | cons h t ih =>
    rw [List.pairwise_cons] at hp ⊢
    refine ⟨fun q' hq' => ?_, ih hp.2⟩
    obtain ⟨n', hn', hr'⟩ := forall₂_right t q' hq'
    rw [(hR _ _ h).1, (hR _ _ h).2, (hR _ _ hr').1, (hR _ _ hr').2]
    exact hp.1 n' hn'

/-- the `match` in the hypothesis lets one `decide +kernel` evaluate the run and still yield the returned value -/
theorem ok_of_check {ε α : Type} {r : Except ε α} {chk : α → Bool}
    (h : (match r with
      | .ok a => chk a
      | .error _ => false) = true) : ∃ a, r = .ok a ∧ chk a = true := by
  cases r with
  | error e => cases h
  | ok a => exact ⟨a, rfl, h⟩

theorem original02 (pb : Problem) : Rig.C02.Original (vr02 pb) (cs02 pb) := by
  refine ⟨fun v hv => ?_, fun c hc => ?_⟩
  · simp only [Rig.C02.keys, vr02, List.map_map, List.mem_map, Function.comp] at hv
    obtain ⟨q, _, rfl⟩ := hv
    trivial
  · obtain ⟨pc, _, rfl⟩ := List.mem_map.1 hc
    cases pc with
    | same vs =>
      intro v hv
      obtain ⟨n, _, rfl⟩ := List.mem_map.1 hv
      trivial
    | _ => trivial

theorem dem_resVec_nonneg (nres : Nat) (rs : List (Nat × Int)) (h : ∀ rd ∈ rs, 0 ≤ rd.2) (i : Nat) :
    0 ≤ Rig.C02.dem (resVec nres rs) i := by
  simp only [Rig.C02.dem, resVec, List.getD_eq_getElem?_getD, List.getElem?_map]
  cases (List.range nres)[i]? with
  | none => simp
  | some j =>
    simp only [Option.map_some, Option.getD_some]
    cases hl : rs.lookup j with
    | none => simp
    | some x => simpa using h _ (mem_of_lookup hl)

/-- where `applySame` has nothing to merge, C02's `Consistent` is `LocConsistent` of the constraints as given -/
theorem consistent_of_applySame {vr : Rig.C02.VR} {cs : List Rig.C02.Constraint}
    (he : Rig.C02.applySame vr cs = .ok (vr, cs, [])) (hl : Rig.C02.LocConsistent cs) : Rig.C02.Consistent vr cs :=
  fun _ _ _ h => by rw [he] at h; cases h; exact hl

theorem wf02 {pb : Problem} (dom : Domain pb) (hc : Rig.C02.NonNegCap pb.m2) :
    Rig.C02.WF (vr02 pb) (cs02 pb) pb.m2 where
  nodup := by
    have : Rig.C02.keys (vr02 pb) = (pb.vr.map (·.1)).map Rig.C02.Vtx.o := by
      simp [Rig.C02.keys, vr02, List.map_map, Function.comp_def]
    rw [this]
    exact dom.vrNodup.map fun a b h => by injection h
  original := original02 pb
  nonnegVR := by
    intro v d h i
    simp only [vr02, List.mem_map, Prod.mk.injEq] at h
    obtain ⟨q, hq, _, rfl⟩ := h
    exact dem_resVec_nonneg _ _ (dom.demandNonneg q hq) i
  nonnegCap := hc

end Rig.C01Pipe.L
