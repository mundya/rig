/-
C08 lemmas: what `assign_fields` does to the listing.  Field by field the tree stays what it was - shape and given
start positions are kept, also when it raises half-way - and when it returns, the leaf-first pass has visited every
node and left every field with a position and a length.
-/
import RigModel.Lemmas.C08Inst

namespace Rig.C08

theorem getField_modifyField_self (es : List Entry) (i : Ident) (fv : Reqs) (f : Field → Field) :
    getField (modifyField es i fv f) i fv = (getField es i fv).map (Entry.upd f) := by
  unfold modifyField getField
  induction es with
  | nil => rfl
  | cons e es ih =>
    rw [modifyFirst_cons]
    cases hm : (e.ident == i && e.enabled fv) <;>
      simp only [List.find?_cons, upd_ident, upd_enabled, hm, ih, if_true, Bool.false_eq_true, if_false, Option.map_some]

theorem assignLoopP_cons {ap : Bool} {fv : Reqs} {i : Ident} {st : State} {e : Entry}
    (hg : getField st.entries i fv = some e) (is : List Ident) (a : Nat) :
    assignLoopP ap fv (i :: is) st a =
      if e.field.isFixed then assignLoopP ap fv is st a
      else if ap || e.field.startAt.isSome then
        match assignField st a i fv with
        | .error err => (st, some err)
        | .ok (st', a') => assignLoopP ap fv is st' a'
      else assignLoopP ap fv is st a := by
  rw [assignLoopP, hg]; rfl

theorem assignRunP_cons (ap : Bool) (p : Path) (rest : List (Bool × Path)) (st : State) :
    assignRunP ((ap, p) :: rest) st =
      match assignLoopP ap p.flatten (nodeIdents st.entries p) st (potentialMask st.entries p.flatten) with
      | (st', some e) => (st', some e)
      | (st', none) => assignRunP rest st' := rfl

theorem assignRunP_append (l1 l2 : List (Bool × Path)) {st st' : State} (h : assignRunP l1 st = (st', none)) :
    assignRunP (l1 ++ l2) st = assignRunP l2 st' := by
  revert h
  fun_induction assignRunP l1 st with
  | case1 => exact fun h => by cases h; rfl
  | case2 => exact fun h => nomatch h
  | case3 ap p rest st s1 heq ih => exact fun h => by rw [List.cons_append, assignRunP_cons, heq]; exact ih h

theorem assignLoopP_shape (ap : Bool) (fv : Reqs) (ids : List Ident) (st : State) (a : Nat) :
    shape (assignLoopP ap fv ids st a).1.entries = shape st.entries :=
  assignLoopP_preserves (P := fun es => shape es = shape st.entries)
    (fun _ _ _ _ _ _ _ h => shape_modifyField.trans h) ap fv ids st a rfl

theorem assignRunP_shape (items : List (Bool × Path)) (st : State) :
    shape (assignRunP items st).1.entries = shape st.entries :=
  assignRunP_preserves (P := fun es => shape es = shape st.entries)
    (fun _ _ _ _ _ _ _ h => shape_modifyField.trans h) items st rfl

theorem startsKeptB_cons {a b : Entry} {as bs : List Entry} : startsKeptB (a :: as) (b :: bs) = true ↔
    (a.path = b.path ∧ a.ident = b.ident ∧ ∀ s, a.field.startAt = some s → b.field.startAt = some s) ∧
      startsKeptB as bs = true := by
  rw [startsKeptB]
  cases a.field.startAt <;> simp [and_assoc]

theorem startsKeptB_refl (es : List Entry) : startsKeptB es es = true := by
  induction es with
  | nil => rfl
  | cons e es ih => exact startsKeptB_cons.mpr ⟨⟨rfl, rfl, fun _ h => h⟩, ih⟩

theorem startsKeptB_trans {as bs cs : List Entry} (h1 : startsKeptB as bs = true) (h2 : startsKeptB bs cs = true) :
    startsKeptB as cs = true := by
  fun_induction startsKeptB as bs generalizing cs with
  | case1 => exact h2
  | case2 a as b bs ih =>
    cases cs with
    | nil => cases h2
    | cons c cs =>
      obtain ⟨⟨p1, i1, s1⟩, t1⟩ := startsKeptB_cons.mp h1
      obtain ⟨⟨p2, i2, s2⟩, t2⟩ := startsKeptB_cons.mp h2
      exact startsKeptB_cons.mpr ⟨⟨p1.trans p2, i1.trans i2, fun s h => s2 s (s1 s h)⟩, ih t1 t2⟩
  | case3 => cases h1

theorem startsKeptB_modifyFirst {pm : Entry → Bool} {f : Field → Field} {es : List Entry} {e : Entry}
    (h : es.find? pm = some e) (hf : ∀ s, e.field.startAt = some s → (f e.field).startAt = some s) :
    startsKeptB es (modifyFirst pm f es) = true := by
  fun_induction modifyFirst pm f es with
  | case1 => cases h
  | case2 x xs hp =>
    cases (List.find?_cons_of_pos hp).symm.trans h
    exact startsKeptB_cons.mpr ⟨⟨rfl, rfl, hf⟩, startsKeptB_refl _⟩
  | case3 x xs hp ih =>
    exact startsKeptB_cons.mpr ⟨⟨rfl, rfl, fun _ h => h⟩, ih (List.find?_cons_of_neg hp ▸ h)⟩

def FixedAt (es : List Entry) (fv : Reqs) (i : Ident) : Prop :=
  ∀ e, getField es i fv = some e → e.field.isFixed = true

theorem fixedAt_modifyField_setPos {es : List Entry} {q : Reqs} {j : Ident} (i : Ident) (fv : Reqs) (len start : Nat)
    (h : FixedAt es q j) : FixedAt (modifyField es i fv (setPos len start)) q j := by
  intro y' hy'
  rcases getField_modifyFirst (fun e => e.ident == i && e.enabled fv) (setPos len start) j q es with heq | ⟨y, _, _, heq⟩
  · exact h y' (heq ▸ hy')
  · rw [modifyField, heq] at hy'
    cases hy'
    rfl

theorem assignLoopP_fixes (fv : Reqs) (ids : List Ident) (st : State) (a : Nat)
    (hnone : (assignLoopP true fv ids st a).2 = none) : ∀ i ∈ ids, FixedAt (assignLoopP true fv ids st a).1.entries fv i := by
  have keep : ∀ {i : Ident} (is : List Ident) (st1 : State) (a1 : Nat), FixedAt st1.entries fv i →
      FixedAt (assignLoopP true fv is st1 a1).1.entries fv i := fun is st1 a1 =>
    assignLoopP_preserves (P := fun es => FixedAt es fv _)
      (fun _ i fv' _ start _ _ h => fixedAt_modifyField_setPos i fv' _ start h) true fv is st1 a1
  fun_induction assignLoopP true fv ids st a with
  | case1 => exact fun _ hi => nomatch hi
  | case2 | case4 => cases hnone
  | case3 i0 is st a e hg hfix ih =>
    intro i hi
    rcases List.mem_cons.mp hi with rfl | hi
    · exact keep is st a fun e' he' => by rw [hg] at he'; cases he'; exact hfix
    · exact ih hnone i hi
  | case5 i0 is st a e _ _ _ st' a' hasg ih =>
    intro i hi
    rcases List.mem_cons.mp hi with rfl | hi
    · refine keep is st' a' fun y hy => ?_
      obtain ⟨e, start, hg, _, rfl, _⟩ := assignField_free hasg
      rw [getField_modifyField_self, hg] at hy
      cases hy; rfl
    · exact ih hnone i hi
  | case6 _ _ _ _ _ _ _ hc => exact absurd (Bool.true_or _) hc

theorem assignRunP_fixes (items : List (Bool × Path)) (st : State) (hnone : (assignRunP items st).2 = none) :
    ∀ p, (true, p) ∈ items → ∀ i ∈ nodeIdents st.entries p, FixedAt (assignRunP items st).1.entries p.flatten i := by
  fun_induction assignRunP items st with
  | case1 => exact fun _ hp => nomatch hp
  | case2 => cases hnone
  | case3 ap p0 rest st st1 heq ih =>
    intro p hp i hi
    rcases List.mem_cons.mp hp with hhead | hp
    · cases hhead
      have hl1 := assignLoopP_fixes p0.flatten (nodeIdents st.entries p0) st (potentialMask st.entries p0.flatten)
      rw [heq] at hl1
      exact assignRunP_preserves (P := fun es => FixedAt es p0.flatten i)
        (fun _ i' fv' _ start _ _ h => fixedAt_modifyField_setPos i' fv' _ start h) rest st1 (hl1 rfl i hi)
    · have hl2 := assignLoopP_shape ap p0.flatten (nodeIdents st.entries p0) st (potentialMask st.entries p0.flatten)
      rw [heq] at hl2
      exact ih hnone p hp i (by rw [mem_nodeIdents, ← mem_shape] at hi ⊢; rwa [hl2])

def lmax (l : List Nat) : Nat := l.foldl max 0

theorem lmax_le_iff {l : List Nat} {B : Nat} : lmax l ≤ B ↔ ∀ x ∈ l, x ≤ B := Lists.foldl_max_le_iff

theorem le_lmax {l : List Nat} {x : Nat} (h : x ∈ l) : x ≤ lmax l := Lists.le_foldl_max h

theorem mem_nodePaths {es : List Entry} {q : Path} : q ∈ nodePaths es ↔ q = [] ∨ ∃ e ∈ es, e.path = q := by
  rw [nodePaths, List.mem_eraseDups, List.mem_cons, List.mem_map]

theorem nodePaths_prefixClosed {es : List Entry} (hs : Struct es) {q : Path} (hq : q ∈ nodePaths es) (n : Nat) :
    q.take n ∈ nodePaths es := by
  by_cases hn : n < q.length
  · rcases mem_nodePaths.mp hq with rfl | ⟨e, he, rfl⟩
    · cases hn
    · obtain ⟨hne, hk⟩ := hs (e.path, e.ident) (mem_shape.mpr ⟨e, he, rfl, rfl⟩) n hn
      cases hkn : e.path[n] with
      | nil => exact absurd hkn hne
      | cons iv rest =>
        obtain ⟨y, hy, hyp, _⟩ := mem_shape.mp (hk iv (by rw [hkn]; exact List.mem_cons_self))
        exact mem_nodePaths.mpr (Or.inr ⟨y, hy, hyp⟩)
  · rw [List.take_of_length_le (Nat.le_of_not_lt hn)]; exact hq

theorem postOrder_covers {ps : List Path} (hc : ∀ q ∈ ps, ∀ n, q.take n ∈ ps) :
    ∀ (fuel : Nat) (p q : Path), q ∈ ps → p <+: q → q.length ≤ p.length + fuel → q ∈ postOrder ps fuel p := by
  intro fuel
  induction fuel with
  | zero =>
    intro p q _ hpq hlen
    rw [postOrder, hpq.eq_of_length (Nat.le_antisymm hpq.length_le hlen)]
    exact List.mem_singleton_self _
  | succ fuel ih =>
    intro p q hq hpq hlen
    rw [postOrder, List.mem_append]
    by_cases heq : q.length = p.length
    · exact .inr (hpq.eq_of_length heq.symm ▸ List.mem_singleton_self _)
    · -- `q` lies below the child of `p` on the way to it
      have hlt : p.length < q.length := Nat.lt_of_le_of_ne hpq.length_le (Ne.symm heq)
      have hlc : (q.take (p.length + 1)).length = p.length + 1 := by rw [List.length_take, Nat.min_eq_left hlt]
      refine .inl (List.mem_flatMap.mpr ⟨q.take (p.length + 1), List.mem_filter.mpr ⟨hc q hq _, ?_⟩,
        ih _ q hq (List.take_prefix _ _) (by rw [hlc, Nat.add_assoc, Nat.add_comm 1]; exact hlen)⟩)
      rw [hlc, beq_self_eq_true, Bool.true_and, List.isPrefixOf_iff_prefix, List.prefix_take_iff]
      exact ⟨hpq, Nat.le_succ _⟩

theorem mem_assignItems {es : List Entry} (hs : Struct es) {q : Path} (hq : q ∈ nodePaths es) :
    q ∈ postOrder (nodePaths es) (maxDepth (nodePaths es) + 1) [] := by
  refine postOrder_covers (fun _ h n => nodePaths_prefixClosed hs h n) _ [] q hq List.nil_prefix ?_
  rw [List.length_nil, Nat.zero_add, maxDepth, ← List.foldl_map]
  exact Nat.le_succ_of_le (le_lmax (List.mem_map_of_mem hq))

theorem allFixed_of_assign {st st' : State} (hinv : Inv st) (hs : Struct st.entries)
    (h : assignFields st = .ok st') : AllFixed st'.entries := by
  revert h
  fun_cases assignFields st with
  | case2 => exact fun h => nomatch h
  | case1 st1 hr =>
    intro h; cases h
    have hst1 : (assignFieldsP st).1 = st' := by rw [hr]
    have hinv1 : Inv st' := hst1 ▸ (assignFieldsP_inv hinv).1
    intro e he
    obtain ⟨x, hx, hxp, hxi⟩ := exists_of_shape_eq (hst1 ▸ assignRunP_shape _ st) he
    have hitem : (true, e.path) ∈ assignItems st.entries :=
      List.mem_append_right _ (List.mem_map_of_mem
        (mem_assignItems hs (mem_nodePaths.mpr (Or.inr ⟨x, hx, hxp⟩))))
    have hfix := assignRunP_fixes (assignItems st.entries) st (by rw [← assignFieldsP, hr]) e.path hitem e.ident
      (mem_nodeIdents.mpr ⟨x, hx, hxp, hxi⟩)
    rw [← assignFieldsP, hst1] at hfix
    exact hfix e (getField_node hinv1 he)

end Rig.C08
