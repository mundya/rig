/-
C09 (companion) - the stale-waiter findings, sharply: WITHOUT the pre-state hypothesis `PreClean`,
exactly which pre-states make a normal return of `load_application` unsound, and which make
`SpiNNakerLoadingError` omit a core that is not loaded.

`staleMasks` / `staleHides` (Model/C09.lean) are predicates of the pre-state, the request and the set
of cores that violate the post-condition only; the check evaluates them on the implementation's
runs and files a violation under the known findings `count-shortcut-stale-waiters` /
`readback-stale-waiter` only when they hold.
Last, what the re-sends still satisfy without `PreClean`.
-/
import RigModel.Props.C09

namespace Rig.C09
open Rig.Gen.Load

theorem countP_diff {α : Type} (p q : α → Bool) (l : List α) (h : l.countP p = l.countP q) :
    l.countP (fun x => p x && !q x) = l.countP (fun x => q x && !p x) := by
  have h1 := List.countP_eq_countP_filter_add l p q
  have h2 := List.countP_eq_countP_filter_add l q p
  rw [List.countP_filter, List.countP_filter] at h1 h2
  rw [show (fun x => q x && p x) = fun x => p x && q x from funext fun x => Bool.and_comm ..] at h2
  omega

theorem countP_le_add {α : Type} {p q r : α → Bool} {l : List α}
    (h : ∀ x ∈ l, p x = true → q x = true ∨ r x = true) : l.countP p ≤ l.countP q + l.countP r := by
  rw [List.countP_eq_countP_filter_add l p q, List.countP_filter, List.countP_filter]
  refine Nat.add_le_add (List.countP_mono_left fun x _ hx => (Bool.and_eq_true_iff.mp hx).2)
    (List.countP_mono_left fun x hx hx' => ?_)
  rw [Bool.and_eq_true, Bool.not_eq_true'] at hx'
  exact (h x hx hx'.1).resolve_left (Bool.eq_false_iff.mp hx'.2)

theorem wantedBy_of_wants {mc : MCfg} {c : Ctl} {apps : List App} (hv : Valid mc c apps) {a : App} (ha : a ∈ apps)
    {x y p : Nat} (hw : wants a x y p = true) : wantedBy apps x y p = some a := by
  cases h : wantedBy apps x y p with
  | none => rw [wantedBy_eq_none h a ha] at hw; cases hw
  | some b =>
    obtain ⟨hb, hwb⟩ := wantedBy_eq_some h
    rw [hv.hdisj a ha b hb x y p hw hwb]

/-- the cores of the machine that violate the post-condition of a normal return -/
def badCores (mc : MCfg) (c : Ctl) (s : Sim) (apps : List App) : List (Nat × Nat × Nat) :=
  (allCores mc.chips).filter fun k =>
    !postOkCore apps c.appId c.wait (s.m.core k.1 k.2.1 k.2.2)
      ((loadApplication mc c s apps).sim.m.core k.1 k.2.1 k.2.2) k.1 k.2.1 k.2.2

/-- what `staleMasks` and `staleHides` share.  For a per-core post-condition `post` that only fails on
requested cores which did not hold their binary before the call, the violating cores of the machine are
all the violating cores, and some core violates it iff the set is non-empty, consists of such cores,
and meets the clause `third` that the verification at hand adds. -/
theorem stale_iff {mc : MCfg} {c : Ctl} {apps : List App} (hv : Valid mc c apps) (pre : Nat → Nat → Nat → Core)
    (post : Nat → Nat → Nat → Bool) (third : List (Nat × Nat × Nat) → Bool) {B : List (Nat × Nat × Nat)}
    (hB : B = (allCores mc.chips).filter fun k => !post k.1 k.2.1 k.2.2)
    (hreq : ∀ x y p, post x y p = false → ∃ a, wantedBy apps x y p = some a ∧ pre x y p ≠ ld c.appId a)
    (hthird : (∃ x y p, post x y p = false) → third B = true) :
    (∀ x y p, post x y p = false ↔ (x, y, p) ∈ B) ∧
    ((∃ x y p, post x y p = false) ↔
      (!B.isEmpty &&
        (B.all fun k =>
          match wantedBy apps k.1 k.2.1 k.2.2 with
          | some a => !loaded a c.appId (pre k.1 k.2.1 k.2.2)
          | none => false) &&
        third B) = true) := by
  have hmem : ∀ x y p, post x y p = false ↔ (x, y, p) ∈ B := fun x y p => by
    rw [hB, List.mem_filter, mem_allCores, Bool.not_eq_true', iff_and_self]
    intro h
    obtain ⟨a, ha, _⟩ := hreq x y p h
    exact hv.hin a (wantedBy_eq_some ha).1 x y p (wantedBy_eq_some ha).2
  refine ⟨hmem, fun h => ?_, fun h => ?_⟩
  · obtain ⟨x, y, p, hxyp⟩ := h
    rw [Bool.and_eq_true, Bool.and_eq_true, Bool.not_eq_true', List.isEmpty_eq_false_iff, List.all_eq_true]
    refine ⟨⟨List.ne_nil_of_mem ((hmem x y p).mp hxyp), fun k hk => ?_⟩, hthird ⟨x, y, p, hxyp⟩⟩
    obtain ⟨a, ha, hne⟩ := hreq k.1 k.2.1 k.2.2 ((hmem k.1 k.2.1 k.2.2).mpr hk)
    simp only [ha, loaded, Bool.not_eq_true', Core.beq_eq_false, ne_eq]
    exact hne
  · rw [Bool.and_eq_true, Bool.and_eq_true, Bool.not_eq_true', List.isEmpty_eq_false_iff] at h
    obtain ⟨⟨x, y, p⟩, hk⟩ := List.exists_mem_of_ne_nil _ h.1.1
    exact ⟨x, y, p, (hmem x y p).mpr hk⟩

theorem countP_requested (mc : MCfg) (c : Ctl) (apps : List App) (hv : Valid mc c apps)
    (hnd : (reqCores apps).Nodup) :
    (allCores mc.chips).countP (fun k => (wantedBy apps k.1 k.2.1 k.2.2).isSome) = coreCount apps := by
  rw [coreCount_eq, List.countP_eq_length_filter]
  apply Nat.le_antisymm
  · refine (((allCores_nodup _ hv.hchips).filter _).subperm fun k hk => ?_).length_le
    obtain ⟨a, ha⟩ := Option.isSome_iff_exists.mp (List.mem_filter.mp hk).2
    exact (mem_reqCores apps k.1 k.2.1 k.2.2).mpr ⟨a, wantedBy_eq_some ha⟩
  · refine (hnd.subperm fun k hk => ?_).length_le
    obtain ⟨a, ha, hw⟩ := (mem_reqCores apps k.1 k.2.1 k.2.2).mp hk
    exact List.mem_filter.mpr ⟨(mem_allCores ..).mpr (hv.hin a ha _ _ _ hw), by rw [wantedBy_of_wants hv ha hw]; rfl⟩

/-- the counting argument behind `count-shortcut-stale-waiters`, for any machine history `m0`, `m` that keeps
`Inv`: when the count matches in `m`, the stale waiters of `m0` on other cores are as many as the requested cores
not waiting under the app id in `m`; these are the cores `bad` (requested, as in `m0`, not loaded there) that do
not count themselves, up to the cores already running their binary. -/
theorem count_masks {mc : MCfg} {c : Ctl} {apps : List App} (hv : Valid mc c apps) (hnd : (reqCores apps).Nodup)
    {m0 m : MState} (hinv : Inv apps c.appId m0 m) (hcnt : CountEq mc c apps m) (wait : Bool)
    (bad : Nat × Nat × Nat → Bool)
    (hbad : ∀ k, bad k = true ↔ ∃ a, wantedBy apps k.1 k.2.1 k.2.2 = some a ∧
      m.core k.1 k.2.1 k.2.2 = m0.core k.1 k.2.1 k.2.2 ∧ m0.core k.1 k.2.1 k.2.2 ≠ ld c.appId a ∧
      ¬ (wait = false ∧ m0.core k.1 k.2.1 k.2.2 = ⟨stRun, c.appId, a.image⟩)) :
    staleCount mc.chips apps c.appId wait true m0.core ((allCores mc.chips).filter bad) = true := by
  -- requested cores not waiting under the app id at the end = waiters under it that were not requested
  have hS : staleOthers mc.chips apps c.appId m0.core = (allCores mc.chips).countP fun k =>
      (wantedBy apps k.1 k.2.1 k.2.2).isSome && !matchesApp (m.core k.1 k.2.1 k.2.2) stWait c.appId :=
    Eq.trans (List.countP_congr fun k _ => by
      cases hn : wantedBy apps k.1 k.2.1 k.2.2 with
      | some a => simp only [Option.isNone_some, Option.isSome_some, Bool.false_and, Bool.not_true, Bool.and_false]
      | none => simp only [hinv.1 _ _ _ (wantedBy_eq_none hn), Option.isNone_none, Option.isSome_none,
          Bool.true_and, Bool.not_false, Bool.and_true])
      (countP_diff _ _ _ (hcnt.symm.trans (countP_requested mc c apps hv hnd).symm))
  simp only [staleCount, Bool.true_and, Bool.and_eq_true, decide_eq_true_eq, List.countP_filter, hS, alreadyRunning]
  refine ⟨List.countP_mono_left fun k _ h => ?_, countP_le_add fun k _ h => ?_⟩
  · -- a violating core is requested and as before the call
    rw [Bool.and_eq_true, Bool.not_eq_true'] at h
    obtain ⟨a, ha, he, _, _⟩ := (hbad k).mp h.2
    rw [ha, he, h.1]; rfl
  · rw [Bool.and_eq_true, Bool.not_eq_true', Option.isSome_iff_exists] at h
    obtain ⟨⟨a, ha⟩, hnm⟩ := h
    have hne : m.core k.1 k.2.1 k.2.2 ≠ ld c.appId a := fun e => by
      rw [e, ld, matchesApp, BEq.rfl, BEq.rfl] at hnm; cases hnm
    have he := (hinv.2 a (wantedBy_eq_some ha).1 _ _ _ (wantedBy_eq_some ha).2).resolve_left hne
    by_cases hacc : wait = false ∧ m0.core k.1 k.2.1 k.2.2 = ⟨stRun, c.appId, a.image⟩
    · right
      rw [ha, hacc.1, hacc.2]
      exact Bool.and_eq_true_iff.mpr ⟨rfl, Core.beq_self _⟩
    · exact .inl (Bool.and_eq_true_iff.mpr ⟨by rw [← he, hnm]; rfl, (hbad k).mpr ⟨a, ha, he, he ▸ hne, hacc⟩⟩)

/-- **`load_sound` needs `PreClean` exactly for the stale waiters.**  Under `Valid` alone (each
requested core listed once), for every missed-set oracle and both modes: if `load_application`
returns normally, then
* the cores violating the post-condition are exactly `badCores` - all of them requested cores of the
  machine that were never loaded (`postOk_false_iff`);
* the return is unsound (some core violates the post-condition) **iff** `staleMasks` holds of the
  pre-state, the request and that set: the set is non-empty, none of its cores held its binary in
  the wait state under the app id before the call, and either every one of them was itself in the
  wait state before the call (the read-back took them as loaded: `readback-stale-waiter`), or - in
  count mode - the stale waiters on other cores are as many as the missed cores that do not count
  themselves, up to the requested cores already running their binary
  (`count-shortcut-stale-waiters`);
* `staleMasks` contradicts `PreClean` (not conversely): with no stale waiters a normal return is sound (`load_sound`). -/
theorem load_sound_iff_preclean_needed (mc : MCfg) (c : Ctl) (apps : List App) (hv : Valid mc c apps)
    (hnd : (reqCores apps).Nodup) (s : Sim) (hok : (loadApplication mc c s apps).outcome = .ok) :
    (∀ x y p, postOkCore apps c.appId c.wait (s.m.core x y p)
        ((loadApplication mc c s apps).sim.m.core x y p) x y p = false ↔ (x, y, p) ∈ badCores mc c s apps) ∧
    ((∃ x y p, postOkCore apps c.appId c.wait (s.m.core x y p)
        ((loadApplication mc c s apps).sim.m.core x y p) x y p = false) ↔
      staleMasks mc.chips apps c.appId c.wait c.useCount s.m.core (badCores mc c s apps) = true) ∧
    (staleMasks mc.chips apps c.appId c.wait c.useCount s.m.core (badCores mc c s apps) = true →
      ¬ PreClean s.m apps c.appId) := by
  have hbad := postOk_false_iff mc c apps hv s hok
  obtain ⟨h1, h2⟩ := stale_iff hv s.m.core
    (fun x y p => postOkCore apps c.appId c.wait (s.m.core x y p) ((loadApplication mc c s apps).sim.m.core x y p) x y p)
    (fun B => staleSelf s.m.core B || staleCount mc.chips apps c.appId c.wait c.useCount s.m.core B)
    (B := badCores mc c s apps) rfl (fun x y p h => ((hbad x y p).mp h).imp fun _ h => ⟨h.1, h.2.2.1⟩)
    fun _ => by
      obtain ⟨hinv, hreason⟩ := ok_reason hv hok
      rw [Bool.or_eq_true]
      refine hreason.imp (fun hwait => ?_) fun h => by
        rw [h.1]
        exact count_masks hv hnd hinv h.2 c.wait _ fun k => by rw [Bool.not_eq_true']; exact hbad k.1 k.2.1 k.2.2
      -- through the read-back: every requested core is in the wait state, and a violating core is as before
      rw [staleSelf, List.all_eq_true]
      intro k hk
      obtain ⟨a, ha, he, _⟩ := (hbad k.1 k.2.1 k.2.2).mp ((Bool.not_eq_true' _).mp (List.mem_filter.mp hk).2)
      rw [beq_iff_eq, ← he]
      exact hwait a (wantedBy_eq_some ha).1 _ _ _ (wantedBy_eq_some ha).2
  refine ⟨h1, h2, fun h hpre => ?_⟩
  obtain ⟨x, y, p, hxyp⟩ := h2.mpr h
  exact Bool.noConfusion ((load_sound mc c apps hv s hpre hok x y p).symm.trans hxyp)

/-- the cores of the machine that violate the post-condition of `SpiNNakerLoadingError(unl)` -/
def badErrCores (mc : MCfg) (c : Ctl) (s : Sim) (apps unl : List App) : List (Nat × Nat × Nat) :=
  (allCores mc.chips).filter fun k =>
    !postErrCore apps unl c.appId (s.m.core k.1 k.2.1 k.2.2)
      ((loadApplication mc c s apps).sim.m.core k.1 k.2.1 k.2.2) k.1 k.2.1 k.2.2

/-- **`load_error_exact` needs `PreClean` exactly for the stale waiters on requested cores.**  Under
`Valid` alone: when `SpiNNakerLoadingError(unl)` is raised, some core violates the post-condition
(the error does not name exactly the cores that are not loaded) **iff** `staleHides` holds of the
pre-state, the request and the violating set: non-empty, requested cores that did not hold their
binary in the wait state under the app id before the call, each of which was itself in the wait
state before the call (the read-back dropped it from the map: `readback-stale-waiter`).  The count
shortcut cannot cause this.  `staleHides` contradicts `PreClean`. -/
theorem load_error_iff_preclean_needed (mc : MCfg) (c : Ctl) (apps : List App) (hv : Valid mc c apps) (s : Sim)
    (unl : List App) (herr : (loadApplication mc c s apps).outcome = .loadingError unl) :
    (∀ x y p, postErrCore apps unl c.appId (s.m.core x y p)
        ((loadApplication mc c s apps).sim.m.core x y p) x y p = false ↔ (x, y, p) ∈ badErrCores mc c s apps unl) ∧
    ((∃ x y p, postErrCore apps unl c.appId (s.m.core x y p)
        ((loadApplication mc c s apps).sim.m.core x y p) x y p = false) ↔
      staleHides apps c.appId s.m.core (badErrCores mc c s apps unl) = true) ∧
    (staleHides apps c.appId s.m.core (badErrCores mc c s apps unl) = true → ¬ PreClean s.m apps c.appId) := by
  have hbad := postErr_false_iff mc c apps hv s unl herr
  obtain ⟨h1, h2⟩ := stale_iff hv s.m.core
    (fun x y p => postErrCore apps unl c.appId (s.m.core x y p) ((loadApplication mc c s apps).sim.m.core x y p) x y p)
    (staleSelf s.m.core) (B := badErrCores mc c s apps unl) rfl
    (fun x y p h => ((hbad x y p).mp h).imp fun _ h => ⟨h.1, h.2.2.1⟩)
    fun _ => by
      rw [staleSelf, List.all_eq_true]
      intro k hk
      obtain ⟨_, _, _, _, hst, _⟩ := (hbad k.1 k.2.1 k.2.2).mp ((Bool.not_eq_true' _).mp (List.mem_filter.mp hk).2)
      exact beq_iff_eq.mpr hst
  refine ⟨h1, h2, fun h hpre => ?_⟩
  obtain ⟨x, y, p, hxyp⟩ := h2.mpr h
  exact Bool.noConfusion ((load_error_exact mc c apps hv s hpre unl herr x y p).symm.trans hxyp)

set_option linter.unusedVariables false in
/-- a map none of whose cores is in the wait state satisfies the run-time oracle `resendOnlyOK` for
each of its binaries: it names only cores requested for that binary, none of which is loaded -/
theorem namedInv_resendOnly (mc : MCfg) (c : Ctl) (apps : List App) (m : MState) (l : List App) (a u : App)
    (hu : u ∈ l) (hua : SubApp u a) (hn : NamedInv m l) :
    resendOnlyOK mc.chips a u.targets false c.appId m.core = true := by
  rw [resendOnlyOK, List.all_eq_true]
  intro k _
  cases hw : wants { a with targets := u.targets } k.1 k.2.1 k.2.2 with
  | false => rfl
  | true =>
    -- a named core does not wait, so it does not hold its binary
    have hl : loaded a c.appId (m.core k.1 k.2.1 k.2.2) = false := Bool.eq_false_iff.mpr fun hl =>
      hn u hu _ _ _ hw (by rw [Core.beq_eq_true.mp hl])
    rw [hua.2.2 _ _ _ hw, hl]; rfl

/-- **"re-send only to the cores still missing" holds whatever was on the machine before the call**
(no `PreClean`): every map `load_application` hands to `flood_fill_aplx` is the requested map itself
(the first attempt) or a part of it none of whose cores was in the wait state - hence none of whose
cores held its binary - in a machine state reached during this call.  A core already loaded by an
earlier attempt or an earlier call (same binary, same app id, waiting) is never sent the binary
again.  (`resendOnlyOK`, the oracle the check evaluates on every fill, follows by
`namedInv_resendOnly`.) -/
theorem resend_only_without_preclean (mc : MCfg) (c : Ctl) (apps : List App) (hv : Valid mc c apps) (s : Sim) :
    ∀ l ∈ (loadApplication mc c s apps).sent, l = apps ∨ SentW c apps s.m l := by
  rw [(loadApplication_cases mc c s apps).1]
  exact fun l hl => ((mainLoop_exact mc c apps hv s).2.2.2.2 l hl).imp_right (·.sentW)

example : (reqCores appsE).Nodup := by decide +kernel

/-- `count_shortcut_counterexample`: the violating set is core 1 of chip (0, 0); it was idle (not a
stale waiter itself), the stale waiter on core 5 masks it in the count -/
example : badCores (mcE true) (ctlE true true) (initE 5 30) appsE = [(0, 0, 1)] ∧
    staleSelf (initE 5 30).m.core [(0, 0, 1)] = false ∧
    staleCount (mcE true).chips appsE 30 true true (initE 5 30).m.core [(0, 0, 1)] = true ∧
    staleMasks (mcE true).chips appsE 30 true true (initE 5 30).m.core [(0, 0, 1)] = true := by
  decide +kernel

/-- `readback_counterexample`: the violating core was itself waiting before the call -/
example : badCores (mcE true) (ctlE false true) (initE 1 30) appsE = [(0, 0, 1)] ∧
    staleSelf (initE 1 30).m.core [(0, 0, 1)] = true ∧
    staleMasks (mcE true).chips appsE 30 true false (initE 1 30).m.core [(0, 0, 1)] = true := by
  decide +kernel

/-- without stale waiters the predicate is false on any candidate set (here: the chip misses every
fill, the call ends in the error instead) -/
example : staleMasks (mcE true).chips appsE 30 true true (initE 5 31).m.core [(0, 0, 1)] = false := by
  decide +kernel

def appsE2 : List App := [{ name := 0, image := [1, 2, 3, 4, 5, 6, 7, 8], targets := [(0, 0, [1, 2])] }]

/-- the error side: core 1 already waits (another binary), the chip misses every fill: the error names core 2 only;
core 1 violates the post-condition and `staleHides` holds of it -/
example : (loadApplication (mcE true) (ctlC false true) (initE 1 30) appsE2).outcome =
      .loadingError [{ name := 0, image := [1, 2, 3, 4, 5, 6, 7, 8], targets := [(0, 0, [2])] }] ∧
    badErrCores (mcE true) (ctlC false true) (initE 1 30) appsE2
      [{ name := 0, image := [1, 2, 3, 4, 5, 6, 7, 8], targets := [(0, 0, [2])] }] = [(0, 0, 1)] ∧
    staleHides appsE2 30 (initE 1 30).m.core [(0, 0, 1)] = true := by
  decide +kernel

end Rig.C09
