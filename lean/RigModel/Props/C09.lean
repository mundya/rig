/-
C09 - application loading returns only when every requested core is loaded.

Model: RigModel/Model/C09.lean (controller `loadApplication`/`floodFill` running against the machine
specification `stepP`).  Hypotheses, all documented preconditions of the code or of the machine:
  `Valid`     buffer a multiple of 4 in 4..1024, app id < 256, images whole words and at most 255
              blocks (8-bit field of the start packet), every `vcpu_base` below 2^32, the machine's chip list
              without repetition, requested chips exist, cores < 18, binaries
              target disjoint cores, `compress_flood_fill_regions` meets its contract (C12);
  `ValidC12`  the same with the contract hypothesis REPLACED by: the controller's `compress` is C12's
              model `Rig.C12.compressD` of `compress_flood_fill_regions` and the machine's chips lie in the
              256 x 256 space - `compress_contract_discharged` derives the contract from C12's theorems,
              the `_c12` corollaries carry no assumption about region compression;
  `PreClean`  before the call no core waits under this app id and no requested core waits.
Every theorem holds for ALL missed-set oracles `mc.missed`, all machines, maps, images, n_tries,
both verification modes.
-/
import RigModel.Lemmas.C09Loop
import RigModel.Lemmas.C09Trace
import RigModel.Props.C12

namespace Rig.C09
open Rig.Gen.Load

/-- the fill id is `2 * _nn_id` with `_nn_id` cycling through 1..126: even, 2..252, for every history -/
theorem nnid_range (n : Nat) :
    1 ≤ nextNn n ∧ nextNn n ≤ 126 ∧ nextNn n * 2 % 2 = 0 ∧ 2 ≤ nextNn n * 2 ∧ nextNn n * 2 ≤ 252 := by
  unfold nextNn; split <;> omega

/-- **every fill sent is well formed.**  The requests `flood_fill_aplx` sends for one binary decode
to: a start packet announcing `ceil(len / buf)` blocks under the id, the core selections exactly
as `compress` returned them (strictly increasing: `fill_wellformed_c12`) before any data, the data packets, the
end packet with the same id, the app id and the flags.  The data packets are as many as
announced, numbered 0, 1, 2, ..., each carries between 1 and `buf` bytes (a whole number of
words), and their payloads concatenated are the binary. -/
theorem fill_wellformed (c : Ctl) (u : App) (n base flags : Nat)
    (hb : 4 ≤ c.buf) (hb4 : 4 ∣ c.buf) (hbmax : c.buf ≤ 1024) (happ : c.appId < 256) (hf : flags < 64)
    (hi4 : 4 ∣ u.image.length) (hblocks : u.image.length ≤ 255 * c.buf)
    (hmask : ∀ rm ∈ c.compress u.targets, rm.2 < 262144) :
    let pid := nextNn n * 2
    let data := ffdPkts pid c.buf u.image.length 0 base u.image
    (fillHead c pid u ++ fillTail c pid base flags u).map decode =
        fillPkts c.buf pid base c.appId flags (c.compress u.targets) u.image ∧
      data.length = (u.image.length + c.buf - 1) / c.buf ∧
      data.map Pkt.block = List.range' 0 data.length ∧
      (data.map Pkt.payload).flatten = u.image ∧
      ∀ q ∈ data, 0 < q.payload.length ∧ q.payload.length ≤ c.buf ∧ 4 ∣ q.payload.length := by
  intro pid data
  have hb0 : 0 < c.buf := Nat.lt_of_lt_of_le (by decide) hb
  obtain ⟨h0, h1, h2, h3⟩ := ffdPkts_shape pid c.buf hb0 _ 0 base u.image (Nat.le_refl _)
  exact ⟨fill_decode c u pid base flags (nextNn_lt n) hb0 hbmax happ hf hblocks hmask, h0, h1, h2, fun q hq =>
      ⟨(h3 q hq).1, (h3 q hq).2.1, (h3 q hq).2.2 hb4 hi4⟩⟩

/-- beyond the domain: with 256 blocks the count spills into the id field - the start packet of id 2
announces id 3 and 0 blocks (known finding `ffs-block-count-overflow`) -/
theorem block_count_overflow_example : decode (ffsReq 2 256) = .ffs 3 0 := by decide

/-- **a well-formed fill loads exactly the selected cores of the chips that take part** (machine
specification): after the packets of `fillPkts` a core holds (wait or run by the flag, app id,
the complete image) iff its chip is a chip of the machine that did not miss this fill, its
number is below 18 and one of the (region, mask) pairs selects it; every other core is unchanged. -/
theorem fill_loads_exactly (mc : MCfg) (buf pid base appId flags : Nat) (regs : List (Nat × Nat))
    (image : List Nat) (hb : 0 < buf) (hb4 : 4 ∣ buf) (hi4 : 4 ∣ image.length) (m : MState) :
    let m' := runP mc m (fillPkts buf pid base appId flags regs image)
    m'.fills = m.fills + 1 ∧
    ∀ x y p, m'.core x y p =
      if mc.chips.contains (x, y) && !mc.missed m.fills x y && decide (p < 18) && selectsCore regs x y p
      then ⟨if flags % 2 = 1 then stWait else stRun, appId, image⟩ else m.core x y p :=
  run_fill mc buf pid base appId flags regs image hb hb4 hi4 m

theorem loadApplication_cases (mc : MCfg) (c : Ctl) (s : Sim) (apps : List App) :
    (loadApplication mc c s apps).sent = (mainLoop mc c s apps).2.2 ∧
    ((mainLoop mc c s apps).2.1 ≠ [] ∧
        (loadApplication mc c s apps).outcome = .loadingError (mainLoop mc c s apps).2.1 ∧
        (loadApplication mc c s apps).sim = (mainLoop mc c s apps).1 ∨
      (mainLoop mc c s apps).2.1 = [] ∧ (loadApplication mc c s apps).outcome = .ok ∧
        (loadApplication mc c s apps).sim =
          if c.wait then (mainLoop mc c s apps).1 else ((mainLoop mc c s apps).1.send mc (startReq c.appId)).1) := by
  rw [loadApplication]
  split
  · next h => exact ⟨rfl, .inl ⟨h, rfl, rfl⟩⟩
  · next h => cases c.wait <;> exact ⟨rfl, .inr ⟨Classical.not_not.mp h, rfl, rfl⟩⟩

theorem wantedBy_eq_some {apps : List App} {x y p : Nat} {a : App} (h : wantedBy apps x y p = some a) :
    a ∈ apps ∧ wants a x y p = true :=
  ⟨List.mem_of_find?_eq_some h, List.find?_some (p := fun a => wants a x y p) h⟩

theorem wantedBy_eq_none {apps : List App} {x y p : Nat} (h : wantedBy apps x y p = none) :
    ∀ a ∈ apps, wants a x y p = false :=
  fun a ha => Bool.eq_false_iff.mpr (List.find?_eq_none.mp h a ha)

theorem outcome_ok {mc : MCfg} {c : Ctl} {s : Sim} {apps : List App}
    (h : (loadApplication mc c s apps).outcome = .ok) :
    (mainLoop mc c s apps).2.1 = [] ∧ (loadApplication mc c s apps).sim =
      if c.wait then (mainLoop mc c s apps).1 else ((mainLoop mc c s apps).1.send mc (startReq c.appId)).1 :=
  (loadApplication_cases mc c s apps).2.elim (fun h' => nomatch h'.2.1.symm.trans h) fun h' => ⟨h'.1, h'.2.2⟩

theorem outcome_err {mc : MCfg} {c : Ctl} {s : Sim} {apps unl : List App}
    (h : (loadApplication mc c s apps).outcome = .loadingError unl) :
    (mainLoop mc c s apps).2.1 = unl ∧ unl ≠ [] ∧ (loadApplication mc c s apps).sim = (mainLoop mc c s apps).1 :=
  (loadApplication_cases mc c s apps).2.elim
    (fun h' => Outcome.loadingError.inj (h'.2.1.symm.trans h) ▸ ⟨rfl, h'.1, h'.2.2⟩)
    fun h' => nomatch h'.2.1.symm.trans h

theorem ok_reason {mc : MCfg} {c : Ctl} {apps : List App} (hv : Valid mc c apps) {s : Sim}
    (hok : (loadApplication mc c s apps).outcome = .ok) :
    Inv apps c.appId s.m (mainLoop mc c s apps).1.m ∧
      ((∀ a ∈ apps, ∀ x y p, wants a x y p = true → ((mainLoop mc c s apps).1.m.core x y p).state = stWait) ∨
        c.useCount = true ∧ CountEq mc c apps (mainLoop mc c s apps).1.m) := by
  obtain ⟨hinv, _, _, hreason, _⟩ := mainLoop_exact mc c apps hv s
  rw [(outcome_ok hok).1] at hreason
  exact ⟨hinv, hreason.imp (fun hwait a ha x y p hw => Classical.not_not.mp fun hn =>
    (hwait a ha x y p hw hn).elim fun _ h => List.not_mem_nil h.1) (·.2)⟩

/-- what the start signal makes of a core it addresses -/
theorem started_eq_iff (appId : Nat) (im : List Nat) (k : Core) :
    (if matchesApp k stWait appId then { k with state := stRun } else k) = ⟨stRun, appId, im⟩ ↔
      k = ⟨stWait, appId, im⟩ ∨ k = ⟨stRun, appId, im⟩ := by
  obtain ⟨st, ap, i⟩ := k
  by_cases h : st = stWait ∧ ap = appId
  · obtain ⟨rfl, rfl⟩ := h
    simp [matchesApp, show stWait ≠ stRun by decide]
  · simp only [matchesApp, Bool.and_eq_true, beq_iff_eq, h, if_false, Core.mk.injEq]
    exact ⟨.inr, fun h' => h'.elim (fun h' => absurd ⟨h'.1, h'.2.1⟩ h) id⟩

/-- **which cores violate the post-condition of a normal return** (no `PreClean`): exactly the
requested cores that never received their binary - they are as before the call - except those that
were already running that binary under the app id when a start was asked for.  Cores that were not
requested never violate it. -/
theorem postOk_false_iff (mc : MCfg) (c : Ctl) (apps : List App) (hv : Valid mc c apps) (s : Sim)
    (hok : (loadApplication mc c s apps).outcome = .ok) (x y p : Nat) :
    postOkCore apps c.appId c.wait (s.m.core x y p) ((loadApplication mc c s apps).sim.m.core x y p) x y p = false ↔
      ∃ a, wantedBy apps x y p = some a ∧ (mainLoop mc c s apps).1.m.core x y p = s.m.core x y p ∧
        s.m.core x y p ≠ ld c.appId a ∧ ¬ (c.wait = false ∧ s.m.core x y p = ⟨stRun, c.appId, a.image⟩) := by
  obtain ⟨hinv, _⟩ := ok_reason hv hok
  rw [(outcome_ok hok).2, postOkCore]
  generalize (mainLoop mc c s apps).1 = r at hinv
  cases hfind : wantedBy apps x y p with
  | some a =>
    obtain ⟨ha, hw⟩ := wantedBy_eq_some hfind
    obtain ⟨hc, hp⟩ := hv.hin a ha x y p hw
    have hk := hinv.2 a ha x y p hw
    simp only [Option.some.injEq, exists_eq_left']
    cases c.wait
    · simp only [Bool.false_eq_true, ↓reduceIte, send_start mc _ c.appId hv.happ, List.contains_eq_mem, hc, hp,
        decide_true, Bool.true_and, Core.beq_eq_false, ne_eq, started_eq_iff, true_and]
      constructor
      · intro h
        have e := hk.resolve_left fun e => h (.inl e)
        exact ⟨e, fun e' => h (.inl (e.trans e')), fun e' => h (.inr (e.trans e'))⟩
      · rintro ⟨e, h1, h2⟩ (h | h)
        exacts [h1 (e.symm.trans h), h2 (e.symm.trans h)]
    · simp only [↓reduceIte, Core.beq_eq_false, ne_eq, Bool.true_eq_false, false_and, not_false_eq_true, and_true]
      exact ⟨fun h => ⟨hk.resolve_left h, fun e => h ((hk.resolve_left h).trans e)⟩, fun h e' => h.2 (h.1.symm.trans e')⟩
  | none =>
    -- a core that was not requested is untouched by the loop; the start signal may start it
    have he := hinv.1 x y p (wantedBy_eq_none hfind)
    refine iff_of_false ((Bool.not_eq_false _).mpr ?_) fun h => h.elim fun a h => Option.some_ne_none a h.1.symm
    cases c.wait
    · simp only [Bool.false_eq_true, ↓reduceIte, send_start mc _ c.appId hv.happ, he, Bool.not_false, Bool.true_and]
      split
      · next h => simp only [(Bool.and_eq_true_iff.mp h).2, Core.beq_self, Bool.and_self, Bool.or_true]
      · rw [Core.beq_self]; rfl
    · simp only [↓reduceIte, he, Core.beq_self, Bool.true_or]

/-- **normal return ⇒ exactly the requested cores are loaded.**  Under `Valid` and `PreClean`, for
every missed-set oracle and both verification modes: if `load_application` returns normally then
every requested core holds the binary named for it under the app id and is waiting (`wait`) or
running (start signal sent), and every core that was not requested is exactly as before the call
(`postOkCore` is the predicate the check evaluates on the implementation's machine). -/
theorem load_sound (mc : MCfg) (c : Ctl) (apps : List App) (hv : Valid mc c apps) (s : Sim)
    (hpre : PreClean s.m apps c.appId) (hok : (loadApplication mc c s apps).outcome = .ok) :
    ∀ x y p, postOkCore apps c.appId c.wait (s.m.core x y p)
      ((loadApplication mc c s apps).sim.m.core x y p) x y p = true := by
  intro x y p
  refine (Bool.not_eq_false _).mp fun h => ?_
  -- a violating core is a requested core that is as before the call and did not hold its binary then
  obtain ⟨a, hfind, he, hne, _⟩ := (postOk_false_iff mc c apps hv s hok x y p).mp h
  obtain ⟨ha, hw⟩ := wantedBy_eq_some hfind
  obtain ⟨hinv, hwait | ⟨_, hcnt⟩⟩ := ok_reason hv hok
  · exact hpre.not_wait ha hw (he ▸ hwait a ha x y p hw)
  · exact hne (he ▸ count_full hv.hchips hpre hinv hcnt a ha x y p hw)

/-- `b`: the error names the core -/
theorem postErr_core (a : App) (appId : Nat) (k k0 : Core) (b : Bool) (hk : k = ld appId a ∨ k = k0)
    (hb : b = true ↔ k.state ≠ stWait) :
    ((b == !loaded a appId k) && (k == k0 || loaded a appId k)) = false ↔
      k = k0 ∧ k0 ≠ ld appId a ∧ k0.state = stWait := by
  have hl : loaded a appId k = true ↔ k = ld appId a := Core.beq_eq_true
  by_cases hld : k = ld appId a
  · have hb' : b = false := Bool.eq_false_iff.mpr fun h => hb.mp h (hld ▸ rfl)
    rw [hb', hl.mpr hld]
    exact iff_of_false (by rw [Bool.or_true]; decide) fun h => h.2.1 (h.1 ▸ hld)
  · obtain rfl := hk.resolve_left hld
    rw [Bool.eq_false_iff.mpr (mt hl.mp hld), Core.beq_self]
    cases b
    · exact iff_of_true rfl ⟨rfl, hld, Classical.not_not.mp fun hn => Bool.false_ne_true (hb.mpr hn)⟩
    · exact iff_of_false (by decide) fun h => hb.mp rfl h.2.2

/-- **which cores violate the post-condition of `SpiNNakerLoadingError`** (no `PreClean`): exactly the
requested cores that are not named although they never received their binary, which is possible
only for a core that was itself in the wait state before the call.  A named core is never loaded;
cores that were not requested are untouched and not named. -/
theorem postErr_false_iff (mc : MCfg) (c : Ctl) (apps : List App) (hv : Valid mc c apps) (s : Sim)
    (unl : List App) (herr : (loadApplication mc c s apps).outcome = .loadingError unl) (x y p : Nat) :
    postErrCore apps unl c.appId (s.m.core x y p) ((loadApplication mc c s apps).sim.m.core x y p) x y p = false ↔
      ∃ a, wantedBy apps x y p = some a ∧ (loadApplication mc c s apps).sim.m.core x y p = s.m.core x y p ∧
        s.m.core x y p ≠ ld c.appId a ∧ (s.m.core x y p).state = stWait ∧
        ∀ u ∈ unl, wants u x y p = false := by
  obtain ⟨hinv, hsub, hnm, hreason, _⟩ := mainLoop_exact mc c apps hv s
  obtain ⟨rfl, hne, hs⟩ := outcome_err herr
  have hwait := hreason.resolve_right fun h => hne h.1
  rw [hs, postErrCore]
  cases hfind : wantedBy apps x y p with
  | some a =>
    obtain ⟨ha, hw⟩ := wantedBy_eq_some hfind
    simp only [Option.some.injEq, exists_eq_left']
    rw [postErr_core a c.appId _ _ _ (hinv.2 a ha x y p hw)]
    · exact ⟨fun h => ⟨h.1, h.2.1, h.2.2, fun u hu => Bool.eq_false_iff.mpr fun hwu => hnm u hu x y p hwu (h.1 ▸ h.2.2)⟩,
        fun h => ⟨h.1, h.2.1, h.2.2.1⟩⟩
    · -- named under its binary iff some map of the error wants the core (binaries target disjoint cores)
      rw [List.any_eq_true]
      refine ⟨fun h => h.elim fun u h => hnm u h.1 x y p (Bool.and_eq_true_iff.mp h.2).2, fun hn => ?_⟩
      obtain ⟨u, hu, hwu⟩ := hwait a ha x y p hw hn
      exact ⟨u, hu, Bool.and_eq_true_iff.mpr ⟨beq_iff_eq.mpr (hsub.named hv ha hu hw hwu).1, hwu⟩⟩
  | none =>
    have hn := wantedBy_eq_none hfind
    refine iff_of_false ((Bool.not_eq_false _).mpr ?_) fun h => h.elim fun a h => Option.some_ne_none a h.1.symm
    simp only [Bool.and_eq_true, beq_iff_eq, Bool.not_eq_true', List.any_eq_false]
    refine ⟨hinv.1 x y p hn, fun u hu hwu => ?_⟩
    obtain ⟨a', ha', hsa⟩ := hsub u hu
    have := hsa.2.2 x y p hwu
    rw [hn a' ha'] at this; cases this

/-- **the error names exactly the cores that are not loaded.**  Under `Valid` and `PreClean`: if
`SpiNNakerLoadingError(unl)` is raised then a requested core is named in `unl` (under its binary)
iff it does not hold its binary under the app id in the wait state, a requested core is either
loaded or untouched, and cores that were not requested are untouched and not named
(`postErrCore` is the predicate the check evaluates on the implementation's machine). -/
theorem load_error_exact (mc : MCfg) (c : Ctl) (apps : List App) (hv : Valid mc c apps) (s : Sim)
    (hpre : PreClean s.m apps c.appId) (unl : List App)
    (herr : (loadApplication mc c s apps).outcome = .loadingError unl) :
    ∀ x y p, postErrCore apps unl c.appId (s.m.core x y p)
      ((loadApplication mc c s apps).sim.m.core x y p) x y p = true := by
  intro x y p
  refine (Bool.not_eq_false _).mp fun h => ?_
  -- a violating core is a requested core that waited before the call
  obtain ⟨a, hfind, _, _, hst, _⟩ := (postErr_false_iff mc c apps hv s unl herr x y p).mp h
  exact hpre.not_wait (wantedBy_eq_some hfind).1 (wantedBy_eq_some hfind).2 hst

set_option linter.unusedVariables false in
/-- **attempts are bounded**: at most `n_tries + 1` flood-fill attempts are made, and the error is
raised only after all of them (the loop is `while unloaded != {} and tries <= n_tries`). -/
theorem attempts_bounded (mc : MCfg) (c : Ctl) (apps : List App) (hv : Valid mc c apps) (s : Sim)
    (hpre : PreClean s.m apps c.appId) :
    (loadApplication mc c s apps).sent.length ≤ c.nTries + 1 ∧
    ∀ unl, (loadApplication mc c s apps).outcome = .loadingError unl →
      (loadApplication mc c s apps).sent.length = c.nTries + 1 := by
  rw [(loadApplication_cases mc c s apps).1]
  obtain ⟨n, hn, hlen, hex⟩ := loadLoop_rule mc c (coreCount apps) (fun _ tries _ sent => sent.length = tries)
    (fun _ _ _ _ h _ _ => by rw [List.length_append, h]; rfl) (c.nTries + 1) s 0 apps [] rfl
  rw [Nat.zero_add] at hlen hex
  exact ⟨hlen ▸ hn, fun unl herr => hlen ▸ hex.elim id fun hc => Nat.le_antisymm hn
    (Nat.lt_of_not_le fun h => hc ⟨(outcome_err herr).1 ▸ (outcome_err herr).2.1, h⟩)⟩

/-- **each (re-)send targets exactly the still-unloaded map**: every map handed to
`flood_fill_aplx` is a part of the request and names exactly the requested cores that did not
hold their binary in a machine state reached during this call (`Tracks`). -/
theorem resend_exact (mc : MCfg) (c : Ctl) (apps : List App) (hv : Valid mc c apps) (s : Sim)
    (hpre : PreClean s.m apps c.appId) :
    ∀ l ∈ (loadApplication mc c s apps).sent, SentOK c apps s.m l := by
  rw [(loadApplication_cases mc c s apps).1]
  intro l hl
  obtain rfl | ⟨hsub, m, hinv, hw, hn⟩ := (mainLoop_exact mc c apps hv s).2.2.2.2 l hl
  · -- the first attempt: before the call no requested core waits
    exact ⟨.refl l, s.m, .refl .., tracks_of_wait hv hpre (.refl ..) (.refl l) (fun a ha _ _ _ hw _ => ⟨a, ha, hw⟩)
      fun u hu x y p hw => hpre.not_wait hu hw⟩
  · exact ⟨hsub, m, hinv, tracks_of_wait hv hpre hinv hsub hw hn⟩

/-- **exactly one start signal, after the last fill, and only on a normal return without `wait`.**
For ALL machines, maps, missed-set oracles and modes (no `Valid`, no `PreClean`; app id below 256):
the requests `load_application` adds to the log split into `added` - fills, base-address reads,
count requests, state read-backs: none of them a signal packet - and
* on a normal return with `wait = False`: one more request, the newest of the log - so sent after
  every packet of the last fill and after the last verification -, which is `send_signal("start",
  app_id)` (`startReq`; the machine reads it as signal `start`, app mask 0xff, this app id, and
  acknowledges it);
* on a normal return with `wait = True`, and whenever `SpiNNakerLoadingError` is raised: nothing more -
  no signal packet at all is sent. -/
theorem start_signal_once (mc : MCfg) (c : Ctl) (s : Sim) (apps : List App) (happ : c.appId < 256) :
    ∃ added : List (Req × Reply), (∀ e ∈ added, isSignalPkt e.1 = false) ∧
      (((loadApplication mc c s apps).outcome = .ok ∧ c.wait = false) →
        (loadApplication mc c s apps).sim.trace = (startReq c.appId, Reply.ok) :: (added ++ s.trace) ∧
        isSignalPkt (startReq c.appId) = true ∧ decode (startReq c.appId) = .signal sigStart 255 c.appId) ∧
      (¬ ((loadApplication mc c s apps).outcome = .ok ∧ c.wait = false) →
        (loadApplication mc c s apps).sim.trace = added ++ s.trace) := by
  obtain ⟨added, hadd, hno⟩ := ext_loadLoop mc c (coreCount apps) (c.nTries + 1) s 0 apps []
  have hd := decode_start c.appId happ
  refine ⟨added, hno, ?_⟩
  obtain ⟨_, ⟨_, ho, hs⟩ | ⟨_, ho, hs⟩⟩ := loadApplication_cases mc c s apps
  · rw [ho, hs]
    exact ⟨fun h => (nomatch h.1), fun _ => hadd⟩
  · rw [ho, hs]
    cases c.wait
    · exact ⟨fun _ => ⟨by rw [if_neg (by decide), send_start mc _ _ happ, ← hadd], by rw [isSignalPkt, hd], hd⟩,
        fun h => absurd ⟨rfl, rfl⟩ h⟩
    · exact ⟨fun h => (nomatch h.2), fun _ => hadd⟩

/-- counting form: among the requests of one call exactly one signal packet if it returned
normally with `wait = False`, otherwise none -/
theorem start_signal_count (mc : MCfg) (c : Ctl) (s : Sim) (apps : List App) (happ : c.appId < 256) :
    ∃ new : List (Req × Reply), (loadApplication mc c s apps).sim.trace = new ++ s.trace ∧
      new.countP (fun e => isSignalPkt e.1) =
        if (loadApplication mc c s apps).outcome = .ok ∧ c.wait = false then 1 else 0 := by
  obtain ⟨added, hno, h1, h2⟩ := start_signal_once mc c s apps happ
  have h0 : added.countP (fun e => isSignalPkt e.1) = 0 := by
    rw [List.countP_eq_zero]
    intro e he; simp [hno e he]
  by_cases hc : (loadApplication mc c s apps).outcome = .ok ∧ c.wait = false
  · obtain ⟨ht, hs, _⟩ := h1 hc
    refine ⟨(startReq c.appId, Reply.ok) :: added, by rw [ht]; rfl, ?_⟩
    rw [if_pos hc, List.countP_cons, h0]
    simp [hs]
  · exact ⟨added, h2 hc, by rw [if_neg hc, h0]⟩

/-- the run-time oracle `startOnceOK` (evaluated by the check on the implementation's requests) holds
on every run of the model: a call started from an empty log puts on the wire a request sequence
whose only signal packet is a final `send_signal("start", app_id)` - present iff the call returned
normally with `wait = False` -/
theorem start_once_oracle_holds (mc : MCfg) (c : Ctl) (s : Sim) (apps : List App) (happ : c.appId < 256)
    (hs : s.trace = []) :
    startOnceOK c.appId (decide ((loadApplication mc c s apps).outcome = .ok) && !c.wait)
      ((loadApplication mc c s apps).sim.trace.reverse.map fun e => e.1) = true := by
  obtain ⟨added, hno, h1, h2⟩ := start_signal_once mc c s apps happ
  have hall : ((added.reverse.map fun e => e.1).all fun r => !isSignalPkt r) = true := by
    simp only [List.all_eq_true, List.mem_map, List.mem_reverse]
    rintro r ⟨e, he, rfl⟩
    rw [hno e he]; rfl
  by_cases hc : (loadApplication mc c s apps).outcome = .ok ∧ c.wait = false
  · rw [(h1 hc).1, hs, hc.1, hc.2]
    simp only [startOnceOK, decide_true, Bool.not_false, Bool.and_self, if_true, List.append_nil, List.reverse_cons,
      List.map_append, List.map_cons, List.map_nil, List.getLast?_append, List.getLast?_singleton,
      List.dropLast_concat, Option.some_or, beq_self_eq_true, Bool.true_and]
    exact hall
  · rw [h2 hc, hs, startOnceOK, if_neg, List.append_nil]
    · exact hall
    · exact fun h => hc ⟨of_decide_eq_true (Bool.and_eq_true_iff.mp h).1,
        by simpa using (Bool.and_eq_true_iff.mp h).2⟩

/-- the function the driver runs when no table of implementation pairs is given (`Model/C09.lean`,
which cannot import C12's Props) is C12's `compressD` -/
theorem compressC12_eq : compressC12 = Rig.C12.compressD := rfl

/-- **C12 discharges C09's contract**: for the controller whose `compress` is C12's model of
`compress_flood_fill_regions`, on a machine whose chips lie in the 256 x 256 space and a request
naming only chips of the machine and cores below 18, `CompressOK` holds - for every sub-map the
retry loop can produce. -/
theorem compress_contract_discharged (mc : MCfg) (c : Ctl) (apps : List App)
    (hc : c.compress = Rig.C12.compressD)
    (hin : ∀ a ∈ apps, ∀ x y p, wants a x y p = true → (x, y) ∈ mc.chips ∧ p < 18)
    (h256 : ∀ ch ∈ mc.chips, ch.1 < 256 ∧ ch.2 < 256) : CompressOK mc c apps := by
  intro t ⟨a, ha, hsub⟩
  have hdom : ∀ x y p, Rig.C12.wantsD t x y p = true → x < 256 ∧ y < 256 ∧ p < 18 := by
    intro x y p hw
    obtain ⟨hch, hp⟩ := hin a ha x y p (hsub x y p hw)
    obtain ⟨hx, hy⟩ := h256 (x, y) hch
    exact ⟨hx, hy, hp⟩
  obtain ⟨h1, h2, _⟩ := Rig.C12.c09_compressOK t hdom
  rw [hc]
  exact ⟨h1, fun x y p _ _ => h2 x y p⟩

/-- `Valid` without `hcomp`, with C12's model as `compress` and the chips within the 256 x 256 space -/
structure ValidC12 (mc : MCfg) (c : Ctl) (apps : List App) : Prop where
  hb : 4 ≤ c.buf
  hb4 : 4 ∣ c.buf
  hbmax : c.buf ≤ 1024
  happ : c.appId < 256
  hv : ∀ x y, mc.vcpuBase x y < 4294967296
  himg : ∀ a ∈ apps, 4 ∣ a.image.length ∧ a.image.length ≤ 255 * c.buf
  hchips : mc.chips.Nodup
  h256 : ∀ ch ∈ mc.chips, ch.1 < 256 ∧ ch.2 < 256
  hin : ∀ a ∈ apps, ∀ x y p, wants a x y p = true → (x, y) ∈ mc.chips ∧ p < 18
  hdisj : ∀ a ∈ apps, ∀ b ∈ apps, ∀ x y p, wants a x y p = true → wants b x y p = true → a = b
  hcompress : c.compress = Rig.C12.compressD

theorem ValidC12.valid {mc : MCfg} {c : Ctl} {apps : List App} (h : ValidC12 mc c apps) : Valid mc c apps :=
  { hb := h.hb, hb4 := h.hb4, hbmax := h.hbmax, happ := h.happ, hv := h.hv, himg := h.himg,
    hchips := h.hchips, hin := h.hin, hdisj := h.hdisj,
    hcomp := compress_contract_discharged mc c apps h.hcompress h.hin h.h256 }

/-- **every fill sent is well formed, core selections included** (no assumption about region
compression).  With `compress` = C12's model, for any map `u` naming chips of the 256 x 256 space
and cores below 18, the requests `flood_fill_aplx` sends for `u` decode to: the start packet
announcing `ceil(len / buf)` blocks under the id; then - between the start packet and the first
data packet, hence between start and end - the core selections, which are **strictly increasing**
as (region, core mask) pairs, have 18-bit masks and select exactly the requested cores (for ALL
chips and cores); then the data packets and the end packet, as in `fill_wellformed`. -/
theorem fill_wellformed_c12 (c : Ctl) (u : App) (n base flags : Nat) (hc : c.compress = Rig.C12.compressD)
    (hb : 4 ≤ c.buf) (hb4 : 4 ∣ c.buf) (hbmax : c.buf ≤ 1024) (happ : c.appId < 256) (hf : flags < 64)
    (hi4 : 4 ∣ u.image.length) (hblocks : u.image.length ≤ 255 * c.buf)
    (hdom : ∀ x y p, wants u x y p = true → x < 256 ∧ y < 256 ∧ p < 18) :
    let pid := nextNn n * 2
    let regs := Rig.C12.compressD u.targets
    let data := ffdPkts pid c.buf u.image.length 0 base u.image
    (fillHead c pid u ++ fillTail c pid base flags u).map decode =
        .ffs pid ((u.image.length + c.buf - 1) / c.buf) :: regs.map (fun rm => Pkt.ffcs rm.1 rm.2) ++
          data ++ [.ffe pid c.appId flags] ∧
      strictlyIncreasing regs = true ∧
      (∀ rm ∈ regs, rm.2 < 262144) ∧
      (∀ x y p, selectsCore regs x y p = wants u x y p) ∧
      data.length = (u.image.length + c.buf - 1) / c.buf ∧
      data.map Pkt.block = List.range' 0 data.length ∧
      (data.map Pkt.payload).flatten = u.image ∧
      ∀ q ∈ data, 0 < q.payload.length ∧ q.payload.length ≤ c.buf ∧ 4 ∣ q.payload.length := by
  intro pid regs data
  obtain ⟨h1, h2, h3⟩ := Rig.C12.c09_compressOK u.targets hdom
  have hsi : strictlyIncreasing regs = true := by
    have := h3 []
    simp only [regionsOK, Bool.and_eq_true] at this
    exact this.1.1
  have hmask : ∀ rm ∈ c.compress u.targets, rm.2 < 262144 := by rw [hc]; exact h1
  obtain ⟨f1, f2, f3, f4, f5⟩ := fill_wellformed c u n base flags hb hb4 hbmax happ hf hi4 hblocks hmask
  refine ⟨?_, hsi, h1, h2, f2, f3, f4, f5⟩
  rw [f1, hc]; rfl

/-! the four theorems for the controller whose `compress` is C12's model: no contract hypothesis -/

theorem load_sound_c12 (mc : MCfg) (c : Ctl) (apps : List App) (hv : ValidC12 mc c apps) (s : Sim)
    (hpre : PreClean s.m apps c.appId) (hok : (loadApplication mc c s apps).outcome = .ok) :
    ∀ x y p, postOkCore apps c.appId c.wait (s.m.core x y p)
      ((loadApplication mc c s apps).sim.m.core x y p) x y p = true :=
  load_sound mc c apps hv.valid s hpre hok

theorem load_error_exact_c12 (mc : MCfg) (c : Ctl) (apps : List App) (hv : ValidC12 mc c apps) (s : Sim)
    (hpre : PreClean s.m apps c.appId) (unl : List App)
    (herr : (loadApplication mc c s apps).outcome = .loadingError unl) :
    ∀ x y p, postErrCore apps unl c.appId (s.m.core x y p)
      ((loadApplication mc c s apps).sim.m.core x y p) x y p = true :=
  load_error_exact mc c apps hv.valid s hpre unl herr

theorem attempts_bounded_c12 (mc : MCfg) (c : Ctl) (apps : List App) (hv : ValidC12 mc c apps) (s : Sim)
    (hpre : PreClean s.m apps c.appId) :
    (loadApplication mc c s apps).sent.length ≤ c.nTries + 1 ∧
    ∀ unl, (loadApplication mc c s apps).outcome = .loadingError unl →
      (loadApplication mc c s apps).sent.length = c.nTries + 1 :=
  attempts_bounded mc c apps hv.valid s hpre

theorem resend_exact_c12 (mc : MCfg) (c : Ctl) (apps : List App) (hv : ValidC12 mc c apps) (s : Sim)
    (hpre : PreClean s.m apps c.appId) :
    ∀ l ∈ (loadApplication mc c s apps).sent, SentOK c apps s.m l :=
  resend_exact mc c apps hv.valid s hpre

/-- one chip (0, 0); `allMiss` decides whether the chip misses every fill -/
def mcE (allMiss : Bool) : MCfg :=
  { chips := [(0, 0)], missed := fun _ _ _ => allMiss, sdramSys := 1610612736, vcpuBase := fun _ _ => 3842011136 }
/-- region word 0x00030001 = level 3, base (0, 0), block 0: chip (0, 0) only; mask 2 = core 1 -/
def ctlE (useCount wait : Bool) : Ctl :=
  { buf := 4, compress := fun t => if wantsT t 0 0 1 then [(196609, 2)] else [], appId := 30, nTries := 2,
    wait := wait, useCount := useCount }
def rxE : Rx := { idx := 0, pid := 0, nBlocks := 0, got := 0, next := 0, regs := [], data := [], ok := false }
/-- one binary of 8 bytes (two blocks) for core 1 of chip (0, 0) -/
def appsE : List App := [{ name := 0, image := [1, 2, 3, 4, 5, 6, 7, 8], targets := [(0, 0, [1])] }]
/-- all cores idle except core `p0` of chip (0, 0), which waits under app id `app0` with another binary;
`nn = 126`: the first fill wraps the id counter to 1 -/
def initE (p0 app0 : Nat) : Sim :=
  { m := { core := fun x y p => if x = 0 ∧ y = 0 ∧ p = p0 then ⟨stWait, app0, [9]⟩ else ⟨stIdle, 0, []⟩,
           rx := rxE, fills := 0 }, nn := 126, trace := [] }

theorem wants_appE {a : App} (ha : a ∈ appsE) {x y p : Nat} (h : wants a x y p = true) : x = 0 ∧ y = 0 ∧ p = 1 := by
  obtain rfl := List.mem_singleton.mp ha
  simp only [wants, List.any_cons, List.any_nil, Bool.or_false, Bool.and_eq_true, beq_iff_eq,
    List.contains_iff_mem, List.mem_singleton] at h
  exact ⟨h.1.1.symm, h.1.2.symm, h.2⟩

theorem validE (allMiss useCount wait : Bool) : Valid (mcE allMiss) (ctlE useCount wait) appsE where
  hb := Nat.le_refl 4
  hb4 := Nat.dvd_refl 4
  hbmax := by show 4 ≤ 1024; decide
  happ := by show 30 < 256; decide
  hv := fun _ _ => by show 3842011136 < 4294967296; decide
  himg := fun a ha => by obtain rfl := List.mem_singleton.mp ha; show 4 ∣ 8 ∧ 8 ≤ 255 * 4; decide
  hchips := List.nodup_singleton _
  hin := fun a ha x y p hw => by
    obtain ⟨rfl, rfl, rfl⟩ := wants_appE ha hw
    exact ⟨List.mem_singleton.mpr rfl, by decide⟩
  hdisj := fun a ha b hb _ _ _ _ _ => (List.mem_singleton.mp ha).trans (List.mem_singleton.mp hb).symm
  hcomp := fun t ⟨a, ha, hsub⟩ => by
    -- the pair (0x00030001, 2) selects core 1 of chip (0, 0) and no other core of it
    have hsel : ∀ p, selectsCore [(196609, 2)] 0 0 p = decide (1 = p) := fun p => by
      rw [selectsCore, List.any_cons, List.any_nil, Bool.or_false, show selects 196609 0 0 = true by decide,
        Bool.true_and]
      exact Nat.testBit_two_pow (n := 1)
    refine ⟨fun rm hrm => ?_, fun x y p hc hp => ?_⟩
    · rw [show (ctlE useCount wait).compress t = if wantsT t 0 0 1 then [(196609, 2)] else [] from rfl] at hrm
      split at hrm
      · obtain rfl := List.mem_singleton.mp hrm; decide
      · cases hrm
    · obtain ⟨rfl, rfl⟩ := Prod.mk.inj (List.mem_singleton.mp hc)
      show selectsCore (if wantsT t 0 0 1 = true then [(196609, 2)] else []) 0 0 p = wantsT t 0 0 p
      by_cases hp1 : 1 = p
      · subst hp1
        cases h : wantsT t 0 0 1
        · rfl
        · rw [if_pos rfl, hsel]; rfl
      · rw [Bool.eq_false_iff.mpr fun h => hp1 (wants_appE ha (hsub 0 0 p h)).2.2.symm]
        split
        · rw [hsel, decide_eq_false hp1]
        · rfl

theorem precleanE : PreClean (initE 5 31).m appsE 30 := by
  intro x y p hst
  simp only [initE] at hst ⊢
  by_cases h : x = 0 ∧ y = 0 ∧ p = 5
  · obtain ⟨rfl, rfl, rfl⟩ := h
    exact ⟨by decide, by decide⟩
  · rw [if_neg h] at hst
    exact absurd hst (by decide)

/-- the hypotheses of `load_sound` are satisfiable with a non-trivial run: a normal return after a
complete two-block fill, in count mode with the start signal -/
example : Valid (mcE false) (ctlE true false) appsE ∧ PreClean (initE 5 31).m appsE 30 ∧
    (loadApplication (mcE false) (ctlE true false) (initE 5 31) appsE).outcome = .ok ∧
    (loadApplication (mcE false) (ctlE true false) (initE 5 31) appsE).sim.m.core 0 0 1 =
      ⟨stRun, 30, [1, 2, 3, 4, 5, 6, 7, 8]⟩ := by
  refine ⟨validE _ _ _, precleanE, ?h, eq_of_beq (load_sound _ _ _ (validE _ _ _) _ precleanE ?h 0 0 1)⟩
  decide +kernel

/-- the hypotheses of `load_error_exact` / `attempts_bounded` are satisfiable with a run that ends in
the error after exactly n_tries + 1 = 3 attempts (the chip misses every fill; read-back mode) -/
example : Valid (mcE true) (ctlE false true) appsE ∧ PreClean (initE 5 31).m appsE 30 ∧
    (loadApplication (mcE true) (ctlE false true) (initE 5 31) appsE).outcome = .loadingError appsE ∧
    (loadApplication (mcE true) (ctlE false true) (initE 5 31) appsE).sent.length = 3 := by
  refine ⟨validE _ _ _, precleanE, ?h, (attempts_bounded _ _ _ (validE _ _ _) _ precleanE).2 _ ?h⟩
  decide +kernel

/-- the controller of the examples with region compression done by C12's model -/
def ctlC (useCount wait : Bool) : Ctl := { ctlE useCount wait with compress := Rig.C12.compressD }

theorem validC (allMiss useCount wait : Bool) : ValidC12 (mcE allMiss) (ctlC useCount wait) appsE :=
  have v := validE allMiss useCount wait
  { hb := v.hb, hb4 := v.hb4, hbmax := v.hbmax, happ := v.happ, hv := v.hv, himg := v.himg,
    hchips := v.hchips, hin := v.hin, hdisj := v.hdisj, hcompress := rfl,
    h256 := by
      intro ch hch
      simp only [mcE, List.mem_singleton] at hch
      subst hch; exact ⟨by decide, by decide⟩ }

/-- the hypotheses of the `_c12` theorems are satisfiable with non-trivial runs: C12's model yields
the pair (0x00030001, 2) for the request, the load succeeds and starts core 1; when the chip misses
every fill the error is raised after three attempts -/
example : ValidC12 (mcE false) (ctlC true false) appsE ∧ PreClean (initE 5 31).m appsE 30 ∧
    Rig.C12.compressD [(0, 0, [1])] = [(196609, 2)] ∧
    (loadApplication (mcE false) (ctlC true false) (initE 5 31) appsE).outcome = .ok ∧
    (loadApplication (mcE false) (ctlC true false) (initE 5 31) appsE).sim.m.core 0 0 1 =
      ⟨stRun, 30, [1, 2, 3, 4, 5, 6, 7, 8]⟩ := by
  refine ⟨validC _ _ _, precleanE, by decide +kernel, ?h,
    eq_of_beq (load_sound_c12 _ _ _ (validC _ _ _) _ precleanE ?h 0 0 1)⟩
  decide +kernel

example : ValidC12 (mcE true) (ctlC false true) appsE ∧ PreClean (initE 5 31).m appsE 30 ∧
    (loadApplication (mcE true) (ctlC false true) (initE 5 31) appsE).outcome = .loadingError appsE ∧
    (loadApplication (mcE true) (ctlC false true) (initE 5 31) appsE).sent.length = 3 := by
  refine ⟨validC _ _ _, precleanE, ?h, (attempts_bounded_c12 _ _ _ (validC _ _ _) _ precleanE).2 _ ?h⟩
  decide +kernel

/-- **count shortcut fooled by a stale waiter** (no `PreClean`): every other hypothesis holds; core 5
of the chip already waits under the app id, the chip misses every fill; in count mode
`load_application` returns normally after ONE attempt although the requested core 1 is still idle -/
theorem count_shortcut_counterexample :
    Valid (mcE true) (ctlE true true) appsE ∧ ¬ PreClean (initE 5 30).m appsE 30 ∧
    (loadApplication (mcE true) (ctlE true true) (initE 5 30) appsE).outcome = .ok ∧
    (loadApplication (mcE true) (ctlE true true) (initE 5 30) appsE).sent.length = 1 ∧
    (loadApplication (mcE true) (ctlE true true) (initE 5 30) appsE).sim.m.core 0 0 1 = ⟨stIdle, 0, []⟩ ∧
    postOkCore appsE 30 true ((initE 5 30).m.core 0 0 1)
      ((loadApplication (mcE true) (ctlE true true) (initE 5 30) appsE).sim.m.core 0 0 1) 0 0 1 = false := by
  refine ⟨validE _ _ _, fun h => (h 0 0 5 (by decide)).1 (by decide), ?_⟩
  -- one run for the four observations: the kernel shares work only within one evaluation
  decide +kernel

/-- **read-back fooled by a waiting requested core** (no `PreClean`): the requested core 1 already
waits (with another binary), the chip misses every fill; in read-back mode `load_application`
returns normally although core 1 still holds the other binary -/
theorem readback_counterexample :
    Valid (mcE true) (ctlE false true) appsE ∧ ¬ PreClean (initE 1 30).m appsE 30 ∧
    (loadApplication (mcE true) (ctlE false true) (initE 1 30) appsE).outcome = .ok ∧
    (loadApplication (mcE true) (ctlE false true) (initE 1 30) appsE).sim.m.core 0 0 1 = ⟨stWait, 30, [9]⟩ ∧
    postOkCore appsE 30 true ((initE 1 30).m.core 0 0 1)
      ((loadApplication (mcE true) (ctlE false true) (initE 1 30) appsE).sim.m.core 0 0 1) 0 0 1 = false := by
  refine ⟨validE _ _ _, fun h => (h 0 0 1 (by decide)).1 (by decide), ?_⟩
  decide +kernel

end Rig.C09
