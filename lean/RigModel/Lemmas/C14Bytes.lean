/-
C14 - bit fields and little-endian words: a word built from fields that fit their widths gives each
field back under shift and mask (`packBits_field`), bytes being the fields of width 8 (`leVal_byte`);
memory reads of such words.
-/
import RigModel.Model.C14
import RigModel.Lemmas.LE
import RigModel.Props.C07
import RigModel.Lemmas.Bits

namespace Rig.C14

/-! Masks and shifts are turned into `% 2 ^ k` and `/ 2 ^ k` with the power left unevaluated: once a weight such as
`2 ^ 25` is a numeral, the kernel checks it against the product of the widths below it in unary. -/

theorem and_one_shl_ne_div_mod (x i : Nat) : (x &&& (1 <<< i) != 0) = decide (x / 2 ^ i % 2 ^ 1 = 1) := by
  rw [Bits.and_one_shl_ne, Nat.testBit_eq_decide_div_mod_eq]

/-- value of the bit fields `(width, value)`, lowest first -/
def packBits : List (Nat × Nat) → Nat
  | [] => 0
  | (w, v) :: fs => v + 2 ^ w * packBits fs

def bitsWidth : List (Nat × Nat) → Nat
  | [] => 0
  | (w, _) :: fs => w + bitsWidth fs

def BitsFit : List (Nat × Nat) → Prop
  | [] => True
  | (w, v) :: fs => v < 2 ^ w ∧ BitsFit fs

theorem forall_mem_take {α : Type} {p : α → Prop} {l : List α} (h : ∀ x ∈ l, p x) (i : Nat) :
    ∀ x ∈ l.take i, p x := fun x hx => h x (List.mem_of_mem_take hx)

theorem BitsFit.take {fs : List (Nat × Nat)} (h : BitsFit fs) (i : Nat) : BitsFit (fs.take i) := by
  induction fs generalizing i with
  | nil => rw [List.take_nil]; trivial
  | cons f fs ih =>
    cases i with
    | zero => trivial
    | succ i => exact ⟨h.1, ih h.2 i⟩

theorem packBits_shift (fs : List (Nat × Nat)) (i : Nat) (h : BitsFit (fs.take i)) :
    packBits fs / 2 ^ bitsWidth (fs.take i) = packBits (fs.drop i) := by
  induction fs generalizing i with
  | nil => rw [List.take_nil, List.drop_nil]; rfl
  | cons f fs ih =>
    obtain ⟨w, v⟩ := f
    cases i with
    | zero => exact Nat.div_one _
    | succ i =>
      rw [List.take_succ_cons, List.drop_succ_cons, packBits, bitsWidth, Nat.pow_add, ← Nat.div_div_eq_div_mul,
        Nat.add_mul_div_left _ _ (Nat.two_pow_pos w), Nat.div_eq_of_lt h.1, Nat.zero_add, ih i h.2]

theorem BitsFit.append {a b : List (Nat × Nat)} : BitsFit (a ++ b) ↔ BitsFit a ∧ BitsFit b := by
  induction a with
  | nil => simp [BitsFit]
  | cons f a ih => simp [BitsFit, ih, and_assoc]

theorem packBits_field (fs : List (Nat × Nat)) (i : Nat) {w v : Nat} (hi : fs[i]? = some (w, v))
    (h : BitsFit (fs.take (i + 1))) : packBits fs / 2 ^ bitsWidth (fs.take i) % 2 ^ w = v := by
  obtain ⟨hlt, he⟩ := List.getElem?_eq_some_iff.1 hi
  rw [List.take_succ_eq_append_getElem hlt, he] at h
  obtain ⟨h1, h2, _⟩ := BitsFit.append.1 h
  rw [packBits_shift fs i h1, List.drop_eq_getElem_cons hlt, he, packBits, Nat.add_mul_mod_self_left,
    Nat.mod_eq_of_lt h2]

theorem packBits_lt (fs : List (Nat × Nat)) (h : BitsFit fs) : packBits fs < 2 ^ bitsWidth fs := by
  induction fs with
  | nil => exact Nat.one_pos
  | cons f fs ih =>
    obtain ⟨w, v⟩ := f
    rw [packBits, bitsWidth, Nat.pow_add]
    exact Nat.lt_of_lt_of_le (Nat.add_lt_add_right h.1 _)
      (by rw [Nat.add_comm, ← Nat.mul_succ]; exact Nat.mul_le_mul_left _ (ih h.2))

theorem leVal_eq_packBits (l : List Nat) : leVal l = packBits (l.map fun b => (8, b)) := by
  induction l with
  | nil => rfl
  | cons b l ih => rw [leVal, ih]; rfl

theorem BitsFit.map (w : Nat) (l : List Nat) (h : ∀ v ∈ l, v < 2 ^ w) : BitsFit (l.map fun v => (w, v)) := by
  induction l with
  | nil => trivial
  | cons v l ih => exact ⟨h v List.mem_cons_self, ih fun x hx => h x (List.mem_cons_of_mem _ hx)⟩

theorem bitsWidth_map (w : Nat) (l : List Nat) : bitsWidth (l.map fun v => (w, v)) = w * l.length := by
  induction l with
  | nil => rfl
  | cons d l ih => rw [List.map_cons, bitsWidth, ih, List.length_cons, Nat.mul_succ, Nat.add_comm]

theorem bitsWidth_take_map (w : Nat) (l : List Nat) (i : Nat) (hi : i ≤ l.length) :
    bitsWidth ((l.map fun v => (w, v)).take i) = w * i := by
  rw [← List.map_take, bitsWidth_map, List.length_take, Nat.min_eq_left hi]

theorem packBits_map_field (w : Nat) (l : List Nat) (i : Nat) {v : Nat} (hi : l[i]? = some v)
    (h : ∀ v ∈ l.take (i + 1), v < 2 ^ w) : packBits (l.map fun v => (w, v)) / 2 ^ (w * i) % 2 ^ w = v := by
  rw [← bitsWidth_take_map w l i (Nat.le_of_lt (List.getElem?_eq_some_iff.1 hi).1)]
  exact packBits_field _ i (by rw [List.getElem?_map, hi]; rfl) (by rw [← List.map_take]; exact BitsFit.map w _ h)

theorem leVal_byte (l : List Nat) (i : Nat) {b : Nat} (hi : l[i]? = some b) (h : ∀ b ∈ l.take (i + 1), b < 256) :
    leVal l / 2 ^ (8 * i) % 2 ^ 8 = b := by
  rw [leVal_eq_packBits]; exact packBits_map_field 8 l i hi h

theorem leVal_shift (l : List Nat) (i : Nat) (hi : i ≤ l.length) (h : ∀ b ∈ l.take i, b < 256) :
    leVal l / 2 ^ (8 * i) = leVal (l.drop i) := by
  rw [leVal_eq_packBits, leVal_eq_packBits, List.map_drop, ← bitsWidth_take_map 8 l i hi]
  exact packBits_shift _ i (by rw [← List.map_take]; exact BitsFit.map 8 _ h)

theorem leN_length (size v : Nat) : (leN size v).length = size := by
  simp only [leN, List.length_map, List.length_range]

theorem leVal_eq (l : List Nat) : leVal l = LE.val l := by
  induction l with
  | nil => rfl
  | cons b l ih => rw [leVal, ih]; rfl

theorem leN_eq (size v : Nat) : leN size v = LE.bytes size v := (LE.bytes_eq_map size v).symm

theorem leVal_leN (size v : Nat) (hv : v < 256 ^ size) : leVal (leN size v) = v := by
  rw [leVal_eq, leN_eq]; exact LE.val_bytes_of_lt hv

theorem le32_eq (n : Nat) : le32 n = leN 4 n := by rw [leN_eq]; exact (LE.bytes_four n).symm

theorem le16_eq (n : Nat) : le16 n = leN 2 n := by rw [leN_eq]; rfl

theorem leVal_le32 (n : Nat) (h : n < 4294967296) : leVal (le32 n) = n := by
  rw [le32_eq]; exact leVal_leN 4 n h

theorem leVal_le16 (n : Nat) (h : n < 65536) : leVal (le16 n) = n := by
  rw [le16_eq]; exact leVal_leN 2 n h

theorem leVal_one (b : Nat) : leVal [b] = b := by simp [leVal]

theorem readInt_leN (rd : Rd) (a size v : Nat) (hv : v < 256 ^ size) (h : rd a size = leN size v) :
    readInt rd a size = .ok v := by
  simp only [readInt, h, leN_length, leVal_leN size v hv, if_true]

theorem readInt_le32 (rd : Rd) (a v : Nat) (hv : v < 4294967296) (h : rd a 4 = le32 v) : readInt rd a 4 = .ok v :=
  readInt_leN rd a 4 v hv (le32_eq v ▸ h)

theorem readInt_le16 (rd : Rd) (a v : Nat) (hv : v < 65536) (h : rd a 2 = le16 v) : readInt rd a 2 = .ok v :=
  readInt_leN rd a 2 v hv (le16_eq v ▸ h)

/-- `readMem` has the body of `C07.readMem` -/
theorem readMem_add (mem : Nat → Nat) (a m n : Nat) :
    readMem mem a (m + n) = readMem mem a m ++ readMem mem (a + m) n :=
  C07.readMem_add mem a m n

theorem readMem_length (mem : Nat → Nat) (a n : Nat) : (readMem mem a n).length = n :=
  C07.readMem_length mem a n

end Rig.C14
