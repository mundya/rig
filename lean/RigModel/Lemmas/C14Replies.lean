/-
C14 - the replies to `info` and `sver`: decoding what the machine specification encodes gives back
the chip's state (as `chipView`) and the core's software version.
-/
import RigModel.Lemmas.C14Bytes
import RigModel.Lemmas.C14Spec

namespace Rig.C14
open Rig.Gen.C14

theorem linkBit_lt (ls : List Nat) (l : Nat) : linkBit ls l < 2 ^ 1 := by
  unfold linkBit; split <;> decide

theorem linkBit_ne (ls : List Nat) (l : Nat) : (linkBit ls l != 0) = decide (l ∈ ls) := by
  unfold linkBit; split <;> simp [*]

/-- the bit fields of word 1 of the `info` reply, lowest first (bits 7:5 are not used) -/
def infoFields (c : ChipState) : List (Nat × Nat) :=
  [(5, c.cores), (3, 0), (1, linkBit c.links 0), (1, linkBit c.links 1), (1, linkBit c.links 2),
    (1, linkBit c.links 3), (1, linkBit c.links 4), (1, linkBit c.links 5), (11, c.rtr),
    (1, if c.ethUp then 1 else 0)]

theorem infoReply_arg1 (c : ChipState) : (infoReply c).arg1 = packBits (infoFields c) := by
  have : (if c.ethUp then 33554432 else 0) = 33554432 * if c.ethUp then 1 else 0 := by split <;> rfl
  simp only [infoReply, infoFields, packBits, this]
  omega

theorem decodeInfo_infoReply (c : ChipState) (h : c.WF) : decodeInfo (infoReply c) = .ok (chipView c) := by
  obtain ⟨hc, hl, hv, _, _, hr, h0, h1, h2, h3, hx, hy⟩ := h
  have hlen : ¬ (c.states ++ [c.ethY, c.ethX, c.ip0, c.ip1, c.ip2, c.ip3]).length < 24 := by
    simp [hl]
  have hd20 : ∀ t : List Nat, (c.states ++ t).drop 20 = t.drop 2 := fun t => by
    rw [show (20 : Nat) = 18 + 2 from rfl, ← List.drop_drop, List.drop_left' hl]
  have hall : c.states.all validState = true := List.all_eq_true.2 hv
  have b := linkBit_lt c.links
  have hEd : decide ((if c.ethUp then 1 else 0) = 1) = c.ethUp := by cases c.ethUp <;> rfl
  have hfit : BitsFit (infoFields c) :=
    ⟨Nat.lt_of_le_of_lt hc (by decide), Nat.two_pow_pos 3, b 0, b 1, b 2, b 3, b 4, b 5, hr, by split <;> decide, trivial⟩
  have a1 := packBits_field _ 0 rfl (hfit.take _)
  have k0 := packBits_field _ 2 rfl (hfit.take _)
  have k1 := packBits_field _ 3 rfl (hfit.take _)
  have k2 := packBits_field _ 4 rfl (hfit.take _)
  have k3 := packBits_field _ 5 rfl (hfit.take _)
  have k4 := packBits_field _ 6 rfl (hfit.take _)
  have k5 := packBits_field _ 7 rfl (hfit.take _)
  have a2 := packBits_field _ 8 rfl (hfit.take _)
  have a3 := packBits_field _ 9 rfl (hfit.take _)
  rw [← infoReply_arg1 c] at a1 k0 k1 k2 k3 k4 k5 a2 a3
  simp only [infoFields, List.take_succ_cons, List.take_zero, bitsWidth, Nat.reduceAdd, Nat.pow_zero, Nat.div_one]
    at a1 k0 k1 k2 k3 k4 k5 a2 a3
  have hip : ∀ b ∈ [c.ip0, c.ip1, c.ip2, c.ip3], b < 256 := by simp [h0, h1, h2, h3]
  have i0 := leVal_byte _ 0 rfl (forall_mem_take hip _)
  have i1 := leVal_byte _ 1 rfl (forall_mem_take hip _)
  have i2 := leVal_byte _ 2 rfl (forall_mem_take hip _)
  have i3 := leVal_byte _ 3 rfl (forall_mem_take hip _)
  have heth : ∀ b ∈ [c.ethY, c.ethX], b < 256 := by simp [hx, hy]
  have e0 := leVal_byte _ 0 rfl (forall_mem_take heth _)
  have e1 := leVal_byte _ 1 rfl (forall_mem_take heth _)
  simp only [Nat.reduceMul, Nat.pow_zero, Nat.div_one] at i0 i1 i2 i3 e0 e1
  have hrange : List.range 6 = [0, 1, 2, 3, 4, 5] := by decide
  simp only [decodeInfo, show (infoReply c).data = c.states ++ [c.ethY, c.ethX, c.ip0, c.ip1, c.ip2, c.ip3] from rfl,
    show (infoReply c).arg2 = c.sdram from rfl, show (infoReply c).arg3 = c.sram from rfl,
    hlen, List.take_left' hl, List.drop_left' hl, hd20, List.drop_succ_cons, List.drop_zero, hall, if_false, Bool.not_true,
    Nat.and_two_pow_sub_one_eq_mod _ 5, Nat.and_two_pow_sub_one_eq_mod _ 8, Nat.and_two_pow_sub_one_eq_mod _ 11,
    Nat.and_two_pow_sub_one_eq_mod _ 1,
    and_one_shl_ne_div_mod, Nat.shiftRight_eq_div_pow, chipView, LINK_VALUES, List.take,
    Nat.reduceAdd, Nat.pow_zero, Nat.div_one,
    a1, a2, a3, hEd, hrange, List.filter_cons, List.filter_nil, k0, k1, k2, k3, k4, k5, linkBit_ne,
    List.map_cons, List.map_nil, i0, i1, i2, i3, e0, e1, Bool.false_eq_true, if_false]

theorem chipView_states_length (st : ChipState) (h : st.WF) : (chipView st).coreStates.length = st.cores := by
  simp only [chipView, List.length_take, h.2.1]
  exact Nat.min_eq_left h.1

theorem busy_chipView (st : ChipState) (p : Nat) : busy (chipView st) p = st.busyCore p := by
  simp only [busy, chipView, ChipState.busyCore, List.getElem?_take]
  by_cases hp : p < st.cores <;> simp [hp]

theorem mem_chipView_links (st : ChipState) (l : Nat) : l ∈ (chipView st).links ↔ l < 6 ∧ l ∈ st.links := by
  simp only [chipView, List.mem_filter, List.mem_range, decide_eq_true_eq]

theorem chipView_states_get (st : ChipState) (p s : Nat) :
    (chipView st).coreStates[p]? = some s ↔ p < st.cores ∧ st.states[p]? = some s := by
  simp only [chipView, List.getElem?_take]
  by_cases hp : p < st.cores <;> simp [hp]

theorem chipView_links_nodup (st : ChipState) : (chipView st).links.Nodup :=
  List.Nodup.sublist List.filter_sublist List.nodup_range

theorem ascii_any (l : List Nat) (h : Ascii l) : (l.any fun b => b ≥ 128 || b == 10) = false := by
  rw [List.any_eq_false]
  intro b hb
  have := h b hb
  simp only [Bool.or_eq_true, decide_eq_true_eq, beq_iff_eq, not_or]
  omega

theorem shr16 (v buf : Nat) (hb : buf < 65536) : (v * 65536 + buf) >>> 16 = v :=
  (Nat.shiftRight_eq_div_pow ..).trans (Bits.div_radix v rfl hb)

theorem unpackSver_legacy (major minor buf : Nat) (name : List Nat) (hmi : minor < 100)
    (hv : major * 100 + minor < 65535) (hb : buf < 65536) (hn : Ascii name) :
    unpackSver ((major * 100 + minor) * 65536 + buf) name =
      .ok { name := rstrip0 name, major := major, minor := minor, patch := 0, labels := [] } := by
  have ⟨h1, h2⟩ : (major * 100 + minor) / 100 = major ∧ (major * 100 + minor) % 100 = minor := by omega
  simp only [unpackSver, ascii_any name hn, Bool.false_eq_true, if_false, shr16 _ _ hb, bne_iff_ne.2 (Nat.ne_of_lt hv),
    if_true, h1, h2]

theorem span_append (p : Nat → Bool) (a b : List Nat) (ha : ∀ x ∈ a, p x = true)
    (hb : ∀ c ∈ b.head?, p c = false) :
    (a ++ b).takeWhile p = a ∧ (a ++ b).dropWhile p = b := by
  rw [List.takeWhile_append_of_pos ha, List.dropWhile_append_of_pos ha]
  cases b with
  | nil => simp
  | cons c r => simp [hb c rfl]

theorem rstrip0_snoc (l : List Nat) : rstrip0 (l ++ [0]) = rstrip0 l := by
  simp [rstrip0]

theorem rstrip0_id (l : List Nat) (h : ∀ b ∈ l, b ≠ 0) : rstrip0 l = l := by
  unfold rstrip0
  have : l.reverse.dropWhile (· == 0) = l.reverse := by
    cases hr : l.reverse with
    | nil => rfl
    | cons c r =>
      have hc : c ∈ l := by
        have : c ∈ l.reverse := by rw [hr]; simp
        simpa using this
      have hc0 : (c == 0) = false := by simpa using h c hc
      simp only [List.dropWhile, hc0]
  rw [this, List.reverse_reverse]

theorem Digits.spec {l : List Nat} (h : Digits l) :
    Ascii l ∧ (∀ d ∈ l, d ≠ 0) ∧ l.isEmpty = false := by
  have hd : ∀ d ∈ l, 48 ≤ d ∧ d ≤ 57 := fun d hd => by
    simpa only [isDigit, Bool.and_eq_true, decide_eq_true_eq] using h.2 d hd
  refine ⟨fun d hm => ?_, fun d hm => ?_, ?_⟩
  · have := hd d hm; omega
  · have := hd d hm; omega
  · cases l with
    | nil => exact absurd rfl h.1
    | cons _ _ => rfl

theorem matchVersion_digits (ma mi pa labels : List Nat) (hma : Digits ma) (hmi : Digits mi) (hpa : Digits pa)
    (hlh : ∀ c ∈ labels.head?, isDigit c = false) :
    matchVersion (ma ++ 46 :: (mi ++ 46 :: (pa ++ labels))) =
      some (digitsVal ma, digitsVal mi, digitsVal pa, labels) := by
  have s1 := span_append isDigit ma (46 :: (mi ++ 46 :: (pa ++ labels))) hma.2 (fun c hc => by cases hc; rfl)
  have s2 := span_append isDigit mi (46 :: (pa ++ labels)) hmi.2 (fun c hc => by cases hc; rfl)
  have s3 := span_append isDigit pa labels hpa.2 hlh
  simp only [matchVersion, s1.1, s1.2, s2.1, s2.2, s3.1, s3.2, hma.spec.2.2, hmi.spec.2.2, hpa.spec.2.2, Bool.or_self,
    Bool.false_eq_true, if_false]

theorem unpackSver_of_match (buf : Nat) (name ver : List Nat) (hb : buf < 65536)
    (hn : Ascii name) (hn0 : ∀ b ∈ name, b ≠ 0) (hv : Ascii ver) (hv0 : ∀ b ∈ ver, b ≠ 0)
    {a b c : Nat} {lab : List Nat} (hm : matchVersion ver = some (a, b, c, lab)) :
    unpackSver (65535 * 65536 + buf) (name ++ 0 :: (ver ++ [0])) =
      .ok { name := name, major := a, minor := b, patch := c, labels := lab } := by
  have hascii : Ascii (name ++ 0 :: (ver ++ [0])) := by
    simp only [Ascii, List.forall_mem_append, List.forall_mem_cons]
    exact ⟨hn, by decide, hv, by decide⟩
  have hsplit := span_append (fun b => b != 0) name (0 :: (ver ++ [0])) (fun x hx => by simpa using hn0 x hx)
    (fun c hc => by cases hc; rfl)
  simp only [unpackSver, ascii_any _ hascii, Bool.false_eq_true, if_false, shr16 65535 buf hb]
  rw [hsplit.1, hsplit.2, List.drop_succ_cons, List.drop_zero, rstrip0_snoc, rstrip0_id ver hv0, hm]
  simp [rstrip0_id name hn0]

theorem unpackSver_string (buf : Nat) (name ma mi pa labels : List Nat) (hb : buf < 65536)
    (hn : Ascii name) (hn0 : ∀ b ∈ name, b ≠ 0) (hma : Digits ma) (hmi : Digits mi) (hpa : Digits pa)
    (hl : Ascii labels) (hl0 : ∀ b ∈ labels, b ≠ 0) (hlh : ∀ c ∈ labels.head?, isDigit c = false) :
    unpackSver (65535 * 65536 + buf) (name ++ [0] ++ ma ++ [46] ++ mi ++ [46] ++ pa ++ labels ++ [0]) =
      .ok { name := name, major := digitsVal ma, minor := digitsVal mi, patch := digitsVal pa, labels := labels } := by
  obtain ⟨a1, z1, _⟩ := hma.spec
  obtain ⟨a2, z2, _⟩ := hmi.spec
  obtain ⟨a3, z3, _⟩ := hpa.spec
  rw [show name ++ [0] ++ ma ++ [46] ++ mi ++ [46] ++ pa ++ labels ++ [0] =
      name ++ 0 :: ((ma ++ 46 :: (mi ++ 46 :: (pa ++ labels))) ++ [0]) by simp [List.append_assoc]]
  refine unpackSver_of_match buf name _ hb hn hn0 ?_ ?_ (matchVersion_digits ma mi pa labels hma hmi hpa hlh)
  · simp only [Ascii, List.forall_mem_append, List.forall_mem_cons]
    exact ⟨a1, by decide, a2, by decide, a3, hl⟩
  · simp only [List.forall_mem_append, List.forall_mem_cons]
    exact ⟨z1, by decide, z2, by decide, z3, hl0⟩

theorem decodeSver_fields (x y pcpu vcpu v buf date : Nat) (data : List Nat) (ver : Version)
    (hx : x < 256) (hy : y < 256) (hp : pcpu < 256) (hv : vcpu < 256) (hb : buf < 65536)
    (hu : unpackSver (v * 65536 + buf) data = .ok ver) :
    decodeSver ((x * 256 + y) * 65536 + pcpu * 256 + vcpu) (v * 65536 + buf) date data =
      .ok { pos := (x, y), physCpu := pcpu, virtCpu := vcpu, version := ver, bufferSize := buf, buildDate := date } := by
  have hA : (x * 256 + y) * 65536 + pcpu * 256 + vcpu = leVal [vcpu, pcpu, y, x] := by
    simp only [leVal]; omega
  have hl : ∀ b ∈ [vcpu, pcpu, y, x], b < 256 := by simp [hx, hy, hp, hv]
  have e1 := leVal_shift [vcpu, pcpu, y, x] 3 (Nat.le_succ 3) (forall_mem_take hl _)
  have e2 := leVal_byte _ 2 rfl (forall_mem_take hl _)
  have e3 := leVal_byte _ 1 rfl (forall_mem_take hl _)
  have e4 := leVal_byte _ 0 rfl (forall_mem_take hl _)
  have e5 : (v * 65536 + buf) % 2 ^ 16 = buf := Bits.mod_radix v rfl hb
  simp only [List.drop_succ_cons, List.drop_zero, leVal_one, Nat.mul_zero, Nat.mul_one, Nat.reduceMul,
    Nat.pow_zero, Nat.div_one] at e1 e2 e3 e4
  simp only [decodeSver, hu, bind, Except.bind, pure, Except.pure, hA, Nat.shiftRight_eq_div_pow,
    Nat.and_two_pow_sub_one_eq_mod _ 8, Nat.and_two_pow_sub_one_eq_mod _ 16, Nat.div_div_eq_div_mul,
    ← Nat.pow_add, Nat.reduceAdd, e1, e2, e3, e4, e5]

end Rig.C14
