/-
C02 (companion) - sets as lists, the oracle check, and the breadth-first vertex order.
-/
import RigModel.Model.C02Orders
import RigModel.Lemmas.ExceptSat

namespace Rig.C02Orders
open Rig.C02 (aget)

section generic
variable {α : Type} [DecidableEq α]

/-- the run `x` of an order function fails only by rejecting an impossible oracle stream, and what it
returns satisfies `P`: termination and the absence of Python errors are part of it -/
abbrev Returns {β : Type} (P : β → Prop) : M β → Prop := Except.Sat (· = .badOracle) P

theorem Returns.ne_fuel {β : Type} {P : β → Prop} {x : M β} (h : Returns P x) : x ≠ .error .fuel :=
  fun hx => nomatch h.error hx

theorem mem_dedupL (l : List α) (a : α) : a ∈ dedupL l ↔ a ∈ l := by
  induction l with
  | nil => exact Iff.rfl
  | cons b t ih =>
    simp only [dedupL]
    split
    · rw [ih, List.mem_cons]
      exact ⟨Or.inr, fun h => h.elim (fun e => e ▸ ‹b ∈ t›) id⟩
    · simp only [List.mem_cons, ih]

theorem nodup_dedupL (l : List α) : (dedupL l).Nodup := by
  induction l with
  | nil => exact List.nodup_nil
  | cons b t ih =>
    simp only [dedupL]
    split
    · exact ih
    · exact List.nodup_cons.2 ⟨fun hb => ‹b ∉ t› ((mem_dedupL t b).1 hb), ih⟩

theorem dedupL_of_nodup (l : List α) (h : l.Nodup) : dedupL l = l := by
  induction l with
  | nil => rfl
  | cons b t ih =>
    have := List.nodup_cons.1 h
    simp only [dedupL, this.1, if_false, ih this.2]

theorem isOrderOf_iff (it s : List α) :
    isOrderOf it s = true ↔ it.Nodup ∧ ∀ a, a ∈ it ↔ a ∈ s := by
  simp only [isOrderOf, Bool.and_eq_true, decide_eq_true_eq, List.all_eq_true]
  exact ⟨fun ⟨⟨h1, h2⟩, h3⟩ => ⟨h1, fun a => ⟨h2 a, h3 a⟩⟩,
    fun ⟨h1, h2⟩ => ⟨⟨h1, fun a => (h2 a).1⟩, fun a => (h2 a).2⟩⟩

theorem takeIter_spec {s : List α} {iters : List (List α)} :
    Returns (fun r => iters = r.1 :: r.2 ∧ r.1.Nodup ∧ ∀ a, a ∈ r.1 ↔ a ∈ s) (takeIter s iters) := by
  fun_cases takeIter s iters
  case case1 | case3 => rfl
  case case2 it rest h => exact ⟨rfl, (isOrderOf_iff _ _).1 h⟩

theorem bfsStep_spec (vn : List (α × List α)) (s : BfsSt α) (hnd : s.unplaced.Nodup) :
    Returns (fun s' => ∃ v, s'.out = s.out ++ [v] ∧
      (v :: (s'.queue ++ s'.unplaced)).Perm (s.queue ++ s.unplaced)) (bfsStep vn s) := by
  unfold bfsStep
  dsimp only
  split
  · rfl
  · rename_i v q' u' pops' hpick
    have hp : (v :: (q' ++ u')).Perm (s.queue ++ s.unplaced) ∧ u'.Nodup := by
      split at hpick
      · rename_i hq
        cases hpick; rw [hq]; exact ⟨List.Perm.refl _, hnd⟩
      · rename_i hq
        split at hpick
        · split at hpick
          · rename_i hmem
            cases hpick
            rw [hq]
            exact ⟨(List.perm_cons_erase hmem).symm, hnd.sublist List.erase_sublist⟩
          · cases hpick
        · cases hpick
    split
    · exact takeIter_spec.error ‹_›
    · rename_i it iters' ht
      obtain ⟨_, hit, hm⟩ := takeIter_spec.ok ht
      refine ⟨v, rfl, List.Perm.trans ?_ hp.1⟩
      rw [List.append_assoc]
      refine List.Perm.cons _ (List.Perm.append_left _ ?_)
      -- what the iteration of the neighbours moves from `u'` to the queue, and what is left of `u'`
      refine (List.Perm.append_right _ ?_).trans
        (List.filter_append_perm (fun a => decide (a ∈ (aget vn v).getD [])) u')
      rw [List.perm_ext_iff_of_nodup (hit.filter _) (hp.2.filter _)]
      intro a
      simp only [List.mem_filter, decide_eq_true_eq, hm a]
      exact And.comm

theorem bfsLoop_spec (vn : List (α × List α)) {vs0 : List α} (hvs : vs0.Nodup) (fuel : Nat) (s : BfsSt α)
    (I : (s.out ++ (s.queue ++ s.unplaced)).Perm vs0) (hf : s.queue.length + s.unplaced.length ≤ fuel) :
    Returns (·.Perm vs0) (bfsLoop vn fuel s) := by
  have fin : ∀ {s : BfsSt α}, (s.out ++ (s.queue ++ s.unplaced)).Perm vs0 →
      (s.queue.isEmpty && s.unplaced.isEmpty) = true → s.out.Perm vs0 := by
    intro s I he
    simp only [Bool.and_eq_true, List.isEmpty_iff] at he
    simpa only [he.1, he.2, List.append_nil] using I
  fun_induction bfsLoop vn fuel s with
  | case1 s he | case4 _ s he => exact fin I he
  | case2 | case5 => rfl
  | case3 s he =>
    have h1 : s.queue = [] := List.eq_nil_of_length_eq_zero (by omega)
    have h2 : s.unplaced = [] := List.eq_nil_of_length_eq_zero (by omega)
    simp [h1, h2] at he
  | case6 _ s _ e he =>
    have hnd := ((List.nodup_append.1 (I.nodup_iff.2 hvs)).2.1 |> List.nodup_append.1).2.1
    exact (bfsStep_spec vn s hnd).error he
  | case7 fuel s _ s' hs ih =>
    have hnd := ((List.nodup_append.1 (I.nodup_iff.2 hvs)).2.1 |> List.nodup_append.1).2.1
    obtain ⟨v, ho, hp⟩ := (bfsStep_spec vn s hnd).ok hs
    have hl := hp.length_eq
    simp only [List.length_cons, List.length_append] at hl
    refine ih (List.Perm.trans ?_ I) (by omega)
    rw [ho, List.append_assoc]
    exact List.Perm.append_left _ hp

theorem bfsOrder_spec (vs : List α) (nets : List (Net α)) (pops : List α) (iters : List (List α)) :
    Returns (·.Perm (dedupL vs)) (bfsOrder vs nets pops iters) := by
  unfold bfsOrder
  split
  · rw [show vs = [] from List.eq_nil_of_length_eq_zero ‹_›]
    split
    · exact List.Perm.refl _
    · rfl
  · exact bfsLoop_spec _ (nodup_dedupL vs) _ _ (List.Perm.refl _) (Nat.le_of_eq (Nat.zero_add _))

end generic
end Rig.C02Orders
