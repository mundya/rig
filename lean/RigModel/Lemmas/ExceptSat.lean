/-
The `Except` monad of the models, once for all towers: inversion of `>>=`, and the one predicate in which
"returns only values in `Q`" and "raises only errors in `E`" are proved by a single pass over a `do` block.
-/

namespace Except
variable {ε α β σ : Type}

theorem bind_eq_ok {x : Except ε α} {f : α → Except ε β} {b : β} (h : x >>= f = .ok b) :
    ∃ a, x = .ok a ∧ f a = .ok b := by
  cases x with
  | error e => cases h
  | ok a => exact ⟨a, rfl, h⟩

theorem bind_eq_error {x : Except ε α} {f : α → Except ε β} {e : ε} (h : x >>= f = .error e) :
    x = .error e ∨ ∃ a, x = .ok a ∧ f a = .error e := by
  cases x with
  | error e' => cases h; exact .inl rfl
  | ok a => exact .inr ⟨a, rfl, h⟩

theorem bind_ne_error {x : Except ε α} {f : α → Except ε β} {e : ε} (hx : x ≠ .error e) (hf : ∀ a, f a ≠ .error e) :
    x >>= f ≠ .error e := fun h =>
  (bind_eq_error h).elim hx fun ⟨a, _, ha⟩ => hf a ha

/-- `x` raises only errors in `E` and returns only values in `Q` (`E = fun _ => False`: `x` returns) -/
def Sat (E : ε → Prop) (Q : α → Prop) : Except ε α → Prop
  | .error e => E e
  | .ok a => Q a

namespace Sat
variable {E E' : ε → Prop} {Q R : α → Prop} {x : Except ε α}

theorem pure {a : α} (h : Q a) : Sat E Q (Pure.pure a : Except ε α) := h

/-- the anonymous constructor does not see through `Sat` -/
theorem of_ok {a : α} (h : Q a) : Sat E Q (.ok a : Except ε α) := h

theorem of_error {e : ε} (h : E e) : Sat E Q (.error e : Except ε α) := h

theorem bind {Q : β → Prop} {k : α → Except ε β} (hx : Sat E R x)
    (hk : ∀ a, x = .ok a → R a → Sat E Q (k a)) : Sat E Q (x >>= k) := by
  cases x with
  | error e => exact hx
  | ok a => exact hk a rfl hx

theorem imp (hx : Sat E R x) (h : ∀ a, R a → Q a) : Sat E Q x := by
  cases x with
  | error e => exact hx
  | ok a => exact h a hx

theorem imp_error (hx : Sat E Q x) (h : ∀ e, E e → E' e) : Sat E' Q x := by
  cases x with
  | error e => exact h e hx
  | ok a => exact hx

theorem ok {a : α} (h : Sat E Q x) (hx : x = .ok a) : Q a := by rwa [hx] at h

theorem error {e : ε} (h : Sat E Q x) (hx : x = .error e) : E e := by rwa [hx] at h

theorem of_forall (hE : ∀ e, x = .error e → E e) (hQ : ∀ a, x = .ok a → Q a) : Sat E Q x := by
  cases x with
  | error e => exact hE e rfl
  | ok a => exact hQ a rfl

theorem exists_ok (h : Sat (fun _ => False) Q x) : ∃ a, x = .ok a ∧ Q a := by
  cases x with
  | error e => exact h.elim
  | ok a => exact ⟨a, rfl, h⟩

/-- a `for` loop with the invariant `I rest state`, `rest` being the items still to come -/
theorem foldlM {f : σ → α → Except ε σ} (I : List α → σ → Prop)
    (step : ∀ a r s, I (a :: r) s → Sat E (I r) (f s a)) :
    ∀ (l : List α) (s : σ), I l s → Sat E (I []) (l.foldlM f s)
  | [], _, h => h
  | a :: r, s, h => by
    rw [List.foldlM_cons]
    exact (step a r s h).bind fun s' _ h' => foldlM I step r s' h'

end Sat
end Except
