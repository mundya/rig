/-
C13 - lemmas about the view model.

`Framed`: what any call respects in any world, proved by one pass over the operations; confinement,
the well-formedness invariant, "closed stays closed" and "freed stays freed" are read off it.
Slicing: the code's clipping of addresses against CPython's clipping of indices (`clip_eq`).
Refinement: the code's transfer counts are the bounded file's (`readCount_absFile`,
`writeData_absFile`), memory is related to the file's bytes by `absFile_drop_take` / `absFile_writeMem`.
-/
import RigModel.Model.C13
namespace Rig.C13

theorem available_nonneg (v : View) : 0 ≤ v.available := by
  fun_cases View.available v <;> omega

theorem available_pos (v : View) (h : 0 < v.available) :
    0 ≤ v.offset ∧ v.available = v.stop - v.address := by
  revert h; fun_cases View.available v <;> omega

theorem readCount_le (v : View) (n : Int) : (readCount v n).2 ≤ v.available := by
  fun_cases readCount v n <;> omega

theorem pyPrefix_length_le (d : List Nat) (n : Int) (h : 0 ≤ n) : ((pyPrefix d n).length : Int) ≤ n := by
  unfold pyPrefix; simp only [h, if_true, List.length_take]; omega

theorem writeData_le (v : View) (d : List Nat) : ((writeData v d).2.length : Int) ≤ v.available := by
  fun_cases writeData v d
  · exact pyPrefix_length_le _ _ (available_nonneg v)
  · simp; omega

theorem confined_read (x y : Nat) (v : View) (k : Int) (h0 : ¬ k ≤ 0) (hk : k ≤ v.available) :
    Confined x y v (.read v.address k.toNat x y 0) := by
  have hp := available_pos v (Int.lt_of_lt_of_le (Int.not_le.mp h0) hk)
  have hk' : (k.toNat : Int) = k := Int.toNat_of_nonneg (Int.le_of_lt (Int.not_le.mp h0))
  exact ⟨Int.le_add_of_nonneg_left hp.1, hk'.symm ▸ Int.add_le_of_le_sub_left (hp.2 ▸ hk),
    Int.lt_toNat.mpr (Int.not_le.mp h0), rfl, rfl, rfl⟩

theorem confined_write (x y : Nat) (v : View) (d : List Nat) (h0 : ¬ d.length = 0)
    (hk : (d.length : Int) ≤ v.available) : Confined x y v (.write v.address d x y 0) := by
  have hpos : 0 < d.length := Nat.pos_of_ne_zero h0
  have hp := available_pos v (Int.lt_of_lt_of_le (Int.natCast_pos.mpr hpos) hk)
  exact ⟨Int.le_add_of_nonneg_left hp.1, Int.add_le_of_le_sub_left (hp.2 ▸ hk), hpos, rfl, rfl, rfl⟩

theorem confined_mono (x y : Nat) (lo hi : Int) (v : View) (a : Access) (hw : Within lo hi v)
    (hf : ∀ addr x' y', a = .free addr x' y' → v.start = lo)
    (h : Confined x y v a) : Confined x y ⟨lo, hi, 0, false⟩ a := by
  cases a with
  | read | write => exact ⟨Int.le_trans hw.1 h.1, Int.le_trans h.2.1 hw.2.2, h.2.2⟩
  | free => exact ⟨h.1.trans (hf _ _ _ rfl), h.2⟩

theorem set_self {α : Type} (l : List α) (i : Nat) (v : α) (h : l[i]? = some v) : l.set i v = l := by
  obtain ⟨hlt, rfl⟩ := List.getElem?_eq_some_iff.mp h
  exact List.set_getElem_self hlt

inductive ViewsStep (w : World) (i : Nat) (vs : List View) : Prop where
  | same (h : vs = w.views)
  | upd {v : View} {p : Int} {c : Bool} (hv : w.views[i]? = some v) (hc : v.closed = true → c = true)
      (h : vs = w.views.set i ⟨v.start, v.stop, p, c⟩)
  | app {v : View} {a b : Option Int} (hv : w.views[i]? = some v)
      (h : vs = w.views ++ [mkView (sliceBounds v a b).1 (sliceBounds v a b).2])

/-- What every call on view `i` respects, whatever the state of the world: the chip stays; a freed
allocation stays freed and is not accessed; views are only moved, closed or appended as slices; the
controller is called only inside the range of view `i`, and `sdram_free` only by view 0. -/
structure Framed (w : World) (i : Nat) (r : World × Out) : Prop where
  x : r.1.x = w.x
  y : r.1.y = w.y
  freed : w.freed = true → r.1.freed = true ∧ r.2.access = none
  views : ViewsStep w i r.1.views
  access : ∀ a, r.2.access = some a → ∃ v, w.views[i]? = some v ∧ Confined w.x w.y v a ∧
    ∀ addr x y, a = .free addr x y → i = 0

section
variable {w : World} {i : Nat} {v : View}

theorem Framed.quiet {ret : Ret} {warn : Bool} : Framed w i (w, ⟨ret, warn, none⟩) :=
  ⟨rfl, rfl, fun h => ⟨h, rfl⟩, .same rfl, nofun⟩

theorem Framed.moved {p : Int} {c : Bool} {ret : Ret} (hv : w.views[i]? = some v)
    (hc : v.closed = true → c = true) :
    Framed w i (setView w i ⟨v.start, v.stop, p, c⟩, ⟨ret, false, none⟩) :=
  ⟨rfl, rfl, fun h => ⟨h, rfl⟩, .upd hv hc rfl, nofun⟩

theorem Framed.ite {c : Prop} [Decidable c] {a b : World × Out} (ha : c → Framed w i a)
    (hb : ¬ c → Framed w i b) : Framed w i (if c then a else b) := by
  split
  · exact ha ‹_›
  · exact hb ‹_›

theorem Framed.guard {c : Prop} [Decidable c] {ret : Ret} {warn : Bool} {b : World × Out}
    (hb : ¬ c → Framed w i b) : Framed w i (if c then (w, ⟨ret, warn, none⟩) else b) :=
  .ite (fun _ => .quiet) hb

theorem not_freed_of_live (h : ¬ dead w v = true) : ¬ w.freed = true :=
  fun hf => h (by simp [dead, hf])

theorem Framed.call {fr : Bool} {vs : List View} {m : Mem} {ret : Ret} {warn : Bool} {a : Access}
    (hv : w.views[i]? = some v) (hf : ¬ w.freed = true) (hvs : ViewsStep w i vs)
    (ha : Confined w.x w.y v a) (h0 : ∀ addr x y, a = .free addr x y → i = 0) :
    Framed w i (⟨w.x, w.y, fr, vs, m⟩, ⟨ret, warn, some a⟩) :=
  ⟨rfl, rfl, fun h => absurd h hf, hvs, fun _ h => by cases h; exact ⟨v, hv, ha, h0⟩⟩

-- with the counts opaque, unification stops at `if (readCount v n).2 ≤ 0 ..` instead of unfolding them
attribute [local irreducible] readCount writeData in
theorem step_framed (w : World) (op : Op) : Framed w op.target (step w op) := by
  unfold step
  split
  · exact .quiet
  rename_i v hv
  cases op with
  | seek i n wh =>
    exact .guard fun _ => .ite (fun _ => .moved hv id) fun _ => .ite (fun _ => .moved hv id) fun _ =>
      .ite (fun _ => .moved hv id) fun _ => .quiet
  | read i n =>
    exact .guard fun hl => .guard fun h0 =>
      .call hv (not_freed_of_live hl) (.upd hv id rfl) (confined_read _ _ v _ h0 (readCount_le v n)) nofun
  | readFail i n =>
    exact .guard fun hl => .guard fun h0 =>
      .call hv (not_freed_of_live hl) (.same rfl) (confined_read _ _ v _ h0 (readCount_le v n)) nofun
  | write i d =>
    exact .guard fun hl => .guard fun h0 =>
      .call hv (not_freed_of_live hl) (.upd hv id rfl) (confined_write _ _ v _ h0 (writeData_le v d)) nofun
  | writeFail i d k =>
    exact .guard fun hl => .guard fun h0 =>
      .call hv (not_freed_of_live hl) (.same rfl) (confined_write _ _ v _ h0 (writeData_le v d)) nofun
  | slice i a b s =>
    exact .guard fun _ => .ite (fun _ => ⟨rfl, rfl, fun h => ⟨h, rfl⟩, .app hv rfl, nofun⟩) fun _ => .quiet
  | close i | exitBlock i _ => exact .guard fun _ => .guard fun _ => .moved hv fun _ => rfl
  | free i | freeFail i =>
    exact .guard fun h0 => .guard fun hf =>
      .call hv hf (.same rfl) ⟨rfl, rfl, rfl⟩ fun _ _ _ _ => Decidable.not_not.mp h0
  | index i | tell i | address i | flush i => exact .guard fun _ => .quiet
  | len i | enter i => exact .quiet

end

theorem step_closedAt (w : World) (op : Op) (i : Nat) (h : ClosedAt w i) : ClosedAt (step w op).1 i := by
  obtain ⟨u, hu, huc⟩ := h
  have hlt : i < w.views.length := (List.getElem?_eq_some_iff.mp hu).1
  unfold ClosedAt
  cases (step_framed w op).views with
  | same hs => rw [hs]; exact ⟨u, hu, huc⟩
  | upd hv hc hs =>
    rw [hs, List.getElem?_set]
    split
    · subst ‹op.target = i›
      cases hu.symm.trans hv
      exact ⟨_, if_pos hlt, hc huc⟩
    · exact ⟨u, hu, huc⟩
  | app hv hs => rw [hs, List.getElem?_append_left hlt]; exact ⟨u, hu, huc⟩

theorem run_cons (w : World) (op : Op) (ops : List Op) :
    run w (op :: ops) = ((step w op).2 :: (run (step w op).1 ops).1, (run (step w op).1 ops).2) := rfl

theorem run_inv {I : World → Prop} {Q : Out → Prop} (hstep : ∀ w op, I w → I (step w op).1 ∧ Q (step w op).2)
    (ops : List Op) : ∀ w, I w → I (run w ops).2 ∧ ∀ o ∈ (run w ops).1, Q o := by
  induction ops with
  | nil => exact fun w h => ⟨h, fun _ ho => nomatch ho⟩
  | cons op ops ih =>
    intro w h
    obtain ⟨h1, hq⟩ := hstep w op h
    rw [run_cons]
    exact ⟨(ih _ h1).1, List.forall_mem_cons.mpr ⟨hq, (ih _ h1).2⟩⟩

theorem step_of_view {w : World} {op : Op} {v : View} (h : w.views[op.target]? = some v) :
    step w op = stepView w v op := by
  unfold step; rw [h]

theorem step_dead (w : World) (op : Op) (v : View) (hv : w.views[op.target]? = some v)
    (hd : dead w v = true) (hio : op.mustFail = true) :
    step w op = (w, ⟨.err .osError, false, none⟩) := by
  rw [step_of_view hv]
  cases op with
  | seek | read | write | readFail | writeFail | slice | index | tell | address | flush => exact if_pos hd
  | _ => cases hio

theorem warn_ite {c : Prop} [Decidable c] {a b : World × Out} {x : Bool} (ha : a.2.warn = x) (hb : b.2.warn = x) :
    (if c then a else b).2.warn = x := by
  split <;> assumption

theorem warn_eq_strictFails (w : World) (v : View) (op : Op) :
    (stepView w v op).2.warn = strictFails w v op := by
  cases op with
  | read i n | readFail i n | write i d | writeFail i d k =>
    simp only [strictFails, stepView, doRead, doReadFail, doWrite, doWriteFail]
    cases dead w v
    · rw [if_neg Bool.false_ne_true]; exact warn_ite rfl rfl
    · rfl
  | seek => exact warn_ite rfl (warn_ite rfl (warn_ite rfl (warn_ite rfl rfl)))
  | slice | close | exitBlock | free | freeFail => exact warn_ite rfl (warn_ite rfl rfl)
  | index | tell | address | flush => exact warn_ite rfl rfl
  | len | enter => rfl

theorem clip_eq (start stop a : Int) :
    (if a < 0 then max start (stop + a) else min stop (start + a)) =
      start + (pyIndices (stop - start) (some a) none).1 := by
  simp only [pyIndices]; split <;> split <;> omega

theorem clip_bounds {len : Int} (h : 0 ≤ len) (a : Int) :
    0 ≤ (pyIndices len (some a) none).1 ∧ (pyIndices len (some a) none).1 ≤ len := by
  simp only [pyIndices]; split <;> split <;> omega

theorem pyIndices_bounds {len : Int} (h : 0 ≤ len) (a b : Option Int) :
    (0 ≤ (pyIndices len a b).1 ∧ (pyIndices len a b).1 ≤ len) ∧
    (0 ≤ (pyIndices len a b).2 ∧ (pyIndices len a b).2 ≤ len) := by
  constructor
  · cases a with
    | none => exact ⟨Int.le_refl 0, h⟩
    | some a => exact clip_bounds h a
  · cases b with
    | none => exact ⟨h, Int.le_refl len⟩
    | some b => exact clip_bounds h b

theorem sliceBounds_fst (v : View) (a b : Option Int) :
    (sliceBounds v a b).1 = v.start + (pyIndices v.len a b).1 := by
  cases a with
  | none => exact (Int.add_zero _).symm
  | some a => exact clip_eq _ _ a

theorem max_zero_sub (lo hi : Int) : lo + max 0 (hi - lo) = max lo hi := by
  rw [← Int.max_add_left, Int.add_zero, Int.add_comm lo (hi - lo), Int.sub_add_cancel]

theorem slice_bounds_exact (v : View) (h : v.start ≤ v.stop) (a b : Option Int) :
    mkView (sliceBounds v a b).1 (sliceBounds v a b).2 = specSlice v a b := by
  have hs : v.start ≤ (sliceBounds v a b).1 :=
    sliceBounds_fst v a b ▸ Int.le_add_of_nonneg_right (pyIndices_bounds (Int.sub_nonneg_of_le h) a b).1.1
  have he : max (sliceBounds v a b).1 (sliceBounds v a b).2 =
      max (sliceBounds v a b).1 (v.start + (pyIndices v.len a b).2) := by
    cases b with
    | none => exact congrArg _ (show v.stop = v.start + (v.stop - v.start) by omega)
    | some b =>
      show max _ (if b < 0 then max (sliceBounds v a (some b)).1 (v.stop + b) else min v.stop (v.start + b)) = _
      rw [show v.start + (pyIndices v.len a (some b)).2 = _ from (clip_eq v.start v.stop b).symm]
      split
      · rw [← Int.max_assoc, Int.max_self, ← Int.max_assoc, Int.max_eq_left hs]
      · rfl
  -- `SlicedMemoryIO.__init__` keeps the `max` of the two bounds as stop address: the end of `sliceRange`
  show (⟨_, max _ _, 0, false⟩ : View) = _
  rw [he, sliceBounds_fst, Int.max_add_left, ← max_zero_sub]; rfl

theorem sliceRange_bounds {len : Int} (h : 0 ≤ len) (a b : Option Int) :
    0 ≤ (sliceRange len a b).1 ∧ (sliceRange len a b).1 ≤ (sliceRange len a b).2 ∧
      (sliceRange len a b).2 ≤ len := by
  have := pyIndices_bounds h a b
  unfold sliceRange
  generalize pyIndices len a b = p at *
  obtain ⟨lo, hi⟩ := p
  simp only at *
  omega

theorem readMem_length (m : Mem) (a : Int) (n : Nat) : (readMem m a n).length = n := by
  simp [readMem]

theorem readMem_getElem? (m : Mem) (a : Int) (n i : Nat) :
    (readMem m a n)[i]? = if i < n then some (m (a + (i : Int))) else none := by
  unfold readMem
  by_cases h : i < n <;> simp [h]

theorem readMem_add (m : Mem) (a : Int) (p q : Nat) :
    readMem m a (p + q) = readMem m a p ++ readMem m (a + (p : Int)) q := by
  simp only [readMem, List.range_add, List.map_append, List.map_map]
  congr 1
  apply List.map_congr_left
  intro i _
  simp only [Function.comp, Int.natCast_add, Int.add_assoc]

theorem readMem_congr {m m' : Mem} {a : Int} {n : Nat}
    (h : ∀ i : Nat, i < n → m' (a + (i : Int)) = m (a + (i : Int))) : readMem m' a n = readMem m a n :=
  List.map_congr_left fun i hi => h i (List.mem_range.mp hi)

theorem readMem_drop_take (m : Mem) (a : Int) (n p k : Nat) (h : p + k ≤ n) :
    ((readMem m a n).drop p).take k = readMem m (a + (p : Int)) k := by
  obtain ⟨r, rfl⟩ := Nat.exists_eq_add_of_le h
  rw [Nat.add_assoc, readMem_add, List.drop_left' (readMem_length ..), readMem_add,
    List.take_left' (readMem_length ..)]

theorem writeMem_outside (m : Mem) (a : Int) (d : List Nat) (x : Int)
    (h : x < a ∨ a + (d.length : Int) ≤ x) : writeMem m a d x = m x := by
  unfold writeMem
  split
  · rcases h with h | h
    · exact absurd ‹a ≤ x› (Int.not_le.mpr h)
    · rw [List.getElem?_eq_none ((Int.le_toNat (Int.sub_nonneg_of_le ‹_›)).mpr (Int.le_sub_left_of_add_le h))]
  · rfl

theorem writeMem_inside (m : Mem) (a : Int) (d : List Nat) (i : Nat) (h : i < d.length) :
    writeMem m a d (a + (i : Int)) = d[i] := by
  rw [writeMem, if_pos (Int.le_add_of_nonneg_right (Int.natCast_nonneg i)), Int.add_comm, Int.add_sub_cancel,
    Int.toNat_natCast, List.getElem?_eq_getElem h]

theorem read_after_write (m : Mem) (a : Int) (d : List Nat) :
    readMem (writeMem m a d) a d.length = d := by
  apply List.ext_getElem (readMem_length ..)
  intro i _ h
  simp only [readMem, List.getElem_map, List.getElem_range]
  exact writeMem_inside m a d i h

theorem readMem_writeMem (m : Mem) (a : Int) (n p : Nat) (d : List Nat) (h : p + d.length ≤ n) :
    readMem (writeMem m (a + (p : Int)) d) a n =
      (readMem m a n).take p ++ d ++ (readMem m a n).drop (p + d.length) := by
  obtain ⟨r, rfl⟩ := Nat.exists_eq_add_of_le h
  have hl : (readMem m a p ++ readMem m (a + (p : Int)) d.length).length = p + d.length := by
    rw [List.length_append, readMem_length, readMem_length]
  rw [readMem_add, readMem_add, readMem_add, readMem_add, List.drop_left' hl,
    List.append_assoc (readMem m a p), List.take_left' (readMem_length ..), read_after_write,
    readMem_congr fun i _ => writeMem_outside _ _ _ _ (by omega),
    readMem_congr fun i _ => writeMem_outside _ _ _ _ (by omega)]

theorem winMem_add (base : Int) (l : List Nat) (j : Nat) : winMem base l (base + (j : Int)) = l.getD j 0 := by
  rw [winMem, if_pos (Int.le_add_of_nonneg_right (Int.natCast_nonneg j)), Int.add_comm, Int.add_sub_cancel,
    Int.toNat_natCast]

theorem readMem_winMem (base : Int) (l : List Nat) (p k : Nat) (h : p + k ≤ l.length) :
    readMem (winMem base l) (base + (p : Int)) k = (l.drop p).take k := by
  have hl : ((l.drop p).take k).length = k := List.length_take_of_le (by rw [List.length_drop]; omega)
  apply List.ext_getElem (by rw [readMem_length, hl])
  intro i h1 _
  rw [readMem_length] at h1
  simp only [readMem, List.getElem_map, List.getElem_range, List.getElem_take, List.getElem_drop]
  rw [Int.add_assoc, ← Int.natCast_add, winMem_add, List.getD_eq_getElem?_getD,
    List.getElem?_eq_getElem (by omega)]; rfl

theorem absFile_len (m : Mem) (v : View) (h : v.start ≤ v.stop) : (absFile m v).len = v.len := by
  unfold absFile File.len
  rw [readMem_length]
  exact Int.toNat_of_nonneg (Int.sub_nonneg_of_le h)

theorem room_eq (m : Mem) (v : View) (h : v.start ≤ v.stop) :
    ((absFile m v).room : Int) = v.available := by
  unfold File.room View.available
  rw [absFile_len m v h, show v.stop - v.address = v.len - v.offset by unfold View.address View.len; omega]
  show ((if 0 ≤ v.offset ∧ v.offset ≤ v.len then (v.len - v.offset).toNat else 0 : Nat) : Int) = _
  by_cases h0 : v.offset < 0
  · rw [if_pos h0, if_neg fun hc => Int.not_le.mpr h0 hc.1]; rfl
  by_cases h1 : v.offset ≤ v.len
  · rw [if_neg h0, if_pos ⟨Int.not_lt.mp h0, h1⟩, Int.toNat_of_nonneg (Int.sub_nonneg_of_le h1),
      Int.max_eq_right (Int.sub_nonneg_of_le h1)]
  · rw [if_neg h0, if_neg fun hc => h1 hc.2,
      Int.max_eq_left (Int.le_of_lt (Int.sub_neg_of_lt (Int.not_le.mp h1)))]; rfl

theorem room_pos (m : Mem) (v : View) (h : v.start ≤ v.stop) (hp : 0 < (absFile m v).room) :
    0 ≤ v.offset ∧ v.offset + ((absFile m v).room : Int) = v.len := by
  have hr := room_eq m v h
  have := available_pos v (by omega)
  unfold View.address View.len at *
  omega

theorem address_eq (v : View) (h : 0 ≤ v.offset) : v.address = v.start + (v.offset.toNat : Int) := by
  rw [Int.toNat_of_nonneg h, Int.add_comm]; rfl

theorem readCount_absFile (m : Mem) (v : View) (h : v.start ≤ v.stop) (n : Int) :
    readCount v n = (((absFile m v).readFail n).2, (((absFile m v).readFail n).1 : Int)) := by
  unfold readCount File.readFail
  simp only [← room_eq m v h]
  generalize (absFile m v).room = room
  by_cases hn : n < 0
  · rw [if_pos hn, if_pos hn, if_neg (Int.lt_irrefl _), Nat.min_self, decide_eq_false (Nat.lt_irrefl _)]
  · rw [if_neg hn, if_neg hn]
    by_cases hgt : n > (room : Int)
    · have h2 : room < n.toNat := Int.lt_toNat.mpr hgt
      rw [if_pos hgt, Nat.min_eq_right (Nat.le_of_lt h2), decide_eq_true h2]
    · have h1 : n.toNat ≤ room := Int.toNat_le.mpr (Int.not_lt.mp hgt)
      rw [if_neg hgt, Nat.min_eq_left h1, decide_eq_false (Nat.lt_irrefl _), Int.toNat_of_nonneg (Int.not_lt.mp hn)]

theorem writeData_absFile (m : Mem) (v : View) (h : v.start ≤ v.stop) (d : List Nat) :
    writeData v d = (((absFile m v).write d).2.2, d.take ((absFile m v).write d).2.1) := by
  unfold writeData File.write
  simp only [← room_eq m v h]
  generalize (absFile m v).room = room
  by_cases hgt : (d.length : Int) > (room : Int)
  · have h2 : room < d.length := Int.ofNat_lt.mp hgt
    rw [if_pos hgt, Nat.min_eq_right (Nat.le_of_lt h2), decide_eq_true h2, pyPrefix,
      if_pos (Int.natCast_nonneg _), Int.toNat_natCast]
  · have h1 : d.length ≤ room := Int.ofNat_le.mp (Int.not_lt.mp hgt)
    rw [if_neg hgt, Nat.min_eq_left h1, decide_eq_false (Nat.lt_irrefl _), List.take_length]

theorem specAccess_moved (w : World) (v : View) {ret : Ret} {warn iw : Bool} {post : View} {data wr : List Nat}
    {k : Nat} (h : k ≠ 0) :
    specAccess w v ⟨ret, warn, post, data, k, iw, wr⟩ =
      some (if iw then .write v.address wr w.x w.y 0 else .read v.address k w.x w.y 0) := by
  rw [specAccess, if_neg h, View.address, Int.add_comm]; cases iw <;> rfl

theorem Refines.quiet {w : World} {i : Nat} {v : View} (hv : w.views[i]? = some v) (ret : Ret) (warn iw : Bool)
    (wr : List Nat) :
    Refines w i v ⟨ret, warn, v, (absFile w.mem v).data, 0, iw, wr⟩ (w, ⟨ret, warn, none⟩) :=
  ⟨rfl, (set_self _ _ _ hv).symm, rfl, fun _ _ => rfl, rfl, rfl, rfl⟩

theorem Refines.moved {w : World} {i : Nat} {v : View} (p : Int) (ret : Ret) (warn iw : Bool) (wr : List Nat) :
    Refines w i v ⟨ret, warn, { v with offset := p }, (absFile w.mem v).data, 0, iw, wr⟩
      (setView w i { v with offset := p }, ⟨ret, warn, none⟩) :=
  ⟨rfl, rfl, rfl, fun _ _ => rfl, rfl, rfl, rfl⟩

theorem absFile_drop_take (m : Mem) (v : View) (k : Nat) (h0 : 0 ≤ v.offset) (h1 : v.offset + (k : Int) ≤ v.len) :
    ((absFile m v).data.drop (absFile m v).pos.toNat).take k = readMem m v.address k := by
  rw [address_eq v h0]
  exact readMem_drop_take _ v.start v.len.toNat v.offset.toNat k
    (Int.toNat_add_nat h0 k ▸ Int.toNat_le_toNat h1)

theorem absFile_writeMem (m : Mem) (v : View) (e : List Nat) (h0 : 0 ≤ v.offset)
    (h1 : v.offset + (e.length : Int) ≤ v.len) :
    (∀ p, (absFile (writeMem m v.address e) { v with offset := p }).data =
      (absFile m v).data.take (absFile m v).pos.toNat ++ e ++
        (absFile m v).data.drop ((absFile m v).pos.toNat + e.length)) ∧
    ∀ a, a < v.start ∨ v.stop ≤ a → writeMem m v.address e a = m a := by
  constructor
  · intro p
    rw [address_eq v h0]
    exact readMem_writeMem m v.start v.len.toNat v.offset.toNat e
      (Int.toNat_add_nat h0 _ ▸ Int.toNat_le_toNat h1)
  · intro a ha
    exact writeMem_outside _ _ _ _ (ha.imp (Int.lt_of_lt_of_le · (Int.le_add_of_nonneg_left h0))
      (Int.le_trans (Int.add_right_comm .. ▸ Int.add_le_of_le_sub_right h1)))

theorem specIO_post (v : View) (f : File) (op : Op) (s : SpecOut) (h : specIO v f op = some s) :
    s.post.start = v.start ∧ s.post.stop = v.stop ∧ s.post.closed = v.closed := by
  revert h
  fun_cases specIO v f op <;> intro h <;> cases h <;> exact ⟨rfl, rfl, rfl⟩

section
variable (w : World) (i : Nat) (v : View) (hv : w.views[i]? = some v) (hlive : dead w v = false)
  (hwf : v.start ≤ v.stop)
include hv hlive hwf

-- plain and faulting form share guards and count: proved together (`j` below: second half only)
theorem read_refines (n : Int) :
    (∃ s, specIO v (absFile w.mem v) (.read i n) = some s ∧ Refines w i v s (doRead w i v n)) ∧
    ∃ s, specIO v (absFile w.mem v) (.readFail i n) = some s ∧ Refines w i v s (doReadFail w i v n) := by
  have hp := room_pos w.mem v hwf
  unfold doRead doReadFail
  rw [readCount_absFile w.mem v hwf]
  simp only [specIO, specRead, File.read, File.readFail, if_neg (ne_true_of_eq_false hlive)]
  -- name the count (`generalize` would leave instances in the goal that depend on it)
  obtain ⟨k, hkk⟩ : ∃ k, min (if n < 0 then (absFile w.mem v).room else n.toNat) (absFile w.mem v).room = k :=
    ⟨_, rfl⟩
  have hk : k ≤ (absFile w.mem v).room := hkk ▸ Nat.min_le_right ..
  simp only [hkk]
  generalize decide (k < _) = tr
  rcases Nat.eq_zero_or_pos k with rfl | hk0
  · rw [Int.natCast_zero, Int.add_zero]
    exact ⟨⟨_, rfl, Refines.quiet hv ..⟩, _, rfl, Refines.quiet hv ..⟩
  · obtain ⟨h0, h1⟩ := hp (by omega)
    rw [absFile_drop_take _ _ _ h0 (by omega), readMem_length, if_neg (Nat.ne_of_gt hk0)]
    simp only [if_neg (Int.not_le.mpr (Int.natCast_pos.mpr hk0)), Int.toNat_natCast]
    have ha := @specAccess_moved w v
    exact ⟨⟨_, rfl, by rw [ha (Nat.ne_of_gt hk0)]; rfl, rfl, rfl, fun _ _ => rfl, rfl, rfl, rfl⟩,
      _, rfl, by rw [ha (Nat.ne_of_gt hk0)]; rfl, (set_self _ _ _ hv).symm, rfl, fun _ _ => rfl, rfl, rfl, rfl⟩

theorem write_refines (d : List Nat) (j : Nat) :
    (∃ s, specIO v (absFile w.mem v) (.write i d) = some s ∧ Refines w i v s (doWrite w i v d)) ∧
    ∃ s, specIO v (absFile w.mem v) (.writeFail i d j) = some s ∧
      Refines w i v s (doWriteFail w i v d j) := by
  have hp := room_pos w.mem v hwf
  unfold doWrite doWriteFail
  rw [writeData_absFile w.mem v hwf]
  simp only [specIO, specWrite, File.write, File.writeFail, if_neg (ne_true_of_eq_false hlive)]
  obtain ⟨k, hkk⟩ : ∃ k, min d.length (absFile w.mem v).room = k := ⟨_, rfl⟩
  have hk : k ≤ (absFile w.mem v).room := hkk ▸ Nat.min_le_right ..
  have hl : (d.take k).length = k := List.length_take_of_le (hkk ▸ Nat.min_le_left ..)
  simp only [hkk, hl]
  generalize decide (k < d.length) = tr
  rcases Nat.eq_zero_or_pos k with rfl | hk0
  · rw [Int.natCast_zero, Int.add_zero, List.take_zero, List.append_nil, Nat.add_zero, List.take_append_drop]
    exact ⟨⟨_, rfl, Refines.quiet hv ..⟩, _, rfl, Refines.quiet hv ..⟩
  · obtain ⟨h0, h1⟩ := hp (by omega)
    have hj : ((d.take k).take j).length ≤ k := Nat.le_trans (List.length_take_le' ..) (Nat.le_of_eq hl)
    obtain ⟨hd, ho⟩ := absFile_writeMem w.mem v (d.take k) h0 (by omega)
    obtain ⟨hd', ho'⟩ := absFile_writeMem w.mem v ((d.take k).take j) h0 (by omega)
    rw [hl] at hd
    simp only [if_neg (Nat.ne_of_gt hk0)]
    have ha := @specAccess_moved w v
    exact ⟨⟨_, rfl, by rw [ha (Nat.ne_of_gt hk0)]; rfl, rfl, hd _, ho, rfl, rfl, rfl⟩,
      _, rfl, by rw [ha (Nat.ne_of_gt hk0)]; rfl, (set_self _ _ _ hv).symm, hd' _, ho', rfl, rfl, rfl⟩

theorem seek_refines (n wh : Int) (hk : wh = 2 → n = 0) :
    ∃ s, specIO v (absFile w.mem v) (.seek i n wh) = some s ∧ Refines w i v s (doSeek w i v n wh) := by
  fun_cases doSeek w i v n wh
  · exact absurd ‹_› (ne_true_of_eq_false hlive)
  · subst ‹wh = 0›; exact ⟨_, rfl, Refines.moved ..⟩
  · subst ‹wh = 1›; exact ⟨_, rfl, Refines.moved ..⟩
  · subst ‹wh = 2›
    cases hk rfl
    refine ⟨_, rfl, ?_⟩
    rw [absFile_len w.mem v hwf]
    exact Refines.moved ..
  · simp only [specIO, File.seek, if_neg ‹¬ wh = 0›, if_neg ‹¬ wh = 1›, if_neg ‹¬ wh = 2›]
    exact ⟨_, rfl, Refines.quiet hv ..⟩

end

end Rig.C13
