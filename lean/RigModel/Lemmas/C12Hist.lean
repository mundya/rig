/-
C12 - histories on ONE `RegionCoreTree` object: `add_core` calls interleaved with read-outs
(`runHistory`).  Core Lean only.
-/
import RigModel.Lemmas.C12

namespace Rig.C12

/-- the cores added by a history, in order -/
def addsOf : List HOp → List (Int × Int × Int)
  | [] => []
  | .add x y p :: r => (x, y, p) :: addsOf r
  | .read :: r => addsOf r

/-- every call of a history paired with the cores added BEFORE it (`pre` = added before the history) -/
def annot (pre : List (Int × Int × Int)) : List HOp → List (List (Int × Int × Int) × HOp)
  | [] => []
  | .add x y p :: r => (pre, .add x y p) :: annot (pre ++ [(x, y, p)]) r
  | .read :: r => (pre, .read) :: annot pre r

/-- the result a call must have: the root's `add_core` returns `False`; a read-out selects exactly
the cores added so far, each once -/
def ResOK (a : List (Int × Int × Int) × HOp) (res : HRes) : Prop :=
  match a.2, res with
  | .add _ _ _, .added b => b = false
  | .read, .pairs l => Exact (a.1.map toNat3) l
  | _, _ => False

def AllOK : List (List (Int × Int × Int) × HOp) → List HRes → Prop
  | [], [] => True
  | a :: as, r :: rs => ResOK a r ∧ AllOK as rs
  | _, _ => False

instance (c : Int × Int × Int) : Decidable (InRange c) := by unfold InRange; exact inferInstance

/-- the adds of a history that are in range (the others raise and change nothing) -/
def goodAdds : List HOp → List (Int × Int × Int)
  | [] => []
  | .add x y p :: r => if InRange (x, y, p) then (x, y, p) :: goodAdds r else goodAdds r
  | .read :: r => goodAdds r

/-- every call paired with the in-range cores added before it -/
def annotF (pre : List (Int × Int × Int)) : List HOp → List (List (Int × Int × Int) × HOp)
  | [] => []
  | .add x y p :: r =>
    (pre, .add x y p) :: annotF (if InRange (x, y, p) then pre ++ [(x, y, p)] else pre) r
  | .read :: r => (pre, .read) :: annotF pre r

/-- the result a call must have, failing calls included: an in-range `add_core` returns `False`, any
other raises `ValueError`; a read-out selects exactly the in-range cores added so far, each once -/
def ResOKF (a : List (Int × Int × Int) × HOp) (res : HRes) : Prop :=
  match a.2, res with
  | .add x y p, .added b => InRange (x, y, p) ∧ b = false
  | .add x y p, .raised e => ¬ InRange (x, y, p) ∧ e = .valueError
  | .read, .pairs l => Exact (a.1.map toNat3) l
  | _, _ => False

def AllOKF : List (List (Int × Int × Int) × HOp) → List HRes → Prop
  | [], [] => True
  | a :: as, r :: rs => ResOKF a r ∧ AllOKF as rs
  | _, _ => False

theorem histStep_bad (t0 : RTree) (rs0 : List HRes) (cx cy cp : Int) (h0 : RootOK t0)
    (hc : ¬ InRange (cx, cy, cp)) :
    histStep 4 (t0, rs0) (.add cx cy cp) = .ok (t0, rs0 ++ [.raised .valueError]) := by
  by_cases hneg : cx < 0 ∨ cy < 0 ∨ cp < 0
  · simp only [histStep, if_pos hneg]
  · simp only [histStep, if_neg hneg, addCore_root_err t0 (cx, cy, cp) h0 hc hneg]

theorem histStep_good {t0 : RTree} {cs : List (Int × Int × Int)} (rs0 : List HRes) (cx cy cp : Int)
    (h0 : Stands t0 cs) (hc : InRange (cx, cy, cp)) :
    ∃ t1, histStep 4 (t0, rs0) (.add cx cy cp) = .ok (t1, rs0 ++ [.added false]) ∧
      addRoot t0 cx cy cp = .ok t1 ∧ Stands t1 (cs ++ [(cx, cy, cp)]) := by
  obtain ⟨t1, e, ea, h1⟩ := stands_add (cx, cy, cp) h0 hc
  have hneg : ¬ (cx < 0 ∨ cy < 0 ∨ cp < 0) := by simp only [InRange] at hc; omega
  exact ⟨t1, by simp only [histStep, if_neg hneg, e], ea, h1⟩

theorem hist_specF (ops : List HOp) : ∀ {t0 : RTree} (rs0 : List HRes) {cs : List (Int × Int × Int)},
    Stands t0 cs →
    ∃ t rs, ops.foldlM (histStep 4) (t0, rs0) = .ok (t, rs0 ++ rs) ∧ Stands t (cs ++ goodAdds ops) ∧
      AllOKF (annotF cs ops) rs ∧
      (goodAdds ops).foldlM (fun t c => addRoot t c.1 c.2.1 c.2.2) t0 = .ok t := by
  -- the cases of `goodAdds`: no call, an `add_core` in range, one out of range, a read-out
  fun_induction goodAdds ops with
  | case1 => exact fun {t0} rs0 {cs} h0 => ⟨t0, [], by rw [List.append_nil]; rfl, by rwa [List.append_nil], trivial, rfl⟩
  | case2 cx cy cp ops hc ih =>
    intro t0 rs0 cs h0
    obtain ⟨t1, hs, e1, h1⟩ := histStep_good rs0 cx cy cp h0 hc
    obtain ⟨t, rs, e, ht, hf, hb⟩ := ih (rs0 ++ [.added false]) h1
    rw [List.append_assoc] at e ht
    exact ⟨t, _ :: rs, by rw [List.foldlM_cons, hs]; exact e, ht, by rw [annotF, if_pos hc]; exact ⟨⟨hc, rfl⟩, hf⟩,
      by rw [List.foldlM_cons, e1]; exact hb⟩
  | case3 cx cy cp ops hc ih =>
    intro t0 rs0 cs h0
    obtain ⟨t, rs, e, ht, hf, hb⟩ := ih (rs0 ++ [.raised .valueError]) h0
    rw [List.append_assoc] at e
    exact ⟨t, _ :: rs, by rw [List.foldlM_cons, histStep_bad t0 rs0 cx cy cp h0.1 hc]; exact e, ht,
      by rw [annotF, if_neg hc]; exact ⟨⟨hc, rfl⟩, hf⟩, hb⟩
  | case4 ops ih =>
    intro t0 rs0 cs h0
    obtain ⟨t, rs, e, ht, hf, hb⟩ := ih (rs0 ++ [.pairs (emit 4 t0)]) h0
    rw [List.append_assoc] at e
    exact ⟨t, _ :: rs, e, ht, ⟨stands_exact h0, hf⟩, hb⟩

theorem allOKF_get : ∀ (a : List HOp) (op : HOp) (b : List HOp) (pre : List (Int × Int × Int)) (rs : List HRes),
    AllOKF (annotF pre (a ++ op :: b)) rs → ∃ r, rs[a.length]? = some r ∧ ResOKF (pre ++ goodAdds a, op) r
  | [], .read, _, _, [], h | [], .add .., _, _, [], h => h.elim
  | .read :: _, _, _, _, [], h | .add .. :: _, _, _, _, [], h => h.elim
  | [], .read, _, pre, r :: _, h | [], .add .., _, pre, r :: _, h =>
    ⟨r, rfl, by rw [goodAdds, List.append_nil]; exact h.1⟩
  | .read :: a, op, b, pre, _ :: rs, h => allOKF_get a op b pre rs h.2
  | .add x y p :: a, op, b, pre, _ :: rs, h => by
    obtain ⟨r', h1, h2⟩ := allOKF_get a op b _ rs h.2
    refine ⟨r', h1, ?_⟩
    by_cases hc : InRange (x, y, p)
    · rw [if_pos hc] at h2; rw [goodAdds, if_pos hc]; simpa using h2
    · rw [if_neg hc] at h2; rw [goodAdds, if_neg hc]; exact h2

theorem addsOf_append : ∀ (a b : List HOp), addsOf (a ++ b) = addsOf a ++ addsOf b
  | [], _ => rfl
  | .read :: a, b => addsOf_append a b
  | .add _ _ _ :: a, b => congrArg (_ :: ·) (addsOf_append a b)

theorem goodAdds_eq : ∀ (ops : List HOp), (∀ c, c ∈ addsOf ops → InRange c) → goodAdds ops = addsOf ops
  | [], _ => rfl
  | .read :: ops, h => goodAdds_eq ops h
  | .add x y p :: ops, h => by
    rw [goodAdds, if_pos (h _ List.mem_cons_self), addsOf,
      goodAdds_eq ops (fun c hc => h c (List.mem_cons_of_mem _ hc))]

theorem allOK_of_allOKF (ops : List HOp) (pre : List (Int × Int × Int)) : ∀ (rs : List HRes),
    (∀ c, c ∈ addsOf ops → InRange c) → AllOKF (annotF pre ops) rs → AllOK (annot pre ops) rs := by
  -- the cases of `annotF`: no call, an `add_core`, a read-out
  fun_induction annotF pre ops with
  | case1 pre => intro rs _ h; cases rs <;> exact h
  | case2 pre x y p r ih =>
    intro rs hr h
    have hc : InRange (x, y, p) := hr _ List.mem_cons_self
    rw [if_pos hc] at ih h
    cases rs with
    | nil => exact h
    | cons r0 rs =>
      refine ⟨?_, ih rs (fun c hc' => hr c (List.mem_cons_of_mem _ hc')) h.2⟩
      cases r0 with
      | added b => exact h.1.2
      | pairs l => exact h.1
      | raised e => exact absurd hc h.1.1
  | case3 pre r ih =>
    intro rs hr h
    cases rs with
    | nil => exact h
    | cons r0 rs => exact ⟨by cases r0 <;> exact h.1, ih rs hr h.2⟩

theorem hist_spec : ∀ (ops : List HOp) (t0 : RTree) (rs0 : List HRes) (pre0 : List (Int × Int × Int)),
    RootOK t0 → (∀ x y p, holds 4 t0 x y p ↔ (x, y, p) ∈ pre0.map toNat3) →
    (∀ c, c ∈ addsOf ops → InRange c) →
    ∃ t rs, ops.foldlM (histStep 4) (t0, rs0) = .ok (t, rs0 ++ rs) ∧ RootOK t ∧
      (∀ x y p, holds 4 t x y p ↔ (x, y, p) ∈ (pre0 ++ addsOf ops).map toNat3) ∧
      AllOK (annot pre0 ops) rs ∧
      (addsOf ops).foldlM (fun t c => addRoot t c.1 c.2.1 c.2.2) t0 = .ok t := by
  intro ops t0 rs0 pre0 h0 hh hr
  obtain ⟨t, rs, e, ht, hf, hb⟩ := hist_specF ops rs0 (⟨h0, hh⟩ : Stands t0 pre0)
  rw [goodAdds_eq ops hr] at ht hb
  exact ⟨t, rs, e, ht.1, ht.2, allOK_of_allOKF ops pre0 rs hr hf, hb⟩

end Rig.C12
