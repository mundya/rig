/-
C05 - translator tie, the grouping loop: `chip_contents[xy].append(vertex)` over `placements` on a
`defaultdict(list)`, as generated from greedy.py (`PyFun.allocate_loop2`), is the model's `chipContents`
(`chipOrder` / `chipVertices`).
-/
import RigModel.Props.C05GenDefs

namespace Rig.C05
open Rig.Gen Rig.PyDict

/-- the grouping of `placements` by chip (`chip_contents[xy].append(vertex)` on a defaultdict(list)), as generated
from greedy.py, is the model's `chipOrder` / `chipVertices` -/
theorem gen_group (inp : Input) :
    List.foldl PyFun.allocate_loop2 [] inp.placements = chipContents inp := by
  rw [chipContents, chipOrder, dedup_eq]
  exact foldl_groupBy (·.2) (·.1) (fun _ _ => rfl) inp.placements []

end Rig.C05
