/-
C19 - translator tie (rig/geometry.py): `spinn5_local_eth_coord`, `spinn5_chip_coord`, `spinn5_fpga_link` = the
model's `localEthCoord`, `chipCoord`, `fpgaLink`; the generator `spinn5_eth_coords` (three nested `for` loops, every
loop body a generated definition of its own) = `ethCoords`; `standard_system_dimensions` (a `for` loop over a reversed
range that is left by `break` and whose variable is read afterwards) = `stdDims`.
-/
import RigModel.Model.C19
import RigModel.Gen.PyFun
import RigModel.Lemmas.PyCast

-- see Lemmas/PyCast.lean
set_option linter.unusedSimpArgs false
set_option linter.unusedTactic false
set_option linter.unreachableTactic false

namespace Rig.C19
open Rig.Gen Rig.Gen.Spinn5 Rig.PyLoops Rig.IntBits

/-- inside the 12 x 12 table `offAt` returns the entry at column `i` of row `j` -/
private theorem offAt_getD (i j : Int) (hi : 0 ≤ i) (hi' : i < 12) (hj : 0 ≤ j) (hj' : j < 12) :
    offAt i j = .ok ((ethOffset.getD j.toNat []).getD i.toNat ((0 : Int), (0 : Int))) := by
  have rows : ∀ r ∈ ethOffset, r.length = 12 := by decide
  have hjl : j.toNat < ethOffset.length := by show j.toNat < 12; omega
  have hil : i.toNat < (ethOffset[j.toNat]).length := by rw [rows _ (List.getElem_mem hjl)]; omega
  unfold offAt
  simp only [List.getD_eq_getElem?_getD, List.getElem?_eq_getElem hjl, List.getElem?_eq_getElem hil, Option.getD_some]

private theorem fmod12 (a : Int) : 0 ≤ Int.fmod a 12 ∧ Int.fmod a 12 < 12 := by
  rw [fmod_lit]
  omega

/-- the model's `chipCoord` returns the generated `spinn5_chip_coord` (the model's IndexError is unreachable) -/
theorem gen_chip_coord (x y rx ry : Int) :
    chipCoord x y rx ry = .ok (PyFun.spinn5_chip_coord x y rx ry) := by
  have hx := fmod12 (x - rx)
  have hy := fmod12 (y - ry)
  simp only [chipCoord, pymod, offAt_getD _ _ hx.1 hx.2 hy.1 hy.2, bind, Except.bind,
    PyFun.spinn5_chip_coord]

/-- Python raises ZeroDivisionError for a zero width or height -/
theorem gen_local_eth_coord (x y w h rx ry : Int) (hw : w ≠ 0) (hh : h ≠ 0) :
    localEthCoord x y w h rx ry = .ok (PyFun.spinn5_local_eth_coord x y w h rx ry) := by
  have hx := fmod12 (x - rx)
  have hy := fmod12 (y - ry)
  simp only [localEthCoord, pymod, offAt_getD _ _ hx.1 hx.2 hy.1 hy.2, bind, Except.bind, hw, hh,
    if_false, PyFun.spinn5_local_eth_coord]

theorem gen_fpga_link (x y link rx ry : Int) :
    fpgaLink x y link rx ry = .ok (PyFun.spinn5_fpga_link x y link rx ry) := by
  simp only [fpgaLink, gen_chip_coord, bind, Except.bind, PyFun.spinn5_fpga_link]

theorem flatMap_ite_eq_filterMap {α β : Type} (l : List α) (c : α → Prop) [DecidablePred c] (g : α → β) :
    l.flatMap (fun a => if c a then [g a] else []) = l.filterMap (fun a => if c a then some (g a) else none) := by
  induction l with
  | nil => rfl
  | cons a t ih =>
    rw [List.flatMap_cons, List.filterMap_cons, ih]
    by_cases h : c a <;> simp [h]

theorem eth_loop3 (width height rx ry w h x y : Int) (o : List Pt) (d : Pt) :
    PyFun.spinn5_eth_coords_loop3 width height rx ry w h x y o d
      = o ++ (if pymod (x + d.1 + rx) w < width ∧ pymod (y + d.2 + ry) h < height
              then [(pymod (x + d.1 + rx) w, pymod (y + d.2 + ry) h)] else []) := by
  simp only [PyFun.spinn5_eth_coords_loop3, pymod, py_ac]
  split <;> simp only [List.append_nil]

theorem eth_loop2 (width height rx ry w h x : Int) (o : List Pt) (y : Int) :
    PyFun.spinn5_eth_coords_loop2 width height rx ry w h x o y
      = o ++ ethTriple.filterMap (fun d =>
          if pymod (x + d.1 + rx) w < width ∧ pymod (y + d.2 + ry) h < height
          then some (pymod (x + d.1 + rx) w, pymod (y + d.2 + ry) h) else none) := by
  unfold PyFun.spinn5_eth_coords_loop2
  dsimp only
  rw [foldl_append_flatMap (eth_loop3 width height rx ry w h x y), flatMap_ite_eq_filterMap]
  rfl

theorem range12_eq (w : Int) : PyFun.pyRange 0 w 12 = range12 w := by
  rw [pyRange_pos _ _ _ (by decide), range12]
  have e : (w - 0 + 12 - 1) / 12 = (w + 11) / 12 := by congr 1; omega
  rw [e]
  apply List.map_congr_left
  intro a _
  omega

theorem eth_loop1 (width height rx ry w h : Int) (o : List Pt) (x : Int) :
    PyFun.spinn5_eth_coords_loop1 width height rx ry w h o x
      = o ++ (range12 h).flatMap (fun y => ethTriple.filterMap (fun d =>
          if pymod (x + d.1 + rx) w < width ∧ pymod (y + d.2 + ry) h < height
          then some (pymod (x + d.1 + rx) w, pymod (y + d.2 + ry) h) else none)) := by
  unfold PyFun.spinn5_eth_coords_loop1
  dsimp only
  rw [foldl_append_flatMap (eth_loop2 width height rx ry w h x), range12_eq]

theorem gen_eth_coords (width height rx ry : Int) :
    PyFun.spinn5_eth_coords width height rx ry = ethCoords width height rx ry := by
  unfold PyFun.spinn5_eth_coords ethCoords
  dsimp only
  rw [foldl_append_flatMap (eth_loop1 _ _ _ _ _ _), range12_eq, List.nil_append]
  simp only [fdiv_lit, pymod]
  first | rfl | simp only [py_ac]

def excStr {α : Type} : Except Err α → Except String α
  | .ok v => .ok v
  | .error .zeroDivision => .error "ZeroDivisionError"
  | .error .indexError => .error "IndexError"
  | .error .valueError => .error "ValueError"

/-- `reversed(range(1, s + 1))` -/
theorem down_succ (s : Nat) :
    (PyFun.pyRange1 1 (((s + 1 : Nat) : Int) + 1)).reverse = ((s + 1 : Nat) : Int) :: (PyFun.pyRange1 1 ((s : Int) + 1)).reverse := by
  simp only [pyRange1_eq]
  have e1 : (((s + 1 : Nat) : Int) + 1 - 1).toNat = s + 1 := by omega
  have e2 : ((s : Int) + 1 - 1).toNat = s := by omega
  rw [e1, e2, List.range_succ, List.map_append, List.reverse_append]
  simp only [List.map_cons, List.map_nil, List.reverse_cons, List.reverse_nil, List.nil_append, List.cons_append]
  congr 1
  omega

/-- once the loop is left, the remaining elements are skipped -/
theorem std_loop1_done (n h : Int) (l : List Int) :
    l.foldl (PyFun.standard_system_dimensions_loop1 n) (true, h) = (true, h) :=
  foldl_fixed (fun _ => rfl) l

theorem std_loop1_step (n : Int) (k : Nat) (hk : Int.fdiv n 3 = (k : Int)) (h0 : Int) (m : Nat) :
    PyFun.standard_system_dimensions_loop1 n (false, h0) (m : Int)
      = if k % m = 0 then (true, (m : Int)) else (false, (m : Int)) := by
  simp only [PyFun.standard_system_dimensions_loop1, ↓hk, Bool.false_eq_true, if_false, py_cast, @eq_comm _ 0 (k % m)]

theorem std_loop1_search (n : Int) (k : Nat) (hk : Int.fdiv n 3 = (k : Int)) :
    ∀ (s : Nat) (h0 : Int), 0 < s →
      ((PyFun.pyRange1 1 ((s : Int) + 1)).reverse.foldl (PyFun.standard_system_dimensions_loop1 n) (false, h0)).2
        = ((searchDown k s : Nat) : Int)
  | 0, _, hs => by omega
  | s + 1, h0, _ => by
    rw [down_succ, List.foldl_cons, std_loop1_step n k hk, searchDown]
    by_cases hd : k % (s + 1) = 0
    · rw [if_pos hd, if_pos hd]
      exact congrArg Prod.snd (std_loop1_done n _ _)
    · rw [if_neg hd, if_neg hd]
      by_cases hs : s = 0
      · subst hs
        exact absurd (Nat.mod_one k) hd
      · exact std_loop1_search n k hk s _ (by omega)

/-- the integer square root stands for Python's `int(sqrt(k))` (`pyIsqrt`: exact for k < 2^52, ASSUMPTION in
harness/gen/pyfun.py) -/
theorem gen_std_dims (n : Int) : PyFun.standard_system_dimensions n = excStr (stdDims n) := by
  unfold PyFun.standard_system_dimensions stdDims
  by_cases h0 : n = 0
  · simp only [h0, if_true]; rfl
  by_cases h1 : n = 1
  · simp only [h1, if_true]; rfl
  simp only [h0, h1, if_false, pymod]
  by_cases h3 : Int.fmod n 3 ≠ 0
  · simp only [h3, if_true, ne_eq, not_false_eq_true]; rfl
  simp only [h3, if_false, ne_eq, not_true_eq_false, not_false_eq_true]
  rw [fmod_lit] at h3
  by_cases hn : n < 0
  · have : Int.fdiv n 3 < 0 := by rw [fdiv_lit]; omega
    simp only [PyFun.pyIsqrt, this, hn, if_true]; rfl
  have hk : Int.fdiv n 3 = ((n / 3).toNat : Int) := by rw [fdiv_lit]; omega
  have hk1 : 1 ≤ (n / 3).toNat := by omega
  have hpos : ¬ (Int.fdiv n 3 < 0) := by omega
  simp only [PyFun.pyIsqrt, hpos, hn, if_false]
  generalize hkk : (n / 3).toNat = k at *
  have e : (Int.fdiv n 3).toNat = k := by omega
  rw [e]
  have hs : 0 < Nat.sqrt k := Nat.sqrt_pos.mpr (by omega)
  have hne : ((PyFun.pyRange1 1 ((Nat.sqrt k : Int) + 1)).reverse).isEmpty = false := by
    obtain ⟨s, hs'⟩ : ∃ s, Nat.sqrt k = s + 1 := ⟨Nat.sqrt k - 1, by omega⟩
    rw [hs', down_succ]; rfl
  have hsearch := std_loop1_search n k (by omega) (Nat.sqrt k) 0 hs
  simp only [hne, Bool.false_eq_true, if_false]
  generalize hr : List.foldl (PyFun.standard_system_dimensions_loop1 n) (false, (0 : Int)) (PyFun.pyRange1 1 (↑k.sqrt + 1)).reverse = r at *
  obtain ⟨b, h⟩ := r
  simp only at hsearch
  subst hsearch
  simp only [excStr]
  rw [hk]
  simp only [py_cast, py_ac]

/-- one board is 8 x 8 chips, 5 boards are refused -/
example : PyFun.standard_system_dimensions 1 = .ok (8, 8) ∧ PyFun.standard_system_dimensions 5 = .error "ValueError" := by
  constructor <;> decide

end Rig.C19
