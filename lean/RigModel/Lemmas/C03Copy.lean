/-
C03 - `copy_and_disconnect_tree` in one pass over its loop (`copyLoop_sat`).  What it returns is a forest with the
invariant `RInv lookup (root :: heads of the broken links)` on live hardware (`CInv`); it raises only when the source
chip is dead or the input is no tree (`TreeAt`), and keeps every working chip of a tree.  Ghost state for the latter:
the old chips already taken from the queue.
-/
import RigModel.Lemmas.C03RInv
import RigModel.Lemmas.C03AStar
import RigModel.Lemmas.ExceptSat
namespace Rig.C03.L

theorem linksBetween_hop {m : Machine} {p c : Chip} {d : Nat} (h : (linksBetween m p c).contains d = true)
    (hc : chipOk m c = true) : HopOk m (p, d, c) := by
  simp only [linksBetween, List.contains_iff_mem, List.mem_filter, Bool.and_eq_true, beq_iff_eq] at h
  exact ⟨mem_linkOrder.1 h.1, h.2.2, hc, h.2.1.symm⟩

structure CInv (m : Machine) (root : Chip) (st : CopyState) : Prop where
  rootEq : st.root = some root
  inv : RInv st.lookup (root :: st.broken.map (·.2))
  live : ForestLive m st.lookup
  alive : ∀ pc, pc ∈ st.broken → chipOk m pc.2 = true

theorem visit_sat {m : Machine} {root : Chip} {st : CopyState} {p : Chip} {dir : Nat} {oldc : Chip}
    (hi : CInv m root st) (hp : p ∈ st.lookup.keys) :
    Except.Sat (fun _ => oldc ∈ st.lookup.keys)
      (fun r => CInv m root r.2 ∧ r.1 ∈ r.2.lookup.keys ∧
        ∀ x, x ∈ r.2.lookup.keys ↔ x ∈ st.lookup.keys ∨ (x = oldc ∧ chipOk m oldc = true))
      (st.visit m (some p) dir oldc) := by
  cases halive : chipOk m oldc with
  | false =>
    simp only [CopyState.visit, halive, Bool.false_eq_true, if_false]
    exact Except.Sat.pure ⟨hi, hp, fun x => by simp⟩
  | true =>
    cases hhas : st.lookup.has oldc with
    | true =>
      simp only [CopyState.visit, halive, hhas, if_true]
      exact (has_iff _ _).1 hhas
    | false =>
      have hc : oldc ∉ st.lookup.keys := fun hk => by rw [(has_iff _ _).2 hk] at hhas; cases hhas
      simp only [CopyState.visit, halive, hhas, if_true, Bool.false_eq_true, if_false]
      split
      · rename_i hlb
        exact Except.Sat.pure ⟨⟨hi.rootEq, rinv_attachLeaf hi.inv dir hc hp,
          forestLive_addChild (forestLive_insertNew hi.live halive) (linksBetween_hop hlb halive), hi.alive⟩,
          by simp only; rw [keys_addChild]; exact mem_keys_insertNew.2 (Or.inr rfl),
          fun x => by simp only [keys_addChild, mem_keys_insertNew, and_true]⟩
      · have hnb : (p, oldc) ∉ st.broken := fun hb =>
          hc (hi.inv.roots oldc (List.mem_cons_of_mem _ (List.mem_map_of_mem (f := (·.2)) hb))).1
        refine Except.Sat.pure ⟨⟨hi.rootEq, by simpa [hnb] using rinv_newRoot hi.inv hc,
          forestLive_insertNew hi.live halive, fun pc hpc => ?_⟩, mem_keys_insertNew.2 (Or.inr rfl),
          fun x => by simp only [mem_keys_insertNew, and_true]⟩
        have : pc ∈ st.broken ++ [(p, oldc)] := by simpa [hnb] using hpc
        rcases List.mem_append.1 this with h | h
        · exact hi.alive pc h
        · cases List.mem_singleton.1 h; exact halive

abbrev QE := Option Chip × Nat × Chip
def qchips (q : List QE) : List Chip := q.map (·.2.2)

theorem qchips_push (q : List QE) (nn : Chip) (ks : List (Nat × Chip)) :
    qchips (q ++ ks.map fun e => (some nn, e.1, e.2)) = qchips q ++ ks.map (·.2) := by
  simp [qchips, List.map_append, List.map_map, Function.comp_def]

def TreeAt (old : Forest) (root : Chip) : Prop :=
  (∃ rank, WF old rank) ∧ ClosedF old ∧ root ∈ old.keys ∧ NoParent old root

structure GInv (old : Forest) (root : Chip) (m : Machine) (seen : List Chip) (q : List QE) (st : CopyState) :
    Prop where
  nd : (seen ++ qchips q).Nodup
  sub : ∀ x, x ∈ seen ++ qchips q → x ∈ old.keys
  par : ∀ x, x ∈ seen ++ qchips q → x = root ∨ ∃ p k, p ∈ seen ∧ Edge old p k ∧ k.2 = x
  keysSeen : ∀ x, x ∈ st.lookup.keys → x ∈ seen
  seenKeys : ∀ x, x ∈ seen → chipOk m x = true → x ∈ st.lookup.keys
  cover : ∀ x, Below old root x → x ∈ seen ∨ ∃ y, y ∈ qchips q ∧ Below old y x

theorem GInv.fresh {old : Forest} {root : Chip} {m : Machine} {seen : List Chip} {e : QE} {q : List QE}
    {st : CopyState} (hg : GInv old root m seen (e :: q) st) : e.2.2 ∉ seen := fun h =>
  (List.nodup_append.1 hg.nd).2.2 _ h _ List.mem_cons_self rfl

/-- the children of the chip taken are fresh because a tree has one parent per node -/
theorem GInv.step {old : Forest} {rank : Chip → Nat} {root : Chip} {m : Machine} {seen : List Chip} {np : Option Chip}
    {dir : Nat} {c : Chip} {q : List QE} {st st1 : CopyState} (nn : Chip) (hw : WF old rank) (hkk : ClosedF old)
    (hnp : NoParent old root) (hg : GInv old root m seen ((np, dir, c) :: q) st)
    (hkeys : ∀ x, x ∈ st1.lookup.keys ↔ x ∈ st.lookup.keys ∨ (x = c ∧ chipOk m c = true)) :
    GInv old root m (seen ++ [c]) (q ++ (old.kids c).map fun e => (some nn, e.1, e.2)) st1 := by
  have hcs : c ∉ seen := hg.fresh
  have hkid : ∀ k, k ∈ old.kids c → Edge old c k := fun k hk => kids_edge hk
  have hmem : ∀ x, x ∈ (seen ++ [c]) ++ qchips (q ++ (old.kids c).map fun e => (some nn, e.1, e.2)) ↔
      x ∈ seen ++ qchips ((np, dir, c) :: q) ∨ ∃ k, k ∈ old.kids c ∧ k.2 = x := fun x => by
    rw [qchips_push]
    simp only [qchips, List.map_cons, List.mem_append, List.mem_cons, List.mem_map, List.not_mem_nil,
      or_false, or_assoc]
  have hfresh : ∀ k, k ∈ old.kids c → k.2 ∉ seen ++ qchips ((np, dir, c) :: q) := by
    intro k hk hmem'
    rcases hg.par _ hmem' with h | ⟨p', k', hp', he', hk'⟩
    · exact hnp _ _ (hkid k hk) h
    · exact hcs (parent_unique hw he' (hkid k hk) hk' ▸ hp')
  refine ⟨?_, fun x hx => ?_, fun x hx => ?_, fun x hx => ?_, fun x hx hok => ?_, fun x hx => ?_⟩
  · have e1 : seen ++ [c] ++ qchips (q ++ (old.kids c).map fun e => (some nn, e.1, e.2)) =
        (seen ++ qchips ((np, dir, c) :: q)) ++ (old.kids c).map (·.2) := by
      simp [qchips]
    rw [e1, List.nodup_append]
    refine ⟨hg.nd, ?_, ?_⟩
    · rcases kids_eq old c with h | ⟨n, hn, _, h⟩
      · rw [h]; exact List.nodup_nil
      · rw [h]; exact hw.kidsNodup n hn
    · intro a ha b hb hab
      obtain ⟨k, hk, rfl⟩ := List.mem_map.1 hb
      exact hfresh k hk (hab ▸ ha)
  · rcases (hmem x).1 hx with h | ⟨k, hk, rfl⟩
    · exact hg.sub x h
    · exact hkk _ _ (hkid k hk)
  · rcases (hmem x).1 hx with h | ⟨k, hk, rfl⟩
    · exact (hg.par x h).imp id fun ⟨p', k', h1, h2⟩ => ⟨p', k', List.mem_append_left _ h1, h2⟩
    · exact Or.inr ⟨c, k, by simp, hkid k hk, rfl⟩
  · rcases (hkeys x).1 hx with h | ⟨rfl, _⟩
    · exact List.mem_append_left _ (hg.keysSeen x h)
    · simp
  · rcases List.mem_append.1 hx with hx | hx
    · exact (hkeys x).2 (Or.inl (hg.seenKeys x hx hok))
    · cases List.mem_singleton.1 hx
      exact (hkeys _).2 (Or.inr ⟨rfl, hok⟩)
  · rw [qchips_push]
    rcases hg.cover x hx with h | ⟨y, hy, hb⟩
    · exact Or.inl (List.mem_append_left _ h)
    · rcases List.mem_cons.1 hy with rfl | hy
      · rcases below_head hb with rfl | ⟨k, hk, hb'⟩
        · exact Or.inl (by simp)
        · exact Or.inr ⟨k.2, List.mem_append_right _ (List.mem_map_of_mem (edge_kids hw.keys hk)), hb'⟩
      · exact Or.inr ⟨y, List.mem_append_left _ hy, hb⟩

/-- the loop after the first iteration, where the root is set and every queue entry has a parent -/
theorem copyLoop_sat {old : Forest} {root : Chip} {m : Machine} (fuel : Nat) (seen : List Chip) (q : List QE)
    (st : CopyState) (hi : CInv m root st) (hq : ∀ e, e ∈ q → ∃ p, e.1 = some p ∧ p ∈ st.lookup.keys)
    (hg : TreeAt old root → GInv old root m seen q st ∧ old.length + 1 ≤ fuel + seen.length) :
    Except.Sat (fun _ => ¬ TreeAt old root)
      (fun st' => CInv m root st' ∧
        (TreeAt old root → ∀ x, Below old root x → chipOk m x = true → x ∈ st'.lookup.keys))
      (copyLoop old m fuel q st) := by
  fun_induction copyLoop old m fuel q st generalizing seen with
  | case1 _ st =>
    refine ⟨hi, fun ht x hx hok => ?_⟩
    rcases (hg ht).1.cover x hx with h | ⟨y, hy, _⟩
    · exact (hg ht).1.seenKeys x h hok
    · cases hy
  | case2 e q st =>
    -- out of fuel: on a tree the chips seen or queued are distinct keys of `old`
    intro ht
    obtain ⟨hg, hf⟩ := hg ht
    have := hg.nd.length_le_of_subset hg.sub
    simp [qchips, Forest.keys] at this
    omega
  | case3 fuel np dir c q st ih =>
    obtain ⟨p, hnp, hp⟩ := hq (np, dir, c) List.mem_cons_self
    cases hnp
    refine ((visit_sat hi hp).imp_error fun _ hc ht => (hg ht).1.fresh ((hg ht).1.keysSeen c hc)).bind
      fun ⟨nn, st1⟩ _ ⟨h1, h2, hkeys⟩ => ?_
    refine ih nn st1 (seen ++ [c]) h1 (fun e he => ?_) fun ht => ?_
    · rcases List.mem_append.1 he with he | he
      · obtain ⟨p', hp', hk'⟩ := hq e (List.mem_cons_of_mem _ he)
        exact ⟨p', hp', (hkeys _).2 (Or.inl hk')⟩
      · obtain ⟨k, _, rfl⟩ := List.mem_map.1 he
        exact ⟨nn, rfl, h2⟩
    · obtain ⟨hg, hf⟩ := hg ht
      obtain ⟨⟨rank, hw⟩, hkk, _, hnp⟩ := ht
      exact ⟨hg.step nn hw hkk hnp hkeys, by simp only [List.length_append, List.length_singleton]; omega⟩

theorem copyAndDisconnect_sat (old : Forest) (src : Chip) (m : Machine) :
    Except.Sat (fun _ => chipOk m src = false ∨ ¬ TreeAt old src)
      (fun cs => CInv m src cs ∧
        (TreeAt old src → ∀ x, Below old src x → chipOk m x = true → x ∈ cs.lookup.keys))
      (copyAndDisconnect old src m) := by
  unfold copyAndDisconnect
  cases hok : chipOk m src with
  | false =>
    simp only [copyLoop, CopyState.visit, hok, bind, Except.bind, Bool.false_eq_true, if_false]
    exact Or.inl trivial
  | true =>
    simp only [copyLoop, CopyState.visit, hok, Forest.has, List.any_nil, if_true, Bool.false_eq_true, if_false,
      pure, Except.pure, bind, Except.bind]
    refine (copyLoop_sat _ [src] _ _ ⟨rfl, rinv_newRoot rinv_nil (by simp [Forest.keys]),
      forestLive_insertNew (fun _ hn => (List.not_mem_nil hn).elim) hok, by simp⟩ (fun e he => ?_)
      fun ht => ?_).imp_error fun _ h => Or.inr h
    · obtain ⟨k, _, rfl⟩ := List.mem_map.1 he
      exact ⟨src, rfl, List.mem_singleton_self src⟩
    · obtain ⟨⟨rank, hw⟩, hkk, hrk, hnp⟩ := ht
      have h0 : GInv old src m [] [(none, 0, src)] { lookup := [], broken := [], root := none } :=
        ⟨by simp [qchips], fun x hx => by cases List.mem_singleton.1 hx; exact hrk,
          fun x hx => Or.inl (List.mem_singleton.1 hx), fun x hx => (nomatch hx), fun x hx => (nomatch hx),
          fun x hx => Or.inr ⟨src, List.mem_singleton_self src, hx⟩⟩
      exact ⟨h0.step src hw hkk hnp fun x =>
        (mem_keys_insertNew (f := []) (c := src)).trans (by simp [Forest.keys, hok]), by simp⟩

theorem copyAndDisconnect_cinv {old : Forest} {src : Chip} {m : Machine} {cs : CopyState}
    (h : copyAndDisconnect old src m = .ok cs) : CInv m src cs :=
  ((copyAndDisconnect_sat old src m).ok h).1

theorem copyAndDisconnect_live (old : Forest) (root : Chip) (m : Machine) (cs : CopyState)
    (h : copyAndDisconnect old root m = .ok cs) : ForestLive m cs.lookup :=
  (copyAndDisconnect_cinv h).live

theorem copyAndDisconnect_total {old : Forest} {rank : Chip → Nat} {root : Chip} {m : Machine} (hw : WF old rank)
    (hkk : ClosedF old) (hrk : root ∈ old.keys) (hnp : NoParent old root) (hlive : chipOk m root = true) :
    ∃ cs, copyAndDisconnect old root m = .ok cs ∧
      ∀ x, Below old root x → chipOk m x = true → x ∈ cs.lookup.keys := by
  have ht : TreeAt old root := ⟨⟨rank, hw⟩, hkk, hrk, hnp⟩
  obtain ⟨cs, h, _, hc⟩ := ((copyAndDisconnect_sat old root m).imp_error fun _ h =>
    h.elim (fun h => by rw [hlive] at h; cases h) (· ht)).exists_ok
  exact ⟨cs, h, hc ht⟩

end Rig.C03.L
