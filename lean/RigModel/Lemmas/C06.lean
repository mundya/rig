/-
C06 - the history invariant of the burst loop and its preservation by every phase of an iteration.  Then `Outcome`, the
run-level forms (`run_inv`, `run_outcome`, `run_top`) and, for the composition with C07, `assembleRead_fold`.
`outstanding_packets` is the model's own association list, not `Lemmas/Assoc`'s.
-/
import RigModel.Model.C06
import RigModel.Lemmas.Lists
import RigModel.Lemmas.Assoc

namespace Rig.C06
open Rig.Gen.Scp

/-- the per-command extra timeouts as the iterator the burst consumes -/
def ext (l : List Int) : Nat → Option Int := fun i => l[i]?

/-- commands whose callback was called, in order -/
def calledOf (evs : List Ev) : List Nat :=
  evs.filterMap (fun e => match e with | .callback c _ => some c | _ => none)

/-- (command, try number) of every transmission, in order -/
def sendKeys (evs : List Ev) : List (Nat × Nat) :=
  evs.filterMap (fun e => match e with | .send _ c k _ => some (c, k) | _ => none)

/-- the configurations the theorems are about: window and try count at least 1, and fewer packets outstanding than there
are sequence numbers (so `drawSeq` finds a free one) -/
def WF (cfg : Cfg) : Prop := 1 ≤ cfg.window ∧ 1 ≤ cfg.nTries ∧ cfg.window < cfg.modulus

/-- states reachable by whole loop iterations from the start of a burst (any initial sequence counter) -/
inductive Reach (cfg : Cfg) (l : List Int) (clock : Nat → Int) : St → Prop
  | init (s0 : Nat) : Reach cfg l clock (St.init s0)
  | step (st : St) (b : List Dgram) : Reach cfg l clock st → st.active = true →
      (iter cfg (ext l) clock st b).2.2 = none → Reach cfg l clock (iter cfg (ext l) clock st b).1

theorem mem_calledOf {H : List Ev} {c : Nat} : c ∈ calledOf H ↔ ∃ i, Ev.callback c i ∈ H := by
  simp only [calledOf, List.mem_filterMap]
  constructor
  · rintro ⟨_ | ⟨c', i⟩, he, h⟩
    · cases h
    · cases h; exact ⟨i, he⟩
  · rintro ⟨i, hi⟩
    exact ⟨_, hi, rfl⟩

theorem mem_sendKeys {H : List Ev} {c k : Nat} (h : (c, k) ∈ sendKeys H) : ∃ s t, Ev.send s c k t ∈ H := by
  simp only [sendKeys, List.mem_filterMap] at h
  obtain ⟨⟨s, c', k', t⟩ | _, he, h⟩ := h
  · cases h; exact ⟨s, t, he⟩
  · cases h

theorem calledOf_append (A B : List Ev) : calledOf (A ++ B) = calledOf A ++ calledOf B :=
  List.filterMap_append ..

theorem sendKeys_append (A B : List Ev) : sendKeys (A ++ B) = sendKeys A ++ sendKeys B :=
  List.filterMap_append ..

theorem calledOf_callbacks (p : List (Nat × Nat)) :
    calledOf (p.map (fun p => Ev.callback p.1 p.2)) = p.map (·.1) := by
  induction p with
  | nil => rfl
  | cons a p ih => exact congrArg (a.1 :: ·) ih

theorem sendKeys_callbacks (p : List (Nat × Nat)) :
    sendKeys (p.map (fun p => Ev.callback p.1 p.2)) = [] := by
  induction p with
  | nil => rfl
  | cons a p ih => exact ih

theorem add_mod_inj {m c a b : Nat} (ha : a < m) (hb : b < m) (h : (c + a) % m = (c + b) % m) : a = b := by
  have key : ∀ {a b}, a ≤ b → b < m → (c + a) % m = (c + b) % m → a = b := by
    intro a b hab hb h
    have := Nat.sub_mod_eq_zero_of_mod_eq h.symm
    rw [Nat.add_sub_add_left, Nat.mod_eq_of_lt (Nat.lt_of_le_of_lt (Nat.sub_le b a) hb)] at this
    exact Nat.le_antisymm hab (Nat.sub_eq_zero_iff_le.mp this)
  rcases Nat.le_total a b with hab | hab
  · exact key hab hb h
  · exact (key hab ha h.symm).symm

/-- the sequence number command `c` gets when the generator starts at `s0` and never has to skip (`s0` need not be
reduced modulo `m`, hence the case `c = 0`) -/
def seqVal (m s0 c : Nat) : Nat := if c = 0 then s0 else (s0 + c) % m

theorem seqVal_succ (m s0 c : Nat) : (seqVal m s0 c + 1) % m = seqVal m s0 (c + 1) := by
  unfold seqVal
  rw [if_neg (Nat.succ_ne_zero c)]
  split
  · subst c; rfl
  · rw [Nat.mod_add_mod, Nat.add_assoc]

theorem seqVal_shift (m s0 c : Nat) : seqVal m ((s0 + 1) % m) c = seqVal m s0 (c + 1) := by
  unfold seqVal
  rw [if_neg (Nat.succ_ne_zero c)]
  split
  · subst c; rfl
  · rw [Nat.mod_add_mod, Nat.add_assoc, Nat.add_comm 1 c]

theorem seqVal_inj {m s0 c c' : Nat} (hc : c < m) (hc' : c' < m)
    (h : seqVal m s0 c = seqVal m s0 c') : c = c' := by
  -- if `s0` itself is one of the residues, it is reduced
  have red : ∀ {d}, s0 = (s0 + d) % m → (s0 + 0) % m = (s0 + d) % m := fun {d} e => by
    have : s0 < m := by rw [e]; exact Nat.mod_lt _ (Nat.zero_lt_of_lt hc)
    rw [Nat.add_zero, Nat.mod_eq_of_lt this]; exact e
  unfold seqVal at h
  split at h <;> split at h
  · rename_i h1 h2; rw [h1, h2]
  · subst c; exact add_mod_inj hc hc' (red h)
  · subst c'; exact (add_mod_inj hc' hc (red h.symm)).symm
  · exact add_mod_inj hc hc' h

theorem hasSeq_iff {outs : List (Nat × Out)} {s : Nat} :
    hasSeq outs s = true ↔ s ∈ outs.map (·.1) := by
  rw [hasSeq, List.any_eq_true, List.mem_map]
  exact exists_congr fun p => and_congr_right fun _ => beq_iff_eq

theorem drawSeq_nohit (m : Nat) (outs : List (Nat × Out)) (fuel ctr : Nat)
    (h : hasSeq outs ctr = false) : drawSeq m outs fuel ctr = (ctr, (ctr + 1) % m) := by
  cases fuel <;> simp [drawSeq, h]

theorem drawSeq_tried (m : Nat) (outs : List (Nat × Out)) (fuel ctr : Nat) :
    hasSeq outs (drawSeq m outs fuel ctr).1 = true → ∀ i, i < fuel → hasSeq outs (seqVal m ctr i) = true := by
  fun_induction drawSeq m outs fuel ctr with
  | case1 ctr => exact fun _ i hi => absurd hi (Nat.not_lt_zero i)
  | case2 fuel ctr hin ih =>
    intro h i hi
    cases i with
    | zero => exact hin
    | succ j => rw [← seqVal_shift]; exact ih h j (Nat.lt_of_succ_lt_succ hi)
  | case3 fuel ctr hin => exact fun h => absurd h hin

-- why `fill` may give `drawSeq` the fuel `modulus`
/-- pigeonhole: `modulus` tries yield `modulus` distinct numbers, more than are outstanding -/
theorem drawSeq_fresh (m : Nat) (outs : List (Nat × Out)) (ctr : Nat)
    (h : outs.length < m) : hasSeq outs (drawSeq m outs m ctr).1 = false := by
  apply Bool.eq_false_iff.mpr
  intro hh
  have ht := drawSeq_tried m outs m ctr hh
  have hnd : ((List.range m).map (seqVal m ctr)).Nodup := by
    rw [List.Nodup, List.pairwise_map]
    exact List.nodup_range.imp_of_mem fun ha hb hab e =>
      hab (seqVal_inj (List.mem_range.mp ha) (List.mem_range.mp hb) e)
  have hsub : (List.range m).map (seqVal m ctr) ⊆ outs.map (·.1) := by
    intro x hx
    obtain ⟨i, hi, rfl⟩ := List.mem_map.mp hx
    exact hasSeq_iff.mp (ht i (List.mem_range.mp hi))
  have := hnd.length_le_of_subset hsub
  simp only [List.length_map, List.length_range] at this
  exact Nat.lt_irrefl _ (Nat.lt_of_le_of_lt this h)

theorem mem_snoc {α : Type} {a b : α} {l : List α} : a ∈ l ++ [b] ↔ a ∈ l ∨ a = b := by
  rw [List.mem_append, List.mem_singleton]

/-- the table of commands in flight is read by `List.lookup` -/
theorem lookupSeq_eq_lookup (outs : List (Nat × Out)) (s : Nat) : lookupSeq outs s = outs.lookup s :=
  (Assoc.lookup_eq_find? s outs).symm

theorem lookup_split {outs : List (Nat × Out)} {s : Nat} {o : Out}
    (hk : (outs.map (·.1)).Nodup) (h : lookupSeq outs s = some o) :
    ∃ l1 l2, outs = l1 ++ (s, o) :: l2 ∧ removeSeq outs s = l1 ++ l2 := by
  obtain ⟨l1, l2, rfl, _⟩ := List.lookup_eq_some_iff.mp (lookupSeq_eq_lookup outs s ▸ h)
  refine ⟨l1, l2, rfl, ?_⟩
  rw [List.map_append, List.map_cons] at hk
  -- the key is in no other entry, so the filter of `removeSeq` drops this entry only
  have hne : ∀ p ∈ l1 ++ l2, (p.1 != s) = true := fun p hp => bne_iff_ne.mpr fun e =>
    (List.nodup_cons.mp (List.perm_middle.nodup_iff.mp hk)).1
      (e ▸ List.map_append ▸ List.mem_map_of_mem (f := (·.1)) hp)
  rw [removeSeq, List.filter_append, List.filter_cons_of_neg (by simp), ← List.filter_append,
    List.filter_eq_self.mpr hne]

theorem lookup_none {outs : List (Nat × Out)} {s : Nat} (h : lookupSeq outs s = none) :
    s ∉ outs.map (·.1) :=
  Assoc.lookup_eq_none_iff.1 (lookupSeq_eq_lookup outs s ▸ h)

/-- the callback for command `c` with datagram `i` is justified: `i` is an OK datagram (satisfying `P`,
e.g. "was in one of the batches") whose sequence number is the one `c` was first sent with -/
def Prov (P : Dgram → Prop) (H : List Ev) (c i : Nat) : Prop :=
  ∃ d, P d ∧ d.id = i ∧ d.rc = rcOk ∧ ∃ t, Ev.send d.seq c 1 t ∈ H

theorem Prov.append {P : Dgram → Prop} {H : List Ev} {c i : Nat} (h : Prov P H c i) (E : List Ev) :
    Prov P (H ++ E) c i := by
  obtain ⟨d, hp, hi, hr, t, ht⟩ := h
  exact ⟨d, hp, hi, hr, t, List.mem_append_left _ ht⟩

/-- an outstanding entry `o` under sequence number `s` agrees with the events `H`: tries within 1..`n_tries`, timeout =
default + the command's extra, the first and the latest transmission are in `H` (the deadline counts from the latest),
no transmission of the command has a higher try number -/
structure OutOK (cfg : Cfg) (l : List Int) (H : List Ev) (s : Nat) (o : Out) : Prop where
  tries_pos : 1 ≤ o.tries
  tries_le : o.tries ≤ cfg.nTries
  timeout_eq : ∃ ex, l[o.cmd]? = some ex ∧ o.timeout = cfg.defaultTimeout + ex
  first : ∃ t, Ev.send s o.cmd 1 t ∈ H
  last : ∃ t, Ev.send s o.cmd o.tries t ∈ H ∧ o.deadline = t + o.timeout
  max : ∀ s' k t, Ev.send s' o.cmd k t ∈ H → k ≤ o.tries

theorem OutOK.extend {cfg : Cfg} {l : List Int} {H E : List Ev} {s : Nat} {o : Out}
    (h : OutOK cfg l H s o) (hE : ∀ s' k t, Ev.send s' o.cmd k t ∉ E) : OutOK cfg l (H ++ E) s o := by
  obtain ⟨h1, h2, h3, ⟨t1, h4⟩, ⟨t2, h5, h5'⟩, h6⟩ := h
  refine ⟨h1, h2, h3, ⟨t1, List.mem_append_left _ h4⟩, ⟨t2, List.mem_append_left _ h5, h5'⟩, ?_⟩
  intro s' k t hm
  rcases List.mem_append.mp hm with hm | hm
  · exact h6 _ _ _ hm
  · exact absurd hm (hE _ _ _)

theorem OutOK.extend_send {cfg : Cfg} {l : List Int} {H : List Ev} {s : Nat} {o : Out}
    (h : OutOK cfg l H s o) {s' c k : Nat} {t : Int} (hc : o.cmd ≠ c) :
    OutOK cfg l (H ++ [Ev.send s' c k t]) s o :=
  h.extend fun _ _ _ hm => by cases List.mem_singleton.mp hm; exact hc rfl

/-- the commands taken so far: called back, waiting in `outstanding_callbacks`, outstanding -/
def cmds (H : List Ev) (pend : List (Nat × Nat)) (outs : List (Nat × Out)) : List Nat :=
  calledOf H ++ pend.map (·.1) ++ outs.map (·.2.cmd)

/-- invariant of the burst loop.  `H`: the events so far; `P`: what is known of every datagram handed to the loop;
`s0`, `ctr`: the sequence counter at the start of the burst and at this point; `next`, `queued`, `outs`, `pend`: the fields
of `St` -/
structure Inv (cfg : Cfg) (l : List Int) (P : Dgram → Prop) (s0 ctr : Nat) (next : Nat) (queued : Bool)
    (outs : List (Nat × Out)) (pend : List (Nat × Nat)) (H : List Ev) : Prop where
  win : outs.length ≤ cfg.window
  keys : (outs.map (·.1)).Nodup
  nodup : (cmds H pend outs).Nodup
  cover : ∀ c, c ∈ cmds H pend outs ↔ c < next
  next_le : next ≤ l.length
  drained : queued = false → next = l.length
  out_ok : ∀ s o, (s, o) ∈ outs → OutOK cfg l H s o
  pend_ok : ∀ c i, (c, i) ∈ pend → Prov P H c i
  cb_ok : ∀ c i, Ev.callback c i ∈ H → Prov P H c i
  send_ok : ∀ s c k t, Ev.send s c k t ∈ H → 1 ≤ k ∧ k ≤ cfg.nTries ∧ c < next
  seq_fix : ∀ s c k t s' k' t', Ev.send s c k t ∈ H → Ev.send s' c k' t' ∈ H → s = s'
  keys_nodup : (sendKeys H).Nodup
  spacing : ∀ s c k t, Ev.send s c (k + 2) t ∈ H →
    ∃ t0, Ev.send s c (k + 1) t0 ∈ H ∧ t0 + (cfg.defaultTimeout + (l[c]?).getD 0) < t
  /-- with at most `modulus` commands the generator never skips: the counter and every
  transmission's sequence number are determined by the command index -/
  ctr_val : l.length ≤ cfg.modulus → ctr = seqVal cfg.modulus s0 next
  seq_val : l.length ≤ cfg.modulus → ∀ s c k t, Ev.send s c k t ∈ H → s = seqVal cfg.modulus s0 c

section transitions
variable {cfg : Cfg} {l : List Int} {P : Dgram → Prop} {s0 ctr next : Nat} {q : Bool}
  {outs : List (Nat × Out)} {pend : List (Nat × Nat)} {H : List Ev}

theorem Inv.init (cfg : Cfg) (l : List Int) (P : Dgram → Prop) (s0 : Nat) :
    Inv cfg l P s0 s0 0 true [] [] [] where
  win := Nat.zero_le _
  keys := List.nodup_nil
  nodup := List.nodup_nil
  cover _ := ⟨fun h => (nomatch h), fun h => (nomatch h)⟩
  next_le := Nat.zero_le _
  drained h := nomatch h
  out_ok _ _ h := nomatch h
  pend_ok _ _ h := nomatch h
  cb_ok _ _ h := nomatch h
  send_ok _ _ _ _ h := nomatch h
  seq_fix _ _ _ _ _ _ _ h := nomatch h
  keys_nodup := List.nodup_nil
  spacing _ _ _ _ h := nomatch h
  ctr_val _ := rfl
  seq_val _ _ _ _ _ h := nomatch h

theorem Inv.cmd_of_out (h : Inv cfg l P s0 ctr next q outs pend H) {s : Nat} {o : Out}
    (hm : (s, o) ∈ outs) : o.cmd ∉ calledOf H ∧ ∀ i, (o.cmd, i) ∉ pend := by
  have hdis := (List.nodup_append.mp h.nodup).2.2
  have hin : o.cmd ∈ outs.map (·.2.cmd) := List.mem_map_of_mem (f := fun p : Nat × Out => p.2.cmd) hm
  exact ⟨fun hc => hdis _ (List.mem_append_left _ hc) _ hin rfl,
    fun i hi => hdis _ (List.mem_append_right _ (List.mem_map_of_mem (f := fun p : Nat × Nat => p.1) hi)) _ hin rfl⟩

theorem Inv.send_new (wf : WF cfg) (h : Inv cfg l P s0 ctr next q outs pend H) (hq : q = true)
    (hlen : outs.length < cfg.window) {ex : Int} (hex : l[next]? = some ex)
    {seq : Nat} (hseq : seq ∉ outs.map (·.1)) (t : Int) {ctr' : Nat}
    (hs : l.length ≤ cfg.modulus →
      seq = seqVal cfg.modulus s0 next ∧ ctr' = seqVal cfg.modulus s0 (next + 1)) :
    Inv cfg l P s0 ctr' (next + 1) q
      (outs ++ [(seq, ⟨next, 1, cfg.defaultTimeout + ex, t + (cfg.defaultTimeout + ex)⟩)])
      pend (H ++ [Ev.send seq next 1 t]) := by
  have hcm : cmds (H ++ [Ev.send seq next 1 t]) pend
      (outs ++ [(seq, ⟨next, 1, cfg.defaultTimeout + ex, t + (cfg.defaultTimeout + ex)⟩)]) =
      cmds H pend outs ++ [next] := by
    simp only [cmds, calledOf_append, List.map_append, List.append_assoc]; rfl
  have hnext : next ∉ cmds H pend outs := fun hm => Nat.lt_irrefl _ ((h.cover next).mp hm)
  have hlt : next < l.length := (List.getElem?_eq_some_iff.mp hex).1
  have hold : ∀ {s c k t'}, Ev.send s c k t' ∈ H → c ≠ next :=
    fun hm => Nat.ne_of_lt (h.send_ok _ _ _ _ hm).2.2
  constructor
  · rw [List.length_append]; exact hlen
  · rw [List.map_append]; exact Lists.nodup_snoc h.keys hseq
  · rw [hcm]; exact Lists.nodup_snoc h.nodup hnext
  · intro c
    rw [hcm, mem_snoc, h.cover]; exact Nat.lt_succ_iff_lt_or_eq.symm
  · exact hlt
  · intro e; rw [hq] at e; cases e
  · intro s o hm
    rcases mem_snoc.mp hm with hm | hm
    · have ho := h.out_ok s o hm
      obtain ⟨t0, ht0⟩ := ho.first
      exact ho.extend_send (hold ht0)
    · cases hm
      refine ⟨Nat.le_refl 1, wf.2.1, ⟨ex, hex, rfl⟩, ⟨t, mem_snoc.mpr (.inr rfl)⟩,
        ⟨t, mem_snoc.mpr (.inr rfl), rfl⟩, ?_⟩
      intro s' k t' hm'
      rcases mem_snoc.mp hm' with hm' | hm'
      · exact absurd rfl (hold hm')
      · cases hm'; exact Nat.le_refl 1
  · exact fun c i hm => (h.pend_ok c i hm).append _
  · intro c i hm
    rcases mem_snoc.mp hm with hm | hm
    · exact (h.cb_ok c i hm).append _
    · cases hm
  · intro s c k t' hm
    rcases mem_snoc.mp hm with hm | hm
    · have := h.send_ok _ _ _ _ hm; exact ⟨this.1, this.2.1, Nat.lt_succ_of_lt this.2.2⟩
    · cases hm; exact ⟨Nat.le_refl 1, wf.2.1, Nat.lt_succ_self _⟩
  · intro s c k t1 s' k' t' hm hm'
    rcases mem_snoc.mp hm with hm | hm <;> rcases mem_snoc.mp hm' with hm' | hm'
    · exact h.seq_fix _ _ _ _ _ _ _ hm hm'
    · cases hm'; exact absurd rfl (hold hm)
    · cases hm; exact absurd rfl (hold hm')
    · cases hm; cases hm'; rfl
  · rw [sendKeys_append]
    refine Lists.nodup_snoc h.keys_nodup fun ha => ?_
    obtain ⟨s, t', hm⟩ := mem_sendKeys ha
    exact hold hm rfl
  · intro s c k t' hm
    rcases mem_snoc.mp hm with hm | hm
    · obtain ⟨t0, h1, h2⟩ := h.spacing _ _ _ _ hm
      exact ⟨t0, List.mem_append_left _ h1, h2⟩
    · cases hm
  · exact fun hl => (hs hl).2
  · intro hl s c k t' hm
    rcases mem_snoc.mp hm with hm | hm
    · exact h.seq_val hl _ _ _ _ hm
    · cases hm; exact (hs hl).1

theorem Inv.callbacks {cfg : Cfg} {l : List Int} {P : Dgram → Prop} {s0 : Nat} {ctr next : Nat} {q : Bool}
    {outs : List (Nat × Out)} {pend : List (Nat × Nat)} {H : List Ev}
    (h : Inv cfg l P s0 ctr next q outs pend H) :
    Inv cfg l P s0 ctr next q outs [] (H ++ pend.map (fun p => Ev.callback p.1 p.2)) := by
  have hcm : cmds (H ++ pend.map (fun p => Ev.callback p.1 p.2)) [] outs = cmds H pend outs := by
    simp only [cmds, calledOf_append, calledOf_callbacks, List.map_nil, List.append_nil]
  have hsend : ∀ {s c k t}, Ev.send s c k t ∈ H ++ pend.map (fun p => Ev.callback p.1 p.2) ↔
      Ev.send s c k t ∈ H := by simp
  constructor
  · exact h.win
  · exact h.keys
  · rw [hcm]; exact h.nodup
  · rw [hcm]; exact h.cover
  · exact h.next_le
  · exact h.drained
  · exact fun s o hm => (h.out_ok s o hm).extend fun _ _ _ hm' => by
      obtain ⟨_, _, e⟩ := List.mem_map.mp hm'; cases e
  · exact fun _ _ hm => nomatch hm
  · intro c i hm
    rcases List.mem_append.mp hm with hm | hm
    · exact (h.cb_ok c i hm).append _
    · obtain ⟨⟨c', i'⟩, hp, e⟩ := List.mem_map.mp hm
      cases e
      exact (h.pend_ok _ _ hp).append _
  · simp only [hsend]; exact h.send_ok
  · simp only [hsend]; exact h.seq_fix
  · rw [sendKeys_append, sendKeys_callbacks, List.append_nil]; exact h.keys_nodup
  · simp only [hsend]; exact h.spacing
  · exact h.ctr_val
  · simp only [hsend]; exact h.seq_val

theorem Inv.recv_ok (h : Inv cfg l P s0 ctr next q outs pend H) {d : Dgram} (hP : P d) (hrc : d.rc = rcOk)
    {o : Out} (hl : lookupSeq outs d.seq = some o) :
    Inv cfg l P s0 ctr next q (removeSeq outs d.seq) (pend ++ [(o.cmd, d.id)]) H := by
  obtain ⟨l1, l2, e1, e2⟩ := lookup_split h.keys hl
  rw [e2]
  subst e1
  -- the command moves from the outstanding part of `cmds` to the pending part
  have hp : (cmds H (pend ++ [(o.cmd, d.id)]) (l1 ++ l2)).Perm (cmds H pend (l1 ++ (d.seq, o) :: l2)) := by
    simp only [cmds, List.map_append, List.map_cons, List.map_nil, List.append_assoc, List.singleton_append]
    exact (List.perm_middle.symm).append_left _ |>.append_left _
  have sub : (l1 ++ l2).Sublist (l1 ++ (d.seq, o) :: l2) :=
    (List.Sublist.refl l1).append (List.sublist_cons_self _ _)
  refine { h with win := Nat.le_trans sub.length_le h.win, keys := (sub.map _).nodup h.keys, nodup := ?_,
                  cover := ?_, out_ok := fun s o' hm => h.out_ok s o' (sub.subset hm), pend_ok := ?_ }
  · exact hp.nodup_iff.mpr h.nodup
  · intro c; rw [hp.mem_iff]; exact h.cover c
  · intro c i hm
    rcases mem_snoc.mp hm with hm | hm
    · exact h.pend_ok c i hm
    · cases hm
      obtain ⟨t, ht⟩ := (h.out_ok d.seq o (List.mem_append_right _ (List.mem_cons_self ..))).first
      exact ⟨d, hP, rfl, hrc, t, ht⟩

theorem Inv.resend {cfg : Cfg} {l : List Int} {P : Dgram → Prop} {s0 : Nat} {ctr next : Nat} {q : Bool}
    {l1 l2 : List (Nat × Out)} {s : Nat} {o : Out} {pend : List (Nat × Nat)} {H : List Ev}
    (h : Inv cfg l P s0 ctr next q (l1 ++ (s, o) :: l2) pend H) {now : Int}
    (hd : o.deadline < now) (ht : o.tries < cfg.nTries) :
    Inv cfg l P s0 ctr next q
      (l1 ++ (s, { o with tries := o.tries + 1, deadline := now + o.timeout }) :: l2) pend
      (H ++ [Ev.send s o.cmd (o.tries + 1) now]) := by
  have hcm : cmds (H ++ [Ev.send s o.cmd (o.tries + 1) now]) pend
      (l1 ++ (s, { o with tries := o.tries + 1, deadline := now + o.timeout }) :: l2) =
      cmds H pend (l1 ++ (s, o) :: l2) := by
    simp only [cmds, calledOf_append, List.map_append, List.map_cons, List.append_assoc]; rfl
  have ho := h.out_ok s o (List.mem_append_right _ (List.mem_cons_self ..))
  obtain ⟨t1, h1⟩ := ho.first
  have hother : ∀ s2 o2, (s2, o2) ∈ l1 ∨ (s2, o2) ∈ l2 → o2.cmd ≠ o.cmd := by
    intro s2 o2 hm e
    have h2 := (List.nodup_append.mp h.nodup).2.1
    rw [List.map_append, List.map_cons] at h2
    apply (List.nodup_cons.mp ((List.perm_middle.nodup_iff).mp h2)).1
    rw [← e]
    exact List.mem_append.mpr (hm.imp (List.mem_map_of_mem (f := fun p : Nat × Out => p.2.cmd))
      (List.mem_map_of_mem (f := fun p : Nat × Out => p.2.cmd)))
  have hprev : ∀ {s' c k t}, Ev.send s' c k t ∈ H ++ [Ev.send s o.cmd (o.tries + 1) now] →
      Ev.send s' c k t ∈ H ∨ (s' = s ∧ c = o.cmd ∧ k = o.tries + 1 ∧ t = now) := fun hm =>
    (mem_snoc.mp hm).imp_right fun e => by cases e; exact ⟨rfl, rfl, rfl, rfl⟩
  constructor
  · have := h.win
    rw [List.length_append, List.length_cons] at this ⊢; exact this
  · have := h.keys
    rw [List.map_append, List.map_cons] at this ⊢; exact this
  · rw [hcm]; exact h.nodup
  · rw [hcm]; exact h.cover
  · exact h.next_le
  · exact h.drained
  · intro s2 o2 hm
    have hold : ∀ s2 o2, (s2, o2) ∈ l1 ∨ (s2, o2) ∈ l2 →
        OutOK cfg l (H ++ [Ev.send s o.cmd (o.tries + 1) now]) s2 o2 := fun s2 o2 hm =>
      (h.out_ok s2 o2 (List.mem_append.mpr (hm.imp_right (List.mem_cons_of_mem _)))).extend_send
        (hother s2 o2 hm)
    rcases List.mem_append.mp hm with hm | hm
    · exact hold _ _ (.inl hm)
    rcases List.mem_cons.mp hm with hm | hm
    · cases hm
      refine ⟨Nat.le_add_left 1 _, ht, ho.timeout_eq, ⟨t1, List.mem_append_left _ h1⟩,
        ⟨now, mem_snoc.mpr (.inr rfl), rfl⟩, ?_⟩
      intro s' k t hm'
      rcases hprev hm' with hm' | ⟨_, _, rfl, _⟩
      · exact Nat.le_succ_of_le (ho.max _ _ _ hm')
      · exact Nat.le_refl _
    · exact hold _ _ (.inr hm)
  · exact fun c i hm => (h.pend_ok c i hm).append _
  · intro c i hm
    rcases mem_snoc.mp hm with hm | hm
    · exact (h.cb_ok c i hm).append _
    · cases hm
  · intro s' c k t hm
    rcases hprev hm with hm | ⟨_, rfl, rfl, _⟩
    · exact h.send_ok _ _ _ _ hm
    · exact ⟨Nat.le_add_left 1 _, ht, (h.send_ok _ _ _ _ h1).2.2⟩
  · intro s1 c k t1 s' k' t' hm hm'
    rcases hprev hm with a | ⟨rfl, rfl, _, _⟩
    · rcases hprev hm' with b | ⟨rfl, rfl, _, _⟩
      · exact h.seq_fix _ _ _ _ _ _ _ a b
      · exact h.seq_fix _ _ _ _ _ _ _ a h1
    · rcases hprev hm' with b | ⟨rfl, _, _, _⟩
      · exact h.seq_fix _ _ _ _ _ _ _ h1 b
      · rfl
  · rw [sendKeys_append]
    refine Lists.nodup_snoc h.keys_nodup fun ha => ?_
    obtain ⟨s', t', hm⟩ := mem_sendKeys ha
    exact Nat.not_succ_le_self _ (ho.max _ _ _ hm)
  · intro s' c k t hm
    rcases hprev hm with hm | ⟨rfl, rfl, hk, rfl⟩
    · obtain ⟨t0, h1, h2⟩ := h.spacing _ _ _ _ hm
      exact ⟨t0, List.mem_append_left _ h1, h2⟩
    · -- the previous try is the one the deadline was computed from
      obtain ⟨t0, h2, h3⟩ := ho.last
      obtain ⟨ex, h4, h5⟩ := ho.timeout_eq
      refine ⟨t0, List.mem_append_left _ (by rw [Nat.add_right_cancel (m := 1) hk]; exact h2), ?_⟩
      rw [h4, Option.getD_some, ← h5, ← h3]; exact hd
  · exact h.ctr_val
  · intro hl s' c k t hm
    rcases hprev hm with hm | ⟨rfl, rfl, _, _⟩
    · exact h.seq_val hl _ _ _ _ hm
    · exact h.seq_val hl _ _ _ _ h1

theorem Inv.draw (h : Inv cfg l P s0 ctr next q outs pend H) (hl : l.length ≤ cfg.modulus)
    (hlt : next < l.length) (fuel : Nat) :
    drawSeq cfg.modulus outs fuel ctr =
      (seqVal cfg.modulus s0 next, seqVal cfg.modulus s0 (next + 1)) := by
  have hc := h.ctr_val hl
  have hno : hasSeq outs ctr = false := by
    apply Bool.eq_false_iff.mpr
    intro hh
    obtain ⟨⟨s, o⟩, hm, hse⟩ := List.mem_map.mp (hasSeq_iff.mp hh)
    obtain ⟨t1, ht1⟩ := (h.out_ok s o hm).first
    have e1 := h.seq_val hl _ _ _ _ ht1
    have e2 := (h.send_ok _ _ _ _ ht1).2.2
    have := seqVal_inj (m := cfg.modulus) (s0 := s0) (c := o.cmd) (c' := next)
      (Nat.lt_of_lt_of_le (Nat.lt_trans e2 hlt) hl) (Nat.lt_of_lt_of_le hlt hl)
      (by rw [← e1, ← hc]; exact hse)
    exact Nat.lt_irrefl _ (this ▸ e2)
  rw [drawSeq_nohit _ _ _ _ hno, hc, seqVal_succ]

theorem pairs_bound (xs : List (Nat × Nat)) (n m : Nat) (nd : xs.Nodup)
    (hx : ∀ p, p ∈ xs → p.1 < n ∧ 1 ≤ p.2 ∧ p.2 ≤ m) : xs.length ≤ n * m := by
  have := nd.length_le_of_subset (l₂ := (List.range n).flatMap fun c => (List.range m).map fun k => (c, k + 1))
    fun p hp => by
      obtain ⟨h1, h2, h3⟩ := hx p hp
      exact List.mem_flatMap.mpr ⟨p.1, List.mem_range.mpr h1, List.mem_map.mpr ⟨p.2 - 1,
        List.mem_range.mpr (Nat.lt_of_lt_of_le (Nat.sub_lt h2 Nat.one_pos) h3),
        Prod.ext rfl (Nat.sub_add_cancel h2)⟩⟩
  simpa [List.length_flatMap, List.map_const', List.sum_replicate_nat] using this

theorem Inv.send_bound (h : Inv cfg l P s0 ctr next q outs pend H) :
    (sendKeys H).length ≤ l.length * cfg.nTries := by
  apply pairs_bound _ _ _ h.keys_nodup
  intro ⟨c, k⟩ hp
  obtain ⟨s, t, hm⟩ := mem_sendKeys hp
  obtain ⟨h1, h2, h3⟩ := h.send_ok _ _ _ _ hm
  exact ⟨Nat.lt_of_lt_of_le h3 h.next_le, h1, h2⟩

end transitions

def SInv (cfg : Cfg) (l : List Int) (P : Dgram → Prop) (s0 : Nat) (st : St) (H : List Ev) : Prop :=
  Inv cfg l P s0 st.seqCtr st.next st.queued st.outs st.pend H

section phases
variable {cfg : Cfg} {l : List Int} {P : Dgram → Prop} {s0 : Nat} {clock : Nat → Int}

theorem fill_inv (wf : WF cfg) (fuel : Nat) (st : St) : ∀ H, SInv cfg l P s0 st H →
    SInv cfg l P s0 (fill cfg (ext l) clock fuel st).1 (H ++ (fill cfg (ext l) clock fuel st).2) := by
  fun_induction fill cfg (ext l) clock fuel st with
  | case1 st => intro H h; rwa [List.append_nil]
  | case2 fuel st hc hn ih =>
    intro H h
    exact ih H { h with drained := fun _ => Nat.le_antisymm h.next_le (List.getElem?_eq_none_iff.mp hn) }
  | case3 fuel st hc ex hex seq ctr hd t to o st' st'' evs hf ih =>
    intro H h
    rw [hf] at ih
    have hfresh : seq ∉ st.outs.map (·.1) := fun hm => by
      have := drawSeq_fresh cfg.modulus st.outs st.seqCtr (Nat.lt_trans hc.1 wf.2.2)
      rw [hd] at this
      exact Bool.false_ne_true (this.symm.trans (hasSeq_iff.mpr hm))
    have := ih (H ++ [Ev.send seq st.next 1 t]) (h.send_new wf hc.2 hc.1 hex hfresh t fun hl => by
      have := h.draw hl (List.getElem?_eq_some_iff.mp hex).1 cfg.modulus
      rw [hd] at this; cases this; exact ⟨rfl, rfl⟩)
    rwa [List.append_assoc] at this
  | case4 fuel st hc => intro H h; rwa [List.append_nil]

variable {ctr next : Nat} {q : Bool} {H : List Ev}

theorem recv_inv (batch : List Dgram) (outs : List (Nat × Out)) (pend : List (Nat × Nat)) :
    (∀ d ∈ batch, P d) → Inv cfg l P s0 ctr next q outs pend H →
      ∀ outs' pend', recvAll batch outs pend = .ok outs' pend' → Inv cfg l P s0 ctr next q outs' pend' H := by
  fun_induction recvAll batch outs pend with
  | case1 outs pend => intro _ h outs' pend' he; cases he; exact h
  | case2 d ds outs pend hrc hret ih => exact fun hP => ih (List.forall_mem_cons.mp hP).2
  | case3 d ds outs pend hrc hret => intro _ _ _ _ he; cases he
  | case4 d ds outs pend hrc o ho ih =>
    exact fun hP h => ih (List.forall_mem_cons.mp hP).2
      (h.recv_ok (hP d (List.mem_cons_self ..)) (by simpa using hrc) ho)
  | case5 d ds outs pend hrc hno ih => exact fun hP => ih (List.forall_mem_cons.mp hP).2

theorem recv_fatal (batch : List Dgram) (outs : List (Nat × Out)) (pend : List (Nat × Nat)) :
    ∀ rc c, recvAll batch outs pend = .fatal rc c →
      ∃ d, d ∈ batch ∧ d.rc = rc ∧ rc ≠ rcOk ∧ rc ∉ retryable := by
  fun_induction recvAll batch outs pend with
  | case1 outs pend => intro _ _ he; cases he
  | case3 d ds outs pend hrc hret =>
    intro rc c he; cases he
    exact ⟨d, List.mem_cons_self .., rfl, by simpa using hrc, by simpa using hret⟩
  | case2 d ds outs pend _ _ ih | case4 d ds outs pend _ _ _ ih | case5 d ds outs pend _ _ ih =>
    intro rc c he
    obtain ⟨d', hd', h⟩ := ih rc c he
    exact ⟨d', List.mem_cons_of_mem _ hd', h⟩

theorem retrans_inv {pend : List (Nat × Nat)} {now : Int} (rest : List (Nat × Out)) :
    ∀ pre H, Inv cfg l P s0 ctr next q (pre ++ rest) pend H →
      Inv cfg l P s0 ctr next q (pre ++ (retrans cfg.nTries now rest).1) pend
        (H ++ (retrans cfg.nTries now rest).2.1) := by
  fun_induction retrans cfg.nTries now rest with
  | case1 => intro pre H h; simpa using h
  | case2 s o rest hdl htr => intro pre H h; rwa [List.append_nil]
  | case3 s o rest hdl htr o' rest' evs r hr ih =>
    intro pre H h
    rw [hr] at ih
    have := ih (pre ++ [(s, o')]) (H ++ [Ev.send s o.cmd (o.tries + 1) now])
      (by rw [List.append_assoc]; exact h.resend hdl (Nat.lt_of_not_le htr))
    rwa [List.append_assoc, List.append_assoc] at this
  | case4 s o rest hdl rest' evs r hr ih =>
    intro pre H h
    rw [hr] at ih
    have := ih (pre ++ [(s, o)]) H (by rwa [List.append_assoc])
    rwa [List.append_assoc] at this

theorem retrans_timeout (n : Nat) (now : Int) (outs : List (Nat × Out)) :
    ∀ c, (retrans n now outs).2.2 = some c →
      ∃ s o, (s, o) ∈ (retrans n now outs).1 ∧ o.cmd = c ∧ n ≤ o.tries := by
  fun_induction retrans n now outs with
  | case1 => intro c hc; cases hc
  | case2 s o rest hdl htr => intro c hc; cases hc; exact ⟨s, o, List.mem_cons_self .., rfl, htr⟩
  | case3 s o rest _ _ o' rest' evs r hr ih | case4 s o rest _ rest' evs r hr ih =>
    intro c hc
    rw [hr] at ih
    obtain ⟨s', o', hm, h3⟩ := ih c hc
    exact ⟨s', o', List.mem_cons_of_mem _ hm, h3⟩

end phases

/-- the state in which the iteration that starts in `st` calls `recv` (`time.time()` for the `select`
timeout is read only when something is outstanding) -/
def atRecv (cfg : Cfg) (extra : Nat → Option Int) (clock : Nat → Int) (st : St) : St :=
  let st1 := afterFill cfg extra clock st
  { st1 with pend := [], k := if st1.outs.isEmpty then st1.k else st1.k + 1 }

def evsToRecv (cfg : Cfg) (extra : Nat → Option Int) (clock : Nat → Int) (st : St) : List Ev :=
  (fill cfg extra clock (cfg.window + 1) st).2 ++
    (afterFill cfg extra clock st).pend.map (fun p => Ev.callback p.1 p.2)

theorem iter_eq (cfg : Cfg) (extra : Nat → Option Int) (clock : Nat → Int) (st : St) (b : List Dgram) :
    iter cfg extra clock st b =
      match recvAll b (atRecv cfg extra clock st).outs [] with
      | .fatal rc c => (atRecv cfg extra clock st, evsToRecv cfg extra clock st, some (.fatal rc c))
      | .ok outs pend =>
        let rt := retrans cfg.nTries (clock (atRecv cfg extra clock st).k) outs
        ({ atRecv cfg extra clock st with k := (atRecv cfg extra clock st).k + 1, outs := rt.1, pend := pend },
          evsToRecv cfg extra clock st ++ rt.2.1, rt.2.2.map .timeout) := by
  unfold iter atRecv evsToRecv afterFill
  rcases fill cfg extra clock (cfg.window + 1) st with ⟨st1, ev1⟩
  -- the model bumps `k` by replacing the state, `atRecv` inside the field
  have e : (if ({ st1 with pend := [] } : St).outs.isEmpty = true then ({ st1 with pend := [] } : St)
      else { ({ st1 with pend := [] } : St) with k := ({ st1 with pend := [] } : St).k + 1 }) =
      { st1 with pend := [], k := if st1.outs.isEmpty then st1.k else st1.k + 1 } := by
    cases st1.outs.isEmpty <;> rfl
  simp only [e]
  cases recvAll b st1.outs [] with
  | fatal rc c => rfl
  | ok outs pend =>
    simp only
    split <;> rename_i h <;> simp only [h, Option.map_some, Option.map_none]

theorem not_active_iff (st : St) : st.active = false ↔ st.queued = false ∧ st.outs = [] ∧ st.pend = [] := by
  simp only [St.active, Bool.or_eq_false_iff, Bool.not_eq_false', List.isEmpty_iff, and_assoc]

/-- what a result says about the state it comes with and the datagrams `ds` received up to then -/
def Outcome (cfg : Cfg) (ds : List Dgram) (st : St) : Res → Prop
  | .done => st.active = false
  | .timeout c => ∃ s o, (s, o) ∈ st.outs ∧ o.cmd = c ∧ cfg.nTries ≤ o.tries
  | .fatal rc _ => ∃ d, d ∈ ds ∧ d.rc = rc ∧ rc ≠ rcOk ∧ rc ∉ retryable
  | .exhausted => True

theorem Outcome.mono {cfg : Cfg} {ds ds' : List Dgram} {st : St} {r : Res} (h : Outcome cfg ds st r)
    (sub : ∀ d, d ∈ ds → d ∈ ds') : Outcome cfg ds' st r := by
  cases r with
  | fatal rc c => obtain ⟨d, hd, h⟩ := h; exact ⟨d, sub d hd, h⟩
  | _ => exact h

section run
variable {cfg : Cfg} {l : List Int} {P : Dgram → Prop} {s0 : Nat} {clock : Nat → Int}

theorem iter_outcome (cfg : Cfg) (extra : Nat → Option Int) (clock : Nat → Int) (st : St) (b : List Dgram)
    {r : Res} : (iter cfg extra clock st b).2.2 = some r →
      Outcome cfg b (iter cfg extra clock st b).1 r ∧ r ≠ .exhausted := by
  rw [iter_eq]
  split
  · next rc c hrecv =>
    intro h; cases h
    exact ⟨recv_fatal _ _ _ _ _ hrecv, nofun⟩
  · next outs pend hrecv =>
    intro h
    obtain ⟨c, hc, rfl⟩ := Option.map_eq_some_iff.mp h
    exact ⟨retrans_timeout _ _ _ c hc, nofun⟩

theorem iter_inv (wf : WF cfg) {st : St} {H : List Ev} {b : List Dgram}
    (hb : ∀ d, d ∈ b → P d) (h : SInv cfg l P s0 st H) :
    SInv cfg l P s0 (iter cfg (ext l) clock st b).1 (H ++ (iter cfg (ext l) clock st b).2.1) := by
  have h3 : SInv cfg l P s0 (atRecv cfg (ext l) clock st) (H ++ evsToRecv cfg (ext l) clock st) := by
    rw [evsToRecv, ← List.append_assoc]
    exact (fill_inv wf _ _ _ h).callbacks
  rw [iter_eq]
  split
  · exact h3
  · next outs pend hrecv =>
    have := retrans_inv (now := clock (atRecv cfg (ext l) clock st).k) outs [] _
      (recv_inv _ _ _ hb h3 _ _ hrecv)
    rw [List.nil_append, List.append_assoc] at this
    exact this

theorem run_outcome (cfg : Cfg) (extra : Nat → Option Int) (clock : Nat → Int) (st : St)
    (bs : List (List Dgram)) :
    Outcome cfg bs.flatten (run cfg extra clock st bs).1 (run cfg extra clock st bs).2.2 := by
  fun_induction run cfg extra clock st bs with
  | case1 st => split <;> simp_all [Outcome]
  | case2 st b bs hact st' evs r hi =>
    have := (iter_outcome cfg extra clock st b (r := r) (by rw [hi])).1
    rw [hi] at this
    exact this.mono fun d hd => List.mem_flatten.mpr ⟨b, List.mem_cons_self .., hd⟩
  | case3 st b bs hact st' evs hi st'' evs' r hr ih =>
    rw [hr] at ih
    exact ih.mono fun d hd => by rw [List.flatten_cons]; exact List.mem_append_right _ hd
  | case4 st b bs hna => simpa [Outcome] using hna

theorem run_inv (wf : WF cfg) (st : St) (bs : List (List Dgram)) :
    ∀ H, (∀ b, b ∈ bs → ∀ d, d ∈ b → P d) → SInv cfg l P s0 st H →
      SInv cfg l P s0 (run cfg (ext l) clock st bs).1 (H ++ (run cfg (ext l) clock st bs).2.1) := by
  fun_induction run cfg (ext l) clock st bs with
  | case1 st => intro H _ h; rwa [List.append_nil]
  | case2 st b bs hact st' evs r hi =>
    intro H hP h
    have := iter_inv (clock := clock) wf (hP b (List.mem_cons_self ..)) h
    rwa [hi] at this
  | case3 st b bs hact st' evs hi st'' evs' r hr ih =>
    intro H hP h
    have h1 := iter_inv (clock := clock) wf (hP b (List.mem_cons_self ..)) h
    rw [hi] at h1
    have := ih _ (fun b' hb' => hP b' (List.mem_cons_of_mem _ hb')) h1
    rw [hr] at this
    rwa [List.append_assoc] at this
  | case4 st b bs hna => intro H _ h; rwa [List.append_nil]

theorem reach_inv (wf : WF cfg) {st : St}
    (hr : Reach cfg l clock st) : ∃ s0 H, SInv cfg l (fun _ => True) s0 st H := by
  induction hr with
  | init s0 => exact ⟨s0, [], Inv.init cfg l _ s0⟩
  | step st b _ hact hnone ih =>
    obtain ⟨s0, H, hH⟩ := ih
    exact ⟨s0, _, iter_inv wf (fun _ _ => trivial) hH⟩

theorem run_top (wf : WF cfg) {s0 : Nat}
    {batches : List (List Dgram)} {st : St} {evs : List Ev} {res : Res}
    (hrun : run cfg (ext l) clock (St.init s0) batches = (st, evs, res)) :
    SInv cfg l (fun d => d ∈ batches.flatten) s0 st evs ∧ Outcome cfg batches.flatten st res := by
  have h1 := run_inv (P := fun d => d ∈ batches.flatten) (clock := clock) wf (St.init s0) batches []
    (fun b hb d hd => List.mem_flatten.mpr ⟨b, hb, hd⟩) (Inv.init cfg l _ s0)
  have h2 := run_outcome cfg (ext l) clock (St.init s0) batches
  rw [hrun] at h1 h2
  exact ⟨h1, h2⟩

end run

theorem ext_chunkTimeouts (chunks : List C07.Chunk) :
    (fun i => (chunkTimeouts chunks)[i]?) = ext (chunkTimeouts chunks) := rfl

theorem chunkTimeouts_length (chunks : List C07.Chunk) : (chunkTimeouts chunks).length = chunks.length := by
  simp [chunkTimeouts]

theorem assembleRead_fold (chunks : List C07.Chunk) (payload : Nat → List Nat) (base : Nat) (m : C07.Mem) :
    ∀ (evs : List Ev) (buffer : C07.Mem),
      (∀ c i, Ev.callback c i ∈ evs → ∃ ch, chunks[c]? = some ch ∧ payload i = C07.readMem m ch.addr ch.size) →
      assembleRead chunks payload base evs buffer =
        some (((calledOf evs).filterMap (chunks[·]?)).foldl (C07.placeReply m base) buffer) := by
  intro evs
  induction evs with
  | nil => intro buffer _; rfl
  | cons e evs ih =>
    intro buffer h
    have h' : ∀ c i, Ev.callback c i ∈ evs →
        ∃ ch, chunks[c]? = some ch ∧ payload i = C07.readMem m ch.addr ch.size :=
      fun c i hm => h c i (List.mem_cons_of_mem _ hm)
    cases e with
    | send s c k t => exact ih buffer h'
    | callback c i =>
      obtain ⟨ch, hch, hp⟩ := h c i (List.mem_cons_self ..)
      have hl : (payload i).length = ch.size := by rw [hp]; simp [C07.readMem]
      simp only [assembleRead, hch, storeReply, hl, if_true, calledOf, List.filterMap_cons,
        List.foldl_cons]
      rw [hp]
      exact ih _ h'

end Rig.C06
