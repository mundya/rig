/-
C05 - translator tie.  `slices_overlap`, `align` (rig/place_and_route/allocate/utils.py) and the whole of `allocate`
(rig/place_and_route/allocate/greedy.py) are regenerated from the source into `Gen/PyFun.lean` on every run.  Proved
equal to the model's functions here: `slices_overlap`, `align`,
the allocation of one resource (`gen_allocOne`) and the tables (`gen_collect`, `gen_tables`); the outer loops are in
`C05GenTop`, the grouping in `C05Group`, `allocate` in `C05GenAllocate`.
-/
import RigModel.Model.C05
import RigModel.Lemmas.C05
import RigModel.Gen.PyFun
import RigModel.Lemmas.PyDict
import RigModel.Lemmas.PyCast

namespace Rig.C05
open Rig.Gen Rig.PyDict Rig.PyLoops
open Rig.Gen.PyFun (pyWhile pyDictGetD pyDictSet pyDictMod pyOptGet)

section
set_option linter.unusedSimpArgs false
set_option linter.unusedTactic false
set_option linter.unreachableTactic false

/-- `slices_overlap` as written in the source = the model -/
theorem gen_slices_overlap (a b : Slice) :
    PyFun.slices_overlap (a.start, a.stop) (b.start, b.stop) = slicesOverlap a b := by
  -- the generated body follows the source text: `rfl` on the source as it is; the second alternative proves the same
  -- equation when a harmless rewrite of the source (operand order, the comparison turned round) has changed its shape
  first
  | rfl
  | (unfold PyFun.slices_overlap slicesOverlap; exact decide_eq_decide.mpr (by omega))

/-- `align` as written in the source = the model -/
theorem gen_align (value alignment : Int) : PyFun.align value alignment = align value alignment := by
  simp only [PyFun.align, align, py_ac]

def encS (s : Slice) : Int × Int := (s.start, s.stop)

/-- the pointers of the other resources are untouched -/
def OffEq (res : Nat) (rp rp' : List (Nat × Int)) : Prop := ∀ r, r ≠ res → rp'.lookup r = rp.lookup r

theorem OffEq.refl (res : Nat) (rp : List (Nat × Int)) : OffEq res rp rp := fun _ _ => rfl
theorem OffEq.trans {res : Nat} {a b c : List (Nat × Int)} (h1 : OffEq res a b) (h2 : OffEq res b c) : OffEq res a c :=
  fun r hr => (h2 r hr).trans (h1 r hr)
theorem OffEq.set (res : Nat) (rp : List (Nat × Int)) (v : Int) : OffEq res rp (pyDictSet rp res v) :=
  fun _ hr => lookup_pyDictSet_ne rp v hr

/-- the overlap test of the scans, whichever way round the two ranges are passed -/
theorem so_eq (pv : Int × Int) (r : Slice) :
    PyFun.slices_overlap pv (encS r) = slicesOverlap ⟨pv.1, pv.2⟩ r :=
  gen_slices_overlap ⟨pv.1, pv.2⟩ r

theorem so_eq' (pv : Int × Int) (r : Slice) :
    PyFun.slices_overlap (encS r) pv = slicesOverlap ⟨pv.1, pv.2⟩ r := by
  refine (gen_slices_overlap r ⟨pv.1, pv.2⟩).trans ?_
  unfold slicesOverlap
  rw [Int.max_comm, Int.min_comm]

/-- one step of a reservation scan, as the model's `scan` does it on the pointer dict -/
def ScanStep (res : Nat) (pv : Int × Int)
    (F : List (Nat × Int) × Bool → Int × Int → List (Nat × Int) × Bool) : Prop :=
  ∀ (rp : List (Nat × Int)) (b : Bool) (r : Slice),
    F (rp, b) (encS r) = if slicesOverlap ⟨pv.1, pv.2⟩ r then (pyDictSet rp res r.stop, true) else (rp, b)

/-- body of `for reservation in globally_reserved[resource]` -/
theorem loop7_step (res : Nat) (pv : Int × Int) : ScanStep res pv (PyFun.allocate_loop7 res pv) := by
  intro rp b r
  unfold PyFun.allocate_loop7
  simp only [so_eq, so_eq']
  split <;> simp_all [encS]

/-- body of `for reservation in local_reservations` -/
theorem loop8_step (res : Nat) (pv : Int × Int) : ScanStep res pv (PyFun.allocate_loop8 res pv) := by
  intro rp b r
  unfold PyFun.allocate_loop8
  simp only [so_eq, so_eq']
  split <;> simp_all [encS]

theorem gen_scan (res : Nat) (pv : Int × Int)
    (F : List (Nat × Int) × Bool → Int × Int → List (Nat × Int) × Bool) (hF : ScanStep res pv F) :
    ∀ (rs : List Slice) (rp : List (Nat × Int)) (p : Int) (b : Bool),
    rp.lookup res = some p →
    ∃ rp', List.foldl F (rp, b) (rs.map encS)
        = (rp', (scan ⟨pv.1, pv.2⟩ rs (p, b)).2) ∧
      rp'.lookup res = some (scan ⟨pv.1, pv.2⟩ rs (p, b)).1 ∧ OffEq res rp rp' := by
  intro rs
  induction rs with
  | nil => intro rp p b h; exact ⟨rp, rfl, h, OffEq.refl _ _⟩
  | cons r rs ih =>
    intro rp p b h
    simp only [List.map_cons, List.foldl_cons, hF rp b r, scan]
    by_cases ho : slicesOverlap ⟨pv.1, pv.2⟩ r = true
    · simp only [ho, if_true]
      obtain ⟨rp', h1, h2, h3⟩ := ih (pyDictSet rp res r.stop) r.stop true (lookup_pyDictSet_self _ _ _)
      exact ⟨rp', h1, h2, (OffEq.set res rp r.stop).trans h3⟩
    · simp only [ho, Bool.false_eq_true, if_false]
      exact ih rp p b h

abbrev RetTy := Option (Except String (List (Nat × List (Nat × Option (Int × Int)))))
/-- break flag, pending exception, `proposed_allocation`, `proposal_overlaps`, `resource_pointers` -/
abbrev WSt := Bool × RetTy × Option (Int × Int) × Bool × List (Nat × Int)

/-- one iteration of the `while` loop, on a pointer dict that knows the resource, a live chip and a known resource -/
theorem loop6_step (mget : (Int × Int) → Except String (List (Nat × Int))) (G : List (Nat × List (Int × Int)))
    (L : List ((Int × Int) × List (Nat × List (Int × Int)))) (A : List (Nat × Int)) (xy : Int × Int) (res : Nat)
    (d : Int) (brk : Bool) (ret : RetTy) (pa : Option (Int × Int)) (po : Bool) (rp : List (Nat × Int))
    (p cap : Int) (caps : List (Nat × Int))
    (hp : rp.lookup res = some p) (hm : mget xy = .ok caps) (hc : caps.lookup res = some cap) :
    PyFun.allocate_loop6 mget G L A xy res d (brk, ret, pa, po, rp) =
      let start := align p (pyDictGetD A res 1)
      if start + d > cap then
        (true, some (.error "InsufficientResourceError"), some (start, start + d), false, rp)
      else
        let s2 := List.foldl (PyFun.allocate_loop8 res (start, start + d))
          (List.foldl (PyFun.allocate_loop7 res (start, start + d)) (rp, false) (pyDictGetD G res []))
          (pyDictGetD (pyDictGetD L xy []) res [])
        (false, none, some (start, start + d), s2.2, s2.1) := by
  unfold PyFun.allocate_loop6
  -- `Int.add_comm d`, `gt_iff_lt`: normalise `requirement + start` and `cap < stop`, should the source be
  -- written that way (greedy.py has `start + requirement` and `stop > cap`)
  simp only [pyDictGet_eq, hp, hm, hc, gen_align, Int.add_comm d, gt_iff_lt]

end

-- not by `pyWhile_sim`: that speaks of sufficient fuel only, this of every fuel
/-- the `while` loop = the model's `proposeLoop`, for every fuel (the same on both sides) -/
theorem gen_propose (mget : (Int × Int) → Except String (List (Nat × Int))) (G : List (Nat × List (Int × Int)))
    (L : List ((Int × Int) × List (Nat × List (Int × Int)))) (A : List (Nat × Int)) (xy : Int × Int) (res : Nat)
    (d cap : Int) (caps : List (Nat × Int)) (g l : List Slice)
    (hm : mget xy = .ok caps) (hc : caps.lookup res = some cap)
    (hg : pyDictGetD G res [] = g.map encS) (hl : pyDictGetD (pyDictGetD L xy []) res [] = l.map encS) :
    ∀ (f : Nat) (p : Int) (rp : List (Nat × Int)) (pa : Option (Int × Int)), rp.lookup res = some p →
      (∀ start, proposeLoop (pyDictGetD A res 1) cap d g l f p = .ok start →
        ∃ rp', pyWhile PyFun.allocate_loop6_cond (PyFun.allocate_loop6 mget G L A xy res d) f
            ((false, none, pa, true, rp) : WSt) = some (false, none, some (start, start + d), false, rp') ∧
          OffEq res rp rp') ∧
      (proposeLoop (pyDictGetD A res 1) cap d g l f p = .error .insufficient →
        ∃ pa' po' rp', pyWhile PyFun.allocate_loop6_cond (PyFun.allocate_loop6 mget G L A xy res d) f
            ((false, none, pa, true, rp) : WSt) = some (true, some (.error "InsufficientResourceError"), pa', po', rp')) ∧
      (proposeLoop (pyDictGetD A res 1) cap d g l f p = .error .fuel →
        pyWhile PyFun.allocate_loop6_cond (PyFun.allocate_loop6 mget G L A xy res d) f
            ((false, none, pa, true, rp) : WSt) = none) := by
  intro f
  induction f with
  | zero => exact fun p rp pa hp => ⟨fun _ h => (by cases h), fun h => (by cases h), fun _ => rfl⟩
  | succ f ih =>
    intro p rp pa hp
    rw [proposeLoop_succ, pyWhile_step rfl,
      loop6_step mget G L A xy res d false none pa true rp p cap caps hp hm hc, hg, hl]
    generalize align p (pyDictGetD A res 1) = start
    dsimp only
    by_cases hcap : start + d > cap
    · rw [if_pos hcap, if_pos hcap]
      exact ⟨fun _ h => (by cases h), fun _ => ⟨_, _, _, pyWhile_stop rfl _⟩, fun h => (by cases h)⟩
    · rw [if_neg hcap, if_neg hcap]
      obtain ⟨rp1, e1, k1, o1⟩ := gen_scan res (start, start + d) _ (loop7_step _ _) g rp p false hp
      rcases hsg : scan ⟨start, start + d⟩ g (p, false) with ⟨q, b⟩
      rw [hsg] at e1 k1
      obtain ⟨rp2, e2, k2, o2⟩ := gen_scan res (start, start + d) _ (loop8_step _ _) l rp1 q b k1
      rcases hsl : scan ⟨start, start + d⟩ l (q, b) with ⟨q2, b2⟩
      rw [hsl] at e2 k2
      rw [e1, e2]
      dsimp only
      cases b2 with
      | false =>
        rw [if_neg Bool.false_ne_true]
        refine ⟨fun _ h => ?_, fun h => (by cases h), fun h => (by cases h)⟩
        cases h
        exact ⟨rp2, pyWhile_stop rfl _, o1.trans o2⟩
      | true =>
        rw [if_pos rfl]
        obtain ⟨i1, i2, i3⟩ := ih q2 rp2 (some (start, start + d)) k2
        exact ⟨fun _ h => let ⟨rp', w1, w2⟩ := i1 _ h; ⟨rp', w1, (o1.trans o2).trans w2⟩, i2, i3⟩

def allocOneF (fuel : Nat) (inp : Input) (xy : Chip) (v : Vertex) (res : Res) (d : Int) (ptrs : Ptrs) :
    Except Err (Ptrs × Entry) :=
  if !(inp.machine.chipResources.any (·.1 == res)) then .error .keyError else
  let a := alignment inp.constraints res
  if a = 0 then .error .zeroDivision else
  match inp.machine.get xy with
  | none => .error .indexError
  | some rsrc =>
    match rsrc.lookup res with
    | none => .error .keyError
    | some cap =>
      match proposeLoop a cap d (globalRes inp.constraints res) (localRes inp.constraints xy res) fuel (ptrs res) with
      | .error .insufficient => .error (.insufficient res xy)
      | .error .fuel => .error .fuel
      | .ok start =>
        .ok (setPtr ptrs res (start + d), ⟨v, xy, res, d, ⟨start, start + d⟩⟩)

def errName : Err → String
  | .insufficient _ _ => "InsufficientResourceError"
  | .keyError => "KeyError"
  | .indexError => "IndexError"
  | .zeroDivision => "ZeroDivisionError"
  | .fuel => "fuel"

/-- `machine[xy]` as the generated definition sees it -/
def mgetOf (m : Machine) : Int × Int → Except String (List (Nat × Int)) :=
  fun xy => match m.get xy with
    | some r => .ok r
    | none => .error "IndexError"

/-- the three dicts built from the constraints hold what the model reads off the constraint list -/
structure Tables (inp : Input) (G : List (Nat × List (Int × Int)))
    (L : List ((Int × Int) × List (Nat × List (Int × Int)))) (A : List (Nat × Int)) : Prop where
  g : ∀ res, pyDictGetD G res [] = (globalRes inp.constraints res).map encS
  l : ∀ xy res, pyDictGetD (pyDictGetD L xy []) res [] = (localRes inp.constraints xy res).map encS
  a : ∀ res, pyDictGetD A res 1 = alignment inp.constraints res

/-- `resource_pointers` (a dict with the keys of `machine.chip_resources`) against the model's pointer function -/
def Rel (cr : List (Res × Int)) (rp : List (Nat × Int)) (ptrs : Ptrs) : Prop :=
  ∀ r, rp.lookup r = if cr.any (·.1 == r) then some (ptrs r) else none

theorem allocOneF_eq (fuel : Nat) (inp : Input) (xy : Chip) (v : Vertex) (res : Res) (d : Int) (ptrs : Ptrs) :
    allocOneF fuel inp xy v res d ptrs = allocOneBy (fun _ => fuel) inp xy v res d ptrs := by
  unfold allocOneF allocOneBy capOf
  cases inp.machine.chipResources.any (·.1 == res)
  · rfl
  · by_cases ha : alignment inp.constraints res = 0
    · simp only [ha, if_true]; rfl
    · simp only [ha, if_false]
      cases inp.machine.get xy with
      | none => rfl
      | some rsrc => dsimp only; cases rsrc.lookup res <;> rfl

theorem Rel.set {cr : List (Res × Int)} {rp rp' : List (Nat × Int)} {ptrs : Ptrs} {res : Res}
    (hr : Rel cr rp ptrs) (hk : cr.any (·.1 == res) = true) (off : OffEq res rp rp') (p : Int) :
    Rel cr (pyDictSet rp' res p) (setPtr ptrs res p) := by
  intro r
  unfold setPtr
  by_cases hrr : r = res
  · subst hrr; rw [lookup_pyDictSet_self, hk, if_pos rfl, if_pos rfl]
  · rw [lookup_pyDictSet_ne _ _ hrr, off r hrr, hr r, if_neg hrr]

/-- an iteration of the `while` loop in which one of the lookups before the proposal fails (missing pointer,
dead chip, resource unknown to the chip) breaks out with the exception the model reports -/
theorem loop6_error {inp : Input} (G L A) {xy : Chip} {res : Res} (d brk ret pa po) {rp : List (Nat × Int)}
    {ptrs : Ptrs} {err : Err} (hr : Rel inp.machine.chipResources rp ptrs)
    (hA : alignment inp.constraints res ≠ 0) (h : capOf inp xy res = .error err) :
    ∃ pa' po', PyFun.allocate_loop6 (mgetOf inp.machine) G L A xy res d (brk, ret, pa, po, rp) =
      (true, some (.error (errName err)), pa', po', rp) := by
  unfold capOf at h
  unfold PyFun.allocate_loop6 mgetOf
  simp only [pyDictGet_eq, hr res]
  revert h
  cases inp.machine.chipResources.any (·.1 == res)
  · intro h
    change Except.error Err.keyError = _ at h
    cases h; exact ⟨_, _, rfl⟩
  · intro h
    change (if _ then _ else _) = _ at h
    rw [if_neg hA] at h
    rw [if_pos rfl]
    revert h
    cases inp.machine.get xy with
    | none => intro h; cases h; exact ⟨_, _, rfl⟩
    | some caps =>
      dsimp only
      cases caps.lookup res with
      | none => intro h; cases h; exact ⟨_, _, rfl⟩
      | some cap => intro h; cases h

abbrev VA := List (Nat × Option (Int × Int))

theorem loop5_unfold (mget fuel G L A xy rp) (va : VA) (res d) :
    ∃ vaE : VA, PyFun.allocate_loop5 mget fuel G L A xy (false, none, rp, va) (res, d) =
      match pyWhile PyFun.allocate_loop6_cond (PyFun.allocate_loop6 mget G L A xy res d) fuel
          ((false, none, none, true, rp) : WSt) with
      | none => (true, some (.error "fuel"), rp, va)
      | some (_, some r, _, _, rp') => (true, some r, rp', va)
      | some (_, none, pa, _, rp') =>
        match pyOptGet pa with
        | .error e => (true, some (.error e), rp', vaE)   -- unreachable (`proposed_allocation` is a slice here)
        | .ok t => (false, none, pyDictSet rp' res t.2, pyDictSet va res pa) := by
  -- `vaE` is read off the generated body: it depends on which of the two last statements of the loop body comes
  -- first in the source
  apply Exists.intro
  unfold PyFun.allocate_loop5
  simp only [Bool.false_eq_true, if_false]
  generalize pyWhile PyFun.allocate_loop6_cond _ fuel _ = w
  rcases w with _ | ⟨b, r, pa, po, rp'⟩
  · rfl
  · cases r with
    | some r => rfl
    | none => cases pa <;> dsimp only <;> rfl

theorem tie {α : Type} {x : Except Err α} {P : α → Prop} {Q : Err → Prop} (s : Except.Sat Q P x) :
    (∀ a, x = .ok a → P a) ∧ ∀ e, x = .error e → Q e :=
  ⟨fun _ => s.ok, fun _ => s.error⟩

theorem tie' {α β : Type} {x : Except Err (α × β)} {P : α → β → Prop} {Q : Err → Prop}
    (s : Except.Sat Q (fun r => P r.1 r.2) x) : (∀ a b, x = .ok (a, b) → P a b) ∧ ∀ e, x = .error e → Q e :=
  ⟨fun _ _ => s.ok, fun _ => s.error⟩

/-- `hf`: with fuel 0 the generated body reports `"fuel"` before any lookup, the model the failing lookup first;
`hA`: the generated `align` by 0 returns 0, it does not raise -/
theorem gen_allocOne {inp : Input} {G : List (Nat × List (Int × Int))}
    {L : List ((Int × Int) × List (Nat × List (Int × Int)))} {A : List (Nat × Int)} (T : Tables inp G L A)
    (hA : ∀ res, alignment inp.constraints res ≠ 0) (fuel : Nat) (hf : 0 < fuel) (xy : Chip) (v : Vertex) (res : Res)
    (d : Int) (rp : List (Nat × Int)) (ptrs : Ptrs) (va : VA) (hr : Rel inp.machine.chipResources rp ptrs) :
    (∀ ptrs' e, allocOneF fuel inp xy v res d ptrs = .ok (ptrs', e) →
      ∃ rp', PyFun.allocate_loop5 (mgetOf inp.machine) fuel G L A xy (false, none, rp, va) (res, d)
          = (false, none, rp', pyDictSet va res (some (encS e.s))) ∧ Rel inp.machine.chipResources rp' ptrs') ∧
    (∀ err, allocOneF fuel inp xy v res d ptrs = .error err →
      ∃ rp' va', PyFun.allocate_loop5 (mgetOf inp.machine) fuel G L A xy (false, none, rp, va) (res, d)
          = (true, some (.error (errName err)), rp', va')) := by
  obtain ⟨f, rfl⟩ := Nat.exists_eq_add_one.2 hf
  -- `hu`: the value of the left-hand side, worked out case by case
  obtain ⟨vaE, hu⟩ := loop5_unfold (mgetOf inp.machine) (f + 1) G L A xy rp va res d
  rw [allocOneF_eq, allocOneBy]
  cases hco : capOf inp xy res with
  | error err =>
    obtain ⟨pa, po, e⟩ := loop6_error G L A d false none none true hr (hA res) hco
    rw [pyWhile_step rfl, e, pyWhile_stop rfl _] at hu
    exact tie' ⟨_, _, hu⟩
  | ok cap =>
    obtain ⟨hk, -, hcap⟩ := capOf_eq_ok.1 hco
    obtain ⟨caps, hmg, hc⟩ := Option.bind_eq_some_iff.1 hcap
    obtain ⟨w1, w2, w3⟩ := gen_propose (mgetOf inp.machine) G L A xy res d cap caps
      (globalRes inp.constraints res) (localRes inp.constraints xy res) (by unfold mgetOf; rw [hmg]) hc
      (T.g res) (T.l xy res) (f + 1) (ptrs res) rp none (by rw [hr res, hk]; rfl)
    rw [T.a res] at w1 w2 w3
    show (∀ ptrs' e, finish xy v res d ptrs _ = _ → _) ∧ ∀ err, finish xy v res d ptrs _ = _ → _
    generalize proposeLoop _ cap d _ _ (f + 1) (ptrs res) = r at w1 w2 w3
    rcases r with (_ | _) | start
    · obtain ⟨pa', po', rp', e⟩ := w2 rfl
      rw [e] at hu
      exact tie' ⟨_, _, hu⟩
    · rw [w3 rfl] at hu
      exact tie' ⟨_, _, hu⟩
    · obtain ⟨rp', e, off⟩ := w1 start rfl
      rw [e] at hu
      exact tie' ⟨_, hu, hr.set hk off _⟩

def encC : Constraint → PyFun.allocate_constraints_elem
  | .reserve r s loc => .ReserveResourceConstraint r (encS s) loc
  | .align r a => .AlignResourceConstraint r a
  | .other => .other

theorem loop1_step (G : List (Nat × List (Int × Int))) (L : List ((Int × Int) × List (Nat × List (Int × Int))))
    (A : List (Nat × Int)) (c : Constraint) :
    PyFun.allocate_loop1 (G, L, A) (encC c) =
      match c with
      | .reserve r s none => (pyDictMod G r [] (fun l => l ++ [encS s]), L, A)
      | .reserve r s (some loc) =>
        (G, pyDictMod L loc [] (fun d => pyDictMod d r [] (fun l => l ++ [encS s])), A)
      | .align r a => (G, L, pyDictSet A r a)
      | .other => (G, L, A) := by
  cases c with
  | reserve r s loc => cases loc <;> rfl
  | align r a => rfl
  | other => rfl

theorem getD_pyDictMod {κ α : Type} [BEq κ] [LawfulBEq κ] [DecidableEq κ] (d : List (κ × α)) (k k' : κ) (dflt : α) (f : α → α) :
    pyDictGetD (pyDictMod d k dflt f) k' dflt = if k' = k then f (pyDictGetD d k dflt) else pyDictGetD d k' dflt :=
  getD_pyDictSet ..

/-- the step of `alignment` -/
def alignStep (res : Res) (a : Int) (c : Constraint) : Int :=
  match c with
  | .align r al => if r = res then al else a
  | _ => a

theorem collect_step (G L A) (c : Constraint) :
    (∀ res, pyDictGetD (PyFun.allocate_loop1 (G, L, A) (encC c)).1 res []
        = pyDictGetD G res [] ++ (globalRes [c] res).map encS) ∧
    (∀ xy res, pyDictGetD (pyDictGetD (PyFun.allocate_loop1 (G, L, A) (encC c)).2.1 xy []) res []
        = pyDictGetD (pyDictGetD L xy []) res [] ++ (localRes [c] xy res).map encS) ∧
    (∀ res, pyDictGetD (PyFun.allocate_loop1 (G, L, A) (encC c)).2.2 res 1
        = alignStep res (pyDictGetD A res 1) c) := by
  have nil : ∀ l : List (Int × Int), l = l ++ List.map encS [] := fun l => (List.append_nil l).symm
  rw [loop1_step]
  cases c with
  | reserve r s loc =>
    cases loc with
    | none =>
      refine ⟨fun res => ?_, fun _ _ => nil _, fun _ => rfl⟩
      rw [getD_pyDictMod, globalRes_single]
      by_cases h : res = r
      · subst h; rw [if_pos rfl, if_pos rfl]; rfl
      · rw [if_neg h, if_neg (Ne.symm h)]; exact nil _
    | some loc =>
      refine ⟨fun _ => nil _, fun xy res => ?_, fun _ => rfl⟩
      dsimp only
      rw [getD_pyDictMod, localRes_single]
      by_cases h : xy = loc
      · subst h
        rw [if_pos rfl, getD_pyDictMod]
        by_cases h2 : res = r
        · subst h2; rw [if_pos rfl, if_pos ⟨rfl, rfl⟩]; rfl
        · rw [if_neg h2, if_neg (fun h' => h2 h'.2.symm)]; exact nil _
      · rw [if_neg h, if_neg (fun h' => h h'.1.symm)]; exact nil _
  | align r a =>
    refine ⟨fun _ => nil _, fun _ _ => nil _, fun res => ?_⟩
    dsimp only [alignStep]
    rw [getD_pyDictSet]
    by_cases h : res = r
    · subst h; rw [if_pos rfl]
    · rw [if_neg h, if_neg (Ne.symm h)]
  | other => exact ⟨fun _ => nil _, fun _ _ => nil _, fun _ => rfl⟩

/-- the generated constraint loop, started from any three dicts: what the three dicts answer afterwards -/
theorem gen_collect : ∀ (cs : List Constraint) (G : List (Nat × List (Int × Int)))
    (L : List ((Int × Int) × List (Nat × List (Int × Int)))) (A : List (Nat × Int)),
    (∀ res, pyDictGetD (List.foldl PyFun.allocate_loop1 (G, L, A) (cs.map encC)).1 res []
        = pyDictGetD G res [] ++ (globalRes cs res).map encS) ∧
    (∀ xy res, pyDictGetD (pyDictGetD (List.foldl PyFun.allocate_loop1 (G, L, A) (cs.map encC)).2.1 xy []) res []
        = pyDictGetD (pyDictGetD L xy []) res [] ++ (localRes cs xy res).map encS) ∧
    (∀ res, pyDictGetD (List.foldl PyFun.allocate_loop1 (G, L, A) (cs.map encC)).2.2 res 1
        = cs.foldl (alignStep res) (pyDictGetD A res 1)) := by
  intro cs
  induction cs with
  | nil => exact fun G L A => ⟨fun _ => (List.append_nil _).symm, fun _ _ => (List.append_nil _).symm, fun _ => rfl⟩
  | cons c cs ih =>
    intro G L A
    obtain ⟨s1, s2, s3⟩ := collect_step G L A c
    rw [List.map_cons, List.foldl_cons]
    generalize PyFun.allocate_loop1 (G, L, A) (encC c) = t at s1 s2 s3 ⊢
    obtain ⟨i1, i2, i3⟩ := ih t.1 t.2.1 t.2.2
    refine ⟨fun res => ?_, fun xy res => ?_, fun res => ?_⟩
    · rw [globalRes_cons, i1, s1, List.map_append, List.append_assoc]
    · rw [localRes_cons, i2, s2, List.map_append, List.append_assoc]
    · rw [i3, s3, List.foldl_cons]

/-- **the three dicts that `allocate` builds from the constraints hold exactly what the model reads off the
constraint list** (the hypothesis `Tables` of `gen_allocOne`) -/
theorem gen_tables (inp : Input) :
    Tables inp (List.foldl PyFun.allocate_loop1 ([], [], []) (inp.constraints.map encC)).1
      (List.foldl PyFun.allocate_loop1 ([], [], []) (inp.constraints.map encC)).2.1
      (List.foldl PyFun.allocate_loop1 ([], [], []) (inp.constraints.map encC)).2.2 :=
  -- the empty dicts answer `[]`, `[]` and `1`
  let ⟨i1, i2, i3⟩ := gen_collect inp.constraints [] [] []
  ⟨i1, i2, i3⟩

end Rig.C05
