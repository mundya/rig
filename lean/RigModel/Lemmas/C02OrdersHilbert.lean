/-
C02 (companion) - the Hilbert L-system of hilbert.py.  `hil` is the generator `Rig.C02.hilbertGen` of
Model/C02.lean over another record type (`hil_ofHS`), so `hilbertGen_spec` of Lemmas/C02Hilbert.lean
holds of `hil`; `unitDir`, `inSq` and `endOf` say it in the terms of this model (the statement is
`hilbert_curve_fills_square` of Props/C02Orders).  The chip list of a machine and the chips among a list of points.
-/
import RigModel.Model.C02Orders
import RigModel.Lemmas.C02Hilbert
import RigModel.Lemmas.C02Basic
import Mathlib.Data.List.Nodup

namespace Rig.C02Orders
open Rig.C02 (HS hilbertGen HilbertFrame)

def unitDir (s : HState) : Prop :=
  (s.dx = 1 ∧ s.dy = 0) ∨ (s.dx = 0 ∧ s.dy = 1) ∨ (s.dx = -1 ∧ s.dy = 0) ∨ (s.dx = 0 ∧ s.dy = -1)

/-- `q` lies in the square of side `N` that has the position of `s` as a corner, one side along
the heading of `s` and the other along the heading turned "left" for angle `a` -/
def inSq (s : HState) (a : Int) (N : Int) (q : Int × Int) : Prop :=
  0 ≤ (q.1 - s.x) * s.dx + (q.2 - s.y) * s.dy ∧ (q.1 - s.x) * s.dx + (q.2 - s.y) * s.dy < N ∧
  0 ≤ (q.1 - s.x) * (s.dy * -a) + (q.2 - s.y) * (s.dx * a) ∧
  (q.1 - s.x) * (s.dy * -a) + (q.2 - s.y) * (s.dx * a) < N

/-- where a curve over a square of side `N` ends -/
def endOf (s : HState) (N : Int) : HState :=
  { x := s.x + (N - 1) * s.dx, y := s.y + (N - 1) * s.dy, dx := s.dx, dy := s.dy }

theorem frame_of_unit {s : HState} {a : Int} (hd : unitDir s) (ha : a = 1 ∨ a = -1) :
    HilbertFrame a s.dx s.dy := by
  constructor
  · rcases ha with rfl | rfl <;> rfl
  · rcases hd with ⟨h1, h2⟩ | ⟨h1, h2⟩ | ⟨h1, h2⟩ | ⟨h1, h2⟩ <;> rw [h1, h2] <;> rfl
  · rcases hd with ⟨h1, h2⟩ | ⟨h1, h2⟩ | ⟨h1, h2⟩ | ⟨h1, h2⟩ <;> rw [h1, h2] <;> rfl

def ofHS (s : HS) : HState := ⟨s.x, s.y, s.dx, s.dy⟩

theorem hil_ofHS (n : Nat) : ∀ (a : Int) (s : HS),
    hil n a (ofHS s) = ((hilbertGen n a s).1, ofHS (hilbertGen n a s).2) := by
  induction n with
  | zero => intro a s; rfl
  | succ n ih =>
    intro a s
    have left : ∀ (s : HS) a, (ofHS s).left a = ofHS { s with dx := s.dy * -a, dy := s.dx * a } := fun _ _ => rfl
    have right : ∀ (s : HS) a, (ofHS s).right a = ofHS { s with dx := s.dy * a, dy := s.dx * -a } := fun _ _ => rfl
    have fwd : ∀ s : HS, (ofHS s).fwd = ofHS { s with x := s.x + s.dx, y := s.y + s.dy } := fun _ => rfl
    have pos : ∀ s : HS, (ofHS s).pos = (s.x, s.y) := fun _ => rfl
    simp only [hil, hilbertGen, left, right, fwd, pos, ih, List.append_assoc, List.cons_append]

theorem hilbert_eq_pts (k : Nat) : hilbert k = Rig.C02.hilbertPts k := by
  unfold hilbert
  rw [show hil k 1 ⟨0, 0, 1, 0⟩ = _ from hil_ofHS k 1 ⟨0, 0, 1, 0⟩]
  rfl

section chips
open Rig.C02 (Chip Machine toChip_eq_some)

theorem chips_congr {m m' : Machine} (hw : m'.w = m.w) (hh : m'.h = m.h) (hd : m'.dead = m.dead) :
    m'.chips = m.chips := by
  have : m'.ok = m.ok := funext (Rig.C02.Machine.ok_congr hw hh hd)
  unfold Machine.chips
  rw [hw, hh, this]

theorem mem_toChips (l : List (Int × Int)) (c : Chip) : c ∈ toChips l ↔ ((c.1 : Int), (c.2 : Int)) ∈ l := by
  simp only [toChips, List.mem_filterMap, toChip_eq_some]
  exact ⟨fun ⟨p, hp, h⟩ => h ▸ hp, fun h => ⟨_, h, rfl⟩⟩

theorem nodup_toChips (l : List (Int × Int)) (h : l.Nodup) : (toChips l).Nodup :=
  List.Nodup.filterMap (fun _ _ _ h1 h2 => (toChip_eq_some.1 h1).trans (toChip_eq_some.1 h2).symm) h

end chips

end Rig.C02Orders
