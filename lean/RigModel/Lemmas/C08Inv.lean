/-
C08 lemmas: the invariant of the field tree, kept by `assign_fields` and `add_field`; what `__call__` checks.
-/
import RigModel.Lemmas.C08Key

namespace Rig.C08

structure Inv (st : State) : Prop where
  /-- identifiers are unique among fields that can be present together -/
  unique : SpecUnique st.entries
  /-- a node's accumulated requirements never demand two values of one field -/
  selfc : ∀ e ∈ st.entries, compatible e.reqs e.reqs
  /-- positioned fields that can be present together are disjoint -/
  disjoint : SpecDisjoint st.entries
  /-- positioned fields are non-empty and inside the bit field -/
  inRange : SpecInRange st.length st.entries
  /-- a length covers the largest value ever given -/
  wide : SpecWide st.entries
  /-- lengths are positive (also before a position is known) -/
  lenPos : ∀ e ∈ st.entries, ∀ l, e.field.length = some l → 1 ≤ l

theorem getField_node {st : State} (hinv : Inv st) {y : Entry} (hy : y ∈ st.entries) :
    getField st.entries y.ident y.path.flatten = some y :=
  getField_of_enabled hinv.unique hy (enabled_self (hinv.selfc y hy))

theorem inv_modifyFirst {st : State} {pm : Entry → Bool} {g : Field → Field} (hinv : Inv st)
    (hd : ∀ y, st.entries.find? pm = some y → ∀ x ∈ st.entries, compatible y.reqs x.reqs → EntryDisjoint y x →
      EntryDisjoint (y.upd g) x)
    (hf : ∀ y, st.entries.find? pm = some y → ∀ l, (g y.field).length = some l →
      1 ≤ l ∧ (g y.field).maxValue < 2 ^ l ∧ ∀ s, (g y.field).startAt = some s → s + l ≤ st.length) :
    Inv { st with entries := modifyFirst pm g st.entries } where
  unique := specUnique_modifyFirst hinv.unique
  selfc := forall_modifyFirst hinv.selfc fun y hy => hinv.selfc y (List.mem_of_find?_eq_some hy)
  disjoint := pairwise_modifyFirst hinv.disjoint fun y hy x hx =>
    ⟨fun h hc => hd y hy x hx hc (h hc),
     fun h hc => (hd y hy x hx (compatible_symm hc) (h hc).symm).symm⟩
  inRange := forall_modifyFirst hinv.inRange fun y hy l s hl hs =>
    ⟨(hf y hy l hl).1, (hf y hy l hl).2.2 s hs⟩
  wide := forall_modifyFirst hinv.wide fun y hy l hl => (hf y hy l hl).2.1
  lenPos := forall_modifyFirst hinv.lenPos fun y hy l hl => (hf y hy l hl).1

theorem inv_modifyField_benign {st : State} {i : Ident} {fv : Reqs} {g : Field → Field}
    (hinv : Inv st) (hl : ∀ f, (g f).length = f.length) (hs : ∀ f, (g f).startAt = f.startAt)
    (hw : ∀ y, getField st.entries i fv = some y → ∀ l, y.field.length = some l → (g y.field).maxValue < 2 ^ l) :
    Inv { st with entries := modifyField st.entries i fv g } := by
  refine inv_modifyFirst hinv (fun y _ x _ _ h => by simpa only [EntryDisjoint, upd_field, hl, hs] using h) ?_
  intro y hy l h
  rw [hl] at h
  have hm := (getField_some hy).1
  exact ⟨hinv.lenPos y hm l h, hw y hy l h, fun s h' => (hinv.inRange y hm l s h (hs _ ▸ h')).2⟩

/-- the mask `assigned_bits` contains the bits of every positioned potential field -/
def Covers (es : List Entry) (a : Nat) (fv : Reqs) : Prop :=
  ∀ x ∈ es, x.potential fv = true → ∀ l s, x.field.length = some l → x.field.startAt = some s →
    ∀ i, (rangeMask l s).testBit i = true → a.testBit i = true

theorem potentialMask_eq (es : List Entry) (fv : Reqs) : potentialMask es fv = unionBits (potentialFields es fv) := rfl

theorem covers_potentialMask (es : List Entry) (fv : Reqs) : Covers es (potentialMask es fv) fv :=
  fun x hx hp l s hl hs i hi =>
    (testBit_unionBits (potentialFields es fv) i).mpr ⟨x, List.mem_filter.mpr ⟨hx, hp⟩, l, s, hl, hs,
      by simpa [testBit_rangeMask] using hi⟩

theorem firstFit_some {L len a b : Nat} (h : firstFit L len a = some b) : a &&& rangeMask len b = 0 := by
  unfold firstFit at h
  split at h
  · cases h
  · simpa using List.find?_some h

theorem chosenLen_pos_of_none {f : Field} (h : f.length = none) : 1 ≤ f.chosenLen := by
  unfold Field.chosenLen autoLen
  rw [h]
  simp only
  split <;> omega

/-- whichever of the two admissible automatic lengths is chosen, it covers `max_value` -/
theorem chosenLen_wide_of_none {f : Field} (h : f.length = none) : f.maxValue < 2 ^ f.chosenLen := by
  unfold Field.chosenLen
  rw [h]
  simp only
  split
  · exact Nat.lt_of_lt_of_le Nat.lt_log2_self (Nat.pow_le_pow_right (by decide) (Nat.le_succ _))
  · exact Nat.lt_log2_self

theorem Inv.chosenLen {st : State} (hinv : Inv st) {e : Entry} (he : e ∈ st.entries) :
    1 ≤ e.field.chosenLen ∧ e.field.maxValue < 2 ^ e.field.chosenLen := by
  cases hl : e.field.length with
  | none => exact ⟨chosenLen_pos_of_none hl, chosenLen_wide_of_none hl⟩
  | some l => rw [Field.chosenLen, hl]; exact ⟨hinv.lenPos e he l hl, hinv.wide e he l hl⟩

theorem mem_nodeIdents {es : List Entry} {p : Path} {i : Ident} :
    i ∈ nodeIdents es p ↔ ∃ y ∈ es, y.path = p ∧ y.ident = i := by
  simp only [nodeIdents, List.mem_map, List.mem_filter, beq_iff_eq, and_assoc]

def setPos (len start : Nat) : Field → Field := fun f => { f with length := some len, startAt := some start }

theorem assignField_free {st st' : State} {a a' : Nat} {i : Ident} {fv : Reqs}
    (h : assignField st a i fv = .ok (st', a')) :
    ∃ e start, getField st.entries i fv = some e ∧ a &&& rangeMask e.field.chosenLen start = 0 ∧
      st' = { st with entries := modifyField st.entries i fv (setPos e.field.chosenLen start) } ∧
      a' = a ||| rangeMask e.field.chosenLen start ∧ start + e.field.chosenLen ≤ st.length ∧
      ∀ s, e.field.startAt = some s → start = s := by
  revert h
  fun_cases assignField st a i fv with
  | case1 | case3 | case4 | case5 | case7 => exact fun h => nomatch h
  | case2 e hg _ _ hs b hff hfit =>
    intro h; cases h
    exact ⟨e, b, hg, firstFit_some hff, rfl, rfl, hfit, fun s h => by rw [hs] at h; cases h⟩
  | case6 e hg _ _ s hs hfree hfit =>
    intro h; cases h
    exact ⟨e, s, hg, by simpa using hfree, rfl, rfl, hfit, fun s' h => by rw [hs] at h; cases h; rfl⟩

theorem assignField_spec {st st' : State} {a a' : Nat} {ident : Ident} {p : Path}
    (hinv : Inv st) (hcov : Covers st.entries a p.flatten) (hnode : (p, ident) ∈ shape st.entries)
    (h : assignField st a ident p.flatten = .ok (st', a')) :
    Inv st' ∧ Covers st'.entries a' p.flatten ∧ st'.length = st.length ∧ shape st'.entries = shape st.entries := by
  obtain ⟨e, he, rfl, rfl⟩ := mem_shape.mp hnode
  obtain ⟨e', start, hg, hfree, rfl, rfl, hfit, _⟩ := assignField_free h
  cases (getField_node hinv he).symm.trans hg
  obtain ⟨hlen1, hwide⟩ := hinv.chosenLen he
  refine ⟨inv_modifyFirst hinv ?_ ?_, ?_, rfl, shape_modifyField⟩
  · -- the mask covers every positioned field that can be present with `e`, and the new range avoids the mask
    intro y hy x hx hc _ l s l' s' hl hs hl' hs'
    cases hg.symm.trans hy
    cases hl; cases hs
    have hpot : x.potential e.path.flatten = true := potential_of_compatible (fun _ _ => Assoc.mem_of_lookup) hc
    rw [← rangeMask_and_eq_zero _ _ _ _ hlen1 (hinv.lenPos x hx l' hl'), and_eq_zero_iff]
    exact fun i ⟨h1, h2⟩ => (and_eq_zero_iff _ _).mp hfree i ⟨hcov x hx hpot l' s' hl' hs' i h2, h1⟩
  · intro y hy l hl
    cases hg.symm.trans hy
    cases hl
    exact ⟨hlen1, hwide, fun s hs => by cases hs; exact hfit⟩
  · intro x hx hpot l s hl hs i hi
    rw [Nat.testBit_or]
    rcases mem_modifyFirst hx with h1 | ⟨y, _, rfl⟩
    · simp [hcov x h1 hpot l s hl hs i hi]
    · cases hl; cases hs
      simp [hi]

theorem assignLoopP_induct {Q : State → Nat → Prop} {ap : Bool} {fv : Reqs} {ids : List Ident}
    (step : ∀ i ∈ ids, ∀ st a st' a', Q st a → assignField st a i fv = .ok (st', a') → Q st' a')
    {st : State} {a : Nat} (h : Q st a) : ∃ a', Q (assignLoopP ap fv ids st a).1 a' := by
  fun_induction assignLoopP ap fv ids st a with
  | case1 | case2 | case4 => exact ⟨_, h⟩
  | case3 _ _ _ _ _ _ _ ih | case6 _ _ _ _ _ _ _ _ ih => exact ih (fun j hj => step j (List.mem_cons_of_mem _ hj)) h
  | case5 i _ _ _ _ _ _ _ _ _ hasg ih =>
    exact ih (fun j hj => step j (List.mem_cons_of_mem _ hj)) (step i List.mem_cons_self _ _ _ _ h hasg)

theorem assignRunP_induct {Q : State → Prop}
    (step : ∀ ap p st, Q st →
      Q (assignLoopP ap p.flatten (nodeIdents st.entries p) st (potentialMask st.entries p.flatten)).1)
    (items : List (Bool × Path)) {st : State} (h : Q st) : Q (assignRunP items st).1 := by
  fun_induction assignRunP items st with
  | case1 => exact h
  | case2 ap p _ st _ _ heq => exact heq ▸ step ap p st h
  | case3 ap p _ st _ heq ih => exact ih (by have := step ap p st h; rwa [heq] at this)

theorem assignLoopP_inv (ap : Bool) (p : Path) : ∀ (ids : List Ident) (st : State) (a : Nat),
    Inv st → Covers st.entries a p.flatten → (∀ i ∈ ids, (p, i) ∈ shape st.entries) →
    Inv (assignLoopP ap p.flatten ids st a).1 ∧ (assignLoopP ap p.flatten ids st a).1.length = st.length := by
  intro ids st a hinv hcov hnodes
  obtain ⟨_, h1, _, h2, _⟩ := assignLoopP_induct (ap := ap) (ids := ids)
    (Q := fun s b => Inv s ∧ Covers s.entries b p.flatten ∧ s.length = st.length ∧ shape s.entries = shape st.entries)
    (fun i hi s b s' b' ⟨g1, g2, g3, g4⟩ hasg =>
      let ⟨k1, k2, k3, k4⟩ := assignField_spec g1 g2 (g4 ▸ hnodes i hi) hasg
      ⟨k1, k2, k3.trans g3, k4.trans g4⟩)
    ⟨hinv, hcov, rfl, rfl⟩
  exact ⟨h1, h2⟩

theorem assignFieldsP_inv {st : State} (h : Inv st) :
    Inv (assignFieldsP st).1 ∧ (assignFieldsP st).1.length = st.length := by
  unfold assignFieldsP
  exact assignRunP_induct (Q := fun s => Inv s ∧ s.length = st.length)
    (fun ap p s ⟨g1, g2⟩ =>
      let ⟨k1, k2⟩ := assignLoopP_inv ap p _ s _ g1 (covers_potentialMask _ _)
        fun _ hi => mem_shape.mpr (mem_nodeIdents.mp hi)
      ⟨k1, k2.trans g2⟩)
    _ ⟨h, rfl⟩

/-! What one step of `assign_fields` keeps of the listing, the loops and `assign_fields` keep, also one that raises. -/
section preserved
variable {P : List Entry → Prop}
  (hP : ∀ (es : List Entry) (i : Ident) (fv : Reqs) (e : Entry) (start : Nat), getField es i fv = some e →
    (∀ s, e.field.startAt = some s → start = s) → P es → P (modifyField es i fv (setPos e.field.chosenLen start)))
include hP

theorem assignLoopP_preserves (ap : Bool) (fv : Reqs) (ids : List Ident) (st : State) (a : Nat)
    (h : P st.entries) : P (assignLoopP ap fv ids st a).1.entries :=
  let ⟨_, h'⟩ := assignLoopP_induct (ap := ap) (fv := fv) (ids := ids) (a := a) (Q := fun s _ => P s.entries)
    (fun i _ s b s' b' g hasg => by
      obtain ⟨e, start, hg, _, rfl, _, _, hs⟩ := assignField_free hasg
      exact hP _ _ _ _ _ hg hs g) h
  h'

theorem assignRunP_preserves (items : List (Bool × Path)) (st : State) (h : P st.entries) :
    P (assignRunP items st).1.entries :=
  assignRunP_induct (Q := fun s => P s.entries) (fun ap _ s => assignLoopP_preserves hP ap _ _ s _) items h

theorem assignFieldsP_preserves (st : State) (h : P st.entries) : P (assignFieldsP st).1.entries := by
  unfold assignFieldsP
  exact assignRunP_preserves hP _ st h

end preserved

theorem call_check_none {st : State} {all : Reqs} {l : List (Ident × Int)} (h : call.check st all l = none) :
    ∀ iv ∈ l, ∃ e, getField st.entries iv.1 all = some e ∧
      ∀ len, e.field.length = some len → iv.2.toNat < 2 ^ len := by
  fun_induction call.check st all l with
  | case1 => simp
  | case2 | case3 | case4 => cases h
  | case5 i v rest e hg _ hbig ih =>
    rw [List.forall_mem_cons]
    refine ⟨⟨e, hg, fun len hl => ?_⟩, ih h⟩
    simpa [hl, Nat.one_shiftLeft] using hbig

theorem call_ok {st st' : State} {fv fv' : Reqs} {kw : List (Ident × Int)} (h : call st fv kw = .ok (st', fv')) :
    fv' = (kw.filterMap fun iv => if iv.2 < 0 then none else some (iv.1, iv.2.toNat)) ++ fv ∧
    call.check st fv' (kw ++ fv.map fun iv => (iv.1, (iv.2 : Int))) = none ∧
    st' = { st with entries := fv'.foldl (fun es iv => modifyField es iv.1 fv' fun f => { f with maxValue := max f.maxValue iv.2 }) st.entries } := by
  unfold call at h
  split at h
  · cases h
  · simp only at h
    split at h
    · cases h
    · rename_i hc
      cases h
      exact ⟨rfl, hc, rfl⟩

theorem call_values_checked {st st' : State} {fv fv' : Reqs} {kw : List (Ident × Int)}
    (h : call st fv kw = .ok (st', fv')) :
    ∀ iv ∈ fv', ∃ e, getField st.entries iv.1 fv' = some e ∧ ∀ len, e.field.length = some len → iv.2 < 2 ^ len := by
  obtain ⟨hfv, hc, _⟩ := call_ok h
  intro iv hiv
  have hmem : (iv.1, (iv.2 : Int)) ∈ kw ++ fv.map fun iv => (iv.1, (iv.2 : Int)) := by
    rw [hfv] at hiv
    rcases List.mem_append.mp hiv with h1 | h1
    · obtain ⟨a, ha, hae⟩ := List.mem_filterMap.mp h1
      split at hae <;> cases hae
      exact List.mem_append_left _ (by rwa [Int.toNat_of_nonneg (by omega)])
    · exact List.mem_append_right _ (List.mem_map.mpr ⟨iv, h1, rfl⟩)
  obtain ⟨e, hg, hlt⟩ := call_check_none hc _ hmem
  exact ⟨e, hg, fun len hl => by simpa using hlt len hl⟩

theorem inv_perm {L : Nat} {es es' : List Entry} (hp : es.Perm es') (h : Inv ⟨L, es⟩) : Inv ⟨L, es'⟩ where
  unique := h.unique.perm hp fun hxy hc => (hxy (compatible_symm hc)).symm
  selfc := fun e he => h.selfc e (hp.mem_iff.mpr he)
  disjoint := h.disjoint.perm hp fun hxy hc => (hxy (compatible_symm hc)).symm
  inRange := fun e he => h.inRange e (hp.mem_iff.mpr he)
  wide := fun e he => h.wide e (hp.mem_iff.mpr he)
  lenPos := fun e he => h.lenPos e (hp.mem_iff.mpr he)

/-- the descent of `_Tree.add_field` moves requirements from `rem` to the path: if path and `rem` together make up the
dict `fv` when it starts, the path alone does when it stops -/
theorem descend_spec {es : List Entry} {ident : Ident} {fv : Reqs} {fuel : Nat} {p : Path} {rem : Reqs} {q : Path}
    (h : descend es ident fuel p rem = .ok q)
    (h1 : ∀ iv ∈ p.flatten, fv.lookup iv.1 = some iv.2)
    (h2 : ∀ i w, fv.lookup i = some w → (i, w) ∈ p.flatten ∨ rem.lookup i = some w)
    (h3 : ∀ i w, rem.lookup i = some w → fv.lookup i = some w) :
    (∀ iv ∈ q.flatten, fv.lookup iv.1 = some iv.2) ∧ (∀ i w, fv.lookup i = some w → (i, w) ∈ q.flatten) := by
  fun_induction descend es ident fuel p rem with
  | case1 | case2 | case4 => cases h
  | case3 _ p rem _ hemp =>
    cases h
    obtain rfl : rem = [] := by simpa using hemp
    exact ⟨h1, fun i w hw => (h2 i w hw).resolve_right (by simp)⟩
  | case5 _ p rem _ _ meet _ ih =>
    have hmeet : ∀ iv ∈ meet, rem.lookup iv.1 = some iv.2 := by
      intro iv hiv
      simp only [meet, List.mem_filterMap, Option.map_eq_some_iff] at hiv
      obtain ⟨i, _, v, hv, rfl⟩ := hiv
      exact hv
    have hfl : (p ++ [meet]).flatten = p.flatten ++ meet := by simp
    refine ih h ?_ ?_ ?_
    · intro iv hiv
      rw [hfl, List.mem_append] at hiv
      exact hiv.elim (h1 iv) fun hiv => h3 _ _ (hmeet iv hiv)
    · intro i w hw
      rw [hfl, List.mem_append, Assoc.lookup_filter_key fun k => !meet.any fun x => x.1 == k]
      rcases h2 i w hw with h | h
      · exact Or.inl (Or.inl h)
      · by_cases hin : meet.any (fun x => x.1 == i) = true
        · simp only [List.any_eq_true, beq_iff_eq] at hin
          obtain ⟨⟨i', w'⟩, hx, rfl⟩ := hin
          cases h.symm.trans (hmeet _ hx)
          exact Or.inl (Or.inr hx)
        · exact Or.inr (by simp [hin, h])
    · intro i w hw
      rw [Assoc.lookup_filter_key fun k => !meet.any fun x => x.1 == k] at hw
      split at hw
      · exact h3 i w hw
      · cases hw

/-- the descent as `_Tree.add_field` starts it: at the root, with all values of the instance.  That the fuel
`fv.length + 1` suffices is not shown: the theorems speak of `.ok` only. -/
theorem descend_root {es : List Entry} {ident : Ident} {fv : Reqs} {q : Path}
    (h : descend es ident (fv.length + 1) [] fv = .ok q) :
    (∀ iv ∈ q.flatten, fv.lookup iv.1 = some iv.2) ∧ (∀ i w, fv.lookup i = some w → (i, w) ∈ q.flatten) ∧
      ∀ x ∈ es, compatible q.flatten x.reqs → x.potential fv = true ∧ x.ident ≠ ident := by
  obtain ⟨h1, h2⟩ := descend_spec (fv := fv) h (by simp) (fun i w hw => Or.inr hw) (fun i w hw => hw)
  refine ⟨h1, h2, fun x hx hc => ?_⟩
  have hp : x.potential fv = true := potential_of_compatible h2 hc
  refine ⟨hp, fun hid => ?_⟩
  -- the first step of the descent saw no potential field of that name
  have hany : (subtreePotential es [] fv).any (·.ident == ident) = true :=
    List.any_eq_true.mpr ⟨x, by simpa [subtreePotential, hx, Entry.potential] using hp, by simpa using hid⟩
  rw [descend, if_pos hany] at h
  cases h

theorem overlaps_false {s l s' l' : Nat} (h : overlaps s l s' l' = false) : Disjoint s l s' l' := by
  simp only [overlaps, Bool.and_eq_false_iff, decide_eq_false_iff_not] at h
  unfold Disjoint; omega

theorem addField_checked {st st' : State} {fv : Reqs} {ident : Ident} {length : Option Int} {startAt : Option Nat}
    {tags : List String} (h : addField st fv ident length startAt tags = .ok st') :
    badLength length = false ∧ doesNotFit st.length (length.map Int.toNat) startAt = false ∧
    overlapsExisting st.entries fv (length.map Int.toNat) startAt = false ∧
    ∃ q e, descend st.entries ident (fv.length + 1) [] fv = .ok q ∧
      getField (insertEntry st.entries (newEntry q ident (length.map Int.toNat) startAt (tagNorm tags))) ident fv = some e ∧
      st'.entries = addTags fv (tagNorm tags) (e.path.flatten.map (·.1))
        (insertEntry st.entries (newEntry q ident (length.map Int.toNat) startAt (tagNorm tags))) ∧
      st'.length = st.length := by
  revert h
  fun_cases addField st fv ident length startAt tags with
  | case1 | case2 | case3 | case4 | case5 | case6 => exact fun h => nomatch h
  | case7 _ h1 h2 h3 q hd _ e hg _ _ =>
    intro h; cases h
    exact ⟨Bool.eq_false_iff.mpr h1, Bool.eq_false_iff.mpr h2, Bool.eq_false_iff.mpr h3, q, e, hd, hg, rfl, rfl⟩

-- `hmax`: the constant is regenerated from the source, Props/C08 puts the value in
open Rig.Gen.BitfieldConsts in
theorem addField_inv {st st' : State} {fv : Reqs} {ident : Ident} {length : Option Int} {startAt : Option Nat}
    {tags : List String} (hmax : MAX_VALUE_DEFAULT = 1) (hinv : Inv st)
    (h : addField st fv ident length startAt tags = .ok st') : Inv st' ∧ st'.length = st.length := by
  obtain ⟨hlenpos, hfit, hover, q, _, hd, _, hst', hL⟩ := addField_checked h
  obtain ⟨hD1, _, hfresh⟩ := descend_root hd
  have hlen : ∀ l, length.map Int.toNat = some l → 1 ≤ l := by
    intro l hl
    cases length with
    | none => cases hl
    | some li =>
      cases hl
      simp only [badLength, decide_eq_false_iff_not] at hlenpos
      show 1 ≤ li.toNat
      omega
  generalize length.map Int.toNat = len at *
  -- the invariant with the new field in front, hence at its place, hence with the tags propagated
  have hcons : Inv ⟨st.length, newEntry q ident len startAt (tagNorm tags) :: st.entries⟩ :=
    { unique := List.pairwise_cons.mpr ⟨fun x hx hc hid => (hfresh x hx hc).2 hid.symm, hinv.unique⟩
      selfc := List.forall_mem_cons.mpr
        ⟨fun i v v' hv hv' => Option.some.inj ((hD1 (i, v) hv).symm.trans (hD1 (i, v') hv')), hinv.selfc⟩
      disjoint := List.pairwise_cons.mpr ⟨?_, hinv.disjoint⟩
      inRange := List.forall_mem_cons.mpr ⟨?_, hinv.inRange⟩
      wide := List.forall_mem_cons.mpr
        ⟨fun l hl => show MAX_VALUE_DEFAULT < 2 ^ l from hmax ▸ Nat.one_lt_two_pow (by have := hlen l hl; omega),
         hinv.wide⟩
      lenPos := List.forall_mem_cons.mpr ⟨hlen, hinv.lenPos⟩ }
  · have : Inv ⟨st'.length, st'.entries⟩ := by
      rw [hst', hL]
      refine List.foldlRecOn (motive := fun es => Inv ⟨st.length, es⟩) _ _
        (inv_perm (insertEntry_perm _ _).symm hcons) fun es hi pi _ => ?_
      exact inv_modifyField_benign (st := ⟨_, es⟩) hi (fun _ => rfl) (fun _ => rfl)
        fun y hy l hl => hi.wide y (getField_some hy).1 l hl
    exact ⟨this, hL⟩
  · -- the overlap check looked at every positioned potential field
    intro x hx hc l s l' s' hl hs hl' hs'
    cases hl; cases hs
    simp only [overlapsExisting, List.any_eq_false] at hover
    have := hover x (by simp [potentialFields, hx, (hfresh x hx hc).1])
    simp only [hs', hl', orOne, Bool.not_eq_true] at this
    exact overlaps_false this
  · intro l s hl hs
    cases hl; cases hs
    simp [doesNotFit, orOne] at hfit
    exact ⟨hlen l rfl, show s + l ≤ st.length by omega⟩

end Rig.C08
