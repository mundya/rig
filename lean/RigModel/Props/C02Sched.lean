/-
C02 (companion) - the control skeleton of the annealing temperature schedule (Model/C02Sched.lean):
what CAN be proved about termination of `sa.place` when temperatures and costs are floats.  The loop
ends if the float test of its head eventually reports `cooled`, and need not end otherwise
(`schedLoop_diverges_without_cooling`, `schedLoop_needs_a_stop`).  That the test eventually fails is a
property of IEEE double arithmetic (a positive double multiplied by a factor <= 0.95 per pass reaches
0.0 after at most about 28400 passes, and `0.0 > x` is false for every x >= 0; NaN compares false at
once), listed in the trusted base.  The scheduled run is a run of `Rig.C02.saPlace` on the
concatenated proposals, so `saPlace_sound` applies to what it returns (`saPlaceSched_sound`).
(28400: ln(largest double / least subnormal) / ln(1 / 0.95).)
-/
import RigModel.Model.C02Sched
import RigModel.Props.C02

namespace Rig.C02Sched
open Rig.C02

theorem saRun_append (vr : VR) (fixed : List Vtx) :
    ∀ (a b : List Step) (s : SA) (fl : List Bool),
      saRun vr fixed (a ++ b) s fl =
        match saRun vr fixed a s fl with
        | .error e => .error e
        | .ok (s', fl') => saRun vr fixed b s' fl' := by
  intro a
  induction a with
  | nil => intro b s fl; rfl
  | cons st rest ih =>
    intro b s fl
    simp only [List.cons_append, saRun, bind, Except.bind]
    cases saStep vr fixed s st.src st.dst st.accept with
    | error e => rfl
    | ok r => exact ih b r.1 _

theorem saRun_flags (vr : VR) (fixed : List Vtx) :
    ∀ (a : List Step) (s s' : SA) (fl fl' : List Bool), saRun vr fixed a s fl = .ok (s', fl') →
      fl'.length = fl.length + a.length := by
  intro a
  induction a with
  | nil => intro s s' fl fl' h; cases h; rfl
  | cons st rest ih =>
    intro s s' fl fl' h
    obtain ⟨⟨s1, f⟩, -, h⟩ := Except.bind_eq_ok h
    rw [ih _ _ _ _ h, List.length_append, List.length_cons, List.length_cons, List.length_nil]
    omega

/-- `out` is the state after `k` passes from pass `i` on -/
structure Ran (vr : VR) (fixed : List Vtx) (numSteps : Nat) (o : Nat → Tick) (i : Nat) (s : SA) (fl : List Bool)
    (ks k : Nat) (out : Out) : Prop where
  iterations : out.iterations = i + k
  kernelSteps : out.kernelSteps = ks + k * numSteps
  flags : out.flags.length = fl.length + k * numSteps
  hot : ∀ j, j < k → (o (i + j)).hot = true
  run : saRun vr fixed (flatSteps o i k) s fl = .ok (out.sa, out.flags)

theorem Ran.zero {vr fixed numSteps o i s fl ks w} : Ran vr fixed numSteps o i s fl ks 0 ⟨s, fl, i, ks, w⟩ :=
  ⟨rfl, by simp, by simp, nofun, rfl⟩

theorem Ran.succ {vr fixed numSteps o i s fl ks k out s' fl'} (hh : (o i).hot = true)
    (hl : (o i).steps.length = numSteps) (hr : saRun vr fixed (o i).steps s fl = .ok (s', fl'))
    (R : Ran vr fixed numSteps o (i + 1) s' fl' (ks + numSteps) k out) :
    Ran vr fixed numSteps o i s fl ks (k + 1) out := by
  refine ⟨R.iterations.trans (Nat.add_right_comm i 1 k),
    by rw [R.kernelSteps, Nat.succ_mul, Nat.add_assoc, Nat.add_comm numSteps],
    by rw [R.flags, saRun_flags vr fixed _ _ _ _ _ hr, hl, Nat.succ_mul, Nat.add_assoc, Nat.add_comm numSteps], ?_, ?_⟩
  · intro j hj
    cases j with
    | zero => exact hh
    | succ j => exact Nat.add_right_comm i 1 j ▸ R.hot j (Nat.lt_of_succ_lt_succ hj)
  · simp only [flatSteps]; rw [saRun_append, hr]; exact R.run

/-- the loop by outcome; a pass that ends in a `break` is one more pass run (`Ran.succ .. Ran.zero`) -/
theorem schedLoop_spec (vr : VR) (fixed : List Vtx) (numSteps : Nat) (o : Nat → Tick) (fuel i : Nat) (s : SA)
    (fl : List Bool) (ks : Nat) :
    Except.Sat (fun e => e = .fuel → ∀ j, j ≤ fuel → (o (i + j)).hot = true)
      (fun out => ∃ k, k ≤ fuel ∧ Ran vr fixed numSteps o i s fl ks k out ∧
        ((o (i + k)).hot = false ∨ ∃ j, (o j).zeroCost = true ∨ (o j).cbStop = true))
      (schedLoop vr fixed numSteps o fuel i s fl ks) := by
  fun_induction schedLoop vr fixed numSteps o fuel i s fl ks with
  | case1 i s fl ks hh => intro _ j hj; rw [Nat.le_zero.1 hj]; exact hh
  | case2 i s fl ks hh | case8 _ i s fl ks hh => exact ⟨0, Nat.zero_le _, .zero, .inl (Bool.not_eq_true _ ▸ hh)⟩
  | case3 | case7 => exact nofun
  | case4 n i s fl ks hh hl s' fl' hr hz => exact ⟨1, Nat.le_add_left 1 n, .succ hh hl hr .zero, .inr ⟨i, .inl hz⟩⟩
  | case5 n i s fl ks hh hl s' fl' hr _ hc => exact ⟨1, Nat.le_add_left 1 n, .succ hh hl hr .zero, .inr ⟨i, .inr hc⟩⟩
  | case6 n i s fl ks hh hl s' fl' hr _ _ ih =>
    refine Except.Sat.imp_error (Except.Sat.imp ih ?_) ?_
    · rintro out ⟨k, h1, R, h7⟩
      exact ⟨k + 1, Nat.succ_le_succ h1, .succ hh hl hr R, Nat.add_right_comm i 1 k ▸ h7⟩
    · intro e h he j hj
      cases j with
      | zero => exact hh
      | succ j => exact Nat.add_right_comm i 1 j ▸ h he j (Nat.le_of_succ_le_succ hj)

/-- **Every pass performs exactly `num_steps` kernel steps**: when the loop returns after passes
`i .. out.iterations - 1`, it has made `(out.iterations - i) * num_steps` calls of `_step`, one
flag each (`true` also for a swap that was made and reverted), and it has not used more passes than its fuel. -/
theorem schedLoop_steps (vr : VR) (fixed : List Vtx) (numSteps : Nat) (o : Nat → Tick) :
    ∀ (fuel i : Nat) (s : SA) (fl : List Bool) (ks : Nat) (out : Out),
      schedLoop vr fixed numSteps o fuel i s fl ks = .ok out →
      i ≤ out.iterations ∧ out.iterations ≤ i + fuel ∧
      out.kernelSteps = ks + (out.iterations - i) * numSteps ∧
      out.flags.length = fl.length + (out.iterations - i) * numSteps := by
  intro fuel i s fl ks out h
  obtain ⟨k, h1, R, -⟩ := (schedLoop_spec vr fixed numSteps o fuel i s fl ks).ok h
  rw [R.iterations, Nat.add_sub_cancel_left]
  exact ⟨Nat.le_add_right _ _, Nat.add_le_add_left h1 _, R.kernelSteps, R.flags⟩

/-- **Termination under cooling**: if the loop test is false at pass `i + N`, then `N` passes of
fuel suffice - the loop does not report `fuel`. -/
theorem schedLoop_terminates_under_cooling (vr : VR) (fixed : List Vtx) (numSteps : Nat) (o : Nat → Tick) :
    ∀ (fuel N i : Nat) (s : SA) (fl : List Bool) (ks : Nat), (o (i + N)).hot = false → N ≤ fuel →
      schedLoop vr fixed numSteps o fuel i s fl ks ≠ .error .fuel := by
  intro fuel N i s fl ks hc hN h
  exact Bool.false_ne_true (hc.symm.trans ((schedLoop_spec vr fixed numSteps o fuel i s fl ks).error h rfl N hN))

theorem schedLoop_stops_at_cooled (vr : VR) (fixed : List Vtx) (numSteps : Nat) (o : Nat → Tick) :
    ∀ (fuel i : Nat) (s : SA) (fl : List Bool) (ks : Nat) (out : Out) (N : Nat),
      schedLoop vr fixed numSteps o fuel i s fl ks = .ok out → i ≤ N → (o N).hot = false →
      out.iterations ≤ N := by
  intro fuel i s fl ks out N h hiN hc
  obtain ⟨k, -, R, -⟩ := (schedLoop_spec vr fixed numSteps o fuel i s fl ks).ok h
  rw [R.iterations]
  refine Nat.le_of_not_lt fun hlt => Bool.false_ne_true (hc.symm.trans ?_)
  have := R.hot (N - i) (by omega)
  rwa [Nat.add_sub_cancel' hiN] at this

/-- without a reported stop the loop never returns: if no pass reports `cooled`, `zero cost` or a
callback stop, the result is an error for every fuel (`fuel`, or an earlier kernel error) -/
theorem schedLoop_needs_a_stop (vr : VR) (fixed : List Vtx) (numSteps : Nat) (o : Nat → Tick)
    (hgo : ∀ j, (o j).hot = true ∧ (o j).zeroCost = false ∧ (o j).cbStop = false) :
    ∀ (fuel i : Nat) (s : SA) (fl : List Bool) (ks : Nat) (out : Out),
      schedLoop vr fixed numSteps o fuel i s fl ks ≠ .ok out := by
  intro fuel i s fl ks out h
  obtain ⟨k, -, -, h7 | ⟨j, h7 | h7⟩⟩ := (schedLoop_spec vr fixed numSteps o fuel i s fl ks).ok h
  · exact Bool.false_ne_true (h7.symm.trans (hgo _).1)
  · exact Bool.false_ne_true ((hgo j).2.1.symm.trans h7)
  · exact Bool.false_ne_true ((hgo j).2.2.symm.trans h7)

theorem schedLoop_flat (vr : VR) (fixed : List Vtx) (numSteps : Nat) (o : Nat → Tick) :
    ∀ (fuel i : Nat) (s : SA) (fl : List Bool) (ks : Nat) (out : Out),
      schedLoop vr fixed numSteps o fuel i s fl ks = .ok out →
      saRun vr fixed (flatSteps o i (out.iterations - i)) s fl = .ok (out.sa, out.flags) := by
  intro fuel i s fl ks out h
  obtain ⟨k, -, R, -⟩ := (schedLoop_spec vr fixed numSteps o fuel i s fl ks).ok h
  rw [R.iterations, Nat.add_sub_cancel_left]
  exact R.run

/-- two vertices needing one core each on a 2 x 1 machine with one core per chip -/
def exVr : VR := [(.o 0, [1]), (.o 1, [1])]
def exM : Machine := { w := 2, h := 1, res := [0], exc := [], dead := [] }
/-- the kernel state: vertex 0 on chip (0,0), vertex 1 on chip (1,0), nothing free -/
def exS : SA := { m := exM, p := [(.o 0, (0, 0)), (.o 1, (1, 0))],
                  l2v := [((0, 0), [.o 0]), ((1, 0), [.o 1])] }
/-- a pass whose single proposal draws a destination outside the machine (`_step` returns
`(False, 0.0)`: nothing is swapped), after which the temperature test is still true, the cost is
not 0 and no callback stops the run -/
def exTick : Tick := { hot := true, steps := [⟨.o 0, (5, 5), false⟩], zeroCost := false, cbStop := false }

theorem exStep : saStep exVr [] exS (.o 0) (5, 5) false = .ok (exS, false) := rfl

/-- **The cooling hypothesis is necessary** (kernel-checked counterexample): on the state above, with
`num_steps = 1` and an oracle that never reports `cooled`, the loop runs out of EVERY fuel. -/
theorem schedLoop_diverges_without_cooling :
    ∀ (fuel i : Nat) (fl : List Bool) (ks : Nat),
      schedLoop exVr [] 1 (fun _ => exTick) fuel i exS fl ks = .error .fuel := by
  intro fuel
  induction fuel with
  | zero => intro i fl ks; simp [schedLoop, exTick]
  | succ n ih =>
    intro i fl ks
    have hr : ∀ fl, saRun exVr [] exTick.steps exS fl = .ok (exS, fl ++ [false]) := by
      intro fl
      simp only [exTick, saRun, bind, Except.bind, exStep]
    simp only [schedLoop]
    rw [hr]
    simp only [exTick, List.length_singleton, if_true, Bool.false_eq_true, if_false]
    exact ih _ _ _

theorem saPlaceSched_cases (vr cs m locs vs warm numSteps o fuel) :
    (∃ e, saPlaceSched vr cs m locs vs warm numSteps o fuel = .error (.kernel e)) ∨
    ∃ vr' cs' subs m' fixed m'' init l2v s1 fl1,
      applySame vr cs = .ok (vr', cs', subs) ∧ prepareLoop vr' cs' m [] = .ok (m', fixed) ∧
      initialPlacement vr' m' locs vs = .ok (m'', init) ∧ mkL2v m'' (mergeP init fixed) = .ok l2v ∧
      saRun vr' (keys fixed) warm { m := m'', p := mergeP init fixed, l2v := l2v } [] = .ok (s1, fl1) ∧
      saPlaceSched vr cs m locs vs warm numSteps o fuel =
        match schedLoop vr' (keys fixed) numSteps o fuel 0 s1 fl1 warm.length with
        | .error e => .error e
        | .ok out =>
          match finalise subs out.sa.p with
          | .error e => .error (.kernel e)
          | .ok p => .ok (p, out) := by
  fun_cases saPlaceSched vr cs m locs vs warm numSteps o fuel
  case case1 | case2 | case3 | case4 | case5 => exact .inl ⟨_, rfl⟩
  case case6 hA _ _ hP _ _ hI p0 _ hL _ _ hW e hS =>
    exact .inr ⟨_, _, _, _, _, _, _, _, _, _, hA, hP, hI, hL, hW, by rw [hS]⟩
  case case7 hA _ _ hP _ _ hI p0 _ hL _ _ hW out hS e hF =>
    exact .inr ⟨_, _, _, _, _, _, _, _, _, _, hA, hP, hI, hL, hW, by rw [hS]; simp only [hF]⟩
  case case8 hA _ _ hP _ _ hI p0 _ hL _ _ hW out hS p hF =>
    exact .inr ⟨_, _, _, _, _, _, _, _, _, _, hA, hP, hI, hL, hW, by rw [hS]; simp only [hF]⟩

/-- **`sa.place` terminates under cooling**: if the oracle reports `cooled` at pass `N`, then with
`N` passes of fuel the model of `sa.place` never reports `fuel`; and when it returns it has made at
most `len(warm) + N * num_steps` kernel steps. -/
theorem saPlace_terminates_under_cooling (vr : VR) (cs : List Constraint) (m : Machine) (locs : List Chip)
    (vs : List Vtx) (warm : List Step) (numSteps : Nat) (o : Nat → Tick) (fuel N : Nat)
    (hcool : (o N).hot = false) (hfuel : N ≤ fuel) :
    saPlaceSched vr cs m locs vs warm numSteps o fuel ≠ .error .fuel ∧
    ∀ p out, saPlaceSched vr cs m locs vs warm numSteps o fuel = .ok (p, out) →
      out.iterations ≤ N ∧ out.kernelSteps ≤ warm.length + N * numSteps := by
  obtain ⟨e, h⟩ | ⟨vr', _, subs, _, fixed, _, _, _, s1, fl1, -, -, -, -, -, h⟩ :=
    saPlaceSched_cases vr cs m locs vs warm numSteps o fuel <;> rw [h]
  · exact ⟨nofun, nofun⟩
  have hT := schedLoop_terminates_under_cooling vr' (keys fixed) numSteps o fuel N 0 s1 fl1 warm.length
    (by rw [Nat.zero_add]; exact hcool) hfuel
  cases hS : schedLoop vr' (keys fixed) numSteps o fuel 0 s1 fl1 warm.length with
  | error e => exact ⟨fun he => by cases he; exact hT hS, nofun⟩
  | ok out =>
    simp only
    obtain ⟨-, -, c, -⟩ := schedLoop_steps vr' (keys fixed) numSteps o fuel 0 s1 fl1 warm.length out hS
    have hit := schedLoop_stops_at_cooled vr' (keys fixed) numSteps o fuel 0 s1 fl1 warm.length out N hS
      (Nat.zero_le _) hcool
    cases finalise subs out.sa.p with
    | error e => exact ⟨nofun, nofun⟩
    | ok p =>
      refine ⟨nofun, fun p' out' h => ?_⟩
      cases h
      exact ⟨hit, c ▸ Nat.add_le_add_left (Nat.mul_le_mul_right _ hit) _⟩

/-- **The scheduled model refines `saPlace`**: whatever the schedule does, the placement it returns
is the one `Rig.C02.saPlace` returns for the concatenation of all proposals (the initial
`run_steps` and every pass of the loop) - so what is proved of a placement `saPlace` returns
(feasibility: `saPlaceSched_sound`) holds of the one the scheduled run returns; `vertices_resources`
non-empty (on `{}` `sa.place` returns before the kernel exists).  A failing scheduled run is not
related to `saPlace` here. -/
theorem saPlaceSched_refines_saPlace (vr : VR) (cs : List Constraint) (m : Machine) (locs : List Chip)
    (vs : List Vtx) (warm : List Step) (numSteps : Nat) (o : Nat → Tick) (fuel : Nat) (p : Placement) (out : Out)
    (hne : vr.length ≠ 0)
    (h : saPlaceSched vr cs m locs vs warm numSteps o fuel = .ok (p, out)) :
    saPlace vr cs m locs vs (some (warm ++ flatSteps o 0 out.iterations)) = .ok (p, out.flags) := by
  obtain ⟨e, h'⟩ | ⟨vr', cs', subs, m', fixed, m'', init, l2v, s1, fl1, hA, hP, hI, hL, hW, h'⟩ :=
    saPlaceSched_cases vr cs m locs vs warm numSteps o fuel <;> rw [h'] at h
  · cases h
  cases hS : schedLoop vr' (keys fixed) numSteps o fuel 0 s1 fl1 warm.length with
  | error e => rw [hS] at h; cases h
  | ok out' =>
    rw [hS] at h
    simp only at h
    have hfl := schedLoop_flat vr' (keys fixed) numSteps o fuel 0 s1 fl1 warm.length out' hS
    rw [Nat.sub_zero] at hfl
    cases hF : finalise subs out'.sa.p with
    | error e => rw [hF] at h; cases h
    | ok p' =>
      rw [hF] at h
      cases h
      unfold mergeP at hL hW
      unfold saPlace
      simp only [if_neg hne, bind, Except.bind, pure, Except.pure, hA, hP, hI, hL, saRun_append, hW, hfl, hF]

/-- **Feasibility of the scheduled run**: for every outcome of the shuffles, every proposal, every
accept bit and every outcome of the float tests of the schedule, what `sa.place` returns is
feasible. -/
theorem saPlaceSched_sound (vr : VR) (cs : List Constraint) (m : Machine) (locs : List Chip)
    (vs : List Vtx) (warm : List Step) (numSteps : Nat) (o : Nat → Tick) (fuel : Nat) (p : Placement) (out : Out)
    (hne : vr.length ≠ 0)
    (wf : WF vr cs m) (hcons : Consistent vr cs) (hempty : EmptyOK vr cs m)
    (hvs : ∀ vr' cs' subs m' fixed, applySame vr cs = .ok (vr', cs', subs) →
      prepareLoop vr' cs' m [] = .ok (m', fixed) → ∀ v ∈ keys vr', v ∈ vs ∨ v ∈ keys fixed)
    (h : saPlaceSched vr cs m locs vs warm numSteps o fuel = .ok (p, out)) : Feasible vr cs m p :=
  saPlace_sound vr cs m locs vs _ p out.flags wf hcons hempty hvs
    (saPlaceSched_refines_saPlace vr cs m locs vs warm numSteps o fuel p out hne h)

/-- a run that ends because the oracle reports `cooled` at pass 2: two passes of one kernel step
each, the second of which swaps the two vertices -/
example :
    (match saPlaceSched exVr [] { w := 2, h := 1, res := [1], exc := [], dead := [] } [(0, 0), (1, 0)] [.o 0, .o 1] [] 1
        (streamOf [exTick, { exTick with steps := [⟨.o 0, (1, 0), true⟩] }]) 2 with
      | .ok (p, out) => some (p, out.iterations, out.kernelSteps, out.flags, out.why)
      | .error _ => none) =
    some ([(.o 0, (1, 0)), (.o 1, (0, 0))], 2, 2, [false, true], .cooled) := rfl

/-- the hypothesis of `saPlace_terminates_under_cooling` holds for every finite recording continued by
`streamOf` -/
example (ts : List Tick) : (streamOf ts ts.length).hot = false := by simp [streamOf]

end Rig.C02Sched
