/-
C15 - translator tie: the encoders and decoders of rig/machine_control/packets.py (a packet object = its attributes,
passed as state; `struct.pack` / `struct.unpack_from` with literal formats = `pyStructPack` / `pyStructUnpackFrom` on
byte lists, with their `struct.error`) = the model functions the C15 theorems are about:
  `SDPPacket.bytestring` = `encodeSDP`, `SCPPacket.packed_data` = `packedData`, `SCPPacket.bytestring` (the
  inherited method with SCPPacket's `packed_data`) = `encodeSCP`, `_unpack_sdp_into_packet` and
  `SDPPacket.from_bytestring` = `decodeSDP`, `SCPPacket.from_bytestring` = `decodeSCP`,
for all attribute values (naturals; a missing argument is `none`) - including which packets are refused.
-/
import RigModel.Model.C15
import RigModel.Gen.PyFun
import RigModel.Lemmas.PyFunB
import RigModel.Lemmas.PyCast

-- see Lemmas/PyCast.lean
set_option linter.unusedSimpArgs false

namespace Rig.C15
open Rig.Gen Rig.Gen.Packets Rig.PyLoops Rig.PyFunB Rig.Lists

def bytesInt (d : List Nat) : List Int := d.map (fun (n : Nat) => (n : Int))

def excStr {α β : Type} (f : α → β) : Except Err α → Except String β
  | .ok v => .ok (f v)
  | .error .structError => .error "struct.error"

theorem pack_nil (big : Bool) : PyFun.pyStructPack big [] [] = .ok [] := rfl

theorem bytesInt_append (a b : List Nat) : bytesInt (a ++ b) = bytesInt a ++ bytesInt b := List.map_append

theorem length_bytesInt (d : List Nat) : (bytesInt d).length = d.length := List.length_map _

/-! `excStr` commutes with `bind`: a generated `match X with | .error e => .error e | .ok v => F v` (`E X _ F`, see
`PyFunB.match_eq_bind`) is the Python form of a `bind` of the model when `X` is the Python form of the model's
first computation and `F`, on the Python form of every value, that of the model's continuation. -/

theorem excStr_match {α α' β β' : Type}
    {E : Except String α' → (String → Except String β') → (α' → Except String β') → Except String β'}
    {f : α → α'} {g : β → β'} (x : Except Err α) {K : α → Except Err β}
    {X : Except String α'} {F : α' → Except String β'} (hx : X = excStr f x)
    (hK : ∀ a, F (f a) = excStr g (K a))
    (hE : IsExceptMatch E := by exact ⟨fun _ _ _ => rfl, fun _ _ _ => rfl⟩) :
    E X (fun e => .error e) F = excStr g (x >>= K) := by
  rw [match_eq_bind E X F hE, hx]
  cases x with
  | ok a => exact hK a
  | error e => cases e; rfl

/-- the last step: `match X with ... | .ok t => .ok (k t, st)` -/
theorem excStr_ret {β : Type} {E : Except String (List Int) → (String → Except String (List Int × β)) →
      (List Int → Except String (List Int × β)) → Except String (List Int × β)}
    (st : β) {X : Except String (List Int)} (k : List Int → List Int)
    {Y : Except Err (List Nat)} (h : X.map k = excStr bytesInt Y)
    (hE : IsExceptMatch E := by exact ⟨fun _ _ _ => rfl, fun _ _ _ => rfl⟩) :
    E X (fun e => .error e) (fun t => .ok (k t, st)) = excStr (fun b => (bytesInt b, st)) Y := by
  rw [match_eq_bind E X _ hE]
  cases X with
  | error s =>
    rcases Y with ⟨⟨⟩⟩ | y
    · exact congrArg Except.error (Except.error.inj h)
    · cases h
  | ok t =>
    rcases Y with ⟨⟨⟩⟩ | y
    · cases h
    · exact congrArg (fun b => Except.ok (b, st)) (Except.ok.inj h)

theorem pack_pad (fs : List PyFun.PyFmt) (vs : List Int) (g : List Int → List Int) :
    (PyFun.pyStructPack false (PyFun.PyFmt.x :: fs) vs).map g
      = (PyFun.pyStructPack false fs vs).map (fun r => g ((0 : Int) :: r)) := by
  rw [pack_x]
  cases PyFun.pyStructPack false fs vs <;> rfl

theorem pack_B {fs : List PyFun.PyFmt} {n : Nat} {vs : List Int} {g : List Int → List Int}
    {K : Nat → Except Err (List Nat)}
    (h : (PyFun.pyStructPack false fs vs).map (fun r => g ((n : Int) :: r)) = excStr bytesInt (K n)) :
    (PyFun.pyStructPack false (PyFun.PyFmt.B :: fs) ((n : Int) :: vs)).map g = excStr bytesInt (packB n >>= K) := by
  rw [pack_B_nat, packB]
  by_cases hn : n < 256
  · rw [if_pos hn, if_pos hn]
    refine Eq.trans ?_ h
    cases PyFun.pyStructPack false fs vs <;> rfl
  · rw [if_neg hn, if_neg hn]; rfl

/-- `(port & 0x7) << 5 | (cpu & 0x1f)` -/
theorem portCpu_int (port cpu : Nat) :
    Int.lor ((Int.land (port : Int) 7) <<< ((5 : Int)).toNat) (Int.land (cpu : Int) 31) = ((portCpu port cpu : Nat) : Int) := by
  simp (disch := decide) only [portCpu, py_cast]

theorem portCpu_def' (port cpu : Nat) : (cpu &&& 31) ||| ((port &&& 7) <<< 5) = portCpu port cpu := by
  rw [Nat.lor_comm]; rfl

theorem portCpu_def (port cpu : Nat) : ((port &&& 7) <<< 5) ||| (cpu &&& 31) = portCpu port cpu := rfl

theorem flag_int (b : Bool) :
    (if b = true then (135 : Int) else 7) = (((if b then FLAG_REPLY else FLAG_NO_REPLY : Nat)) : Int) := by
  cases b <;> rfl

/-- the attributes of an SDP packet as the generated definitions return them (unchanged) -/
def sdpState (p : SDP) : Bool × Int × Int × Int × Int × Int × Int × Int × Int × Int × List Int :=
  (p.reply, (p.tag : Int), (p.destPort : Int), (p.destCpu : Int), (p.srcPort : Int), (p.srcCpu : Int),
   (p.destX : Int), (p.destY : Int), (p.srcX : Int), (p.srcY : Int), bytesInt p.data)

theorem gen_sdp_packed_data (p : SDP) :
    PyFun.SDPPacket_packed_data p.reply p.tag p.destPort p.destCpu p.srcPort p.srcCpu p.destX p.destY p.srcX p.srcY
        (bytesInt p.data) = (bytesInt p.data, sdpState p) := rfl

/-- `struct.pack('<2x8B', ...)` = the model's chain of `packB` -/
theorem header_pack (p : SDP) (rest : List Nat) :
    (PyFun.pyStructPack false
      [PyFun.PyFmt.x, PyFun.PyFmt.x, PyFun.PyFmt.B, PyFun.PyFmt.B, PyFun.PyFmt.B, PyFun.PyFmt.B, PyFun.PyFmt.B,
       PyFun.PyFmt.B, PyFun.PyFmt.B, PyFun.PyFmt.B]
      [(((if p.reply then FLAG_REPLY else FLAG_NO_REPLY : Nat)) : Int), (p.tag : Int),
       ((portCpu p.destPort p.destCpu : Nat) : Int), ((portCpu p.srcPort p.srcCpu : Nat) : Int),
       (p.destY : Int), (p.destX : Int), (p.srcY : Int), (p.srcX : Int)]).map (fun h => h ++ bytesInt rest)
      = excStr bytesInt (encodeHeader p rest) := by
  rw [pack_pad, pack_pad]
  iterate 8 refine pack_B ?_
  rfl

theorem gen_sdp_bytestring (p : SDP) :
    PyFun.SDPPacket_bytestring p.reply p.tag p.destPort p.destCpu p.srcPort p.srcCpu p.destX p.destY p.srcX p.srcY
        (bytesInt p.data)
      = excStr (fun b => (bytesInt b, sdpState p)) (encodeSDP p) := by
  unfold PyFun.SDPPacket_bytestring
  rw [flag_int]
  -- the port/cpu bytes as casts of the model's `portCpu`, whichever way round the source `|`s their two halves
  simp (disch := decide) only [py_cast, portCpu_def, portCpu_def']
  exact excStr_ret (sdpState p) (fun t => t ++ bytesInt p.data) (header_pack p p.data)

def optI : Option Nat → Option Int
  | none => none
  | some a => some (a : Int)

def scpState (p : SCP) :
    Bool × Int × Int × Int × Int × Int × Int × Int × Int × Int × List Int × Int × Int × Option Int × Option Int × Option Int :=
  (p.hdr.reply, (p.hdr.tag : Int), (p.hdr.destPort : Int), (p.hdr.destCpu : Int), (p.hdr.srcPort : Int),
   (p.hdr.srcCpu : Int), (p.hdr.destX : Int), (p.hdr.destY : Int), (p.hdr.srcX : Int), (p.hdr.srcY : Int),
   bytesInt p.hdr.data, (p.cmd : Int), (p.seq : Int), optI p.arg1, optI p.arg2, optI p.arg3)

/-- `if self.argN is not None: scp_header += struct.pack("<I", self.argN)`: the generated fragment `S` (given by what
it is for `None` and for a value) appends the model's `packArg` to the header `T` -/
theorem pack_arg {E : Except String (List Int) → (String → Except String (List Int)) →
      (List Int → Except String (List Int)) → Except String (List Int)}
    {T : List Int} (a : Option Nat) {S : Except String (List Int)}
    (hn : a = none → S = .ok T := by intro h; subst h; rfl)
    (hs : ∀ v, a = some v →
      S = E (PyFun.pyStructPack false [PyFun.PyFmt.I] [(v : Int)]) (fun e => .error e) (fun t => .ok (T ++ t)) := by
      intro v h; subst h; rfl)
    (hE : IsExceptMatch E := by exact ⟨fun _ _ _ => rfl, fun _ _ _ => rfl⟩) :
    S = excStr (fun w => T ++ bytesInt w) (packArg a) := by
  cases a with
  | none => rw [hn rfl]; exact congrArg Except.ok (List.append_nil T).symm
  | some v =>
    rw [hs v rfl, match_eq_bind E _ _ hE, pack_I_le, pack_nil, packArg, packI]
    split <;> rfl

theorem gen_scp_packed_data (p : SCP) :
    PyFun.SCPPacket_packed_data p.hdr.reply p.hdr.tag p.hdr.destPort p.hdr.destCpu p.hdr.srcPort p.hdr.srcCpu
        p.hdr.destX p.hdr.destY p.hdr.srcX p.hdr.srcY (bytesInt p.hdr.data) p.cmd p.seq (optI p.arg1) (optI p.arg2)
        (optI p.arg3)
      = excStr (fun b => (bytesInt b, scpState p)) (packedData p) := by
  obtain ⟨hdr, cmd, seq, a1, a2, a3⟩ := p
  unfold PyFun.SCPPacket_packed_data packedData
  dsimp only
  rw [pack_H_le, pack_H_le, pack_nil, packH, packH]
  by_cases h1 : cmd < 65536
  swap
  · rw [if_neg h1, if_neg h1]; rfl
  by_cases h2 : seq < 65536
  swap
  · rw [if_pos h1, if_neg h2, if_pos h1, if_neg h2]; rfl
  rw [if_pos h1, if_pos h2, if_pos h1, if_pos h2]
  simp only [Except.map, bind, Except.bind]
  -- the three optional arguments, one after the other, each appended to the header packed so far
  refine excStr_match (packArg a1) (pack_arg a1) (fun w1 => ?_)
  refine excStr_match (packArg a2) (pack_arg a2) (fun w2 => ?_)
  refine excStr_match (packArg a3) (pack_arg a3) (fun w3 => ?_)
  simp only [excStr, pure, Except.pure, bytesInt_append, List.append_assoc, List.append_nil]
  rfl

/-- Python packs the header first and the payload second, the model the other way round: the outcome is the same, both
failures are `struct.error` -/
theorem gen_scp_bytestring (p : SCP) :
    PyFun.SCPPacket_bytestring p.hdr.reply p.hdr.tag p.hdr.destPort p.hdr.destCpu p.hdr.srcPort p.hdr.srcCpu
        p.hdr.destX p.hdr.destY p.hdr.srcX p.hdr.srcY (bytesInt p.hdr.data) p.cmd p.seq (optI p.arg1) (optI p.arg2)
        (optI p.arg3)
      = excStr (fun b => (bytesInt b, scpState p)) (encodeSCP p) := by
  unfold PyFun.SCPPacket_bytestring encodeSCP
  rw [flag_int]
  simp (disch := decide) only [py_cast, portCpu_def, portCpu_def']
  rw [gen_scp_packed_data]
  cases hd : packedData p with
  | error e =>
    cases e
    refine (match_eq_bind _ _ _).trans ?_
    generalize h : PyFun.pyStructPack false _ _ = r
    cases r with
    | error e =>
      -- the header alone fails in the model too, and the model's only exception is `struct.error`
      have hp := header_pack p.hdr []
      rw [h] at hp
      cases he : encodeHeader p.hdr [] with
      | error e' => cases e'; rw [he] at hp; exact congrArg Except.error (Except.error.inj hp)
      | ok y => rw [he] at hp; cases hp
    | ok t => rfl
  | ok d =>
    simp only [excStr]
    exact excStr_ret (scpState p) (fun t => t ++ bytesInt d) (header_pack p.hdr d)

theorem flag_beq (f : Nat) : decide ((f : Int) = 135) = (f == FLAG_REPLY) := by
  rw [Bool.eq_iff_iff, decide_eq_true_eq, beq_iff_eq, FLAG_REPLY]; omega

/-- the attributes the packet had before (`q`) are irrelevant -/
theorem gen_unpack_sdp (q : SDP) (bs : List Nat) :
    PyFun.unpack_sdp_into_packet q.reply q.tag q.destPort q.destCpu q.srcPort q.srcCpu q.destX q.destY q.srcX q.srcY
        (bytesInt q.data) (bytesInt bs)
      = excStr sdpState (decodeSDP bs) := by
  unfold decodeSDP
  split
  · rename_i rest
    rw [PyFun.unpack_sdp_into_packet, unpackFrom_zero,
      if_neg (by rw [length_bytesInt]; exact Nat.not_lt.2 (Nat.le_add_left 10 rest.length)),
      show (10 : Int) = ((10 : Nat) : Int) from rfl, pySlice_from]
    simp only [bytesInt, List.map_cons, values_x, values_B, values_nil, List.getD_cons_zero, List.getD_cons_succ,
      List.drop_succ_cons, List.drop_zero, flag_beq]
    rfl
  · rename_i hne
    rw [PyFun.unpack_sdp_into_packet, unpackFrom_zero, length_bytesInt,
      if_pos (Nat.lt_of_not_le fun h => hne _ _ _ _ _ _ _ _ _ _ _ (eq_ofFn_append_drop h))]
    rfl

/-- `packet = cls()`: the attributes the constructor leaves (`q`) are irrelevant -/
theorem gen_sdp_from_bytestring (q : SDP) (bs : List Nat) :
    PyFun.SDPPacket_from_bytestring q.reply q.tag q.destPort q.destCpu q.srcPort q.srcCpu q.destX q.destY q.srcX q.srcY
        (bytesInt q.data) (bytesInt bs)
      = excStr sdpState (decodeSDP bs) := by
  unfold PyFun.SDPPacket_from_bytestring
  rw [gen_unpack_sdp]
  rcases decodeSDP bs with ⟨⟨⟩⟩ | p <;> rfl

/-- one 32-bit argument read at a byte offset inside the data (the offset as the generated code writes it, `0 + 4`
say, with the natural it equals by `rfl`) -/
theorem unpack_I (data : List Nat) (ki : Int) (k : Nat) (hk : ki = k) (h : k + 4 ≤ data.length) :
    PyFun.pyStructUnpackFrom false [PyFun.PyFmt.I] (bytesInt data) ki
      = .ok [((word32 ((data.drop k).take 4) : Nat) : Int)] := by
  subst hk
  rw [unpackFrom_natCast, if_neg (by rw [length_bytesInt]; exact Nat.not_lt.2 h), bytesInt, ← List.map_drop]
  unfold word32
  split
  · rename_i heq
    rw [← List.take_append_drop 4 (data.drop k), heq]
    simp only [List.map_append, List.map_cons, List.map_nil, List.cons_append, List.nil_append, values_I, values_nil]
  · rename_i hne
    have hl : ((data.drop k).take 4).length = 4 := by rw [List.length_take, List.length_drop]; omega
    exact (hne _ _ _ _ (eq_ofFn_of_length hl)).elim

theorem unpack_HH (c0 c1 s0 s1 : Nat) (rest : List Nat) :
    PyFun.pyStructUnpackFrom false [PyFun.PyFmt.H, PyFun.PyFmt.H] (bytesInt (c0 :: c1 :: s0 :: s1 :: rest)) 0
      = .ok [((c0 + 256 * c1 : Nat) : Int), ((s0 + 256 * s1 : Nat) : Int)] := by
  rw [unpackFrom_zero, if_neg (by rw [length_bytesInt]; exact Nat.not_lt.2 (Nat.le_add_left 4 rest.length)), bytesInt,
    List.map_cons, List.map_cons, List.map_cons, List.map_cons, values_H, values_H, values_nil]

/-- `data[off:]` -/
theorem pySlice_drop (data : List Nat) (ki : Int) (k : Nat) (hk : ki = k) :
    PyFun.pySlice (bytesInt data) ki (((bytesInt data).length : Nat) : Int) = bytesInt (data.drop k) := by
  rw [hk, pySlice_from, bytesInt, bytesInt, List.map_drop]

/-- the fresh packet has no arguments; its other attributes are irrelevant -/
theorem gen_scp_from_bytestring (q : SDP) (c0 s0 : Int) (bs : List Nat) (nArgs : Nat) :
    PyFun.SCPPacket_from_bytestring q.reply q.tag q.destPort q.destCpu q.srcPort q.srcCpu q.destX q.destY q.srcX q.srcY
        (bytesInt q.data) c0 s0 none none none (bytesInt bs) (nArgs : Int)
      = excStr scpState (decodeSCP bs nArgs) := by
  unfold PyFun.SCPPacket_from_bytestring decodeSCP
  refine excStr_match (f := fun p => (p.reply, (p.tag : Int), (p.destPort : Int), (p.destCpu : Int), (p.srcPort : Int),
    (p.srcCpu : Int), (p.destX : Int), (p.destY : Int), (p.srcX : Int), (p.srcY : Int), bytesInt p.data))
    (decodeSDP bs) (gen_unpack_sdp q bs) (fun p => ?_)
  rcases hd : p.data with _ | ⟨a0, _ | ⟨a1, _ | ⟨b0, _ | ⟨b1, data⟩⟩⟩⟩
  iterate 4 rfl
  have s4 : PyFun.pySlice (bytesInt (a0 :: a1 :: b0 :: b1 :: data)) 4
      (((bytesInt (a0 :: a1 :: b0 :: b1 :: data)).length : Nat) : Int) = bytesInt data := pySlice_drop _ 4 4 rfl
  dsimp only
  rw [unpack_HH, s4, length_bytesInt]
  dsimp only [List.getD_cons_zero, List.getD_cons_succ]
  by_cases h1 : nArgs ≥ 1 ∧ data.length ≥ 4
  swap
  · rw [if_neg h1, if_neg (by omega)]
    dsimp only
    rw [← length_bytesInt, pySlice_drop data 0 0 rfl]
    rfl
  rw [if_pos h1, if_pos (by omega), unpack_I data 0 0 rfl (by omega)]
  dsimp only [List.getD_cons_zero]
  by_cases h2 : nArgs ≥ 2 ∧ data.length ≥ 8
  swap
  · rw [if_neg h2, if_neg (by omega)]
    dsimp only
    rw [← length_bytesInt, pySlice_drop data (0 + 4) 4 rfl]
    rfl
  rw [if_pos h2, if_pos (by omega), unpack_I data (0 + 4) 4 rfl (by omega)]
  dsimp only [List.getD_cons_zero]
  by_cases h3 : nArgs ≥ 3 ∧ data.length ≥ 12
  swap
  · rw [if_neg h3, if_neg (by omega)]
    dsimp only
    rw [← length_bytesInt, pySlice_drop data (0 + 4 + 4) 8 rfl]
    rfl
  rw [if_pos h3, if_pos (by omega), unpack_I data (0 + 4 + 4) 8 rfl (by omega)]
  dsimp only [List.getD_cons_zero]
  rw [← length_bytesInt, pySlice_drop data (0 + 4 + 4 + 4) 12 rfl]
  rfl

end Rig.C15
