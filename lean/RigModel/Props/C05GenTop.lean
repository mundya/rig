/-
C05 - translator tie, outer loops: the generated loops over the resources of a vertex (`allocate_loop5`), the
vertices of a chip (`allocate_loop4`) and the chips (`allocate_loop3`) of `Gen/PyFun.lean: allocate` are the model's
`allocResources` / `allocVertices` / `allocChips` (run with one fuel for every `while` loop), incl. the `break` /
exception flag, the order of the result dicts and the pointers handed from one vertex to the next.
-/
import RigModel.Props.C05GenDefs

namespace Rig.C05
open Rig.Gen Rig.PyDict
open Rig.Gen.PyFun (pyDictSet)

abbrev OutTy := List (Nat × List (Nat × Option (Int × Int)))

/-- `vertex_allocation[resource] = slice(start, stop)` -/
def encE (e : Entry) : Nat × Option (Int × Int) := (e.res, some (encS e.s))

/-- the returned `{vertex: {resource: slice}}` in insertion order -/
def encOut (out : List (Vertex × List Entry)) : OutTy := out.map fun o => (o.1, o.2.map encE)

/-- result or exception of the model, as the generated function reports it -/
def encR : Except Err (List (Vertex × List Entry)) → Except String OutTy
  | .ok out => .ok (encOut out)
  | .error e => .error (errName e)

/-- **`for resource, requirement in iteritems(vertices_resources[vertex])`** = the model's `allocResources`
(with the same fuel for every `while` loop): same ranges in the same order in `vertex_allocation`, the pointers
handed on, or the same exception -/
theorem gen_resources {inp : Input} {G : List (Nat × List (Int × Int))}
    {L : List ((Int × Int) × List (Nat × List (Int × Int)))} {A : List (Nat × Int)} (T : Tables inp G L A)
    (hA : ∀ res, alignment inp.constraints res ≠ 0) (fuel : Nat) (hf : 0 < fuel) (xy : Chip) (v : Vertex) :
    ∀ (rs : List (Res × Int)) (rp : List (Nat × Int)) (ptrs : Ptrs) (va : VA),
      Rel inp.machine.chipResources rp ptrs → (rs.map (·.1)).Nodup → (∀ rd ∈ rs, va.lookup rd.1 = none) →
      (∀ ptrs' es, allocResourcesG (allocOneF fuel inp) xy v rs ptrs = .ok (ptrs', es) →
        ∃ rp', List.foldl (PyFun.allocate_loop5 (mgetOf inp.machine) fuel G L A xy) (false, none, rp, va) rs
            = (false, none, rp', va ++ es.map encE) ∧ Rel inp.machine.chipResources rp' ptrs') ∧
      (∀ err, allocResourcesG (allocOneF fuel inp) xy v rs ptrs = .error err →
        ∃ rp' va', List.foldl (PyFun.allocate_loop5 (mgetOf inp.machine) fuel G L A xy) (false, none, rp, va) rs
            = (true, some (.error (errName err)), rp', va')) := by
  intro rs
  induction rs with
  | nil =>
    intro rp ptrs va hr _ _
    exact tie' ⟨rp, by rw [List.map_nil, List.append_nil]; rfl, hr⟩
  | cons rd rs ih =>
    intro rp ptrs va hr hnd hva
    obtain ⟨res, d⟩ := rd
    obtain ⟨g1, g2⟩ := gen_allocOne T hA fuel hf xy v res d rp ptrs va hr
    rw [List.map_cons, List.nodup_cons] at hnd
    rw [List.foldl_cons]
    unfold allocResourcesG
    cases h1 : allocOneF fuel inp xy v res d ptrs with
    | error err =>
      obtain ⟨rp', va', e⟩ := g2 err h1
      rw [e, PyLoops.foldl_fixed (fun _ => rfl)]
      exact tie' ⟨_, _, rfl⟩
    | ok pe =>
      obtain ⟨p1, e⟩ := pe
      obtain ⟨rp1, e1, r1⟩ := g1 p1 e h1
      rw [e1, pyDictSet_of_lookup_none (hva (res, d) List.mem_cons_self)]
      obtain ⟨i1, i2⟩ := ih rp1 p1 (va ++ [(res, some (encS e.s))]) r1 hnd.2 (fun rd hrd =>
        Assoc.lookup_append_of_not_mem (hva rd (List.mem_cons_of_mem _ hrd))
          (fun hm => hnd.1 (List.mem_map.2 ⟨rd, hrd, List.mem_singleton.1 hm⟩)))
      dsimp only
      cases h2 : allocResourcesG (allocOneF fuel inp) xy v rs p1 with
      | error err => exact tie' (i2 _ h2)
      | ok pes =>
        obtain ⟨rp', w1, w2⟩ := i1 _ _ h2
        rw [allocOneF_eq] at h1
        obtain ⟨_, _, _, _, _, rfl⟩ := allocOneBy_ok h1
        exact tie' ⟨rp', by rw [w1, List.append_assoc]; rfl, w2⟩

abbrev St4 := Bool × RetTy × List (Nat × Int) × OutTy

theorem loop4_unfold (vr mget fuel G L A xy rp) (al : OutTy) (v) :
    PyFun.allocate_loop4 vr mget fuel G L A xy (false, none, rp, al) v =
      match vr.lookup v with
      | none => (true, some (.error "KeyError"), rp, al)
      | some rs =>
        match List.foldl (PyFun.allocate_loop5 mget fuel G L A xy) (false, none, rp, []) rs with
        | (_, some r, rp', _) => (true, some r, rp', al)
        | (_, none, rp', va) => (false, none, rp', pyDictSet al v va) := by
  unfold PyFun.allocate_loop4
  simp only [Bool.false_eq_true, if_false, pyDictGet_eq]
  cases vr.lookup v with
  | none => rfl
  | some rs =>
    simp only []
    generalize List.foldl (PyFun.allocate_loop5 mget fuel G L A xy) _ rs = w
    obtain ⟨b, r, rp', va⟩ := w
    cases r <;> rfl

/-- **`for vertex in chip_vertices`** = the model's `allocVertices` -/
theorem gen_vertices {inp : Input} {G : List (Nat × List (Int × Int))}
    {L : List ((Int × Int) × List (Nat × List (Int × Int)))} {A : List (Nat × Int)} (T : Tables inp G L A)
    (hA : ∀ res, alignment inp.constraints res ≠ 0) (hN : ∀ q ∈ inp.vr, (q.2.map (·.1)).Nodup)
    (fuel : Nat) (hf : 0 < fuel) (xy : Chip) :
    ∀ (vs : List Vertex) (rp : List (Nat × Int)) (ptrs : Ptrs) (al : OutTy),
      Rel inp.machine.chipResources rp ptrs → vs.Nodup → (∀ v ∈ vs, al.lookup v = none) →
      (∀ out, allocVerticesG (allocOneF fuel inp) inp.vr xy vs ptrs = .ok out →
        ∃ rp', List.foldl (PyFun.allocate_loop4 inp.vr (mgetOf inp.machine) fuel G L A xy) (false, none, rp, al) vs
            = (false, none, rp', al ++ encOut out)) ∧
      (∀ err, allocVerticesG (allocOneF fuel inp) inp.vr xy vs ptrs = .error err →
        ∃ rp' al', List.foldl (PyFun.allocate_loop4 inp.vr (mgetOf inp.machine) fuel G L A xy) (false, none, rp, al) vs
            = (true, some (.error (errName err)), rp', al')) := by
  intro vs
  induction vs with
  | nil =>
    intro rp ptrs al hr _ _
    exact tie ⟨rp, by rw [encOut, List.map_nil, List.append_nil]; rfl⟩
  | cons v vs ih =>
    intro rp ptrs al hr hnd hal
    rw [List.nodup_cons] at hnd
    rw [List.foldl_cons, loop4_unfold]
    unfold allocVerticesG
    cases hl : inp.vr.lookup v with
    | none =>
      dsimp only
      rw [PyLoops.foldl_fixed (fun _ => rfl)]
      exact tie ⟨_, _, rfl⟩
    | some rs =>
      dsimp only
      obtain ⟨g1, g2⟩ := gen_resources T hA fuel hf xy v rs rp ptrs [] hr (hN (v, rs) (Assoc.mem_of_lookup hl))
        (fun _ _ => rfl)
      cases h1 : allocResourcesG (allocOneF fuel inp) xy v rs ptrs with
      | error err =>
        obtain ⟨rp', va', e⟩ := g2 err h1
        rw [e]
        dsimp only
        rw [PyLoops.foldl_fixed (fun _ => rfl)]
        exact tie ⟨_, _, rfl⟩
      | ok pe =>
        obtain ⟨p1, es⟩ := pe
        obtain ⟨rp1, e1, r1⟩ := g1 p1 es h1
        rw [e1]
        dsimp only
        rw [List.nil_append, pyDictSet_of_lookup_none (hal v List.mem_cons_self)]
        obtain ⟨i1, i2⟩ := ih rp1 p1 (al ++ [(v, es.map encE)]) r1 hnd.2 (fun w hw =>
          Assoc.lookup_append_of_not_mem (hal w (List.mem_cons_of_mem _ hw))
            (fun hm => hnd.1 ((List.mem_singleton.1 hm : w = v) ▸ hw)))
        cases h2 : allocVerticesG (allocOneF fuel inp) inp.vr xy vs p1 with
        | error err => exact tie (i2 _ h2)
        | ok rest =>
          obtain ⟨rp', w1⟩ := i1 _ h2
          exact tie ⟨rp', by rw [w1, List.append_assoc]; rfl⟩

theorem loop3_unfold (vr cr mget fuel G L A) (al : OutTy) (xy vs) :
    PyFun.allocate_loop3 vr cr mget fuel G L A (false, none, al) (xy, vs) =
      match List.foldl (PyFun.allocate_loop4 vr mget fuel G L A xy)
          (false, none, cr.map (fun kv => (kv.1, (0 : Int))), al) vs with
      | (_, some r, _, al') => (true, some r, al')
      | (_, none, _, al') => (false, none, al') := by
  unfold PyFun.allocate_loop3
  simp only [Bool.false_eq_true, if_false]
  generalize List.foldl (PyFun.allocate_loop4 vr mget fuel G L A xy) _ vs = w
  obtain ⟨b, r, rp', al'⟩ := w
  cases r <;> rfl

/-- `resource_pointers = {resource: 0 for resource in machine.chip_resources}` -/
theorem rel_init (cr : List (Res × Int)) : Rel cr (cr.map (fun kv => (kv.1, (0 : Int)))) (fun _ => 0) := by
  intro r
  induction cr with
  | nil => rfl
  | cons a t ih =>
    rw [List.map_cons, List.lookup_cons, List.any_cons, BEq.comm (a := r)]
    cases a.1 == r
    · exact ih
    · rfl

/-- **`for xy, chip_vertices in iteritems(chip_contents)`** = the model's `allocChips` -/
theorem gen_chips {inp : Input} {G : List (Nat × List (Int × Int))}
    {L : List ((Int × Int) × List (Nat × List (Int × Int)))} {A : List (Nat × Int)} (T : Tables inp G L A)
    (hA : ∀ res, alignment inp.constraints res ≠ 0) (hN : ∀ q ∈ inp.vr, (q.2.map (·.1)).Nodup)
    (fuel : Nat) (hf : 0 < fuel) :
    ∀ (cc : List (Chip × List Vertex)) (al : OutTy),
      (cc.flatMap (·.2)).Nodup → (∀ v ∈ cc.flatMap (·.2), al.lookup v = none) →
      (∀ out, allocChipsL (allocOneF fuel inp) inp.vr cc = .ok out →
        List.foldl (PyFun.allocate_loop3 inp.vr inp.machine.chipResources (mgetOf inp.machine) fuel G L A)
            (false, none, al) cc = (false, none, al ++ encOut out)) ∧
      (∀ err, allocChipsL (allocOneF fuel inp) inp.vr cc = .error err →
        ∃ al', List.foldl (PyFun.allocate_loop3 inp.vr inp.machine.chipResources (mgetOf inp.machine) fuel G L A)
            (false, none, al) cc = (true, some (.error (errName err)), al')) := by
  intro cc
  induction cc with
  | nil =>
    intro al _ _
    exact tie (by show _ = _; rw [encOut, List.map_nil, List.append_nil]; rfl)
  | cons c cc ih =>
    intro al hnd hal
    obtain ⟨xy, vs⟩ := c
    rw [List.flatMap_cons, List.nodup_append] at hnd
    rw [List.foldl_cons, loop3_unfold]
    unfold allocChipsL
    obtain ⟨g1, g2⟩ := gen_vertices T hA hN fuel hf xy vs _ _ al (rel_init inp.machine.chipResources) hnd.1
      (fun v hv => hal v (List.mem_append_left _ hv))
    cases h1 : allocVerticesG (allocOneF fuel inp) inp.vr xy vs (fun _ => 0) with
    | error err =>
      obtain ⟨rp', al', e⟩ := g2 err h1
      rw [e]
      dsimp only
      rw [PyLoops.foldl_fixed (fun _ => rfl)]
      exact tie ⟨_, rfl⟩
    | ok a =>
      obtain ⟨rp1, e1⟩ := g1 a h1
      rw [e1]
      dsimp only
      obtain ⟨i1, i2⟩ := ih (al ++ encOut a) hnd.2.1 (fun w hw =>
        Assoc.lookup_append_of_not_mem (hal w (List.mem_append_right _ hw)) (fun hm => by
          rw [encOut, List.map_map] at hm
          have hm : w ∈ a.map (·.1) := hm
          rw [(allocVerticesG_keys _ _ _ _ _).ok h1] at hm
          exact hnd.2.2 w hm w hw rfl))
      cases h2 : allocChipsL (allocOneF fuel inp) inp.vr cc with
      | error err => exact tie (i2 _ h2)
      | ok b =>
        exact tie (by show _ = _; rw [i1 _ h2, encOut, encOut, encOut, List.map_append, List.append_assoc])

end Rig.C05
