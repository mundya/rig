/-
C14 - what is read out of a core's memory: the IOBUF chain, the vcpu status block, scalar struct
fields, and the probes under the bundled struct layout.
-/
import RigModel.Lemmas.C14Bytes

namespace Rig.C14
open Rig.Gen.C14

theorem blockBytes_parts (b : IoBlock) (next : Nat) :
    ((blockBytes b next).take 16).length = 16 ∧ (blockBytes b next).take 4 = le32 next ∧
    ((blockBytes b next).drop 12).take 4 = le32 b.len ∧ (blockBytes b next).drop 16 = b.data := by
  simp [blockBytes, le32]

theorem chainNext_cons (b : IoBlock) (bs : List IoBlock) : chainNext (b :: bs) = b.addr := rfl

/-- the table's fields tile chunks of the lengths `ns` from offset `base` on: field `i` starts where chunk `i`
starts and is no longer than it -/
def tiles : Nat → List (String × Nat × Nat × Bool × Nat) → List Nat → Bool
  | _, [], _ => true
  | base, f :: fs, n :: ns => f.2.1 == base && decide (f.2.2.1 ≤ n) && tiles (base + n) fs ns
  | _, _ :: _, [] => false

def fieldOf (f : String × Nat × Nat × Bool × Nat) (c : List Nat) : String × FieldVal :=
  (f.1, if f.2.2.2.1 then .str (c.take f.2.2.1) else .int (leVal (c.take f.2.2.1)))

theorem unpackFields_tiles (fs : List (String × Nat × Nat × Bool × Nat)) (pre : List Nat) (cs : List (List Nat))
    (h : tiles pre.length fs (cs.map List.length) = true) :
    unpackFields (pre ++ cs.flatten) fs = .ok (List.zipWith fieldOf fs cs) := by
  induction fs generalizing pre cs with
  | nil => rfl
  | cons f fs ih =>
    obtain ⟨name, off, size, isStr, cnt⟩ := f
    cases cs with
    | nil => cases h
    | cons c cs =>
      simp only [List.map_cons, tiles, Bool.and_eq_true, beq_iff_eq, decide_eq_true_eq] at h
      obtain ⟨⟨rfl, hsz⟩, hrest⟩ := h
      have ih' := ih (pre ++ c) cs (by rw [List.length_append]; exact hrest)
      rw [List.append_assoc] at ih'
      simp only [unpackFields, List.flatten_cons, List.drop_left, List.take_append_of_le_length hsz,
        List.length_take, Nat.min_eq_left hsz, ne_eq, not_true, if_false, ih', List.zipWith_cons_cons, fieldOf]

/-- the straight-line part of `get_processor_status` on an unpacked field list.  The values are variables on purpose:
with the terms of `status_fields_partial` in their place the kernel's check of the 496 name comparisons takes two
orders of magnitude longer. -/
theorem decodeStatus_of_fields {data : List Nat}
    {a0 a1 a2 a3 a4 a5 a6 a7 a8 a9 a10 a11 a12 a13 a14 a15 a16 a17 a18 a19 a20 a21 a22 : Nat}
    {nm : List Nat} {a24 a25 a26 a27 a28 a29 a30 : Nat}
    (hu : unpackFields data VCPU_FIELDS = .ok
      [("r0", .int a0), ("r1", .int a1), ("r2", .int a2), ("r3", .int a3), ("r4", .int a4), ("r5", .int a5),
       ("r6", .int a6), ("r7", .int a7), ("psr", .int a8), ("sp", .int a9), ("lr", .int a10), ("rt_code", .int a11),
       ("phys_cpu", .int a12), ("cpu_state", .int a13), ("app_id", .int a14), ("mbox_ap_msg", .int a15),
       ("mbox_mp_msg", .int a16), ("mbox_ap_cmd", .int a17), ("mbox_mp_cmd", .int a18), ("sw_count", .int a19),
       ("sw_file", .int a20), ("sw_line", .int a21), ("time", .int a22), ("app_name", .str nm), ("iobuf", .int a24),
       ("sw_ver", .int a25), ("__PAD", .int a26), ("user0", .int a27), ("user1", .int a28), ("user2", .int a29),
       ("user3", .int a30)])
    (hname : (strip0 nm).any (· ≥ 128) = false) (hcpu : validState a13 = true)
    (hrt : RTE_VALUES.contains a11 = true) :
    decodeStatus data = .ok
      { registers := [a0, a1, a2, a3, a4, a5, a6, a7], psr := a8, sp := a9, lr := a10, rtCode := a11,
        physCpu := a12, cpuState := a13, mboxApMsg := a15, mboxMpMsg := a16, mboxApCmd := a17, mboxMpCmd := a18,
        swCount := a19, swFile := a20, swLine := a21, time := a22, appName := strip0 nm, iobuf := a24,
        appId := a14, version := ((a25 >>> 16) &&& 0xFF, (a25 >>> 8) &&& 0xFF, (a25 >>> 0) &&& 0xFF),
        userVars := [a27, a28, a29, a30] } := by
  unfold decodeStatus
  rw [hu]
  simp only [bind, Except.bind, List.mapM_cons, List.mapM_nil, pure, Except.pure, getInt, getStr, List.lookup,
    String.reduceBEq, hname, Bool.false_eq_true, if_false, hcpu, Bool.not_true, hrt]

theorem swver_split (p mi ma top : Nat) (hp : p < 256) (hmi : mi < 256) (hma : ma < 256) :
    ((leVal [p, mi, ma, top] >>> 16) &&& 0xFF, (leVal [p, mi, ma, top] >>> 8) &&& 0xFF,
      (leVal [p, mi, ma, top] >>> 0) &&& 0xFF) = (ma, mi, p) := by
  have h : ∀ b ∈ [p, mi, ma], b < 256 := by simp [hp, hmi, hma]
  have e2 := leVal_byte [p, mi, ma, top] 2 rfl (forall_mem_take h 3)
  have e1 := leVal_byte [p, mi, ma, top] 1 rfl (forall_mem_take h 2)
  have e0 := leVal_byte [p, mi, ma, top] 0 rfl (forall_mem_take h 1)
  simp only [Nat.reduceMul, Nat.mul_zero] at e0 e1 e2
  simp only [Nat.shiftRight_eq_div_pow, Nat.and_two_pow_sub_one_eq_mod _ 8, e0, e1, e2]

theorem structField_scalar (rd : Rd) (fields : List (String × Nat × Nat × Bool × Nat)) (base : Nat) (name : String)
    {off size : Nat} (hf : fields.find? (·.1 == name) = some (name, off, size, false, 1)) :
    structField rd fields base name = readInt rd (base + off) size := by
  simp [structField, hf]

theorem svFieldL_default (rd : Rd) (name : String) : svFieldL defaultLayout rd name = svField rd name := rfl

theorem sv_vcpu_base (rd : Rd) : svField rd "vcpu_base" = readInt rd (SV_BASE + SV_VCPU_BASE_OFF) SV_VCPU_BASE_SIZE :=
  structField_scalar rd SV_FIELDS SV_BASE "vcpu_base" (by decide +kernel)

theorem sv_find_iobuf_size : SV_FIELDS.find? (·.1 == "iobuf_size") = some ("iobuf_size", 80, 4, false, 1) := by
  decide +kernel

theorem sv_iobuf_size (rd : Rd) : svField rd "iobuf_size" = readInt rd (SV_BASE + SV_IOBUF_SIZE_OFF) SV_IOBUF_SIZE_SIZE :=
  structField_scalar rd SV_FIELDS SV_BASE "iobuf_size" sv_find_iobuf_size

theorem sv_p2p_dims (rd : Rd) : svField rd "p2p_dims" = readInt rd (SV_BASE + SV_P2P_DIMS_OFF) SV_P2P_DIMS_SIZE :=
  structField_scalar rd SV_FIELDS SV_BASE "p2p_dims" (by decide +kernel)

theorem vcpuAddrL_default (rd : Rd) (p : Nat) : vcpuAddrL defaultLayout rd p = vcpuAddr rd p := by
  simp only [vcpuAddrL, vcpuAddr, svFieldL_default, sv_vcpu_base]
  rfl

theorem decodeStatusL_default (data : List Nat) : decodeStatusL defaultLayout data = decodeStatus data := rfl

theorem processorStatusL_default (rd : Rd) (p : Nat) : processorStatusL defaultLayout rd p = processorStatus rd p := by
  simp only [processorStatusL, processorStatus, vcpuAddrL_default, decodeStatusL_default]
  rfl

theorem p2pTableL_default (rd : Rd) : p2pTableL defaultLayout rd = p2pTable rd := by
  simp only [p2pTableL, p2pTable, svFieldL_default, sv_p2p_dims]

theorem getSystemInfoL_default (rd : Rd) (probe : Nat × Nat → Option InfoReply) :
    getSystemInfoL defaultLayout rd probe = getSystemInfo rd probe := by
  simp only [getSystemInfoL, getSystemInfo, p2pTableL_default]

-- 88 = 0x58, `iobuf` in the vcpu block of `sark.struct`; no constant is generated for it
theorem vcpu_find_iobuf : VCPU_FIELDS.find? (·.1 == "iobuf") = some ("iobuf", 88, 4, false, 1) := by
  decide +kernel

theorem vcpu_iobuf (rd : Rd) (va : Nat) : structField rd VCPU_FIELDS va "iobuf" = readInt rd (va + 88) 4 :=
  structField_scalar rd VCPU_FIELDS va "iobuf" vcpu_find_iobuf

theorem vcpuFieldOff_iobuf : vcpuFieldOff "iobuf" = some 88 := by
  rw [vcpuFieldOff, vcpu_find_iobuf]; rfl

theorem iobufBytesL_default (rd : Rd) (p fuel : Nat) : iobufBytesL defaultLayout rd p fuel = iobufBytes rd p fuel := by
  simp only [iobufBytesL, iobufBytes, svFieldL_default, sv_iobuf_size, vcpuAddrL_default, vcpuFieldOff_iobuf,
    show defaultLayout.vcpuFields = VCPU_FIELDS from rfl, vcpu_iobuf]

end Rig.C14
