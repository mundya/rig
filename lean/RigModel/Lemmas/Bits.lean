/-
Bits of a `Nat`, once for all towers: words built by OR-ing single bits or fields together, tests of one bit, and fields
read back with `/` and `%` (the radix lemmas).
-/

namespace Rig.Bits

theorem testBit_false_of_lt {x n i : Nat} (h : x < 2 ^ n) (hi : n ≤ i) : x.testBit i = false :=
  Nat.testBit_lt_two_pow (Nat.lt_of_lt_of_le h (Nat.pow_le_pow_right (by decide) hi))

theorem testBit_foldl_or {α : Type} (g : α → Nat) (l : List α) (a i : Nat) :
    (l.foldl (fun m e => m ||| g e) a).testBit i = (a.testBit i || l.any fun e => (g e).testBit i) := by
  induction l generalizing a with
  | nil => simp
  | cons x xs ih => simp [List.foldl_cons, ih, Nat.testBit_or, Bool.or_assoc]

/-- for a fold over `1 <<< j` rewrite with `Nat.one_shiftLeft` first -/
theorem testBit_foldl_or_pow (l : List Nat) (a i : Nat) :
    (l.foldl (fun m j => m ||| 2 ^ j) a).testBit i = (a.testBit i || decide (i ∈ l)) := by
  rw [testBit_foldl_or, Bool.eq_iff_iff]
  simp [Nat.testBit_two_pow]

theorem and_one_shl_ne (x i : Nat) : (x &&& (1 <<< i) != 0) = x.testBit i := by
  have h : x &&& 2 ^ i = if x.testBit i then 2 ^ i else 0 := by
    apply Nat.eq_of_testBit_eq
    intro j
    rw [Nat.testBit_and, Nat.testBit_two_pow]
    by_cases hj : i = j
    · subst hj; cases x.testBit i <;> simp
    · cases x.testBit i <;> simp [hj]
  rw [Nat.one_shiftLeft, h]
  cases x.testBit i <;> simp

/-! A word written with `<<<` and `|||` is read with `/` and `%`: it is brought once into the form
`(.. (f₀ * k₁ + f₁) * k₂ + ..) * kₙ + fₙ` (`shl_or`) and its fields are peeled off from the right; the weights `k` are
variables, so that no step carries a numeral of the caller. -/

theorem shl_or {i k : Nat} (hk : 2 ^ i = k) (a : Nat) {b : Nat} (h : b < k) : a <<< i ||| b = a * k + b := by
  subst hk; rw [← Nat.shiftLeft_add_eq_or_of_lt h, Nat.shiftLeft_eq]

theorem mod_radix {v : Nat} (q : Nat) {f k : Nat} (h : v = q * k + f) (hf : f < k) : v % k = f := by
  rw [h, Nat.mul_comm, Nat.mul_add_mod, Nat.mod_eq_of_lt hf]

theorem div_radix {v : Nat} (q : Nat) {f k : Nat} (h : v = q * k + f) (hf : f < k) : v / k = q := by
  rw [h, Nat.add_comm, Nat.add_mul_div_right _ _ (Nat.zero_lt_of_lt hf), Nat.div_eq_of_lt hf, Nat.zero_add]

theorem div_div {v k l kl : Nat} (q : Nat) {f : Nat} (h : v / k = q * l + f) (hf : f < l) (hkl : k * l = kl) :
    v / kl = q := by
  rw [← hkl, ← Nat.div_div_eq_div_mul]; exact div_radix q h hf

end Rig.Bits
