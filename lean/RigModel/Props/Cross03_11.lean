/-
Cross-model consistency C03 <-> C11.

Model/C03.lean (the router) carries its own copies of the geometry functions of rig/geometry.py,
rig/links.py and rig/place_and_route/route/utils.py that Model/C11.lean models independently (with
different encodings of the random oracle, of three-axis vectors and of Python's floor-mod).  This file proves that the duplicated
definitions agree, so that C11's theorems (shortest lengths = graph distance, shortest vectors, the
longest-dimension-first walk, concentric hexagons, links_between) hold for the functions the C03 model
of the router actually calls.  The end of the file draws the consequence the router's proofs need: the walk
`ner_net` takes towards a destination is a shortest one, so it repeats no chip and, on a mesh, stays inside
the machine (`torus_route`, `mesh_route`).
`walk_split`, `geodesic_nodup`, `geodesic_box` and `mesh_vector_walk` speak of the C11 model alone; they stand
here because "inside the machine" is `InBox`, which the C03 theorems are stated with.
-/
import RigModel.Model.C03
import RigModel.Lemmas.ExceptSat
import RigModel.Props.C11

namespace Rig.Cross

def v3 (v : C03.V3) : C11.V3 := ⟨v.1, v.2.1, v.2.2⟩
def t3 (v : C11.V3) : C03.V3 := (v.x, v.y, v.z)

theorem t3_v3 (v : C03.V3) : t3 (v3 v) = v := rfl
theorem v3_t3 (v : C11.V3) : v3 (t3 v) = v := rfl

/-- in order: the `from_vector` table, the link order, `to_vector`, `specVec`, `opposite`, `from_vector` on the six steps -/
theorem tables_eq :
    Gen.C03Links.fromVectorTable = Gen.Links.linkDirectionLookup ∧
    Gen.C03Links.linkOrder = C11.allLinks ∧
    (∀ l, l < 6 → C11.toVector l = some (C03.vec l)) ∧
    (∀ l, l < 6 → C11.specVec l = some (C03.vec l)) ∧
    (∀ l, l < 6 → C03.opp l = C11.opposite l) ∧
    (∀ d, d ∈ C11.hexSteps → C03.fromVec d = C11.fromVector d.1 d.2) := by
  decide

theorem fromVec_eq_lookupDir (d : Int × Int) : C03.fromVec d = C11.lookupDir d := by
  simp only [C03.fromVec, C11.lookupDir, tables_eq.1]
  generalize Gen.Links.linkDirectionLookup = tbl
  induction tbl with
  | nil => rfl
  | cons e r ih =>
    simp only [List.lookup, List.find?]
    by_cases hd : d = e.1
    · subst hd; simp
    · have h1 : (d == e.1) = false := by simpa using hd
      have h2 : (e.1 == d) = false := by simpa using fun h => hd h.symm
      simp only [h1, h2, ih]

theorem minimise_eq (v : C03.V3) : C03.minimise v = t3 (C11.minimiseXyz (v3 v)) := rfl

theorem meshLen_eq (a b : C03.Chip) : C03.meshLen a b = C11.meshLen (C11.toXyz a) (C11.toXyz b) := by
  rfl

/-- C11 reduces with Python's floor-mod, C03 with `%`: the same for a modulus that is a natural number -/
theorem pyMod_natCast (a : Int) (n : Nat) : C11.pyMod a n = a % n :=
  Int.fmod_eq_emod_of_nonneg a (Int.natCast_nonneg n)

theorem torusLen_eq (a b : C03.Chip) (w h : Nat) (hw : 1 ≤ w) (hh : 1 ≤ h) :
    C11.torusLen (C11.toXyz a) (C11.toXyz b) w h = .ok (C03.torusLen a b w h) := by
  have hz : ¬ w = 0 ∧ ¬ h = 0 := by omega
  simp [C11.torusLen, hz, C11.torusLenCore, C03.torusLen, C11.toXyz, pyMod_natCast]

theorem meshPath_eq (a b : C03.Chip) : C03.meshPath a b = t3 (C11.meshPath (C11.toXyz a) (C11.toXyz b)) := by
  simp [C03.meshPath, C11.meshPath, C11.toXyz, minimise_eq, v3]

/-- a tie-break draw `r / SCALE` of the C03 tape is a draw `k / 2^20` of C11's oracle -/
theorem draw_ok {t t' : C03.Tape} {r : Int} (h : C03.draw t = .ok (r, t')) :
    ∃ k : Nat, k < 1048576 ∧ (k : Int) = r := by
  cases t with
  | nil => exact nomatch h
  | cons a t =>
    simp only [C03.draw] at h
    by_cases hc : 0 ≤ a ∧ a < C03.SCALE
    · rw [if_pos hc] at h
      cases h
      have : C03.SCALE = 1048576 := rfl
      exact ⟨r.toNat, by omega, by omega⟩
    · rw [if_neg hc] at h; exact nomatch h

theorem drawInt_ok {lo hi : Int} {t t' : C03.Tape} {r : Int} (h : C03.drawInt lo hi t = .ok (r, t')) :
    ∃ s : Nat, C11.randint lo hi s = r := by
  cases t with
  | nil => exact nomatch h
  | cons a t =>
    simp only [C03.drawInt] at h
    by_cases hc : lo ≤ a ∧ a ≤ hi
    · rw [if_pos hc] at h
      cases h
      exact C11.randint_surjective _ _ _ hc.1 hc.2
    · rw [if_neg hc] at h; exact nomatch h

theorem firstMin_eq (a : Int × C03.V3) (l : List (Int × C03.V3)) :
    (fun p : Int × C03.V3 => (p.1, v3 p.2)) (C03.firstMin (fun p => p.1) a l) =
    C11.minByKey (a.1, v3 a.2) (l.map fun p => (p.1, v3 p.2)) := by
  induction l generalizing a with
  | nil => rfl
  | cons b t ih =>
    simp only [C11.minByKey] at ih
    simp only [C03.firstMin, List.map_cons, C11.minByKey, List.foldl_cons]
    by_cases h : b.1 < a.1 <;> simp only [h, if_true, if_false] <;> exact ih _

theorem best_eq (k0 k1 k2 k3 : Int) (u0 u1 u2 u3 : C03.V3) :
    v3 (C03.firstMin (fun (p : Int × C03.V3) => p.1) (k0, u0) [(k1, u1), (k2, u2), (k3, u3)]).2 =
    (C11.minByKey (k0, v3 u0) [(k1, v3 u1), (k2, v3 u2), (k3, v3 u3)]).2 :=
  congrArg Prod.snd (firstMin_eq (k0, u0) [(k1, u1), (k2, u2), (k3, u3)])

theorem scale_nat : ((1048576 : Nat) : Int) = C03.SCALE := rfl

/-- the spiral adjustment of the C03 model, as a function of the minimised vector -/
def spiral03 (v : C03.V3) (w h : Nat) (t : C03.Tape) : Except C03.Err (C03.V3 × C03.Tape) :=
  let W : Int := w
  let H : Int := h
  let x := v.1
  let y := v.2.1
  let z := v.2.2
  if x.natAbs ≥ h then do
    let ms := (if x < 0 then x + H - 1 else x) / H
    let (k, t) ← C03.drawInt (min 0 ms) (max 0 ms) t
    let d := k * H
    pure ((x - d, y, z - d), t)
  else if y.natAbs ≥ w then do
    let ms := (if y < 0 then y + W - 1 else y) / W
    let (k, t) ← C03.drawInt (min 0 ms) (max 0 ms) t
    let d := k * W
    pure ((x, y - d, z - d), t)
  else
    pure ((x, y, z), t)

def best03 (a b : C03.Chip) (w h : Nat) (r0 r1 r2 r3 : Int) : C03.V3 :=
  let W : Int := w
  let H : Int := h
  let dx := (b.1 - a.1) % W
  let dy := (b.2 - a.2) % H
  let a0 : Int × C03.V3 := (max dx dy * C03.SCALE + r0, (dx, dy, 0))
  let a1 : Int × C03.V3 := ((W - dx + dy) * C03.SCALE + r1, (-(W - dx), dy, 0))
  let a2 : Int × C03.V3 := ((dx + H - dy) * C03.SCALE + r2, (dx, -(H - dy), 0))
  let a3 : Int × C03.V3 := (max (W - dx) (H - dy) * C03.SCALE + r3, (-(W - dx), -(H - dy), 0))
  C03.minimise (C03.firstMin (fun (p : Int × C03.V3) => p.1) a0 [a1, a2, a3]).2

theorem torusPath_decomp (a b : C03.Chip) (w h : Nat) (t : C03.Tape) :
    C03.torusPath a b w h t = (do
      let (r0, t) ← C03.draw t
      let (r1, t) ← C03.draw t
      let (r2, t) ← C03.draw t
      let (r3, t) ← C03.draw t
      spiral03 (best03 a b w h r0 r1 r2 r3) w h t) := rfl

theorem spiral_eq (mv : C03.V3) (w h : Nat) (t t' : C03.Tape) (v : C03.V3)
    (hp : spiral03 mv w h t = .ok (v, t')) : ∃ s : Nat, C11.spiral (v3 mv) w h s = v3 v := by
  obtain ⟨x, y, z⟩ := mv
  simp only [spiral03, pure, Except.pure] at hp
  simp only [C11.spiral, v3, C11.pyDiv, Int.fdiv_eq_ediv_of_nonneg _ (Int.natCast_nonneg _), ge_iff_le,
    Int.ofNat_le]
  by_cases c1 : h ≤ x.natAbs
  · simp only [if_pos c1] at hp ⊢
    obtain ⟨⟨k, tk⟩, hk, hp⟩ := Except.bind_eq_ok hp
    obtain ⟨s, rfl⟩ := drawInt_ok hk
    cases hp
    exact ⟨s, rfl⟩
  · simp only [if_neg c1] at hp ⊢
    by_cases c2 : w ≤ y.natAbs
    · simp only [if_pos c2] at hp ⊢
      obtain ⟨⟨k, tk⟩, hk, hp⟩ := Except.bind_eq_ok hp
      obtain ⟨s, rfl⟩ := drawInt_ok hk
      cases hp
      exact ⟨s, rfl⟩
    · simp only [if_neg c2] at hp ⊢
      cases hp
      exact ⟨0, rfl⟩

theorem best_core_eq (a b : C03.Chip) (w h : Nat) (k0 k1 k2 k3 s : Nat) :
    C11.torusPathCore (C11.toXyz a) (C11.toXyz b) w h 1048576 k0 k1 k2 k3 s =
      C11.spiral (v3 (best03 a b w h k0 k1 k2 k3)) w h s := by
  simp only [C11.torusPathCore, C11.approaches, C11.toXyz, pyMod_natCast, Int.sub_zero, best03, minimise_eq,
    v3_t3, scale_nat]
  rw [best_eq]
  rfl

/-- **Torus vector: same function.**  Whatever the C03 model of `shortest_torus_path` returns (reading its
four tie-break draws and, if any, the spiral count from the tape) is the value of C11's model for some legal
choice of C11's oracle inputs. -/
theorem torusPath_eq (a b : C03.Chip) (w h : Nat) (hw : 1 ≤ w) (hh : 1 ≤ h) (t t' : C03.Tape) (v : C03.V3)
    (hp : C03.torusPath a b w h t = .ok (v, t')) :
    ∃ k0 k1 k2 k3 s : Nat, k0 < 1048576 ∧ k1 < 1048576 ∧ k2 < 1048576 ∧ k3 < 1048576 ∧
      C11.torusPath (C11.toXyz a) (C11.toXyz b) w h 1048576 k0 k1 k2 k3 s = .ok (v3 v) := by
  have hz : ¬ ((w : Int) = 0 ∨ (h : Int) = 0) := by omega
  rw [torusPath_decomp] at hp
  obtain ⟨⟨r0, t0⟩, h0, hp⟩ := Except.bind_eq_ok hp
  obtain ⟨⟨r1, t1⟩, h1, hp⟩ := Except.bind_eq_ok hp
  obtain ⟨⟨r2, t2⟩, h2, hp⟩ := Except.bind_eq_ok hp
  obtain ⟨⟨r3, t3⟩, h3, hp⟩ := Except.bind_eq_ok hp
  obtain ⟨k0, g0, rfl⟩ := draw_ok h0
  obtain ⟨k1, g1, rfl⟩ := draw_ok h1
  obtain ⟨k2, g2, rfl⟩ := draw_ok h2
  obtain ⟨k3, g3, rfl⟩ := draw_ok h3
  obtain ⟨s, hsp⟩ := spiral_eq _ w h _ _ _ hp
  refine ⟨k0, k1, k2, k3, s, g0, g1, g2, g3, ?_⟩
  simp only [C11.torusPath, hz, if_false]
  rw [best_core_eq, hsp]

theorem wrapC_eq (w h : Nat) (p d : Int × Int) :
    C11.stepTo (some (w : Int)) (some (h : Int)) p d = C03.wrapC w h (p.1 + d.1, p.2 + d.2) := by
  simp only [C11.stepTo, C11.wrap, pyMod_natCast, C03.wrapC]

theorem walk_eq (w h : Nat) (dir : Nat) (d : Int × Int) (n : Nat) (pos : C03.Chip) :
    C11.walkDim (some (w : Int)) (some (h : Int)) d (some dir) n pos =
      (C03.walk w h dir d.1 d.2 n pos).map C11.some1 := by
  induction n generalizing pos with
  | zero => rfl
  | succ n ih =>
    simp only [C11.walkDim, C03.walk, List.map_cons, wrapC_eq, ih, C11.some1]

theorem walkEnd_eq (w h : Nat) (d : Int × Int) (n : Nat) (pos : C03.Chip) :
    C11.posAfter (some (w : Int)) (some (h : Int)) d n pos = C03.walkEnd w h d.1 d.2 n pos := by
  induction n generalizing pos with
  | zero => rfl
  | succ n ih => simp only [C11.posAfter, C03.walkEnd, wrapC_eq, ih]

theorem dimDelta_eq (dim : Nat) (mag : Int) :
    C03.dimDelta dim mag = C11.unitOf dim (if mag > 0 then 1 else -1) := by
  unfold C03.dimDelta C11.unitOf
  match dim with
  | 0 => simp
  | 1 => simp
  | (n + 2) => simp

theorem fromVec_unit_eq (dim : Nat) (mag : Int) :
    C03.fromVec (C03.dimDelta dim mag) =
      C11.fromVector (C03.dimDelta dim mag).1 (C03.dimDelta dim mag).2 := by
  refine tables_eq.2.2.2.2.2 _ ?_
  unfold C03.dimDelta
  split <;> split <;> decide

theorem ldfGo_eq (w h : Nat) (items : List (Nat × Int × Int)) (pos : C03.Chip) (out : List (Nat × C03.Chip))
    (hgo : C03.ldfGo w h (items.map fun it => (it.1, it.2.1)) pos = .ok out) :
    C11.ldfLoop (some (w : Int)) (some (h : Int)) items pos = out.map C11.some1 := by
  fun_induction C11.ldfLoop (some (w : Int)) (some (h : Int)) items pos generalizing out with
  | case1 pos => cases hgo; rfl
  | case2 dim k rest pos =>
    simp only [List.map_cons, C03.ldfGo, beq_self_eq_true, if_true] at hgo
    cases hgo; rfl
  | case3 dim mag k rest pos hm sign dv ih =>
    have hm' : (mag == 0) = false := by simpa using hm
    simp only [List.map_cons, C03.ldfGo, hm', Bool.false_eq_true, if_false] at hgo
    rw [fromVec_unit_eq] at hgo
    split at hgo
    · simp at hgo
    rename_i dir hdir
    obtain ⟨r, hr, hgo⟩ := Except.bind_eq_ok hgo
    cases hgo
    simp only [dv, sign, ← dimDelta_eq, walkEnd_eq] at ih ⊢
    simp only [hdir, walk_eq, ih _ hr, List.map_append]

theorem order_eq (x y z k0 k1 k2 : Int) :
    (C03.sortDesc (fun (p : (Nat × Int) × Int) => p.2) [((0, x), k0), ((1, y), k1), ((2, z), k2)]).map (·.1) =
    ((C11.insertDesc (0, x, k0) (C11.insertDesc (1, y, k1) (C11.insertDesc (2, z, k2) []))).map
      fun it => (it.1, it.2.1)) := by
  by_cases h01 : k0 < k1 <;> by_cases h02 : k0 < k2 <;> by_cases h12 : k1 < k2 <;>
    simp only [C03.sortDesc, List.foldl, C03.insertDesc, C11.insertDesc, gt_iff_lt, h01, h02, h12, if_true,
      if_false, List.map] <;> first | rfl | omega

/-- **Longest dimension first: same function.**  The path the C03 model returns (three tie-break draws read
from the tape) is the path of C11's model for the same draws. -/
theorem ldf_eq (v : C03.V3) (start : C03.Chip) (w h : Nat) (t t' : C03.Tape)
    (p : List (Nat × C03.Chip)) (hl : C03.ldf v start w h t = .ok (p, t')) :
    ∃ j0 j1 j2 : Nat, j0 < 1048576 ∧ j1 < 1048576 ∧ j2 < 1048576 ∧
      C11.ldf (v3 v) start (some (w : Int)) (some (h : Int)) 1048576 j0 j1 j2 = .ok p := by
  unfold C03.ldf at hl
  obtain ⟨⟨r0, t0⟩, h0, hl⟩ := Except.bind_eq_ok hl
  obtain ⟨⟨r1, t1⟩, h1, hl⟩ := Except.bind_eq_ok hl
  obtain ⟨⟨r2, t2⟩, h2, hl⟩ := Except.bind_eq_ok hl
  obtain ⟨k0, g0, rfl⟩ := draw_ok h0
  obtain ⟨k1, g1, rfl⟩ := draw_ok h1
  obtain ⟨k2, g2, rfl⟩ := draw_ok h2
  refine ⟨k0, k1, k2, g0, g1, g2, ?_⟩
  obtain ⟨out, hgo, hl⟩ := Except.bind_eq_ok hl
  simp only [pure, Except.pure, Except.ok.injEq, Prod.mk.injEq] at hl
  obtain ⟨rfl, _⟩ := hl
  rw [order_eq] at hgo
  have := ldfGo_eq w h _ _ _ hgo
  simp only [C11.ldf, C11.ldfRaw, C11.ldfOrder, v3, scale_nat, this]
  exact C11.mapM_some1 out

/-! C03 builds the list by `foldl`, newest chip first: the state of each fold is (position reached, reversed C11 list
++ rest); the final `reverse` undoes it. -/

theorem side_fold (d : Int × Int) : ∀ (l : List Nat) (p : C03.Chip) (acc : List C03.Chip),
    l.foldl (fun (s : C03.Chip × List C03.Chip) _ => ((s.1.1 + d.1, s.1.2 + d.2), s.1 :: s.2)) (p, acc) =
      (C11.sideEnd d l.length p, (C11.walkSide d l.length p).reverse ++ acc) := by
  intro l
  induction l with
  | nil => intro p acc; simp [C11.sideEnd, C11.walkSide]
  | cons a r ih =>
    intro p acc
    simp only [List.foldl_cons, ih, List.length_cons, C11.walkSide, List.reverse_cons, List.append_assoc,
      List.singleton_append, C11.sideEnd, Prod.mk.injEq, and_true]
    refine ⟨?_, ?_⟩ <;> (rw [Int.natCast_succ, Int.add_mul, Int.one_mul]; omega)

theorem ring_fold (r : Nat) : ∀ (ds : List (Int × Int)) (p : C03.Chip) (acc : List C03.Chip),
    ds.foldl (fun s d =>
      (List.range r).foldl (fun (s : C03.Chip × List C03.Chip) _ => ((s.1.1 + d.1, s.1.2 + d.2), s.1 :: s.2)) s)
      (p, acc) = (C11.ringEnd r ds p, (C11.walkRing r ds p).reverse ++ acc) := by
  intro ds
  induction ds with
  | nil => intro p acc; simp [C11.ringEnd, C11.walkRing]
  | cons d ds ih =>
    intro p acc
    simp only [List.foldl_cons, side_fold, List.length_range, ih, C11.ringEnd, C11.walkRing, List.reverse_append,
      List.append_assoc]

theorem hexRing_eq (r : Nat) (p : C03.Chip) (acc : List C03.Chip) :
    C03.hexRing r (p, acc) =
      (C11.ringEnd r C11.hexDirs (p.1, p.2 - 1), (C11.walkRing r C11.hexDirs (p.1, p.2 - 1)).reverse ++ acc) := by
  simp only [C03.hexRing]
  exact ring_fold r C03.hexDirs (p.1, p.2 - 1) acc

theorem rings_fold : ∀ (n r0 : Nat) (p : C03.Chip) (acc : List C03.Chip),
    ((List.range' r0 n).foldl (fun s i => C03.hexRing (i + 1) s) (p, acc)).2 =
      (C11.rings n (r0 + 1) p).reverse ++ acc := by
  intro n
  induction n with
  | zero => intro r0 p acc; simp [C11.rings]
  | succ n ih =>
    intro r0 p acc
    simp only [List.range'_succ, List.foldl_cons, hexRing_eq, ih, C11.rings, List.reverse_append, List.append_assoc]

/-- **Concentric hexagons: same list.** -/
theorem concentricHexagons_eq (radius : Nat) :
    C03.concentricHexagons radius = C11.concentricHexagons (radius : Int) (0, 0) := by
  simp only [C03.concentricHexagons, C11.concentricHexagons, List.range_eq_range', rings_fold, Int.toNat_natCast,
    List.reverse_append, List.reverse_reverse, List.reverse_cons, List.reverse_nil, List.nil_append,
    List.singleton_append, Nat.zero_add]

def mach (m : C03.Machine) : C11.Mach := ⟨m.w, m.h, m.deadChips, m.deadLinks⟩

theorem chipOk_eq (m : C03.Machine) (c : C03.Chip) : (mach m).hasChip c = C03.chipOk m c := rfl
theorem linkOk_eq (m : C03.Machine) (c : C03.Chip) (l : Nat) : (mach m).hasLink c l = C03.linkOk m c l := rfl

theorem specVec_vec : ∀ l, l < 6 → C11.specVec l = some (C03.vec l) := tables_eq.2.2.2.1

theorem step_eq (m : C03.Machine) (c : C03.Chip) (l : Nat) :
    C03.step m c l = C11.stepTo (some (m.w : Int)) (some (m.h : Int)) c (C03.vec l) := by
  rw [wrapC_eq]; rfl

/-- **links_between: same list**, and it is the specification's list of C11 -/
theorem linksBetween_eq (m : C03.Machine) (a b : C03.Chip) :
    C03.linksBetween m a b = C11.specLinksBetween a b (mach m) ∧
    C11.linksBetween a b (mach m) = some (C03.linksBetween m a b) := by
  have h1 : C03.linksBetween m a b = C11.specLinksBetween a b (mach m) := by
    have hr : Gen.C03Links.linkOrder = List.range 6 := by decide
    simp only [C03.linksBetween, C11.specLinksBetween, hr]
    apply List.filter_congr
    intro l hl
    have hl6 : l < 6 := by simpa using hl
    simp only [specVec_vec l hl6, step_eq m, linkOk_eq]
    rfl
  exact ⟨h1, by rw [C11.linksBetween_exact, h1]⟩

theorem walk_split {w h : Option Int} : ∀ (path : List (Nat × C11.P2)) (p c : C11.P2),
    C11.walkOk w h p path = true → c ∈ path.map (·.2) →
    ∃ i j, 1 ≤ i ∧ i + j = path.length ∧ C11.Reach w h i p c ∧ C11.Reach w h j c (C11.lastPos p path) := by
  intro path
  induction path with
  | nil => intro p c _ hc; simp at hc
  | cons e rest ih =>
    intro p c hok hc
    obtain ⟨l, q⟩ := e
    obtain ⟨d, hs, hd, hq, hrest⟩ := C11.walkOk_cons hok
    rw [C11.lastPos_cons]
    simp only [List.map_cons, List.mem_cons] at hc
    rcases hc with rfl | hc
    · refine ⟨1, rest.length, Nat.le_refl _, by simp; omega, ?_, C11.walkOk_reach w h _ rest hrest⟩
      rw [hq]; exact C11.Reach.step d (C11.Reach.refl p) hd
    · obtain ⟨i, j, hi, hij, r1, r2⟩ := ih q c hrest hc
      exact ⟨i + 1, j, by omega, by simp; omega, C11.reach_cons hd hq r1, r2⟩

/-- **A shortest walk visits no chip twice** (and does not return to its start). -/
theorem geodesic_nodup {w h : Option Int} : ∀ (path : List (Nat × C11.P2)) (p : C11.P2),
    C11.walkOk w h p path = true →
    (∀ m, C11.Reach w h m p (C11.lastPos p path) → path.length ≤ m) →
    (p :: path.map (·.2)).Nodup := by
  intro path
  induction path with
  | nil => intro p _ _; simp
  | cons e rest ih =>
    intro p hok hmin
    obtain ⟨l, q⟩ := e
    obtain ⟨d, hs, hd, hq, hrest⟩ := C11.walkOk_cons hok
    rw [List.nodup_cons]
    constructor
    · intro hmem
      obtain ⟨i, j, hi, hij, r1, r2⟩ := walk_split _ p p hok hmem
      have := hmin j r2
      omega
    · apply ih q hrest
      intro m hr
      rw [C11.lastPos_cons] at hmin
      have := hmin (m + 1) (C11.reach_cons hd hq hr)
      simp at this; omega

def InBox (w h : Nat) (c : C11.P2) : Prop := 0 ≤ c.1 ∧ c.1 < (w : Int) ∧ 0 ≤ c.2 ∧ c.2 < (h : Int)

theorem projT_inrange {c : C03.Chip} {w h : Nat} (hb : InBox w h c) : C11.projT (C11.toXyz c) w h = c := by
  simp only [C11.projT, C11.toXyz, Int.sub_zero, Int.emod_eq_of_lt hb.1 hb.2.1, Int.emod_eq_of_lt hb.2.2.1 hb.2.2.2]

/-- **The route `ner_net` walks towards a destination on a torus is a shortest walk.**  In the C03 model: the
vector from `shortest_torus_path`, walked by `longest_dimension_first`, for every content of the oracle tape,
is a labelled walk of the `w × h` hexagonal torus from the neighbour to the destination whose number of hops is
`shortest_torus_path_length` = the graph distance (C11); hence it visits no chip twice. -/
theorem torus_route (nb dest : C03.Chip) (w h : Nat) (hw : 1 ≤ w) (hh : 1 ≤ h)
    (hn : InBox w h nb) (hd : InBox w h dest)
    (t t1 t2 : C03.Tape) (v : C03.V3) (path : List (Nat × C03.Chip))
    (hv : C03.torusPath nb dest w h t = .ok (v, t1)) (hl : C03.ldf v nb w h t1 = .ok (path, t2)) :
    C11.walkOk (some (w : Int)) (some (h : Int)) nb path = true ∧ C11.lastPos nb path = dest ∧
    (path.length : Int) = C03.torusLen nb dest w h ∧
    C11.IsDist (some (w : Int)) (some (h : Int)) nb dest path.length ∧
    (nb :: path.map (·.2)).Nodup := by
  obtain ⟨k0, k1, k2, k3, s, a0, a1, a2, a3, hv'⟩ := torusPath_eq nb dest w h hw hh t t1 v hv
  obtain ⟨j0, j1, j2, b0, b1, b2, hl'⟩ := ldf_eq v nb w h t1 t2 path hl
  obtain ⟨v', path', c1, c2, c3, c4, c5, _⟩ :=
    C11.torus_vector_walk (C11.toXyz nb) (C11.toXyz dest) w h (by omega) (by omega) 1048576 k0 k1 k2 k3 s
      a0 a1 a2 a3 1048576 j0 j1 j2 b0 b1 b2
  obtain ⟨n, e1, e2⟩ := C11.torusLen_eq_dist (C11.toXyz nb) (C11.toXyz dest) w h (by omega) (by omega)
  rw [projT_inrange hn] at c2 c4 c5 e2
  rw [projT_inrange hd] at c5 e2
  cases hv'.symm.trans c1
  cases hl'.symm.trans c2
  rw [torusLen_eq nb dest w h hw hh] at c3 e1
  cases Int.ofNat_inj.1 ((Except.ok.inj e1).symm.trans (Except.ok.inj c3))
  exact ⟨c4, c5, (Except.ok.inj c3).symm, e2, geodesic_nodup path nb c4 fun m hr => e2.2 m (c5 ▸ hr)⟩

theorem wrapP_inbox {w h : Nat} {c : C11.P2} (hb : InBox w h c) : C11.wrapP (some (w : Int)) (some (h : Int)) c = c :=
  Prod.ext (Int.fmod_eq_of_lt hb.1 hb.2.1) (Int.fmod_eq_of_lt hb.2.2.1 hb.2.2.2)

theorem walkOk_torus_inbox (w h : Nat) (hw : 1 ≤ w) (hh : 1 ≤ h) : ∀ (path : List (Nat × C11.P2)) (p : C11.P2),
    C11.walkOk (some (w : Int)) (some (h : Int)) p path = true → ∀ c, c ∈ path.map (·.2) → InBox w h c
  | [], _, _, c, hc => nomatch hc
  | (l, q) :: rest, p, hok, c, hc => by
    obtain ⟨d, _, _, hq, hrest⟩ := C11.walkOk_cons hok
    have hw' : (0 : Int) < w := Int.natCast_pos.2 hw
    have hh' : (0 : Int) < h := Int.natCast_pos.2 hh
    rcases List.mem_cons.1 hc with rfl | hc
    · rw [hq, C11.stepTo_some hw' hh']
      exact ⟨(C11.emod_range hw' _).1, (C11.emod_range hw' _).2, (C11.emod_range hh' _).1, (C11.emod_range hh' _).2⟩
    · exact walkOk_torus_inbox w h hw hh rest q hrest c hc

theorem stepTo_inbox (w h : Nat) (p d : C11.P2) (hb : InBox w h (C11.stepTo none none p d)) :
    C11.stepTo (some (w : Int)) (some (h : Int)) p d = C11.stepTo none none p d :=
  wrapP_inbox hb

/-- every chip of a shortest walk of the unbounded mesh lies in the bounding box of its two ends -/
theorem geodesic_box (path : List (Nat × C11.P2)) (p c : C11.P2)
    (hok : C11.walkOk none none p path = true)
    (hlen : (path.length : Int) = C11.hexLen ((C11.lastPos p path).1 - p.1) ((C11.lastPos p path).2 - p.2))
    (hc : c ∈ path.map (·.2)) :
    (p.1 ≤ c.1 ∧ c.1 ≤ (C11.lastPos p path).1 ∨ (C11.lastPos p path).1 ≤ c.1 ∧ c.1 ≤ p.1) ∧
    (p.2 ≤ c.2 ∧ c.2 ≤ (C11.lastPos p path).2 ∨ (C11.lastPos p path).2 ≤ c.2 ∧ c.2 ≤ p.2) := by
  obtain ⟨i, j, hi, hij, r1, r2⟩ := walk_split path p c hok hc
  have l1 := C11.reach_mesh_lower r1
  have l2 := C11.reach_mesh_lower r2
  generalize C11.lastPos p path = q at *
  -- the norms of `c - p` and `q - c` add up to at most the norm of `q - p`, which is one of its six linear forms
  have := C11.hexLen_ge (c.1 - p.1) (c.2 - p.2)
  have := C11.hexLen_ge (q.1 - c.1) (q.2 - c.2)
  have := C11.hexLen_attained (q.1 - p.1) (q.2 - p.2)
  omega

/-- **The mesh vector, walked longest-dimension-first on a machine that reduces every coordinate modulo its size, never
wraps**: the mesh counterpart of `C11.torus_vector_walk`. -/
theorem mesh_vector_walk (s d : C11.P2) (w h : Nat) (hs : InBox w h s) (hd : InBox w h d) (den j0 j1 j2 : Nat)
    (g0 : j0 < den) (g1 : j1 < den) (g2 : j2 < den) :
    ∃ path, C11.ldf (C11.meshPath (C11.toXyz s) (C11.toXyz d)) s (some (w : Int)) (some (h : Int)) den j0 j1 j2 =
        .ok path ∧
      C11.walkOk none none s path = true ∧ C11.lastPos s path = d ∧
      (path.length : Int) = C11.meshLen (C11.toXyz s) (C11.toXyz d) ∧
      (∀ c, c ∈ path.map (·.2) → InBox w h c) ∧ (s :: path.map (·.2)).Nodup := by
  obtain ⟨path, p1, q1, q2, q3⟩ :=
    C11.ldf_image (C11.meshPath (C11.toXyz s) (C11.toXyz d)) s (some (w : Int)) (some (h : Int)) den j0 j1 j2 g0 g1 g2
  obtain ⟨m1, m2⟩ := C11.meshPath_ok (C11.toXyz s) (C11.toXyz d)
  have hlast : C11.lastPos s path = d := by
    simp only [C11.proj, C11.toXyz, Prod.mk.injEq, Int.sub_zero] at m2 q3
    rw [q3]; exact Prod.ext (by simp only; omega) (by simp only; omega)
  have hlen : (path.length : Int) = C11.hexLen (d.1 - s.1) (d.2 - s.2) := by
    rw [q2, m1, C11.meshLen_eq_hexLen, C11.toXyz_proj, C11.toXyz_proj]
  have hbox : ∀ c, c ∈ path.map (·.2) → InBox w h c := by
    intro c hc
    have := geodesic_box path s c q1 (by rw [hlast, hlen]) hc
    rw [hlast] at this
    unfold InBox at hs hd ⊢
    omega
  -- the wrapped and the unwrapped walk coincide
  have hid : path.map (C11.wrapE (some (w : Int)) (some (h : Int))) = path.map fun e => e :=
    List.map_congr_left fun e he => Prod.ext rfl (wrapP_inbox (hbox e.2 (List.mem_map_of_mem he)))
  rw [hid, List.map_id'] at p1
  refine ⟨_, p1, q1, hlast, by rw [q2, m1], hbox, geodesic_nodup _ s q1 fun m hr => ?_⟩
  have := C11.reach_mesh_lower hr
  rw [hlast] at this
  omega

/-- **The route `ner_net` walks towards a destination on a mesh is a shortest walk that never leaves the
machine.**  In the C03 model (whose `longest_dimension_first` always reduces modulo width / height): with both
ends inside the `w × h` machine, the walk of the `shortest_mesh_path` vector is a labelled walk of the
UNWRAPPED hexagonal mesh (no hop uses a wrap-around link), every chip of it is inside the machine, its number of
hops is `shortest_mesh_path_length` = the graph distance (C11), and it visits no chip twice. -/
theorem mesh_route (nb dest : C03.Chip) (w h : Nat)
    (hn : InBox w h nb) (hd : InBox w h dest) (t t2 : C03.Tape) (path : List (Nat × C03.Chip))
    (hl : C03.ldf (C03.meshPath nb dest) nb w h t = .ok (path, t2)) :
    C11.walkOk none none nb path = true ∧ C11.lastPos nb path = dest ∧
    (path.length : Int) = C03.meshLen nb dest ∧
    (∀ c, c ∈ path.map (·.2) → InBox w h c) ∧
    (nb :: path.map (·.2)).Nodup := by
  obtain ⟨j0, j1, j2, b0, b1, b2, hl'⟩ := ldf_eq _ nb w h t t2 path hl
  obtain ⟨path', p1, r⟩ := mesh_vector_walk nb dest w h hn hd 1048576 j0 j1 j2 b0 b1 b2
  rw [meshPath_eq, v3_t3] at hl'
  cases hl'.symm.trans p1
  exact r

end Rig.Cross
