/-
C02 (companion) - the reverse Cuthill-McKee vertex order, first part: the neighbour table is
symmetric; the depth-first search terminates within its fuel and returns the vertices reachable
from its start, a set closed under neighbours; the connected subgraphs are connected, pairwise
disjoint and cover the vertices.
-/
import RigModel.Lemmas.C02OrdersBfs
import RigModel.Lemmas.C02Basic
import Mathlib.Data.List.Nodup
import Mathlib.Logic.Relation

namespace Rig.C02Orders
open Rig.C02 (aget keys aget_aset mem_keys_aset foldl_inv)

section generic
variable {α : Type} [DecidableEq α]

theorem nbrs_nil (x : α) : nbrs ([] : VN α) x = [] := rfl

theorem mem_nbrs_vnAdd (vn : VN α) (a b : α) (w : Int) (x c : α) :
    c ∈ nbrs (vnAdd vn a b w) x ↔ c ∈ nbrs vn x ∨ (x = a ∧ c = b) := by
  unfold nbrs vnAdd
  rw [aget_aset]
  split
  · rename_i h
    subst h
    rw [Option.getD_some, mem_keys_aset]
    exact ⟨fun h => h.elim (fun e => Or.inr ⟨rfl, e⟩) Or.inl, fun h => h.elim Or.inr fun e => Or.inl e.2⟩
  · rename_i h
    exact ⟨Or.inl, fun h' => h'.elim id fun e => absurd e.1.symm h⟩

def Sym (vn : VN α) : Prop := ∀ a b, b ∈ nbrs vn a → a ∈ nbrs vn b

def Within (V : α → Prop) (vn : VN α) : Prop := ∀ a b, b ∈ nbrs vn a → V a ∧ V b

theorem getVN_inv (P : VN α → Prop) (V : α → Prop)
    (hstep : ∀ vn a b w, P vn → V a → V b → P (vnAdd (vnAdd vn a b w) b a w))
    (nets : List (Net α)) (hV : ∀ n ∈ nets, V n.src ∧ ∀ s ∈ n.sinks, V s) (h0 : P []) :
    P (getVerticesNeighbours nets) :=
  foldl_inv P _ nets [] h0 fun vn h n hn => by
    split
    · exact foldl_inv P _ n.sinks vn h fun vn h s hs => hstep _ _ _ _ h (hV n hn).1 ((hV n hn).2 s hs)
    · exact h

theorem getVN_sym (nets : List (Net α)) : Sym (getVerticesNeighbours nets) := by
  refine getVN_inv Sym (fun _ => True) (fun vn a b w h _ _ x c hc => ?_) nets
    (fun _ _ => ⟨trivial, fun _ _ => trivial⟩) fun _ _ h => nomatch h
  rw [mem_nbrs_vnAdd, mem_nbrs_vnAdd] at hc ⊢
  rcases hc with (hc | ⟨rfl, rfl⟩) | ⟨rfl, rfl⟩
  · exact Or.inl (Or.inl (h _ _ hc))
  · exact Or.inr ⟨rfl, rfl⟩
  · exact Or.inl (Or.inr ⟨rfl, rfl⟩)

theorem getVN_within (nets : List (Net α)) (V : α → Prop) (hV : ∀ n ∈ nets, V n.src ∧ ∀ s ∈ n.sinks, V s) :
    Within V (getVerticesNeighbours nets) := by
  refine getVN_inv (Within V) V (fun vn a b w h ha hb x c hc => ?_) nets hV fun _ _ h => nomatch h
  rw [mem_nbrs_vnAdd, mem_nbrs_vnAdd] at hc
  rcases hc with (hc | ⟨rfl, rfl⟩) | ⟨rfl, rfl⟩
  · exact h _ _ hc
  · exact ⟨ha, hb⟩
  · exact ⟨hb, ha⟩

theorem dfsLoop_spec (vn : VN α) (Q : α → Prop) (hQ : ∀ a, Q a → ∀ b ∈ nbrs vn a, Q b)
    (fuel : Nat) (st vis r : List α) (hnd : vis.Nodup)
    (hcl : ∀ a ∈ vis, ∀ b ∈ nbrs vn a, b ∈ vis ∨ b ∈ st) (hqv : ∀ a ∈ vis, Q a) (hqs : ∀ a ∈ st, Q a)
    (h : dfsLoop vn fuel st vis = .ok r) :
    r.Nodup ∧ (∀ a ∈ r, ∀ b ∈ nbrs vn a, b ∈ r) ∧ (∀ a ∈ r, Q a) ∧ (∀ a ∈ vis, a ∈ r) ∧
      (∀ a ∈ st, a ∈ r) := by
  fun_induction dfsLoop vn fuel st vis with
  | case1 _ vis =>
    cases h
    exact ⟨hnd, fun a ha b hb => (hcl a ha b hb).resolve_right List.not_mem_nil, hqv, fun a h => h,
      fun a h => nomatch h⟩
  | case2 => cases h
  | case3 fuel v st vis hv ih =>
    obtain ⟨r1, r2, r3, r4, r5⟩ := ih hnd
      (fun a ha b hb => (hcl a ha b hb).elim Or.inl fun h' =>
        (List.mem_cons.1 h').elim (fun e => Or.inl (e ▸ hv)) Or.inr)
      hqv (fun a ha => hqs a (List.mem_cons_of_mem _ ha)) h
    exact ⟨r1, r2, r3, r4, fun a ha => (List.mem_cons.1 ha).elim (fun e => e ▸ r4 _ hv) (r5 a)⟩
  | case4 fuel v st vis hv ih =>
    have hqv' : Q v := hqs v List.mem_cons_self
    obtain ⟨r1, r2, r3, r4, r5⟩ := ih
      (List.nodup_append.2 ⟨hnd, List.nodup_singleton v, fun a ha b hb e =>
        hv (List.mem_singleton.1 hb ▸ e ▸ ha)⟩)
      (fun a ha b hb => by
        rcases List.mem_append.1 ha with ha' | ha'
        · rcases hcl a ha' b hb with h' | h'
          · exact Or.inl (List.mem_append_left _ h')
          · rcases List.mem_cons.1 h' with rfl | h''
            · exact Or.inl (List.mem_append_right _ List.mem_cons_self)
            · exact Or.inr (List.mem_append_right _ h'')
        · rw [List.mem_singleton.1 ha'] at hb
          exact Or.inr (List.mem_append_left _ (List.mem_reverse.2 hb)))
      (fun a ha => (List.mem_append.1 ha).elim (hqv a) fun h' => List.mem_singleton.1 h' ▸ hqv')
      (fun a ha => (List.mem_append.1 ha).elim (fun h' => hQ v hqv' a (List.mem_reverse.1 h'))
        fun h' => hqs a (List.mem_cons_of_mem _ h'))
      h
    exact ⟨r1, r2, r3, fun a ha => r4 a (List.mem_append_left _ ha), fun a ha =>
      (List.mem_cons.1 ha).elim (fun e => e ▸ r4 _ (List.mem_append_right _ List.mem_cons_self))
        fun h' => r5 a (List.mem_append_right _ h')⟩

theorem dfs_spec (vn : VN α) (Q : α → Prop) (hQ : ∀ a, Q a → ∀ b ∈ nbrs vn a, Q b) (p : α) (hp : Q p)
    (sg : List α) (h : dfs vn p = .ok sg) :
    sg.Nodup ∧ (∀ a ∈ sg, ∀ b ∈ nbrs vn a, b ∈ sg) ∧ (∀ a ∈ sg, Q a) ∧ p ∈ sg := by
  obtain ⟨r1, r2, r3, _, r5⟩ := dfsLoop_spec vn Q hQ _ [p] [] sg List.nodup_nil (fun _ h => nomatch h)
    (fun _ h => nomatch h) (fun a ha => List.mem_singleton.1 ha ▸ hp) h
  exact ⟨r1, r2, r3, r5 p List.mem_cons_self⟩

/-- pushes still possible: the sizes of the inner dictionaries of the vertices not yet visited -/
def dfsW (vn : VN α) (vis : List α) : Nat :=
  (vn.map fun e => if e.1 ∈ vis then 0 else e.2.length).sum

theorem dfsW_visit (vis : List α) (v : α) (hv : v ∉ vis) :
    ∀ (vn : VN α), dfsW vn (vis ++ [v]) + (nbrs vn v).length ≤ dfsW vn vis := by
  intro vn
  induction vn with
  | nil => exact Nat.le_refl 0
  | cons e rest ih =>
    obtain ⟨k, inner⟩ := e
    simp only [dfsW, nbrs, aget, keys, List.map_cons, List.sum_cons, List.mem_append, List.mem_singleton] at ih ⊢
    by_cases hk : k = v
    · subst hk
      simp only [hv, or_true, if_true, if_false, Option.getD_some, List.length_map]
      omega
    · simp only [hk, or_false, if_false]
      omega

/-- **`_dfs` terminates** within `len(to_visit)` steps plus the pushes still possible -/
theorem dfsLoop_ok (vn : VN α) (fuel : Nat) (st vis : List α) (h : st.length + dfsW vn vis ≤ fuel) :
    ∃ r, dfsLoop vn fuel st vis = .ok r := by
  fun_induction dfsLoop vn fuel st vis with
  | case1 => exact ⟨_, rfl⟩
  | case2 => simp at h
  | case3 fuel v st vis hv ih => exact ih (by simp only [List.length_cons] at h; omega)
  | case4 fuel v st vis hv ih =>
    have := dfsW_visit vis v hv vn
    simp only [List.length_append, List.length_reverse, List.length_cons] at h ih
    exact ih (by omega)

theorem dfs_ok (vn : VN α) (p : α) : ∃ sg, dfs vn p = .ok sg :=
  dfsLoop_ok vn _ [p] [] (by simp [dfsW, dfsFuel])

abbrev Reach (vn : VN α) : α → α → Prop := Relation.ReflTransGen (fun x y => y ∈ nbrs vn x)

/-- what `_cuthill_mckee` needs of its argument -/
structure Conn (vn : VN α) (sg : List α) : Prop where
  nodup : sg.Nodup
  closed : ∀ a ∈ sg, ∀ b ∈ nbrs vn a, b ∈ sg
  conn : ∀ a ∈ sg, ∀ b ∈ sg, Reach vn a b
  ne : sg ≠ []

theorem dfs_conn (vn : VN α) (hsym : Sym vn) (p : α) (sg : List α) (h : dfs vn p = .ok sg) : Conn vn sg := by
  obtain ⟨d1, d2, d3, d4⟩ := dfs_spec vn (Reach vn p) (fun a ha b hb => ha.tail hb) p .refl sg h
  have symm : ∀ {a}, Reach vn p a → Reach vn a p := fun hr => by
    induction hr with
    | refl => exact .refl
    | tail _ hstep ih => exact .head (hsym _ _ hstep) ih
  exact ⟨d1, d2, fun a ha b hb => (symm (d3 a ha)).trans (d3 b hb), List.ne_nil_of_mem d4⟩

/-- invariant of `_get_connected_subgraphs`: `acc` the subgraphs found, `rem` what remains, `Q` any property that
neighbours share -/
structure SgInv (vn : VN α) (vs0 : List α) (Q : α → Prop) (rem : List α) (acc : List (List α)) : Prop where
  remNodup : rem.Nodup
  nodup : ∀ sg ∈ acc, sg.Nodup
  closed : ∀ sg ∈ acc, ∀ a ∈ sg, ∀ b ∈ nbrs vn a, b ∈ sg
  disj : acc.Pairwise List.Disjoint
  apart : ∀ sg ∈ acc, ∀ a ∈ sg, a ∉ rem
  cover : ∀ v ∈ vs0, v ∈ rem ∨ ∃ sg ∈ acc, v ∈ sg
  q : ∀ sg ∈ acc, ∀ a ∈ sg, Q a
  remq : ∀ a ∈ rem, Q a

theorem SgInv.step {vn : VN α} (hsym : Sym vn) {vs0 : List α} {Q : α → Prop}
    (hQ : ∀ a, Q a → ∀ b ∈ nbrs vn a, Q b) {rem : List α} {acc : List (List α)} {p : α} {sg : List α}
    (I : SgInv vn vs0 Q rem acc) (hp : p ∈ rem) (hd : dfs vn p = .ok sg) :
    SgInv vn vs0 Q ((rem.erase p).filter fun a => !decide (a ∈ sg)) (acc ++ [sg]) := by
  obtain ⟨d1, d2, d3, d4⟩ := dfs_spec vn Q hQ p (I.remq p hp) sg hd
  have app : ∀ {R : List α → Prop}, (∀ s ∈ acc, R s) → R sg → ∀ s ∈ acc ++ [sg], R s :=
    fun h1 h2 s hs => (List.mem_append.1 hs).elim (h1 s) fun h => List.mem_singleton.1 h ▸ h2
  have hsub : ∀ a, a ∈ (rem.erase p).filter (fun a => !decide (a ∈ sg)) → a ∈ rem ∧ a ∉ sg := by
    intro a ha
    simp only [List.mem_filter, Bool.not_eq_true', decide_eq_false_iff_not] at ha
    exact ⟨List.mem_of_mem_erase ha.1, ha.2⟩
  refine ⟨(I.remNodup.sublist List.erase_sublist).filter _, app I.nodup d1, app I.closed d2, ?_,
    app (fun s hs a ha har => I.apart s hs a ha (hsub a har).1) fun a ha har => (hsub a har).2 ha, ?_,
    app I.q d3, fun a ha => I.remq a (hsub a ha).1⟩
  · refine List.pairwise_append.2 ⟨I.disj, List.pairwise_singleton _ _, fun S hS s hs => ?_⟩
    rw [List.mem_singleton.1 hs]
    -- the search started outside the closed set S never enters it
    have hav := dfs_spec vn (· ∉ S) (fun a ha b hb hbS => ha (I.closed S hS b hbS a (hsym a b hb))) p
      (fun hpS => I.apart S hS p hpS hp) sg hd
    exact fun a haS has => hav.2.2.1 a has haS
  · intro v hv
    rcases I.cover v hv with h' | ⟨s, hs, hvs⟩
    · by_cases hvsg : v ∈ sg
      · exact Or.inr ⟨sg, List.mem_append_right _ List.mem_cons_self, hvsg⟩
      · refine Or.inl (List.mem_filter.2 ⟨(List.mem_erase_of_ne ?_).2 h', by simpa using hvsg⟩)
        exact fun e => hvsg (e ▸ d4)
    · exact Or.inr ⟨s, List.mem_append_left _ hs, hvs⟩

theorem subgraphsLoop_spec (vn : VN α) (P : List α → List (List α) → Prop)
    (step : ∀ rem acc p sg, P rem acc → p ∈ rem → dfs vn p = .ok sg →
      P ((rem.erase p).filter fun a => !decide (a ∈ sg)) (acc ++ [sg]))
    (fuel : Nat) (rem pops : List α) (acc : List (List α)) (h : P rem acc) (hf : rem.length ≤ fuel) :
    Returns (fun r => P [] r.1) (subgraphsLoop vn fuel rem pops acc) := by
  fun_induction subgraphsLoop vn fuel rem pops acc with
  | case1 => exact h
  | case2 => simp at hf
  | case3 => rfl
  | case4 fuel r rem p pops acc hp e he =>
    obtain ⟨sg, hsg⟩ := dfs_ok vn p
    cases hsg.symm.trans he
  | case5 fuel r rem p pops acc hp sg hsg ih =>
    refine ih (step _ _ _ _ h hp hsg) ?_
    have h1 := List.length_filter_le (fun a => !decide (a ∈ sg)) ((r :: rem).erase p)
    have h2 := List.length_erase_of_mem hp
    simp only [List.length_cons] at hf h2
    omega
  | case6 => rfl

/-- every subgraph is the depth-first closure of a vertex in a symmetric table, hence connected -/
theorem subgraphsLoop_conn (vn : VN α) (hsym : Sym vn) (fuel : Nat) (rem pops : List α) (acc : List (List α))
    (h : ∀ sg ∈ acc, Conn vn sg) (hf : rem.length ≤ fuel) :
    Returns (fun r => ∀ sg ∈ r.1, Conn vn sg) (subgraphsLoop vn fuel rem pops acc) :=
  subgraphsLoop_spec vn (fun _ acc => ∀ sg ∈ acc, Conn vn sg)
    (fun _ _ p sg I _ hd s hs =>
      (List.mem_append.1 hs).elim (I s) fun h => List.mem_singleton.1 h ▸ dfs_conn vn hsym p sg hd)
    fuel rem pops acc h hf

end generic
end Rig.C02Orders
