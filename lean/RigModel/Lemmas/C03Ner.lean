/-
C03 - hop geometry of `longest_dimension_first` and `ner_net`, on any input: the walked route is a chain of
hops, every edge of the forest `ner_net` returns is the step named by its direction, and
`longest_dimension_first` fails only when the oracle tape does.  Defines the `Except.Sat` instances `OracleOr` (only oracle
errors; C03NerValid is stated with it) and `Partial` (any error; the lemmas of this file); `truncate_spec` for `truncateLdf`.
-/
import RigModel.Lemmas.C03Forest
import RigModel.Lemmas.ExceptSat
namespace Rig.C03.L

def lastChip (s : Chip) : List (Nat × Chip) → Chip
  | [] => s
  | (_, c) :: r => lastChip c r

theorem hopsFrom_append (m : Machine) : ∀ (a b : List (Nat × Chip)) (s : Chip),
    hopsFrom m s (a ++ b) = (hopsFrom m s a && hopsFrom m (lastChip s a) b) := by
  intro a
  induction a with
  | nil => intro b s; simp [hopsFrom, lastChip]
  | cons e r ih =>
    intro b s
    obtain ⟨d, c⟩ := e
    simp only [List.cons_append, hopsFrom, lastChip, ih, Bool.and_assoc]

theorem walk_hops (m : Machine) (dir : Nat) (dx dy : Int) (hdir : dir < 6) (hv : vec dir = (dx, dy)) :
    ∀ (n : Nat) (pos : Chip), hopsFrom m pos (walk m.w m.h dir dx dy n pos) = true := by
  intro n
  induction n with
  | zero => intro pos; simp [walk, hopsFrom]
  | succ n ih =>
    intro pos
    simp only [walk, hopsFrom, Bool.and_eq_true, decide_eq_true_eq, beq_iff_eq]
    refine ⟨⟨hdir, ?_⟩, ih _⟩
    simp only [step, hv]

theorem lastChip_walk (w h : Nat) (dir : Nat) (dx dy : Int) : ∀ (n : Nat) (pos : Chip),
    lastChip pos (walk w h dir dx dy n pos) = walkEnd w h dx dy n pos := by
  intro n
  induction n with
  | zero => intro pos; simp [walk, walkEnd, lastChip]
  | succ n ih => intro pos; simp only [walk, walkEnd, lastChip, ih]

/-- `Links.from_vector` finds the link of every unit step `longest_dimension_first` takes -/
theorem fromVec_dimDelta (dim : Nat) (mag : Int) :
    ∃ dir, fromVec (dimDelta dim mag) = some dir ∧ dir < 6 ∧ vec dir = dimDelta dim mag := by
  unfold dimDelta
  split <;> split <;> exact ⟨_, rfl, by decide, rfl⟩

theorem ldfGo_hops (m : Machine) (items : List (Nat × Int)) (pos : Chip) :
    ∃ out, ldfGo m.w m.h items pos = .ok out ∧ hopsFrom m pos out = true := by
  fun_induction ldfGo m.w m.h items pos with
  | case1 => exact ⟨[], rfl, rfl⟩
  | case2 => exact ⟨[], rfl, rfl⟩
  | case3 dim mag rest pos _ d hnone =>
    obtain ⟨dir, hfv, _⟩ := fromVec_dimDelta dim mag
    rw [hfv] at hnone; cases hnone
  | case4 dim mag rest pos _ d dir hfv ih =>
    obtain ⟨dir', hfv', hd, hvec⟩ := fromVec_dimDelta dim mag
    cases hfv.symm.trans hfv'
    obtain ⟨r, hr, hh⟩ := ih
    refine ⟨_, by rw [hr]; rfl, ?_⟩
    rw [hopsFrom_append, lastChip_walk, Bool.and_eq_true]
    exact ⟨walk_hops m dir _ _ hd hvec _ _, hh⟩

/-- an oracle error: the tape is too short or a draw is outside its legal range -/
def Err.isOracle (e : Err) : Prop := e = .tape ∨ e = .badDraw

/-- only oracle errors, and only values in `Q` -/
abbrev OracleOr {α : Type} (Q : α → Prop) : Except Err α → Prop := Except.Sat Err.isOracle Q

theorem oracleOr_draw (t : Tape) : OracleOr (fun _ => True) (draw t) := by
  unfold draw
  split
  · exact Or.inl rfl
  · split
    · trivial
    · exact Or.inr rfl

theorem oracleOr_drawInt (lo hi : Int) (t : Tape) : OracleOr (fun _ => True) (drawInt lo hi t) := by
  unfold drawInt
  split
  · exact Or.inl rfl
  · split
    · trivial
    · exact Or.inr rfl

theorem ldf_spec (m : Machine) (v : V3) (start : Chip) (t : Tape) :
    OracleOr (fun pt => hopsFrom m start pt.1 = true) (ldf v start m.w m.h t) := by
  unfold ldf
  refine (oracleOr_draw t).bind fun ⟨r0, t⟩ _ _ => (oracleOr_draw t).bind fun ⟨r1, t⟩ _ _ =>
    (oracleOr_draw t).bind fun ⟨r2, t⟩ _ _ => Except.Sat.bind (R := fun out => hopsFrom m start out = true) ?_
      fun _ _ h => h
  obtain ⟨out, ho, hh⟩ := ldfGo_hops m _ start
  rw [ho]
  exact hh

theorem forestHops_attach {m : Machine} {f : Forest} {p c : Chip} {d : Nat} (hf : ForestHops m f)
    (he : d < 6 ∧ c = step m p d) : ForestHops m (attach1 f p d c) := by
  intro n hn k hk
  rcases edge_attach1_inv ⟨n, hn, rfl, hk⟩ with ⟨n0, hn0, h0, hk0⟩ | ⟨h, rfl⟩
  · exact h0 ▸ hf n0 hn0 k hk0
  · exact h ▸ he

/-- "if it returns": any error allowed -/
abbrev Partial {α : Type} (Q : α → Prop) : Except Err α → Prop := Except.Sat (fun _ => True) Q

theorem attachChain_hops (m : Machine) (path : List (Nat × Chip)) (f : Forest) (last : Chip)
    (hf : ForestHops m f) (hh : hopsFrom m last path = true) : Partial (ForestHops m) (attachChain path f last) := by
  fun_induction attachChain path f last with
  | case1 => exact hf
  | case2 => trivial
  | case3 d c r f last _ ih =>
    simp only [hopsFrom, Bool.and_eq_true, decide_eq_true_eq, beq_iff_eq] at hh
    exact ih (forestHops_attach hf hh.1) hh.2

/-- `truncateLdf` cuts the path behind its last chip that is already a route node -/
theorem truncate_spec (route : Forest) (path : List (Nat × Chip)) :
    match truncateLdf route path with
    | none => ∀ e, e ∈ path → route.has e.2 = false
    | some (nb, rest) => ∃ pre d, path = pre ++ (d, nb) :: rest ∧ route.has nb = true ∧
        ∀ e, e ∈ rest → route.has e.2 = false := by
  fun_induction truncateLdf route path with
  | case1 => exact fun _ h => nomatch h
  | case2 a r res hr ih =>
    rw [hr] at ih
    obtain ⟨pre, d, h1, h2⟩ := ih
    exact ⟨a :: pre, d, by rw [h1]; rfl, h2⟩
  | case3 a r hr hh ih =>
    rw [hr] at ih
    exact ⟨[], a.1, rfl, hh, ih⟩
  | case4 a r hr hh ih =>
    rw [hr] at ih
    exact fun e he => (List.mem_cons.1 he).elim (· ▸ Bool.eq_false_iff.2 hh) (ih e)

theorem nerAttach_hops (m : Machine) (route : Forest) (nb : Chip) (v : V3) (t : Tape) (hf : ForestHops m route) :
    Partial (fun st' => ForestHops m st'.1) (nerAttach route m.w m.h nb v t) := by
  unfold nerAttach
  refine ((ldf_spec m v nb t).imp_error fun _ _ => trivial).bind fun pt _ hp => ?_
  refine (attachChain_hops m _ _ _ hf ?_).bind fun _ _ h => .pure h
  have := truncate_spec route pt.1
  cases htr : truncateLdf route pt.1 with
  | none => exact hp
  | some res =>
    rw [htr] at this
    obtain ⟨pre, d, h1, _⟩ := this
    rw [h1, hopsFrom_append] at hp
    simp only [hopsFrom, Bool.and_eq_true] at hp
    exact hp.2.2

theorem nerDest_hops (m : Machine) (src : Chip) (wrap : Bool) (radius : Nat) (hexes : List Chip)
    (st : Forest × Tape) (dest : Chip) (hf : ForestHops m st.1) :
    Partial (fun st' => ForestHops m st'.1) (nerDest src m.w m.h wrap radius hexes st dest) := by
  unfold nerDest
  cases wrap
  · exact nerAttach_hops m _ _ _ _ hf
  · exact Except.Sat.bind (R := fun _ => True) (.of_forall (fun _ _ => trivial) fun _ _ => trivial)
      fun _ _ _ => nerAttach_hops m _ _ _ _ hf

theorem nerNet_hops (m : Machine) (src : Chip) (dests : List Chip) (wrap : Bool) (radius : Nat) (t t' : Tape)
    (f : Forest) (h : nerNet src dests m.w m.h wrap radius t = .ok (f, t')) : ForestHops m f :=
  (Except.Sat.foldlM (fun _ st => ForestHops m st.1) (fun a _ s hs => nerDest_hops m src wrap radius _ s a hs) _ _
    (by intro n hn; simp at hn; subst hn; intro k hk; simp at hk)).ok h
end Rig.C03.L
