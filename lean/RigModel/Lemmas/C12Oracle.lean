/-
C12 - the executable oracle of the driver (`exactB`, `nodupB`, `strictB`) decides the
declarative specification (`Exact`, `List.Nodup`, `StrictlyIncreasing`).
Imports single Mathlib modules (injectivity of the pairing function, `List.count`/`Nodup` lemmas).
-/
import RigModel.Model.C12
import RigModel.Lemmas.Lists
import Mathlib.Data.Nat.Pairing
import Mathlib.Data.List.Count
import Mathlib.Data.List.Nodup

namespace Rig.C12

/-- the model's `pair` unfolds to `Nat.pair` -/
theorem pair_inj (a b c d : Nat) (h : pair a b = pair c d) : a = c ∧ b = d :=
  Nat.pair_eq_pair.1 h

theorem key3_inj : Function.Injective key3 := by
  rintro ⟨a, b, c⟩ ⟨a', b', c'⟩ h
  obtain ⟨h1, h2⟩ := pair_inj _ _ _ _ h
  obtain ⟨h3, h4⟩ := pair_inj _ _ _ _ h1
  simp only at h2 h3 h4
  subst h2 h3 h4
  rfl

theorem sortNat_perm (l : List Nat) : (sortNat l).Perm l := List.mergeSort_perm _ _

theorem sortNat_sorted (l : List Nat) : (sortNat l).Pairwise (fun a b => a ≤ b) := by
  have := List.pairwise_mergeSort (le := fun (a b : Nat) => decide (a ≤ b))
    (by intro a b c; simp only [decide_eq_true_eq]; omega)
    (by intro a b; simp only [Bool.or_eq_true, decide_eq_true_eq]; omega) l
  unfold sortNat; simpa using this

theorem sortNat_eq_iff (a b : List Nat) : sortNat a = sortNat b ↔ a.Perm b := by
  constructor
  · intro h
    exact (sortNat_perm a).symm.trans (h ▸ sortNat_perm b)
  · intro h
    apply List.Perm.eq_of_pairwise (le := fun a b => a ≤ b) _ (sortNat_sorted a) (sortNat_sorted b)
    · exact (sortNat_perm a).trans (h.trans (sortNat_perm b).symm)
    · intro x y _ _ h1 h2; omega

theorem perm_map_key (a b : List (Nat × Nat × Nat)) : (a.map key3).Perm (b.map key3) ↔ a.Perm b := by
  constructor
  · intro h
    rw [List.perm_iff_count]
    intro t
    have := List.perm_iff_count.1 h (key3 t)
    rwa [List.count_map_of_injective _ _ key3_inj, List.count_map_of_injective _ _ key3_inj] at this
  · intro h; exact h.map _

theorem coresOf_mem (m p : Nat) : p ∈ coresOf m ↔ m.testBit p = true := by
  unfold coresOf
  simp only [List.mem_filter, List.mem_range]
  constructor
  · exact fun h => h.2
  · intro h
    refine ⟨?_, h⟩
    have hge := Nat.ge_two_pow_of_testBit h
    have hm : m ≠ 0 := by
      have : 0 < 2 ^ p := Nat.pow_pos (by decide)
      omega
    have := (Nat.le_log2 hm).2 hge
    omega

theorem coresOf_nodup (m : Nat) : (coresOf m).Nodup :=
  List.Nodup.filter _ List.nodup_range

theorem chipsOf_mem (r x y : Nat) : (x, y) ∈ chipsOf r ↔ selects r x y = true := by
  unfold chipsOf
  simp only [List.mem_filter, List.mem_flatMap, List.mem_map, List.mem_range, Prod.mk.injEq]
  constructor
  · rintro ⟨_, h⟩; exact h
  · intro h
    refine ⟨?_, h⟩
    have hpos : 0 < 4 * wSide r := by
      have : 0 < wSide r := by unfold wSide; exact Nat.pow_pos (by decide)
      omega
    unfold selects at h
    simp only [Bool.and_eq_true, beq_iff_eq] at h
    obtain ⟨⟨h1, h2⟩, _⟩ := h
    refine ⟨x % (4 * wSide r), Nat.mod_lt _ hpos, y % (4 * wSide r), Nat.mod_lt _ hpos, ?_, ?_⟩
    · rw [← h1]; exact Nat.div_add_mod' x (4 * wSide r)
    · rw [← h2]; exact Nat.div_add_mod' y (4 * wSide r)

theorem grid_nodup (bx by' n : Nat) :
    ((List.range n).flatMap fun dx => (List.range n).map fun dy => (bx + dx, by' + dy)).Nodup :=
  Lists.nodup_flatMap_map id (fun _ => List.range n) (fun dx dy => (bx + dx, by' + dy)) _
    (by rw [List.map_id]; exact List.nodup_range) (fun _ _ => List.nodup_range) fun _ _ _ _ heq =>
      ⟨Nat.add_left_cancel (Prod.mk.inj heq).1, Nat.add_left_cancel (Prod.mk.inj heq).2⟩

theorem chipsOf_nodup (r : Nat) : (chipsOf r).Nodup :=
  List.Nodup.filter _ (grid_nodup _ _ _)

theorem count_prod (chips : List (Nat × Nat)) (cores : List Nat) (x y p : Nat) :
    List.count (x, y, p) (chips.flatMap fun c => cores.map fun q => (c.1, c.2, q)) =
      List.count (x, y) chips * List.count p cores := by
  induction chips with
  | nil => simp
  | cons c rest ih =>
    rw [List.flatMap_cons, List.count_append, ih, List.count_cons, Nat.add_mul, Nat.add_comm]
    congr 1
    obtain ⟨cx, cy⟩ := c
    by_cases hc : (cx, cy) = (x, y)
    · simp only [Prod.mk.injEq] at hc
      obtain ⟨rfl, rfl⟩ := hc
      simp only [beq_self_eq_true, if_true, Nat.one_mul]
      exact List.count_map_of_injective cores (fun q => (cx, cy, q)) (by intro a b h; simpa using h) p
    · have : ((cx, cy) == (x, y)) = false := by simpa using hc
      rw [this]
      simp only [Bool.false_eq_true, if_false, Nat.zero_mul]
      rw [List.count_eq_zero]
      simp only [List.mem_map, Prod.mk.injEq, not_exists, not_and]
      intro q _ h1 h2
      exact absurd (by rw [h1, h2]) hc

theorem count_pair (pr : Nat × Nat) (x y p : Nat) :
    List.count (x, y, p) ((chipsOf pr.1).flatMap fun c => (coresOf pr.2).map fun q => (c.1, c.2, q)) =
      if sel pr x y p then 1 else 0 := by
  rw [count_prod, (chipsOf_nodup _).count, (coresOf_nodup _).count]
  simp only [chipsOf_mem, coresOf_mem, sel]
  by_cases h1 : selects pr.1 x y = true <;> by_cases h2 : pr.2.testBit p = true <;> simp [h1, h2]

theorem count_expand (out : List (Nat × Nat)) (x y p : Nat) :
    List.count (x, y, p) (expand out) = countSel out x y p := by
  unfold expand countSel
  induction out with
  | nil => simp
  | cons pr rest ih =>
    rw [List.flatMap_cons, List.count_append, ih, count_pair, List.countP_cons]
    omega

theorem neighbours_iff_pairwise {α : Type} {R : α → α → Prop} (tr : ∀ a b c, R a b → R b c → R a c)
    (f : List α → Bool) (h0 : f [] = true) (h1 : ∀ a, f [a] = true)
    (h2 : ∀ a b l, f (a :: b :: l) = true ↔ (R a b ∧ f (b :: l) = true)) :
    ∀ l, f l = true ↔ l.Pairwise R
  | [] => iff_of_true h0 List.Pairwise.nil
  | [a] => iff_of_true (h1 a) (List.pairwise_singleton R a)
  | a :: b :: l => by
    rw [h2, neighbours_iff_pairwise tr f h0 h1 h2 (b :: l), List.pairwise_cons (a := a)]
    refine and_congr_left fun hp => ⟨fun hab c hc => ?_, fun h => h b List.mem_cons_self⟩
    rcases List.mem_cons.1 hc with rfl | hc
    · exact hab
    · exact tr _ _ _ hab ((List.pairwise_cons.1 hp).1 c hc)

theorem strictNat_iff (l : List Nat) : strictNat l = true ↔ l.Pairwise (· < ·) :=
  neighbours_iff_pairwise (R := (· < ·)) (fun _ _ _ => Nat.lt_trans) strictNat rfl (fun _ => rfl)
    (fun a b l => by rw [strictNat, Bool.and_eq_true, decide_eq_true_eq]) l

theorem pairwise_lt_iff_nodup {l : List Nat} (h : l.Pairwise (· ≤ ·)) : l.Pairwise (· < ·) ↔ l.Nodup :=
  ⟨fun hl => hl.imp Nat.ne_of_lt, fun hn => (h.and hn).imp fun h => Nat.lt_of_le_of_ne h.1 h.2⟩

theorem pairLt_trans (a b c : Nat × Nat) (h1 : pairLt a b) (h2 : pairLt b c) : pairLt a c := by
  unfold pairLt at *; omega

end Rig.C12
