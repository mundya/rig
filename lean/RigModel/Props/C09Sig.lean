/-
C09 (companion) - send_signal, count_cores_in_state, wait_for_cores_to_reach_state.

Model: RigModel/Model/C09Sig.lean running against the machine specification of Model/C09.lean.
All theorems hold for ALL machines, core states, app ids below 256, clock functions and machine
evolutions (`Env`); the enumerations and the signal -> message type table are the generated ones
(RigModel/Gen/LoadSig.lean, regenerated from rig/machine_control/consts.py on every run).
-/
import RigModel.Lemmas.C09Sig

namespace Rig.C09Sig
open Rig.C09 Rig.Gen.Load Rig.Gen.LoadSig Rig.Bits

/-- every member of `AppSignal` has an entry in `consts.signal_types`: `KeyError` cannot happen -/
theorem signal_types_total : ∀ e ∈ appSignals, (signalTypes.lookup e.2).isSome = true := by decide +kernel

/-- **argument packing of `send_signal`.**  For every argument (a name or a number) and every app
id below 256:
* if the argument denotes a member `sig` of `AppSignal`, exactly one request is built: SCP command
  `signal` to (255, 255, 0) - "all chips" -, `arg1` = the message type `consts.signal_types` lists
  for `sig`, `arg2` = signal code in bits 23:16 (`arg2 / 65536 = sig`), app mask `0xff` in bits 15:8,
  app id in bits 7:0, `arg3 = 0x0000ffff`, no data; `KeyError` is impossible;
* otherwise `ValueError` is raised and nothing is sent. -/
theorem signal_packing_exact (a : Arg) (appId : Nat) (ha : appId < 256) :
    (∀ sig, resolve appSignals a = .ok sig →
      ∃ ty, signalTypes.lookup sig = some ty ∧ sendSignalReq a appId = .ok (signalReq sig ty appId) ∧
        (signalReq sig ty appId).x = 255 ∧ (signalReq sig ty appId).y = 255 ∧ (signalReq sig ty appId).p = 0 ∧
        (signalReq sig ty appId).cmd = cmdSignal ∧ (signalReq sig ty appId).arg1 = ty ∧
        (signalReq sig ty appId).arg2 / 65536 = sig ∧ (signalReq sig ty appId).arg2 / 256 % 256 = 255 ∧
        (signalReq sig ty appId).arg2 % 256 = appId ∧ (signalReq sig ty appId).arg3 = 65535 ∧
        (signalReq sig ty appId).data = []) ∧
    (∀ e, resolve appSignals a = .error e →
      sendSignalReq a appId = .error .valueError ∧
      ∀ mc s, sendSignal mc s a appId = (s, .error .valueError)) := by
  constructor
  · intro sig hr
    obtain ⟨s, hs, _⟩ := (resolve_sat ..).ok hr
    obtain ⟨ty, hty⟩ := Option.isSome_iff_exists.mp (signal_types_total (s, sig) hs)
    have e := signalReq_arg2 sig ty appId ha
    have d := div_radix _ e ha
    exact ⟨ty, hty, by rw [sendSignalReq, hr]; simp only [hty], rfl, rfl, rfl, rfl, rfl,
      div_div (kl := 65536) _ d (by decide) rfl, mod_radix _ d (by decide), mod_radix _ e ha, rfl, rfl⟩
  · intro e hr
    obtain rfl := (resolve_sat ..).error hr
    have h1 : sendSignalReq a appId = .error .valueError := by rw [sendSignalReq, hr]
    exact ⟨h1, fun mc s => by rw [sendSignal, h1]⟩

/-- **the start signal of the loader is `send_signal("start", app_id)`**: the request
`load_application` sends after a successful load (`startReq`, Model/C09.lean) is the one
`send_signal` builds for the name "start" and for the member `AppSignal.start`; the machine
specification reads it as: signal `start`, app mask 0xff, this app id. -/
theorem start_signal_is_send_signal (appId : Nat) (ha : appId < 256) :
    sendSignalReq (.name "start") appId = .ok (startReq appId) ∧
    sendSignalReq (.val sigStart) appId = .ok (startReq appId) ∧
    decode (startReq appId) = .signal sigStart 255 appId :=
  ⟨rfl, rfl, decode_start appId ha⟩

/-- **argument packing and reply decoding of `count_cores_in_state`**, one state: for a member
`st` of `AppState` (name or number) the request is read by the machine specification as "count the
cores in state `st`, app mask 0xff, this app id" (`arg1` = the message type
`consts.diagnostic_signal_types` lists for `count`), the value returned is the `arg1` of the reply =
the number of cores of the machine in that state under the app id; the machine is unchanged. -/
theorem count_packing_exact (mc : MCfg) (s : Sim) (a : Arg) (st appId : Nat) (ha : appId < 256)
    (hr : resolve appStates a = .ok st) :
    decode (countReq st appId) = .count st 255 appId ∧
    diagSignalTypes.lookup diagCount = some (countReq st appId).arg1 ∧
    (countCores mc s (.one a) appId).2 = .ok (cnt mc s.m.core [st] appId) ∧
    (countCores mc s (.one a) appId).1.m = s.m ∧
    (countCores mc s (.one a) appId).1.trace =
      (countReq st appId, Reply.count (cnt mc s.m.core [st] appId)) :: s.trace := by
  rw [countCores_ok mc s (.one a) [st] appId ha (.one a st hr)]
  exact ⟨decode_count st appId (resolve_states_lt hr) ha, rfl, rfl, rfl, rfl⟩

/-- **an iterable of states yields the sum**: when every listed state is a member of `AppState`,
one count request per state is sent in order, the result is the sum of the per-state counts, the
machine is unchanged. -/
theorem count_cores_sum (mc : MCfg) (s : Sim) (l : List Arg) (sts : List Nat) (appId : Nat) (ha : appId < 256)
    (hr : List.Forall₂ (fun a st => resolve appStates a = .ok st) l sts) :
    (countCores mc s (.many l) appId).2 = .ok (cnt mc s.m.core sts appId) ∧
    (countCores mc s (.many l) appId).1.m = s.m ∧
    (countCores mc s (.many l) appId).1.trace =
      (sts.map fun st => (countReq st appId,
        Reply.count ((allCores mc.chips).countP fun c => matchesApp (s.m.core c.1 c.2.1 c.2.2) st appId))).reverse
        ++ s.trace := by
  rw [countCores_ok mc s (.many l) sts appId ha (.many l sts hr)]
  exact ⟨rfl, rfl, rfl⟩

/-- **an invalid state raises `ValueError`**, the log having grown by as many entries as valid states precede
it - so none for the states after it.  Only their number is stated, not which requests they are. -/
theorem count_cores_invalid (mc : MCfg) (s : Sim) (pre : List Arg) (sts : List Nat) (a : Arg) (post : List Arg)
    (appId : Nat) (ha : appId < 256) (e : Err)
    (hr : List.Forall₂ (fun a st => resolve appStates a = .ok st) pre sts) (he : resolve appStates a = .error e) :
    (countCores mc s (.many (pre ++ a :: post)) appId).2 = .error .valueError ∧
    (countCores mc s (.many (pre ++ a :: post)) appId).1.trace.length = s.trace.length + pre.length := by
  obtain rfl := (resolve_sat ..).error he
  rw [countCores, countMany_append mc appId ha hr (a :: post) s 0, countMany, countOne_err mc _ a appId _ he]
  refine ⟨rfl, ?_⟩
  simp only [countEntries, List.length_append, List.length_reverse, List.length_map, hr.length_eq]
  omega

/-- **the value returned is the last count, taken at the first poll that stops.**  With every
listed state a member of `AppState`: if `wait_for_cores_to_reach_state` returns `n` then there is a
poll `k` (within the fuel; `k` sleeps were made) such that `n` is the number of cores in the states
under the app id in the machine state at that poll - which is the final machine state -, the loop's
stopping condition holds at poll `k` (count reached, or timeout given and the clock read after the
poll is past `clock 0 + timeout`), and it holds at no earlier poll.  In particular a result below
the requested count means the deadline had passed. -/
theorem wait_returns_count (mc : MCfg) (env : Env) (st : StateArg) (sts : List Nat) (target appId : Nat)
    (timeout : Option Nat) (fuel : Nat) (s : Sim) (ha : appId < 256) (hr : Resolved st sts) (n : Nat)
    (hdone : (waitForCores mc env st target appId timeout fuel s).2.1 = .done n) :
    ∃ k, k < fuel ∧ (waitForCores mc env st target appId timeout fuel s).2.2 = k ∧
      n = cnt mc (coresAt env s.m.core k) sts appId ∧
      (waitForCores mc env st target appId timeout fuel s).1.m.core = coresAt env s.m.core k ∧
      n = cnt mc (waitForCores mc env st target appId timeout fuel s).1.m.core sts appId ∧
      stops env.clock timeout target k n = true ∧
      (∀ i, i < k → stops env.clock timeout target i (cnt mc (coresAt env s.m.core i) sts appId) = false) ∧
      (n < target → ∃ t, timeout = some t ∧ env.clock (k + 1) > env.clock 0 + t) := by
  rw [waitForCores] at hdone ⊢
  obtain ⟨j, hj, hp, hbefore, ho, hc⟩ | ⟨_, ho⟩ :=
    waitLoop_spec mc env target appId timeout ha hr s.m.core fuel 0 s rfl
  · rw [ho] at hdone ⊢
    cases hdone
    refine ⟨j, Nat.zero_add fuel ▸ hj, rfl, rfl, hc, by rw [hc], hp, fun i hi => hbefore i (Nat.zero_le i) hi, fun hlt => ?_⟩
    -- below the count the loop can only have stopped for the deadline
    simp only [stopsAt, stops, Bool.or_eq_true, decide_eq_true_eq] at hp
    rcases hp with h | h
    · exact absurd hlt (Nat.not_lt.mpr h)
    · cases timeout with
      | none => cases h
      | some t => exact ⟨t, rfl, of_decide_eq_true h⟩
  · rw [ho] at hdone; cases hdone

/-- **termination.**  With every listed state a member of `AppState`:
(a) if some poll within the fuel satisfies the stopping condition the call returns (a count, never
    an exception) - so it terminates as soon as the count is reached or the clock passes the deadline;
(b) *clock progress*: with a timeout `t` and a clock that advances by at least one unit between
    consecutive readings, `t + 1` polls suffice whatever the machine does: the call returns after at
    most `t` sleeps;
(c) without a timeout, if the count is never reached the loop does not end (out of fuel for every
    fuel) - the behaviour the docstring warns about. -/
theorem wait_terminates_under_clock_progress (mc : MCfg) (env : Env) (st : StateArg) (sts : List Nat)
    (target appId : Nat) (timeout : Option Nat) (fuel : Nat) (s : Sim) (ha : appId < 256) (hr : Resolved st sts) :
    (∀ j, j < fuel → stops env.clock timeout target j (cnt mc (coresAt env s.m.core j) sts appId) = true →
      ∃ n, (waitForCores mc env st target appId timeout fuel s).2.1 = .done n ∧
        (waitForCores mc env st target appId timeout fuel s).2.2 ≤ j) ∧
    (∀ t, timeout = some t → (∀ i, env.clock i + 1 ≤ env.clock (i + 1)) → t < fuel →
      ∃ n, (waitForCores mc env st target appId timeout fuel s).2.1 = .done n ∧
        (waitForCores mc env st target appId timeout fuel s).2.2 ≤ t) ∧
    (timeout = none → (∀ i, cnt mc (coresAt env s.m.core i) sts appId < target) →
      (waitForCores mc env st target appId timeout fuel s).2.1 = .outOfFuel) := by
  rw [waitForCores]
  have hspec := waitLoop_spec mc env target appId timeout ha hr s.m.core fuel 0 s rfl
  -- (b) follows from (a)
  refine (fun hstop => ⟨hstop, fun t ht hclk htf => hstop t htf ?_, fun hnone hnever => ?_⟩) fun j hj hp => ?_
  · obtain ⟨j', _, _, hbefore, ho, _⟩ | ⟨hno, _⟩ := hspec
    · rw [ho]
      exact ⟨_, rfl, Nat.le_of_not_lt fun hlt => Bool.false_ne_true ((hbefore j (Nat.zero_le j) hlt).symm.trans hp)⟩
    · exact absurd ((hno j (Nat.zero_le j) ((Nat.zero_add fuel).symm ▸ hj)).symm.trans hp) Bool.false_ne_true
  · -- the clock read after poll `t` is past the deadline
    have hmono : ∀ i, env.clock 0 + i ≤ env.clock i := fun i => by
      induction i with
      | zero => exact Nat.le_refl _
      | succ i ih => exact Nat.le_trans (Nat.succ_le_succ ih) (hclk i)
    simp only [stops, ht, Bool.or_eq_true, decide_eq_true_eq]
    exact .inr (hmono (t + 1))
  · obtain ⟨j, _, hp, _⟩ | ⟨_, ho⟩ := hspec
    · simp only [stopsAt, stops, hnone, Bool.or_false, decide_eq_true_eq] at hp
      exact absurd hp (Nat.not_le.mpr (hnever j))
    · rw [ho]

/-- the states "wait" and `AppState.run` resolve; "nosuch" and 12 do not -/
example : Resolved (.many [.name "wait", .val 7]) [stWait, stRun] :=
  .many _ _ (.cons (by decide +kernel) (.cons (by decide +kernel) .nil))
example : resolve appStates (.name "nosuch") = .error .valueError ∧
    resolve appStates (.val 12) = .error .valueError := by decide +kernel
example : resolve appSignals (.name "sync0") = .ok 4 ∧ signalTypes.lookup 4 = some 0 := by decide +kernel

/-- one chip (0, 0), all cores idle except core 5 waiting under app id 31 -/
def mcS : MCfg := { chips := [(0, 0)], missed := fun _ _ _ => false, sdramSys := 1610612736, vcpuBase := fun _ _ => 3842011136 }
def initS : Sim :=
  { m := { core := fun x y p => if x = 0 ∧ y = 0 ∧ p = 5 then ⟨stWait, 31, [9]⟩ else ⟨stIdle, 0, []⟩,
           rx := { idx := 0, pid := 0, nBlocks := 0, got := 0, next := 0, regs := [], data := [], ok := false },
           fills := 0 }, nn := 0, trace := [] }

/-- a clock that advances by one; during the second sleep core 1 of chip (0, 0) reaches `wait` -/
def envE : Env :=
  { clock := fun i => 100 + i,
    evolve := fun k core x y p => if k = 1 ∧ x = 0 ∧ y = 0 ∧ p = 1 then ⟨stWait, 30, []⟩ else core x y p }

/-- a run that returns because the count is reached (third poll, two sleeps), one that returns
below the count because the deadline passed, and one that would wait forever -/
example : (waitForCores mcS envE (.one (.name "wait")) 1 30 none 10 initS).2 = (.done 1, 2) := by
  decide +kernel
example : (waitForCores mcS envE (.one (.name "wait")) 2 30 (some 3) 10 initS).2 = (.done 1, 3) := by
  decide +kernel
example : (waitForCores mcS envE (.one (.name "wait")) 2 30 none 10 initS).2.1 = .outOfFuel := by
  decide +kernel

end Rig.C09Sig
