/-
`decode` inverts every request builder of the controller.
The requests of one flood fill decode to the packets of a well-formed fill; shape of the data packets.
-/
import RigModel.Model.C09Sig
import RigModel.Lemmas.Lists
import RigModel.Lemmas.Bits

namespace Rig.C09
open Rig.Gen.Load Rig.Gen.Scp Rig.Bits

/-! The argument words are brought into radix form and read field by field (`Bits.shl_or`, `div_radix`, `div_div`,
`mod_radix`).  The literals in the proofs (6, 7, 15, 63, 24, 3, 2) are the constants of Gen/Load. -/

theorem decode_nnp (r : Req) (h : r.cmd = cmdNnp) :
    decode r =
      if r.arg1 / 16777216 % 256 = nnFfs then .ffs (r.arg1 / 65536 % 256) (r.arg1 / 256 % 256)
      else if r.arg1 / 16777216 % 256 = nnFfcs then .ffcs r.arg2 (r.arg1 % 262144)
      else if r.arg1 / 16777216 % 256 = nnFfe then
        .ffe (r.arg1 % 256) (r.arg2 / 16777216 % 256) (r.arg2 / 262144 % 64)
      else .other := by
  rw [decode, if_pos h]

theorem decode_signal (r : Req) (h : r.cmd = cmdSignal) :
    decode r =
      if r.arg1 = diagCountType ∧ r.arg2 / 1048576 % 4 = diagCount ∧ r.arg2 / 4194304 % 4 = 1 then
        .count (r.arg2 / 65536 % 16) (r.arg2 / 256 % 256) (r.arg2 % 256)
      else if r.arg1 = sigStartType then .signal (r.arg2 / 65536 % 256) (r.arg2 / 256 % 256) (r.arg2 % 256)
      else .other := by
  rw [decode, h, if_neg (by decide), if_neg (by decide), if_pos rfl]

theorem decode_ffs (pid n : Nat) (hp : pid < 256) (hn : n < 256) :
    decode (ffsReq pid n) = .ffs pid n := by
  have e : (ffsReq pid n).arg1 = ((6 * 256 + pid) * 256 + n) * 256 + 0 := by
    rw [← shl_or (i := 8) rfl 6 hp, ← shl_or (i := 8) rfl _ hn, ← shl_or (i := 8) rfl _ (by decide : 0 < 256)]
    simp only [Nat.or_zero, Nat.shiftLeft_or_distrib, ← Nat.shiftLeft_add]
    rfl
  have d1 := div_radix _ e (by decide)
  have d2 := div_div (kl := 65536) _ d1 hn rfl
  have d3 := div_div (kl := 16777216) 6 d2 hp rfl
  rw [decode_nnp _ rfl, d3, if_pos (by decide), mod_radix 6 d2 hp, mod_radix _ d1 hn]

theorem decode_ffcs (rm : Nat × Nat) (hm : rm.2 < 262144) :
    decode (ffcsReq rm) = .ffcs rm.1 rm.2 := by
  have h : rm.2 < 16777216 := by omega
  have e : (ffcsReq rm).arg1 = 7 * 16777216 + rm.2 := shl_or (i := 24) rfl 7 h
  rw [decode_nnp _ rfl, div_radix 7 e h, if_neg (by decide : ¬ 7 % 256 = nnFfs), if_pos (by decide : 7 % 256 = nnFfcs),
    mod_radix (7 * 64) (e.trans (by omega)) hm]
  rfl

theorem decode_ffe (pid appId flags : Nat) (hp : pid < 256) (ha : appId < 256) (hf : flags < 64) :
    decode (ffeReq pid appId flags) = .ffe pid appId flags := by
  have h : pid < 16777216 := by omega
  have e1 : (ffeReq pid appId flags).arg1 = 15 * 16777216 + pid := shl_or (i := 24) rfl 15 h
  have e2 : (ffeReq pid appId flags).arg2 = (appId * 64 + flags) * 262144 + 0 := by
    rw [← shl_or (i := 6) rfl _ hf, ← shl_or (i := 18) rfl _ (by decide : 0 < 262144)]
    simp only [Nat.or_zero, Nat.shiftLeft_or_distrib, ← Nat.shiftLeft_add]
    rfl
  have d := div_radix _ e2 (by decide)
  rw [decode_nnp _ rfl, div_radix 15 e1 h, if_neg (by decide : ¬ 15 % 256 = nnFfs),
    if_neg (by decide : ¬ 15 % 256 = nnFfcs), if_pos (by decide : 15 % 256 = nnFfe),
    mod_radix (15 * 65536) (e1.trans (by omega)) hp, div_div (kl := 16777216) _ d hf rfl,
    Nat.mod_eq_of_lt ha, mod_radix _ d hf]

theorem decode_ffd (pid block size addr : Nat) (d : List Nat) (hp : pid < 256) (hb : block < 256)
    (hs : size < 256) :
    decode { x := 255, y := 255, p := 0, cmd := cmdFfd,
             arg1 := (nnForward <<< 24) ||| (nnRetry <<< 16) ||| pid,
             arg2 := (block <<< 16) ||| (size <<< 8), arg3 := addr, data := d }
      = .ffd pid block size addr d := by
  have e1 : (nnForward <<< 24) ||| (nnRetry <<< 16) ||| pid = ((63 * 256 + 24) * 256 + 0) * 256 + pid := by
    rw [← shl_or (i := 8) rfl 63 (by decide : 24 < 256), ← shl_or (i := 8) rfl _ (by decide : 0 < 256),
      ← shl_or (i := 8) rfl _ hp]
    simp only [Nat.or_zero, Nat.shiftLeft_or_distrib, ← Nat.shiftLeft_add]
    rfl
  have e2 : (block <<< 16) ||| (size <<< 8) = (block * 256 + size) * 256 + 0 := by
    rw [← shl_or (i := 8) rfl _ hs, ← shl_or (i := 8) rfl _ (by decide : 0 < 256)]
    simp only [Nat.or_zero, Nat.shiftLeft_or_distrib, ← Nat.shiftLeft_add]
  have d1 := div_radix _ e2 (by decide)
  rw [decode, if_neg (by decide : ¬ cmdFfd = cmdNnp), if_pos rfl]
  dsimp only
  rw [mod_radix _ e1 hp, div_div (kl := 65536) _ d1 hs rfl, Nat.mod_eq_of_lt hb, mod_radix _ d1 hs]

theorem decode_count (state appId : Nat) (hs : state < 16) (ha : appId < 256) :
    decode (countReq state appId) = .count state 255 appId := by
  have e : (countReq state appId).arg2 = ((((0 * 16 + 1) * 4 + 2) * 16 + state) * 256 + 255) * 256 + appId := by
    rw [← shl_or (i := 4) rfl 0 (by decide : 1 < 16), ← shl_or (i := 2) rfl _ (by decide : 2 < 4),
      ← shl_or (i := 4) rfl _ hs, ← shl_or (i := 8) rfl _ (by decide : 255 < 256), ← shl_or (i := 8) rfl _ ha]
    simp only [Nat.shiftLeft_or_distrib, ← Nat.shiftLeft_add]
    rfl
  have d1 := div_radix _ e ha
  have d2 := div_div (kl := 65536) _ d1 (by decide) rfl
  have d3 := div_div (kl := 1048576) _ d2 hs rfl
  have d4 := div_div (kl := 4194304) _ d3 (by decide) rfl
  rw [decode_signal _ rfl, d4, mod_radix _ d3 (by decide),
    if_pos (⟨rfl, rfl, rfl⟩ : (countReq state appId).arg1 = diagCountType ∧ 2 = diagCount ∧ (0 * 16 + 1) % 4 = 1),
    mod_radix _ d2 hs, mod_radix _ d1 (by decide), mod_radix _ e ha]

theorem signalReq_arg2 (sig ty appId : Nat) (ha : appId < 256) :
    (C09Sig.signalReq sig ty appId).arg2 = (sig * 256 + 255) * 256 + appId := by
  rw [← shl_or (i := 8) rfl sig (by decide : 255 < 256), ← shl_or (i := 8) rfl _ ha]
  simp only [Nat.shiftLeft_or_distrib, ← Nat.shiftLeft_add]
  rfl

theorem decode_start (appId : Nat) (ha : appId < 256) :
    decode (startReq appId) = .signal sigStart 255 appId := by
  have e : (startReq appId).arg2 = (3 * 256 + 255) * 256 + appId := signalReq_arg2 sigStart sigStartType appId ha
  have d1 := div_radix _ e ha
  have d2 := div_div (kl := 65536) _ d1 (by decide) rfl
  rw [decode_signal _ rfl, if_neg (fun h => absurd (h.1 : sigStartType = diagCountType) (by decide)),
    if_pos (show (startReq appId).arg1 = sigStartType from rfl), d2, mod_radix _ d1 (by decide), mod_radix _ e ha]
  rfl

theorem decode_read (x y addr len dt : Nat) :
    decode { x := x, y := y, p := 0, cmd := cmdRead, arg1 := addr, arg2 := len, arg3 := dt, data := [] }
      = .read x y addr len := rfl

theorem drop_le_fuel {buf fuel : Nat} {data : List Nat} (hb : 0 < buf) (h : data.length ≤ fuel + 1) :
    (data.drop buf).length ≤ fuel := by
  rw [List.length_drop]; exact Nat.sub_le_of_le_add (Nat.le_trans h (Nat.add_le_add_left hb _))

theorem take_size (buf : Nat) (data : List Nat) (hb : 0 < buf) (hd : 0 < data.length) :
    0 < (data.take buf).length ∧ (data.take buf).length ≤ buf ∧
      (4 ∣ buf → 4 ∣ data.length → 4 ∣ (data.take buf).length) := by
  rw [List.length_take]
  refine ⟨Nat.lt_min.mpr ⟨hb, hd⟩, Nat.min_le_left .., fun h1 h2 => ?_⟩
  rcases Nat.le_total buf data.length with h | h
  · rwa [Nat.min_eq_left h]
  · rwa [Nat.min_eq_right h]

/-- `k` counts the block numbers still free in the 8-bit field of the data packet -/
theorem ffdReqs_decode (pid buf : Nat) (hp : pid < 256) (hbuf : buf ≤ 1024) :
    ∀ (fuel block addr : Nat) (data : List Nat) (k : Nat), k + block = 255 → data.length ≤ k * buf →
      (ffdReqs pid buf fuel block addr data).map decode = ffdPkts pid buf fuel block addr data := by
  intro fuel
  induction fuel with
  | zero => intros; rfl
  | succ fuel ih =>
    intro block addr data k hk hlen
    unfold ffdReqs ffdPkts
    split
    · next h =>
      cases k with
      | zero => rw [Nat.zero_mul] at hlen; exact absurd h (Nat.not_lt.mpr hlen)
      | succ k =>
        have hsz : (List.take buf data).length / 4 - 1 < 256 := by
          have := List.length_take_le buf data
          omega
        rw [List.map_cons, decode_ffd pid block _ addr _ hp (by omega) hsz, Lists.drop_length_take,
          ih (block + 1) _ _ k (by omega) (by rw [List.length_drop]; rw [Nat.succ_mul] at hlen; omega)]
    · rfl

theorem ceilDiv_succ (n b : Nat) (hb : 0 < b) (hn : 0 < n) : (n + b - 1) / b = (n - b + b - 1) / b + 1 := by
  rw [Nat.sub_add_comm hn, Nat.add_div_right _ hb]
  rcases Nat.le_total b n with h | h
  · rw [Nat.sub_add_cancel h]
  · rw [Nat.sub_eq_zero_of_le h, Nat.zero_add, Nat.div_eq_of_lt (Nat.sub_lt hb Nat.one_pos),
      Nat.div_eq_of_lt (Nat.lt_of_lt_of_le (Nat.sub_lt hn Nat.one_pos) h)]

def Pkt.block : Pkt → Nat
  | .ffd _ b _ _ _ => b
  | _ => 0

def Pkt.payload : Pkt → List Nat
  | .ffd _ _ _ _ d => d
  | _ => []

theorem ffdPkts_shape (pid buf : Nat) (hb : 0 < buf) (fuel block addr : Nat) (data : List Nat)
    (h : data.length ≤ fuel) :
    (ffdPkts pid buf fuel block addr data).length = (data.length + buf - 1) / buf ∧
    (ffdPkts pid buf fuel block addr data).map Pkt.block =
      List.range' block (ffdPkts pid buf fuel block addr data).length ∧
    ((ffdPkts pid buf fuel block addr data).map Pkt.payload).flatten = data ∧
    ∀ q ∈ ffdPkts pid buf fuel block addr data, 0 < q.payload.length ∧ q.payload.length ≤ buf ∧
      (4 ∣ buf → 4 ∣ data.length → 4 ∣ q.payload.length) := by
  fun_induction ffdPkts pid buf fuel block addr data with
  | case1 =>
    exact ⟨by rw [Nat.le_zero.mp h]; exact (Nat.div_eq_of_lt (by omega)).symm, rfl,
      (List.eq_nil_of_length_eq_zero (Nat.le_zero.mp h)).symm, fun _ hq => nomatch hq⟩
  | case2 fuel block addr data hd ih =>
    obtain ⟨i0, i1, i2, i3⟩ := ih (drop_le_fuel hb h)
    refine ⟨?_, ?_, ?_, fun q hq => ?_⟩
    · rw [List.length_cons, i0, List.length_drop, ← ceilDiv_succ _ _ hb hd]
    · rw [List.map_cons, List.length_cons, List.range'_succ, i1]; rfl
    · rw [List.map_cons, List.flatten_cons, i2]; exact List.take_append_drop buf data
    · rcases List.mem_cons.mp hq with rfl | hq
      · exact take_size buf data hb hd
      · exact ⟨(i3 q hq).1, (i3 q hq).2.1, fun h1 h2 => (i3 q hq).2.2 h1 (List.length_drop ▸ Nat.dvd_sub h2 h1)⟩
  | case3 fuel block addr data hd =>
    exact ⟨by rw [Nat.eq_zero_of_not_pos hd]; exact (Nat.div_eq_of_lt (by omega)).symm, rfl,
      (List.eq_nil_of_length_eq_zero (Nat.eq_zero_of_not_pos hd)).symm, fun _ hq => nomatch hq⟩

theorem nextNn_lt (n : Nat) : nextNn n * 2 < 256 := by unfold nextNn; split <;> omega

theorem blocks_lt (len buf : Nat) (hb : 0 < buf) (h : len ≤ 255 * buf) : (len + buf - 1) / buf < 256 := by
  rw [Nat.div_lt_iff_lt_mul hb]
  exact Nat.lt_of_lt_of_le (Nat.sub_lt (Nat.add_pos_right _ hb) Nat.one_pos)
    (Nat.le_trans (Nat.add_le_add_right h buf) (Nat.le_of_eq (Nat.succ_mul 255 buf).symm))

theorem fill_decode (c : Ctl) (u : App) (pid base flags : Nat) (hp : pid < 256) (hb : 0 < c.buf)
    (hbmax : c.buf ≤ 1024) (happ : c.appId < 256) (hf : flags < 64) (hblocks : u.image.length ≤ 255 * c.buf)
    (hmask : ∀ rm ∈ c.compress u.targets, rm.2 < 262144) :
    (fillHead c pid u ++ fillTail c pid base flags u).map decode =
      fillPkts c.buf pid base c.appId flags (c.compress u.targets) u.image := by
  rw [fillHead, fillTail, fillPkts, List.map_append, List.map_append, List.map_cons, List.map_map,
    decode_ffs _ _ hp (blocks_lt _ _ hb hblocks), ffdReqs_decode _ _ hp hbmax _ 0 base u.image 255 rfl hblocks,
    List.map_singleton, decode_ffe _ _ _ hp happ hf,
    List.map_congr_left (f := decode ∘ ffcsReq) fun rm hrm => decode_ffcs rm (hmask rm hrm), List.append_assoc]

end Rig.C09
