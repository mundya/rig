/-
C14 - the specification's vocabulary: the definitions, beside those of `Model/C14`, in which the theorems of `Props/C14`
and their hypotheses are stated.
-/
import RigModel.Model.C14

namespace Rig.C14
open Rig.Gen.C14

/-- what the table must contain: entry of every (x, y) inside the dimensions, column by column -/
def p2pSpecTable (f : Nat → Nat → Nat) (cols : List Nat) (h : Nat) : List ((Nat × Nat) × Nat) :=
  cols.flatMap fun c => (List.range h).map fun r => ((c, r), f c r)

/-- the P2P table region: 256 column blocks of 128 bytes -/
def P2P_REGION : Nat := 32768

def liveEntries (table : List ((Nat × Nat) × Nat)) : List ((Nat × Nat) × Nat) :=
  table.filter fun e => e.2 != P2P_NONE

/-- what discovery must return for the chips of a table: the listed chips that answer, each with the
view of its state -/
def describedChips (answering : Nat × Nat → Option ChipState) (table : List ((Nat × Nat) × Nat)) :
    List ((Nat × Nat) × ChipInfo) :=
  table.filterMap fun e =>
    if e.2 != P2P_NONE then (answering e.1).map fun st => (e.1, chipView st) else none

/-- a description is well formed when its keys are distinct (it is a dict) and lie inside its extent -/
def SysInfo.WF (si : SysInfo) : Prop :=
  (si.chips.map (·.1)).Nodup ∧ ∀ xy ci, (xy, ci) ∈ si.chips → xy.1 < si.width ∧ xy.2 < si.height

/-- the machine specification's hypotheses on a machine state and on the memory / replies it serves -/
structure MachineState.Serves (m : MachineState) (rd : Rd) : Prop where
  dimW : m.dimW ≤ 255
  dimH : m.dimH ≤ 255
  entries : ∀ e ∈ m.p2p, e.2 < 8
  chipsWF : ∀ xy st, m.chips.lookup xy = some st → st.WF
  dims : rd (SV_BASE + SV_P2P_DIMS_OFF) SV_P2P_DIMS_SIZE = le16 (m.dimW * 256 + m.dimH)
  table : ∀ a n, SPINNAKER_RTR_P2P ≤ a → a + n ≤ SPINNAKER_RTR_P2P + P2P_REGION →
    rd a n = readMem (p2pMem m.entry) a n

def MachineState.probe (m : MachineState) : Nat × Nat → Option InfoReply :=
  fun xy => (m.chips.lookup xy).map infoReply

def MachineState.table (m : MachineState) : List ((Nat × Nat) × Nat) :=
  p2pSpecTable m.entry (List.range m.dimW) m.dimH

/-- what `get_system_info` must return -/
def MachineState.sysInfo (m : MachineState) : SysInfo :=
  { width := maxList ((liveEntries m.table).map (·.1.1)) + 1,
    height := maxList ((liveEntries m.table).map (·.1.2)) + 1,
    chips := describedChips (fun xy => m.chips.lookup xy) m.table }

/-- the machine holds the chain `blocks` (in list order) for reads of `size + 16` bytes -/
def ChainIn (rd : Rd) (size : Nat) : List IoBlock → Prop
  | [] => True
  | b :: bs =>
    b.addr ≠ 0 ∧ b.len < 4294967296 ∧ chainNext bs < 4294967296 ∧
    rd b.addr (size + 16) = blockBytes b (chainNext bs) ∧ ChainIn rd size bs

/-- a status record whose fields fit their widths in the vcpu block (one-byte fields are
unconstrained in the `Nat` model: `leVal [b] = b`) -/
def Status.WF (s : Status) : Prop :=
  s.registers.length = 8 ∧ (∀ r ∈ s.registers, r < 4294967296) ∧
  s.userVars.length = 4 ∧ (∀ r ∈ s.userVars, r < 4294967296) ∧
  s.psr < 4294967296 ∧ s.sp < 4294967296 ∧ s.lr < 4294967296 ∧
  validState s.cpuState = true ∧ RTE_VALUES.contains s.rtCode = true ∧
  s.mboxApMsg < 4294967296 ∧ s.mboxMpMsg < 4294967296 ∧ s.swCount < 65536 ∧
  s.swFile < 4294967296 ∧ s.swLine < 4294967296 ∧ s.time < 4294967296 ∧ s.iobuf < 4294967296 ∧
  s.version.1 < 256 ∧ s.version.2.1 < 256 ∧ s.version.2.2 < 256

def Ascii (l : List Nat) : Prop := ∀ b ∈ l, b < 128 ∧ b ≠ 10

def Digits (l : List Nat) : Prop := l ≠ [] ∧ ∀ d ∈ l, isDigit d = true

end Rig.C14
