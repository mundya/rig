/-
C03 - routing trees are loop-free, connected, use only live hardware.
Property theorems; most of the proofs are in RigModel/Lemmas/C03*.lean.

All of it is about the model RigModel/Model/C03.lean.  What is validated, not proved, is the correspondence of the
model with the Python code (stage-wise differential testing with recorded tapes and set orders, for single nets
and net by net for calls with several nets).

The model of `avoid_dead_links` takes a flag `legacy`: `false` is the code WITH the repair
fixes/c03-avoid-dead-links-parent.diff (the parent of an overlapped node is searched in the whole lookup), and the
validity statements are about it; `legacy_two_parents_witness` shows what the loop without it does.  The main
statements: `routeNet_valid` (every successful run of `route()`, on any machine, with the source and the
destinations on working chips, returns a valid routing tree), `route_only_failure` (the only non-oracle error is
`MachineHasDisconnectedSubregion`, and none on a strongly connected machine), `routeNets_*` (the `for net in nets`
loop; only the oracle tape is threaded).  The geometry functions duplicated in this model are equal to the C11
model's (Props/Cross03_11.lean), and C11's distance theorems are transferred.
-/
import RigModel.Model.C03
import RigModel.Lemmas.C03Route
import Mathlib.Data.List.Forall2
import RigModel.Props.Cross03_11

namespace Rig.C03
open Rig.Gen.C03Links

/-- the generated link tables are the documented hexagonal link geometry -/
theorem link_tables :
    linkOrder = [0, 1, 2, 3, 4, 5] ∧ linkVecKeys = [0, 1, 2, 3, 4, 5] ∧ linkRoutes = linkOrder ∧
    (∀ l, l < 6 → fromVec (vec l) = some l) ∧
    (∀ l, l < 6 → opp l = (l + 3) % 6) ∧
    (∀ l, l < 6 → vec (opp l) = (-(vec l).1, -(vec l).2)) ∧
    coreRouteBase = 6 := by
  decide +kernel

/-- The executable `validTree` (the oracle applied to every tree returned by the real `route()`) holds exactly
when the declarative `ValidTree` does. -/
theorem validTree_iff (m : Machine) (src : Chip) (sinks : List Sink) (t : Tree) :
    validTree m src sinks t = true ↔ ValidTree m src sinks t :=
  L.validTree_iff m src sinks t

/-- **Connected.**  In a valid tree the chip of every sink that has a leaf (`routes ≠ []`: anything but
an empty core slice) is physically reachable from the source chip over working links between working
chips. -/
theorem validTree_connects (m : Machine) (src : Chip) (sinks : List Sink) (t : Tree)
    (h : ValidTree m src sinks t) :
    ∀ s, s ∈ sinks → s.routes ≠ [] → Reach m src s.chip := by
  intro s hs hne
  obtain ⟨r, hr⟩ := List.exists_mem_of_ne_nil _ hne
  have hlf : (s.chip, r, s.v) ∈ expectedLeaves sinks :=
    List.mem_flatMap.2 ⟨s, hs, List.mem_map.2 ⟨r, hr, rfl⟩⟩
  exact h.rooted ▸ L.reach_of_mem m t (fun e he => h.hops e.1 e.2.1 e.2.2 he) _
    (L.leaf_chip_mem t _ (h.leaves_complete _ hlf))

example : ValidTree ⟨2, 2, [], []⟩ (0, 0) [⟨1, (1, 0), 1, 3, 5⟩]
    (.node (0, 0) [(0, .node (1, 0) [] [(some 9, 1), (some 10, 1)])] []) :=
  (validTree_iff _ _ _ _).1 (by decide +kernel)

/-- Whatever `a_star` returns is a chain of working links that starts at a chip of `sources`, passes through
no other chip of `sources`, and whose last link arrives at `sink`. -/
theorem aStar_path (m : Machine) (sink hsrc : Chip) (sources : List Chip) (wrap : Bool)
    (path : List (Nat × Chip)) (hsink : InRange m sink)
    (h : aStar sink hsrc sources m wrap = .ok path) : pathOk m sources sink path = true :=
  L.aStar_path m sink hsrc sources wrap path hsink h

/-- a detour around the dead chip (1,0) on a 3x3 machine whose right-hand wrap links are dead -/
example : (aStar (0, 0) (2, 0) [(2, 0), (2, 1)]
      ⟨3, 3, [(1, 0)], [((2, 0), 0), ((2, 0), 1), ((2, 1), 0), ((2, 2), 1), ((2, 1), 1)]⟩ false).toOption
      = some [(3, (2, 1)), (4, (1, 1))]
    ∧ InRange ⟨3, 3, [(1, 0)], [((2, 0), 0), ((2, 0), 1), ((2, 1), 0), ((2, 2), 1), ((2, 1), 1)]⟩ (0, 0) := by
  refine ⟨by decide +kernel, ?_⟩
  unfold InRange
  decide +kernel

/-- **Copy keeps only live hardware.**  Every node of the forest built by `copy_and_disconnect_tree`
is a working chip and every edge it keeps is a working link to the adjacent working chip. -/
theorem copyAndDisconnect_live (old : Forest) (root : Chip) (m : Machine) (cs : CopyState)
    (h : copyAndDisconnect old root m = .ok cs) : ForestLive m cs.lookup :=
  L.copyAndDisconnect_live old root m cs h

/-- **LDF walk.**  `n` steps in a unit direction are `n` consecutive hops over the link named by the
direction (coordinates reduced modulo the machine size after every step). -/
theorem walk_hops (m : Machine) (dir : Nat) (dx dy : Int) (hdir : dir < 6) (hv : vec dir = (dx, dy))
    (n : Nat) (pos : Chip) : hopsFrom m pos (walk m.w m.h dir dx dy n pos) = true :=
  L.walk_hops m dir dx dy hdir hv n pos

/-- the whole longest-dimension-first route, for every vector and every random tie-break, is a chain of
hops that starts at `start` -/
theorem ldf_hops (m : Machine) (v : V3) (start : Chip) (t t' : Tape) (p : List (Nat × Chip))
    (h : ldf v start m.w m.h t = .ok (p, t')) : hopsFrom m start p = true :=
  (L.ldf_spec m v start t).ok h

example : (ldf (2, 0, -1) (0, 0) 3 3 [5, 5, 5]).toOption = some ([(0, (1, 0)), (0, (2, 0)), (1, (0, 1))], []) := by
  decide +kernel

/-- **NER edges (on any machine).**  Every edge `(parent, l, child)` of the forest `ner_net` builds
satisfies `l < 6` and `child = parent + vec l (mod w, h)`. -/
theorem nerNet_edges_partial (m : Machine) (src : Chip) (dests : List Chip) (wrap : Bool) (radius : Nat)
    (t t' : Tape) (f : Forest) (h : nerNet src dests m.w m.h wrap radius t = .ok (f, t')) : ForestHops m f :=
  L.nerNet_hops m src dests wrap radius t t' f h

/-- **Repair uses only live hardware.**  Whenever the dead-link repair ran (copy + A* reconnection of every
broken link, in ANY processing order, with or without fixes/c03-avoid-dead-links-parent.diff), every node of
the resulting forest is a working chip and every edge a working link to the adjacent working chip. -/
theorem routeNet_repaired_live (m : Machine) (src : Chip) (dests : List Chip) (radius : Nat) (t : Tape)
    (order : List (Chip × Chip)) (sinks : List Sink) (legacy : Bool) (r : Result)
    (h : routeNet m src dests radius t order sinks legacy = .ok r) (hr : r.repaired = true) :
    ForestLive m r.forest :=
  L.routeNet_repaired_live m src dests radius t order sinks legacy r h hr

/-- Every hop of every tree the model of `route()` returns follows a working link of a working chip to the
adjacent chip, and every leaf is an expected leaf - with or without the repair, `legacy` or not (the arrival
chip is known to work only when the repair ran; the full property is `routeNet_valid`). -/
theorem routeNet_tree_partial (m : Machine) (src : Chip) (dests : List Chip) (radius : Nat) (t : Tape)
    (order : List (Chip × Chip)) (sinks : List Sink) (legacy : Bool) (r : Result)
    (h : routeNet m src dests radius t order sinks legacy = .ok r)
    (fuel : Nat) (tr : Tree) (ht : toTree r.forest r.leaves fuel r.root = some tr) :
    (∀ c l c', (c, l, c') ∈ tr.edges →
        l < 6 ∧ linkOk m c l = true ∧ c' = step m c l ∧ (r.repaired = true → chipOk m c' = true)) ∧
    (∀ lf, lf ∈ tr.leafList → lf ∈ expectedLeaves sinks) := by
  constructor
  · intro c l c' he
    obtain ⟨n, hn, hn1, hn2⟩ := L.toTree_edges fuel r.root tr ht _ he
    simp only at hn1 hn2
    have h1 := L.routeNet_links m src dests radius t order sinks legacy r h n hn _ hn2
    rw [hn1] at h1
    refine ⟨h1.1, h1.2.1, h1.2.2, ?_⟩
    intro hr
    have h2 := ((L.routeNet_repaired_live m src dests radius t order sinks legacy r h hr) n hn).2 _ hn2
    exact h2.2.2.1
  · intro lf hlf
    rw [← L.routeNet_leaves m src dests radius t order sinks legacy r h]
    exact L.toTree_leaves fuel r.root tr ht lf hlf

/-- non-vacuity: a repaired net on a 3x3 machine with a dead link on the direct route -/
example : (match routeNet ⟨3, 3, [], [((0, 0), 0)]⟩ (0, 0) [(1, 0)] 1 [0, 0, 0, 0, 0, 0, 0] [((0, 0), (1, 0))]
      [⟨1, (1, 0), 1, 2, 4⟩] false with
    | .ok r => r.repaired && (toTree r.forest r.leaves 10 r.root).isSome
    | .error _ => false) = true := by decide +kernel

/-- **Same link tables.**  The tables generated for this model and for C11 are the same data: the
`from_vector` table, the enumeration order, `to_vector` (= C11's specification vector), `opposite`. -/
theorem cross_link_tables :
    Gen.C03Links.fromVectorTable = Gen.Links.linkDirectionLookup ∧
    Gen.C03Links.linkOrder = C11.allLinks ∧
    (∀ l, l < 6 → C11.toVector l = some (vec l)) ∧
    (∀ l, l < 6 → C11.specVec l = some (vec l)) ∧
    (∀ l, l < 6 → opp l = C11.opposite l) ∧
    (∀ d, d ∈ C11.hexSteps → fromVec d = C11.fromVector d.1 d.2) := Cross.tables_eq

/-- **Same length functions** (`shortest_mesh_path_length`, `shortest_torus_path_length` for w, h ≥ 1) and same
`minimise_xyz` / `shortest_mesh_path`. -/
theorem cross_lengths (a b : Chip) :
    meshLen a b = C11.meshLen (C11.toXyz a) (C11.toXyz b) ∧
    (∀ w h : Nat, 1 ≤ w → 1 ≤ h → C11.torusLen (C11.toXyz a) (C11.toXyz b) w h = .ok (torusLen a b w h)) ∧
    (∀ v : V3, minimise v = Cross.t3 (C11.minimiseXyz (Cross.v3 v))) ∧
    meshPath a b = Cross.t3 (C11.meshPath (C11.toXyz a) (C11.toXyz b)) :=
  ⟨Cross.meshLen_eq a b, fun w h hw hh => Cross.torusLen_eq a b w h hw hh, Cross.minimise_eq, Cross.meshPath_eq a b⟩

/-- **Same `shortest_torus_path`**: every result of this model (draws read from the tape) is the result of C11's
model for some legal values of C11's oracle inputs. -/
theorem cross_torusPath (a b : Chip) (w h : Nat) (hw : 1 ≤ w) (hh : 1 ≤ h) (t t' : Tape) (v : V3)
    (hp : torusPath a b w h t = .ok (v, t')) :
    ∃ k0 k1 k2 k3 s : Nat, k0 < 1048576 ∧ k1 < 1048576 ∧ k2 < 1048576 ∧ k3 < 1048576 ∧
      C11.torusPath (C11.toXyz a) (C11.toXyz b) w h 1048576 k0 k1 k2 k3 s = .ok (Cross.v3 v) :=
  Cross.torusPath_eq a b w h hw hh t t' v hp

/-- **Same `longest_dimension_first`.** -/
theorem cross_ldf (v : V3) (start : Chip) (w h : Nat) (hw : 1 ≤ w) (hh : 1 ≤ h) (t t' : Tape)
    (p : List (Nat × Chip)) (hl : ldf v start w h t = .ok (p, t')) :
    ∃ j0 j1 j2 : Nat, j0 < 1048576 ∧ j1 < 1048576 ∧ j2 < 1048576 ∧
      C11.ldf (Cross.v3 v) start (some (w : Int)) (some (h : Int)) 1048576 j0 j1 j2 = .ok p :=
  Cross.ldf_eq v start w h t t' p hl

/-- **Same `concentric_hexagons`** (centre (0, 0), as memoised by ner.py). -/
theorem cross_hexagons (radius : Nat) : concentricHexagons radius = C11.concentricHexagons (radius : Int) (0, 0) :=
  Cross.concentricHexagons_eq radius

/-- **Same `links_between`**, and it is C11's specification list (C11.linksBetween_exact). -/
theorem cross_linksBetween (m : Machine) (hw : 1 ≤ m.w) (hh : 1 ≤ m.h) (a b : Chip) :
    linksBetween m a b = C11.specLinksBetween a b (Cross.mach m) ∧
    C11.linksBetween a b (Cross.mach m) = some (linksBetween m a b) :=
  Cross.linksBetween_eq m a b

/-- the sort key / neighbour distance of `ner_net` on a mesh is the graph distance -/
theorem meshLen_is_distance (a b : Chip) :
    0 ≤ meshLen a b ∧ C11.IsDist none none a b (meshLen a b).toNat := by
  have := C11.meshLen_eq_dist (C11.toXyz a) (C11.toXyz b)
  rw [C11.toXyz_proj, C11.toXyz_proj, ← Cross.meshLen_eq] at this
  exact this

/-- the sort key / neighbour distance of `ner_net` on a torus is the graph distance of the `w × h` torus
(every w, h ≥ 1, including 1 and 2) -/
theorem torusLen_is_distance (a b : Chip) (w h : Nat) (hw : 1 ≤ w) (hh : 1 ≤ h) :
    0 ≤ torusLen a b w h ∧
    C11.IsDist (some (w : Int)) (some (h : Int)) (wrapC w h a) (wrapC w h b) (torusLen a b w h).toNat := by
  obtain ⟨n, e1, e2⟩ := C11.torusLen_eq_dist (C11.toXyz a) (C11.toXyz b) w h (by omega) (by omega)
  rw [Cross.torusLen_eq a b w h hw hh] at e1
  simp only [Except.ok.injEq] at e1
  have p1 : C11.projT (C11.toXyz a) w h = wrapC w h a := by simp [C11.projT, C11.toXyz, wrapC]
  have p2 : C11.projT (C11.toXyz b) w h = wrapC w h b := by simp [C11.projT, C11.toXyz, wrapC]
  rw [p1, p2] at e2
  rw [e1]
  exact ⟨by omega, by simpa using e2⟩

/-- the memoised hexagon list searched by `ner_net`: duplicate-free, exactly the offsets within hexagonal
(= graph) distance `radius`, nearest ring first, `1 + 3 r (r + 1)` of them -/
theorem hexagons_exact (radius : Nat) :
    (concentricHexagons radius).Nodup ∧
    (∀ p, p ∈ concentricHexagons radius ↔ C11.hexDist (0, 0) p ≤ radius) ∧
    (concentricHexagons radius).Pairwise (fun a b => C11.hexDist (0, 0) a ≤ C11.hexDist (0, 0) b) ∧
    (concentricHexagons radius).length = 1 + 3 * radius * (radius + 1) := by
  rw [cross_hexagons]; exact C11.hexagons_exact radius (0, 0)

/-- **The torus route of `ner_net` is a shortest walk**: `shortest_torus_path` walked by
`longest_dimension_first` between in-range chips, for every tape, ends at the destination, has exactly
`shortest_torus_path_length` hops = the graph distance, and visits no chip twice. -/
theorem torus_route (nb dest : Chip) (w h : Nat) (hw : 1 ≤ w) (hh : 1 ≤ h)
    (hn : Cross.InBox w h nb) (hd : Cross.InBox w h dest)
    (t t1 t2 : Tape) (v : V3) (path : List (Nat × Chip))
    (hv : torusPath nb dest w h t = .ok (v, t1)) (hl : ldf v nb w h t1 = .ok (path, t2)) :
    C11.walkOk (some (w : Int)) (some (h : Int)) nb path = true ∧ C11.lastPos nb path = dest ∧
    (path.length : Int) = torusLen nb dest w h ∧
    C11.IsDist (some (w : Int)) (some (h : Int)) nb dest path.length ∧
    (nb :: path.map (·.2)).Nodup :=
  Cross.torus_route nb dest w h hw hh hn hd t t1 t2 v path hv hl

/-- **The mesh route of `ner_net` is a shortest walk that stays inside the machine** (no hop wraps around,
although the code reduces every coordinate modulo width / height). -/
theorem mesh_route (nb dest : Chip) (w h : Nat) (hw : 1 ≤ w) (hh : 1 ≤ h)
    (hn : Cross.InBox w h nb) (hd : Cross.InBox w h dest) (t t2 : Tape) (path : List (Nat × Chip))
    (hl : ldf (meshPath nb dest) nb w h t = .ok (path, t2)) :
    C11.walkOk none none nb path = true ∧ C11.lastPos nb path = dest ∧
    (path.length : Int) = meshLen nb dest ∧
    (∀ c, c ∈ path.map (·.2) → Cross.InBox w h c) ∧
    (nb :: path.map (·.2)).Nodup :=
  Cross.mesh_route nb dest w h hn hd t t2 path hl

/-- non-vacuity: on the 2 x 3 torus (1, 2) is one south-west hop from (0, 0) -/
example : (torusPath (0, 0) (1, 2) 2 3 [5, 6, 7, 8, 0, 1, 2, 3]).toOption = some ((0, 0, 1), [0, 1, 2, 3]) ∧
    (ldf (0, 0, 1) (0, 0) 2 3 [0, 1, 2, 3]).toOption = some ([(4, (1, 2))], [3]) := by decide +kernel

/-- **A well-formed forest unfolds to a tree with pairwise distinct chips**: the step from the `{chip: node}`
dictionary the code manipulates to the tree the property speaks about. -/
theorem forest_unfolds {f : Forest} {rank : Chip → Nat} (hw : L.WF f rank) (leaves : List Leaf)
    (fuel : Nat) (c : Chip) (hr : rank c < fuel) :
    ∃ t, toTree f leaves fuel c = some t ∧ L.Unfolds f leaves c t :=
  L.toTree_unfolds hw leaves fuel c hr

/-- **`nerNet_valid`.**  On the fault-free `w × h` machine (no dead chip; with wrap-around: no dead link;
without: only links that leave the rectangle may be dead), every w, h ≥ 1 including 1×N and 2×N, for every
radius, every iteration order of the destinations and every content of the oracle tape (all tie-breaks and
spiral counts): whenever `ner_net` returns, the forest it built unfolds to a valid routing tree for every set of
sinks placed on the source chip or on destination chips. -/
theorem nerNet_valid (m : Machine) (wrap : Bool) (hff : L.FaultFree m wrap) (src : Chip) (dests : List Chip)
    (radius : Nat) (t t' : Tape) (f : Forest) (sinks : List Sink)
    (hs : InRange m src) (hd : ∀ d, d ∈ dests → InRange m d)
    (hsk : ∀ s, s ∈ sinks → s.chip = src ∨ s.chip ∈ dests)
    (hn : nerNet src dests m.w m.h wrap radius t = .ok (f, t')) :
    ∃ tr, toTree f (expectedLeaves sinks) (f.length + 1) src = some tr ∧ ValidTree m src sinks tr :=
  L.nerNet_valid m wrap hff src dests radius t t' f sinks hs hd hsk hn

/-- **`ner_net` cannot fail** on chips inside the machine: the only errors of the model are oracle errors (tape
too short, draw out of range).  In particular the code never creates a second node for a chip (`dupNode`, which
would silently overwrite a tree node), never looks up a direction that is not a link (`KeyError`). -/
theorem nerNet_only_oracle_errors (src : Chip) (dests : List Chip) (w h : Nat) (wrap : Bool) (radius : Nat)
    (t : Tape) (e : Err) (hs : Cross.InBox w h src) (hd : ∀ d, d ∈ dests → Cross.InBox w h d)
    (hn : nerNet src dests w h wrap radius t = .error e) : e = .tape ∨ e = .badDraw :=
  (L.nerNet_spec hs hd).error hn

/-- non-vacuity: a 2 x 5 torus (spiral draw), two destinations, radius 0 -/
example : (match nerNet (0, 0) [(1, 3), (0, 4)] 2 5 true 0 [1, 2, 3, 4, 0, 5, 6, 7, 1, 2, 3, 4, 0, 5, 6, 7, 1, 1, 1, 1, 1, 1, 1] with
    | .ok (f, _) => (toTree f [] (f.length + 1) (0, 0)).isSome && decide (f.length = 4)
    | .error _ => false) = true ∧ L.FaultFree ⟨2, 5, [], []⟩ true := by
  refine ⟨by decide +kernel, rfl, ?_⟩
  intro c l h; simp at h

/-- **`route()` on the fault-free machine** (no dead chip and no dead link or, when `has_wrap_around_links()`
is false, only wrap-around links dead), for every net whose vertices are inside the machine: the dead-link repair
is never entered; the model has no error other than an oracle error (no `Disconnected`, `KeyError`, assertion,
`fuel`, `dupNode`); and the result unfolds to a valid routing tree rooted at the source chip. -/
theorem routeNet_faultfree (m : Machine) (hff : L.FaultFree m (hasWrap m)) (src : Chip) (dests : List Chip)
    (radius : Nat) (t : Tape) (order : List (Chip × Chip)) (sinks : List Sink) (legacy : Bool)
    (hs : InRange m src) (hd : ∀ d, d ∈ dests → InRange m d)
    (hsk : ∀ s, s ∈ sinks → s.chip = src ∨ s.chip ∈ dests) :
    (∀ r, routeNet m src dests radius t order sinks legacy = .ok r →
      r.repaired = false ∧ r.root = src ∧
      ∃ tr, toTree r.forest r.leaves (r.forest.length + 1) r.root = some tr ∧ ValidTree m src sinks tr) ∧
    (∀ e, routeNet m src dests radius t order sinks legacy = .error e → e = .tape ∨ e = .badDraw) :=
  L.routeNet_faultfree m hff src dests radius t order sinks legacy hs hd hsk

/-- non-vacuity: the 1 x 2 mesh (all ten wrap-around links dead) is fault-free for a net routed without
wrap-around, and `has_wrap_around_links()` is false on it -/
example : hasWrap ⟨1, 2, [], [((0, 0), 0), ((0, 0), 1), ((0, 0), 3), ((0, 0), 4), ((0, 0), 5), ((0, 1), 0),
      ((0, 1), 1), ((0, 1), 2), ((0, 1), 3), ((0, 1), 4)]⟩ = false ∧
    L.FaultFree ⟨1, 2, [], [((0, 0), 0), ((0, 0), 1), ((0, 0), 3), ((0, 0), 4), ((0, 0), 5), ((0, 1), 0),
      ((0, 1), 1), ((0, 1), 2), ((0, 1), 3), ((0, 1), 4)]⟩ false := by
  refine ⟨by decide +kernel, rfl, fun c l h => ⟨rfl, ?_⟩⟩
  refine (?_ : ∀ e, e ∈ _ → ¬ Cross.InBox 1 2 (e.1.1 + (vec e.2).1, e.1.2 + (vec e.2).2)) (c, l) h
  unfold Cross.InBox
  decide +kernel

/-- **`aStar_complete`.**  `a_star` reports `MachineHasDisconnectedSubregion` only if no chip of `sources`
reaches the sink over working links between working chips (the search visits every chip from which the sink
is reachable before giving up) - for every machine, dead chips and dead links included. -/
theorem aStar_complete (m : Machine) (sink hsrc : Chip) (sources : List Chip) (wrap : Bool)
    (hsink : InRange m sink) (h : aStar sink hsrc sources m wrap = .error .disconnected) :
    ∀ s, s ∈ sources → ¬ Reach m s sink :=
  L.aStar_complete m sink hsrc sources wrap hsink h

/-- non-vacuity: on a 3 x 1 machine whose chip (1, 0) is dead and whose wrap links are dead, (2, 0) is cut off -/
example : aStar (0, 0) (2, 0) [(2, 0)] ⟨3, 1, [(1, 0)], [((2, 0), 0), ((2, 0), 1), ((2, 0), 5), ((2, 0), 2),
    ((2, 0), 4)]⟩ false = .error .disconnected := by decide +kernel

/-- **`a_star` raises nothing but the disconnected-machine error** - on every machine (any dead chips / links),
for a sink inside the machine that is not itself one of the sources (as in `avoid_dead_links`): the fuel
`w * h + 1` of the model's `while heap` loop is never exhausted (every iteration expands a different chip) and
the walk back over `visited` never meets a missing key or a `None` predecessor. -/
theorem aStar_only_disconnected (m : Machine) (sink hsrc : Chip) (sources : List Chip) (wrap : Bool)
    (hsink : InRange m sink) (hns : sources.contains sink = false) (e : Err)
    (h : aStar sink hsrc sources m wrap = .error e) : e = .disconnected :=
  L.aStar_only_disconnected m sink hsrc sources wrap hsink hns e h

/-- **The strong-connectivity oracle is sound.**  The harness decides the error clause ("if all working chips
can reach each other the router succeeds") with the executable `stronglyConnected`; whenever it evaluates to
true, every working chip does reach every working chip over working links between working chips. -/
theorem stronglyConnected_sound (m : Machine) (hs : stronglyConnected m = true) (a b : Chip)
    (ha : chipOk m a = true) (hb : chipOk m b = true) : Reach m a b :=
  (L.stronglyConnected_iff m).1 hs a b ha hb

/-- **On a strongly connected machine `a_star` succeeds** (sink a working chip that is not a source, at least
one source a working chip - what `avoid_dead_links` passes).  This is the `a_star` part of
`route_only_failure`. -/
theorem aStar_succeeds (m : Machine) (hs : stronglyConnected m = true) (sink hsrc : Chip) (sources : List Chip)
    (wrap : Bool) (hsink : chipOk m sink = true) (hns : sources.contains sink = false)
    (hsrc' : ∃ s, s ∈ sources ∧ chipOk m s = true) : ∃ path, aStar sink hsrc sources m wrap = .ok path :=
  L.aStar_succeeds m hs sink hsrc sources wrap hsink hns hsrc'

/-- non-vacuity: a 3 x 3 machine with a dead chip and dead links that is still strongly connected -/
example : stronglyConnected ⟨3, 3, [(1, 1)], [((0, 0), 0), ((2, 2), 3)]⟩ = true := by decide +kernel

/-- **An A\* path is simple**: it visits no chip twice and does not pass through the sink (the orphan being
reconnected) - for every machine. -/
theorem aStar_path_simple (m : Machine) (sink hsrc : Chip) (sources : List Chip) (wrap : Bool)
    (path : List (Nat × Chip)) (hsink : InRange m sink) (hns : sources.contains sink = false)
    (h : aStar sink hsrc sources m wrap = .ok path) :
    (path.map (·.2)).Nodup ∧ sink ∉ path.map (·.2) := by
  obtain ⟨h', _⟩ | ⟨_, h'⟩ | ⟨_, h', _, hp⟩ := L.aStar_spec m sink hsrc sources wrap hsink <;> rw [h] at h'
  · cases h'
  · cases h'
  · cases h'; exact hp

/-- **The forest invariant of the repair loop** (`L.RInv f R`, `R` = the component roots: the tree root and the
heads of the broken links not yet reconnected), spelled out: -/
theorem RInv_iff (f : Forest) (R : List Chip) : L.RInv f R ↔
    ((∃ rank : Chip → Nat, f.keys.Nodup ∧ (∀ n, n ∈ f → (n.2.map (·.2)).Nodup) ∧
        (∀ n n' k k', n ∈ f → n' ∈ f → k ∈ n.2 → k' ∈ n'.2 → k.2 = k'.2 → n.1 = n'.1) ∧
        (∀ n k, n ∈ f → k ∈ n.2 → rank k.2 < rank n.1)) ∧
     (∀ n k, n ∈ f → k ∈ n.2 → k.2 ∈ f.keys) ∧ R.Nodup ∧
     (∀ r, r ∈ R → r ∈ f.keys ∧ ∀ n k, n ∈ f → k ∈ n.2 → k.2 ≠ r) ∧
     (∀ x, x ∈ f.keys → ∃ r, r ∈ R ∧ L.Below f r x)) := by
  constructor
  · rintro ⟨⟨rank, hw⟩, hc, hn, hr, hb⟩
    exact ⟨⟨rank, hw.keys, hw.kidsNodup, hw.oneParent, hw.rank⟩, fun n k hn hk => hc n.1 k ⟨n, hn, rfl, hk⟩, hn,
      fun r h => ⟨(hr r h).1, fun n k hn hk => (hr r h).2 n.1 k ⟨n, hn, rfl, hk⟩⟩, hb⟩
  · rintro ⟨⟨rank, h1, h2, h3, h4⟩, hc, hn, hr, hb⟩
    refine ⟨⟨rank, h1, h2, h3, h4⟩, ?_, hn, ?_, hb⟩
    · rintro p k ⟨n, hn, rfl, hk⟩; exact hc n k hn hk
    · intro r h
      refine ⟨(hr r h).1, ?_⟩
      rintro p k ⟨n, hn, rfl, hk⟩; exact (hr r h).2 n k hn hk

/-- **The disconnecting copy establishes the invariant.**  Whenever `copy_and_disconnect_tree` returns (for ANY
input forest): its root is the given root chip, and the lookup satisfies the forest invariant with component
roots = the root and the (pairwise distinct) heads of the broken links. -/
theorem copyAndDisconnect_forest (old : Forest) (root : Chip) (m : Machine) (cs : CopyState)
    (h : copyAndDisconnect old root m = .ok cs) :
    cs.root = some root ∧ L.RInv cs.lookup (root :: cs.broken.map (·.2)) :=
  ⟨(L.copyAndDisconnect_cinv h).rootEq, (L.copyAndDisconnect_cinv h).inv⟩

/-- **One broken link (the body of the repair loop) preserves the invariant** and removes the orphan from the
component roots: A* from the rest of the forest to the orphan `pc.2`, then re-parenting along the detour - new
chips get new nodes, chips of the orphaned subtree the detour runs through are cut from their parent (searched
in the whole lookup: `legacy = false`) and re-hung on the detour.  For every forest satisfying the invariant,
every orphan among its component roots, every A* outcome. -/
theorem repairOne_preserves (m : Machine) (wrap : Bool) (f f' : Forest) (pc : Chip × Chip)
    (path : List (Nat × Chip)) (R R' : List Chip) (hi : L.RInv f R) (hchild : pc.2 ∈ R)
    (hlive : chipOk m pc.2 = true) (hR'n : R'.Nodup) (hR' : ∀ r, r ∈ R' ↔ r ∈ R ∧ r ≠ pc.2)
    (h : repairOne m wrap false f pc = .ok (f', path)) : L.RInv f' R' := by
  obtain ⟨_, _, _, ⟨f'', p, h', _, hinv⟩ | ⟨h', _⟩⟩ := L.repairOne_spec (m := m) (wrap := wrap) hi hchild hlive
  · rw [h] at h'
    cases h'
    refine hinv R' hR'n (fun hc => ((hR' _).1 hc).2 rfl) fun r => ⟨fun hr => ?_, fun hr => ?_⟩
    · exact (Decidable.em (r = pc.2)).elim Or.inr fun hne => Or.inl ((hR' r).2 ⟨hr, hne⟩)
    · exact hr.elim (fun hr => ((hR' r).1 hr).1) (· ▸ hchild)
  · rw [h] at h'; cases h'

/-- **`avoidDeadLinks_valid`.**  For every machine (any dead chips / links), net, radius, tape, every processing
order of the broken links and every A* outcome: whenever the model of `route()` (`legacy = false`) returns after
the dead-link repair ran, the final `{chip: node}` forest unfolds - with the fuel the driver and the oracle use -
to a tree that satisfies all clauses of `ValidTree` (in particular no node with two parents, no cycle), and every
entry of the forest is on the tree (nothing is left disconnected).  No hypothesis on the input is needed: a run
on an ill-formed input ends in a model error. -/
theorem avoidDeadLinks_valid (m : Machine) (src : Chip) (dests : List Chip) (radius : Nat) (t : Tape)
    (order : List (Chip × Chip)) (sinks : List Sink) (r : Result)
    (h : routeNet m src dests radius t order sinks false = .ok r) (hr : r.repaired = true) :
    ∃ tr, toTree r.forest r.leaves (r.forest.length + 1) r.root = some tr ∧ ValidTree m src sinks tr ∧
      ∀ c, c ∈ r.forest.keys → c ∈ tr.chips := by
  obtain ⟨hroot, hinv, hsk⟩ := L.routeNet_repaired_inv m src dests radius t order sinks r h hr
  rw [hroot, L.routeNet_leaves m src dests radius t order sinks false r h]
  exact L.rinv_valid hinv sinks
    (fun n hn => ((L.routeNet_repaired_live m src dests radius t order sinks false r h hr) n hn).2) hsk

/-- the 2x4 machine of defect F3 (DESIGN.md) -/
def f3Machine : Machine := ⟨2, 4, [(1, 1)],
  [((0, 0), 1), ((0, 0), 2), ((0, 1), 1), ((0, 1), 2), ((0, 1), 5), ((0, 2), 1), ((0, 2), 3), ((0, 3), 0),
   ((0, 3), 3), ((0, 3), 4), ((1, 0), 4), ((1, 0), 5), ((1, 1), 2), ((1, 1), 4), ((1, 2), 0), ((1, 2), 3),
   ((1, 3), 0), ((1, 3), 3), ((1, 3), 4)]⟩
def f3Sinks : List Sink := [⟨1, (0, 3), 1, 10, 12⟩, ⟨2, (1, 3), 0, 0, 0⟩]
/-- the recorded run of that case: destination order, tape and broken-link order as observed on the real code -/
def f3Run (legacy : Bool) : Except Err Result :=
  routeNet f3Machine (0, 1) [(0, 3), (1, 3)] 0 [812573, 156207, 14521, 1, 283507, 474291]
    [((0, 1), (0, 2)), ((0, 1), (1, 2))] f3Sinks legacy
/-- number of parent links arriving at the node of chip `c` -/
def inDegree (f : Forest) (c : Chip) : Nat := ((f.flatMap (·.2)).filter (fun e => e.2 == c)).length

/-- **The unfixed code really breaks the invariant** (defect F3, why `avoidDeadLinks_valid` is about
`legacy = false`).  On `f3Machine`, with the recorded tape and orders,
the repair loop that searches the parent only inside `lookup[child]` leaves the node of chip (0, 2) with TWO
parent links (the detour moved its parent (0, 3) out of the orphaned subtree, so the old link is not found and a
second one is added): the unfolded tree contains a chip twice and is not a valid routing tree.  The fixed loop on
the same input gives every node at most one parent link and a valid tree. -/
theorem legacy_two_parents_witness :
    (match f3Run true with
     | .ok r => r.repaired && decide (inDegree r.forest (0, 2) = 2) &&
        (match toTree r.forest r.leaves (r.forest.length + 1) r.root with
         | some t => !validTree f3Machine (0, 1) f3Sinks t && !nodupB t.chips
         | none => false)
     | .error _ => false) = true ∧
    (match f3Run false with
     | .ok r => r.repaired && r.forest.keys.all (fun c => decide (inDegree r.forest c ≤ 1)) &&
        (match toTree r.forest r.leaves (r.forest.length + 1) r.root with
         | some t => validTree f3Machine (0, 1) f3Sinks t
         | none => false)
     | .error _ => false) = true := by decide +kernel

/-- **The disconnecting copy cannot fail on a well-formed tree** rooted at a working chip (no chip is visited
twice: never `dupNode`; the `while to_visit` loop ends within `len + 1` iterations: never `fuel`; the source
is alive: no assertion), and its lookup contains every working chip of the tree. -/
theorem copyAndDisconnect_total (old : Forest) (rank : Chip → Nat) (root : Chip) (m : Machine)
    (hw : L.WF old rank) (hkk : L.ClosedF old) (hrk : root ∈ old.keys) (hnp : L.NoParent old root)
    (hlive : chipOk m root = true) :
    ∃ cs, copyAndDisconnect old root m = .ok cs ∧
      ∀ x, L.Below old root x → chipOk m x = true → x ∈ cs.lookup.keys :=
  L.copyAndDisconnect_total hw hkk hrk hnp hlive

/-- **The body of the repair loop fails only through A\***: with the forest invariant the subtree enumeration
never runs out of fuel, the `Cycle created` assertion never fires, the path is never empty; either the body
succeeds or `a_star` (called with sources that exclude the orphan and contain every other component root)
reported `MachineHasDisconnectedSubregion`. -/
theorem repairOne_only_disconnected (m : Machine) (wrap : Bool) (f : Forest) (pc : Chip × Chip) (R : List Chip)
    (hi : L.RInv f R) (hchild : pc.2 ∈ R) (hlive : chipOk m pc.2 = true) :
    ∃ sources, sources.contains pc.2 = false ∧ (∀ r, r ∈ R → r ≠ pc.2 → r ∈ sources) ∧
      ((∃ f' path, repairOne m wrap false f pc = .ok (f', path)) ∨
       (repairOne m wrap false f pc = .error .disconnected ∧
        aStar pc.2 pc.1 sources m wrap = .error .disconnected)) := by
  obtain ⟨s, h1, h2, h3⟩ := L.repairOne_spec (m := m) (wrap := wrap) hi hchild hlive
  exact ⟨s, h1, h2, h3.imp (fun ⟨f', p, h, _⟩ => ⟨f', p, h⟩) id⟩

/-- **`route_only_failure`, every machine** (`legacy = false`).  For a net whose source and sinks are placed on
working chips (destinations inside the machine, every sink on the source chip or a destination chip), for every
radius, tape and processing order: the only errors of the model of `route()` are
`MachineHasDisconnectedSubregion` and the errors of the model's oracle inputs (tape exhausted / draw out of
range / order not an ordering of the broken links - impossible for recordings of a real run); in particular
never `dupNode`, `KeyError`, `TypeError`, an assertion or exhausted fuel (non-termination).  And
`MachineHasDisconnectedSubregion` is raised only if the machine is not strongly connected. -/
theorem route_only_failure (m : Machine) (src : Chip) (dests : List Chip) (radius : Nat) (t : Tape)
    (order : List (Chip × Chip)) (sinks : List Sink)
    (hs : chipOk m src = true) (hd : ∀ d, d ∈ dests → InRange m d)
    (hsk : ∀ s, s ∈ sinks → (s.chip = src ∨ s.chip ∈ dests) ∧ chipOk m s.chip = true)
    (e : Err) (h : routeNet m src dests radius t order sinks false = .error e) :
    (e = .tape ∨ e = .badDraw ∨ e = .badOracle ∨ e = .disconnected) ∧
    (e = .disconnected → stronglyConnected m = false) :=
  L.routeNet_only_failure m src dests radius t order sinks hs hd hsk e h

/-- **On a strongly connected machine `route()` does not fail** (only an oracle error of the model is left). -/
theorem route_succeeds_strongly_connected (m : Machine) (hsc : stronglyConnected m = true) (src : Chip)
    (dests : List Chip) (radius : Nat) (t : Tape) (order : List (Chip × Chip)) (sinks : List Sink)
    (hs : chipOk m src = true) (hd : ∀ d, d ∈ dests → InRange m d)
    (hsk : ∀ s, s ∈ sinks → (s.chip = src ∨ s.chip ∈ dests) ∧ chipOk m s.chip = true) :
    (∃ r, routeNet m src dests radius t order sinks false = .ok r) ∨
    (∃ e, routeNet m src dests radius t order sinks false = .error e ∧
      (e = .tape ∨ e = .badDraw ∨ e = .badOracle)) := by
  cases h : routeNet m src dests radius t order sinks false with
  | ok r => exact Or.inl ⟨r, rfl⟩
  | error e =>
    obtain ⟨h1, h2⟩ := route_only_failure m src dests radius t order sinks hs hd hsk e h
    refine Or.inr ⟨e, rfl, ?_⟩
    rcases h1 with h1 | h1 | h1 | h1
    · exact Or.inl h1
    · exact Or.inr (Or.inl h1)
    · exact Or.inr (Or.inr h1)
    · rw [h2 h1] at hsc; cases hsc

/-- non-vacuity: on the 3 x 1 machine with dead chip (1, 0) and dead wrap links the net (0,0) -> (2,0) satisfies
the hypotheses and `route()` reports the machine disconnected -/
example : (match routeNet ⟨3, 1, [(1, 0)], [((2, 0), 0), ((2, 0), 1), ((2, 0), 5), ((2, 0), 2), ((2, 0), 4),
      ((0, 0), 3), ((0, 0), 4), ((0, 0), 2), ((0, 0), 1), ((0, 0), 5)]⟩ (0, 0) [(2, 0)] 1 [0, 0, 0, 0, 0, 0, 0]
      [((0, 0), (2, 0))] [⟨1, (2, 0), 1, 2, 4⟩] false with
      | .error .disconnected => true
      | _ => false) = true ∧
    chipOk ⟨3, 1, [(1, 0)], [((2, 0), 0), ((2, 0), 1), ((2, 0), 5), ((2, 0), 2), ((2, 0), 4),
      ((0, 0), 3), ((0, 0), 4), ((0, 0), 2), ((0, 0), 1), ((0, 0), 5)]⟩ (2, 0) = true := by decide +kernel

/-- **The strong-connectivity oracle is complete.**  If `stronglyConnected m` evaluates to false, there are two
working chips of which the first does not reach the second over working links between working chips (the
breadth-first closure with fuel `w*h + 1` always ends with an empty frontier). -/
theorem stronglyConnected_complete (m : Machine) (hs : stronglyConnected m = false) :
    ∃ a b, chipOk m a = true ∧ chipOk m b = true ∧ ¬ Reach m a b :=
  L.stronglyConnected_complete m hs

/-- the executable predicate decides "every working chip reaches every working chip" -/
theorem stronglyConnected_iff (m : Machine) :
    stronglyConnected m = true ↔ ∀ a b, chipOk m a = true → chipOk m b = true → Reach m a b :=
  L.stronglyConnected_iff m

/-- **The error clause of the property, for the model**: if `route()` (`legacy = false`) raises
`MachineHasDisconnectedSubregion` on a net placed on working chips, then the machine really has two working
chips of which one cannot reach the other over working links. -/
theorem route_disconnected_is_real (m : Machine) (src : Chip) (dests : List Chip) (radius : Nat) (t : Tape)
    (order : List (Chip × Chip)) (sinks : List Sink)
    (hs : chipOk m src = true) (hd : ∀ d, d ∈ dests → InRange m d)
    (hsk : ∀ s, s ∈ sinks → (s.chip = src ∨ s.chip ∈ dests) ∧ chipOk m s.chip = true)
    (h : routeNet m src dests radius t order sinks false = .error .disconnected) :
    ∃ a b, chipOk m a = true ∧ chipOk m b = true ∧ ¬ Reach m a b :=
  stronglyConnected_complete m ((route_only_failure m src dests radius t order sinks hs hd hsk _ h).2 rfl)

/-- non-vacuity: the 3 x 1 machine above is not strongly connected -/
example : stronglyConnected ⟨3, 1, [(1, 0)], [((2, 0), 0), ((2, 0), 1), ((2, 0), 5), ((2, 0), 2), ((2, 0), 4),
      ((0, 0), 3), ((0, 0), 4), ((0, 0), 2), ((0, 0), 1), ((0, 0), 5)]⟩ = false := by decide +kernel

/-- **Childless nodes of the `ner_net` forest are the source or destination chips** (every route hung below the
tree ends at its destination) - any w, h ≥ 1, radius, tape, destination order. -/
theorem nerNet_leaves_are_dests (src : Chip) (dests : List Chip) (w h : Nat) (wrap : Bool) (radius : Nat)
    (t t' : Tape) (f : Forest) (hs : Cross.InBox w h src) (hd : ∀ d, d ∈ dests → Cross.InBox w h d)
    (hn : nerNet src dests w h wrap radius t = .ok (f, t')) :
    ∀ n, n ∈ f → n.2 = [] → n.1 = src ∨ n.1 ∈ dests :=
  ((L.nerNet_spec hs hd).ok hn).2.2

/-- **`routeNet_valid`: every successful run of `route()` (`legacy = false`) returns a valid routing tree**, on
every machine - dead chips and links anywhere, repair entered or not - for every net whose source and
destination chips are working chips, every radius, tape, destination order and broken-link order: the result is
rooted at the source chip and unfolds (with the fuel the driver / oracle use) to a tree satisfying all five
clauses of `ValidTree`.  (That the leaves are exactly the sinks includes: every sink chip is on the tree.) -/
theorem routeNet_valid (m : Machine) (src : Chip) (dests : List Chip) (radius : Nat) (t : Tape)
    (order : List (Chip × Chip)) (sinks : List Sink) (r : Result)
    (hs : chipOk m src = true) (hd : ∀ d, d ∈ dests → chipOk m d = true)
    (h : routeNet m src dests radius t order sinks false = .ok r) :
    r.root = src ∧
    ∃ tr, toTree r.forest r.leaves (r.forest.length + 1) r.root = some tr ∧ ValidTree m src sinks tr := by
  cases hr : r.repaired with
  | true =>
    obtain ⟨tr, h1, h2, _⟩ := avoidDeadLinks_valid m src dests radius t order sinks r h hr
    exact ⟨(L.routeNet_repaired_inv m src dests radius t order sinks r h hr).1, tr, h1, h2⟩
  | false => exact L.routeNet_unrepaired_valid m src dests radius t order sinks false r hs hd h hr

/-- non-vacuity of the unrepaired case on a machine with faults: 3x3 with a dead chip and dead links off the route -/
example : (match routeNet ⟨3, 3, [(2, 2)], [((1, 1), 0), ((0, 2), 3)]⟩ (0, 0) [(1, 0)] 1 [0, 0, 0, 0, 0, 0, 0] []
      [⟨1, (1, 0), 1, 2, 4⟩] false with
    | .ok r => !r.repaired && (toTree r.forest r.leaves 10 r.root).isSome
    | .error _ => false) = true := by decide +kernel

/-- **`routeNets_independent`.**  The model of the whole `for net in nets` loop succeeds with results `rs` exactly
when, net by net, the body `routeNet` run on that net's OWN inputs (source chip, destination chips, radius,
broken-link order, sink vertices) and on that net's tape (`tapes`: the tape of the call minus the draws of the
nets before it) succeeds with the corresponding result: nothing else is carried from one net to the next - no
tree, no lookup, no leaf. -/
theorem routeNets_independent (m : Machine) (legacy : Bool) (nets : List NetIn) (t : Tape) (rs : List Result) :
    routeNets m legacy nets t = .ok rs ↔
    List.Forall₂ (fun (nt : NetIn × Tape) r =>
      routeNet m nt.1.src nt.1.dests nt.1.radius nt.2 nt.1.order nt.1.sinks legacy = .ok r)
      (nets.zip (tapes m nets t)) rs := by
  induction nets generalizing t rs with
  | nil => simp [routeNets, tapes, pure, Except.pure, eq_comm]
  | cons n rest ih =>
    simp only [routeNets, tapes, List.zip_cons_cons, bind, Except.bind, List.forall₂_cons_left_iff, ← ih]
    cases routeNet m n.src n.dests n.radius t n.order n.sinks legacy with
    | error e => simp
    | ok r => cases routeNets m legacy rest (tapeAfter m n t) <;> simp [pure, Except.pure, eq_comm]

/-- the driver's trace of the loop (results before the first failing net) is the loop -/
theorem routeNetsRun_eq (m : Machine) (legacy : Bool) (nets : List NetIn) (t : Tape) :
    routeNets m legacy nets t =
      (match routeNetsRun m legacy nets t with
       | (rs, none) => .ok rs
       | (_, some e) => .error e) := by
  fun_induction routeNetsRun m legacy nets t with
  | case1 => rfl
  | case2 n rest t e he => simp only [routeNets, he, bind, Except.bind]
  | case3 n rest t r he rs e hrun ih =>
    simp only [routeNets, he, ih, hrun, bind, Except.bind]
    cases e <;> rfl

/-- the result `r` is a valid routing tree for net `n` (given that the net is placed on working chips) -/
def NetValid (m : Machine) (n : NetIn) (r : Result) : Prop :=
  chipOk m n.src = true → (∀ d, d ∈ n.dests → chipOk m d = true) →
    r.root = n.src ∧ ∃ tr, toTree r.forest r.leaves (r.forest.length + 1) r.root = some tr ∧
      ValidTree m n.src n.sinks tr

/-- **Every net of a successful call gets a valid routing tree for ITS OWN sinks** (`legacy = false`, any
machine): rooted at its source chip, chips distinct, live hops, leaves exactly its own sink vertices with their
cores / endpoint routes - provided its source and destination chips are working chips. -/
theorem routeNets_valid (m : Machine) (nets : List NetIn) (t : Tape) (rs : List Result)
    (h : routeNets m false nets t = .ok rs) : List.Forall₂ (NetValid m) nets rs := by
  have h2 : List.Forall₂ (fun (nt : NetIn × Tape) (r : Result) => NetValid m nt.1 r)
      (nets.zip (tapes m nets t)) rs :=
    ((routeNets_independent m false nets t rs).1 h).imp fun nt r hr hs hd =>
      routeNet_valid m nt.1.src nt.1.dests nt.1.radius nt.2 nt.1.order nt.1.sinks r hs hd hr
  have h3 := (List.forall₂_map_left_iff (f := Prod.fst) (R := NetValid m)).2 h2
  rwa [List.map_fst_zip (Nat.le_of_eq (L.tapes_length m nets t).symm)] at h3

/-- **`route_only_failure` for a call with several nets**: the call fails only with an error one of its nets
produces, hence (nets placed on working chips) only with `MachineHasDisconnectedSubregion` or an oracle error,
and never with the former on a strongly connected machine. -/
theorem routeNets_only_failure (m : Machine) (nets : List NetIn) (t : Tape) (e : Err)
    (hn : ∀ n, n ∈ nets → chipOk m n.src = true ∧ (∀ d, d ∈ n.dests → InRange m d) ∧
      ∀ s, s ∈ n.sinks → (s.chip = n.src ∨ s.chip ∈ n.dests) ∧ chipOk m s.chip = true)
    (h : routeNets m false nets t = .error e) :
    (e = .tape ∨ e = .badDraw ∨ e = .badOracle ∨ e = .disconnected) ∧
    (e = .disconnected → stronglyConnected m = false) := by
  obtain ⟨n, t', hmem, he⟩ := (L.routeNets_error nets t).error h
  obtain ⟨h1, h2, h3⟩ := hn n hmem
  exact route_only_failure m n.src n.dests n.radius t' n.order n.sinks h1 h2 h3 e he

/-- non-vacuity: two nets between the same chips with different sink vertices / cores, in one call -/
example : (match routeNets ⟨3, 3, [], [((0, 0), 0)]⟩ false
      [⟨(0, 0), [(1, 0)], 1, [((0, 0), (1, 0))], [⟨1, (1, 0), 1, 2, 4⟩]⟩,
       ⟨(0, 0), [(1, 0)], 1, [((0, 0), (1, 0))], [⟨2, (1, 0), 1, 5, 6⟩]⟩]
      [0, 0, 0, 0, 0, 0, 0, 0, 0, 0, 0, 0, 0, 0] with
    | .ok rs => decide (rs.length = 2) && rs.all (fun r => r.repaired)
    | .error _ => false) = true := by decide +kernel

/-- `route()` attaches a sink that has a RouteEndpointConstraint with exactly the constrained
route, whatever its allocation says (cores present, an empty slice, no core resource, no entry); otherwise a sink
whose allocation has the core resource gets exactly one leaf per core of the slice (none for an empty slice);
otherwise one leaf without a route. -/
theorem sinkAttach_precedence (s : SinkSpec) :
    s.resolve.routes =
      (match s.endpoint, s.cores with
       | some r, _ => [some r]
       | none, some (a, b) => (List.range (b - a)).map fun i => some (coreRouteBase + (a + i))
       | none, none => [none]) ∧
    s.resolve.v = s.v ∧ s.resolve.chip = s.chip := by
  rcases s with ⟨v, c, _ | r, _ | ⟨a, b⟩⟩ <;> simp [SinkSpec.resolve, Sink.routes]

end Rig.C03
