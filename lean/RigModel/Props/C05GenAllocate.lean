/-
C05 - translator tie, top level: **the function `allocate` as generated from rig/place_and_route/allocate/greedy.py
(Gen/PyFun.lean, regenerated on every run) is the model `Rig.C05.allocate`**, and the property theorems restated
about the generated function.

The generated function takes the fuel of its `while` loops as an argument (one number for every loop); the model
gives every proposal loop its own, provably sufficient, fuel.  `gen_allocate_det`: whatever the fuel > 0, the generated
function either reports a cut-off loop (`"fuel"`) or returns exactly what the model returns; `gen_allocate`: from
some fuel on it is never cut off - every `while` loop of the run terminates - and equals the model.
Domain (`WellFormed`): the mappings are dicts (unique keys), requirements >= 0, alignments >= 1 (the translator does
not model ZeroDivisionError of `align`).
-/
import RigModel.Props.C05
import RigModel.Props.C05GenTop
import RigModel.Props.C05Group
import RigModel.Props.C05Fuel

namespace Rig.C05
open Rig.Gen

/-- the call `allocate(vertices_resources, nets, machine, constraints, placements)` of the generated function on the
model's input: `machine.chip_resources`, `machine[xy]` (`Machine.__getitem__`, model `Machine.get`) as environment,
the constraint objects as typed records -/
def genAllocate (inp : Input) (fuel : Nat) : Except String OutTy :=
  PyFun.allocate inp.vr inp.machine.chipResources (mgetOf inp.machine) (inp.constraints.map encC) inp.placements fuel

/-- the caller's view `{vertex: {resource: slice}}` as the generated function returns it -/
def encA (a : Alloc) : OutTy := a.map fun o => (o.1, o.2.map fun rs => (rs.1, some (encS rs.2)))

theorem encOut_strip (out : List (Vertex × List Entry)) : encOut out = encA (strip out) := by
  simp [encOut, encA, strip, encE, List.map_map, Function.comp_def]

/-- with any positive fuel the generated `allocate` is the model run with that fuel for every `while` loop -/
theorem gen_allocateF (inp : Input) (wf : WellFormed inp) (fuel : Nat) (hf : 0 < fuel) :
    genAllocate inp fuel = encR (allocateF fuel inp) := by
  have T := gen_tables inp
  have hA : ∀ res, alignment inp.constraints res ≠ 0 := fun res => by
    have := alignment_pos wf.alignPos res; omega
  unfold genAllocate PyFun.allocate
  simp only []
  generalize List.foldl PyFun.allocate_loop1 ([], [], []) (inp.constraints.map encC) = t at T
  obtain ⟨G, L, A⟩ := t
  simp only [] at T ⊢
  rw [gen_group]
  have hnd : ((chipContents inp).flatMap (·.2)).Nodup := by
    have := nodup_allVertices wf (nodup_dedup (inp.placements.map (·.2)))
    simpa [chipContents, chipOrder, List.flatMap_map] using this
  obtain ⟨g1, g2⟩ := gen_chips T hA wf.resNodup fuel hf (chipContents inp) [] hnd (fun _ _ => rfl)
  unfold allocateF
  cases h : allocChipsL (allocOneF fuel inp) inp.vr (chipContents inp) with
  | error err =>
    obtain ⟨al', e⟩ := g2 err h
    rw [e]
    rfl
  | ok out =>
    rw [g1 out h]
    simp [encR]

/-- **generated `allocate` = model, whatever the fuel > 0**: either a `while` loop was cut off or the result (allocation
in dict order, or exception) is the model's -/
theorem gen_allocate_det (inp : Input) (wf : WellFormed inp) (fuel : Nat) (hf : 0 < fuel) :
    genAllocate inp fuel = .error "fuel" ∨ genAllocate inp fuel = encR (allocate inp) := by
  rw [gen_allocateF inp wf fuel hf]
  rcases allocateF_det inp (alignment_pos wf.alignPos) wf.demandNonneg fuel with h | h
  · left; rw [h]; rfl
  · right; rw [h]

/-- **generated `allocate` = model**: from some fuel on no loop is cut off (every `while` loop of the run
terminates) and the generated function returns exactly what `Rig.C05.allocate` returns -/
theorem gen_allocate (inp : Input) (wf : WellFormed inp) :
    ∃ F, ∀ fuel, F ≤ fuel → genAllocate inp fuel = encR (allocate inp) := by
  obtain ⟨F, hF⟩ := allocateF_stable inp (alignment_pos wf.alignPos) wf.demandNonneg
  refine ⟨F + 1, fun fuel h => ?_⟩
  rw [gen_allocateF inp wf fuel (by omega), hF fuel (by omega)]

/-- a dict returned by the generated function is the model's result, encoded -/
theorem genAllocate_ok {inp : Input} (wf : WellFormed inp) {fuel : Nat} (hf : 0 < fuel) {o : OutTy}
    (h : genAllocate inp fuel = .ok o) : ∃ out, allocate inp = .ok out ∧ o = encA (strip out) := by
  rcases gen_allocate_det inp wf fuel hf with h' | h' <;> rw [h] at h'
  · cases h'
  · cases hr : allocate inp with
    | error e => rw [hr] at h'; cases h'
    | ok out => rw [hr] at h'; cases h'; exact ⟨out, rfl, encOut_strip out⟩

/-- **Soundness of what greedy.py says.**  Whatever the fuel > 0: a dict returned by the generated `allocate` has no
`None` entry and, read as an allocation, satisfies the property `Valid` -/
theorem gen_alloc_sound (inp : Input) (wf : WellFormed inp) (fuel : Nat) (hf : 0 < fuel) (o : OutTy)
    (h : genAllocate inp fuel = .ok o) : ∃ a : Alloc, o = encA a ∧ Valid inp a :=
  let ⟨out, h1, h2⟩ := genAllocate_ok wf hf h
  ⟨strip out, h2, alloc_sound inp out wf h1⟩

/-- **One range each, for the generated function**: no (vertex, resource) pair of a returned dict has two ranges -/
theorem gen_alloc_unique (inp : Input) (wf : WellFormed inp) (fuel : Nat) (hf : 0 < fuel) (o : OutTy)
    (h : genAllocate inp fuel = .ok o) :
    ∃ a : Alloc, o = encA a ∧ ((flat a).map fun t => (t.1, t.2.1)).Nodup :=
  let ⟨out, h1, h2⟩ := genAllocate_ok wf hf h
  ⟨strip out, h2, alloc_unique inp out wf h1⟩

/-- **Only failure, for the generated function.**  On the documented domain: with any fuel > 0 the outcome is a dict,
`InsufficientResourceError` or a cut-off loop - never another exception; and from some fuel on no loop is cut off -/
theorem gen_alloc_only_failure (inp : Input) (wf : WellFormed inp) (dom : InDomain inp) :
    (∀ fuel, 0 < fuel → (∃ a : Alloc, genAllocate inp fuel = .ok (encA a) ∧ Valid inp a) ∨
      genAllocate inp fuel = .error "InsufficientResourceError" ∨ genAllocate inp fuel = .error "fuel") ∧
    ∃ F, ∀ fuel, F ≤ fuel → (∃ a : Alloc, genAllocate inp fuel = .ok (encA a) ∧ Valid inp a) ∨
      genAllocate inp fuel = .error "InsufficientResourceError" := by
  have key : (∃ a : Alloc, encR (allocate inp) = .ok (encA a) ∧ Valid inp a) ∨
      encR (allocate inp) = .error "InsufficientResourceError" := by
    rcases alloc_only_failure inp wf dom with ⟨out, h⟩ | ⟨res, p, _, h⟩
    · left
      exact ⟨strip out, by rw [h]; exact congrArg Except.ok (encOut_strip out), alloc_sound inp out wf h⟩
    · right
      rw [h]; rfl
  refine ⟨?_, ?_⟩
  · intro fuel hf
    rcases gen_allocate_det inp wf fuel hf with h | h
    · exact Or.inr (Or.inr h)
    · rw [h]
      rcases key with k | k
      · exact Or.inl k
      · exact Or.inr (Or.inl k)
  · obtain ⟨F, hF⟩ := gen_allocate inp wf
    refine ⟨F, fun fuel h => ?_⟩
    rw [hF fuel h]
    exact key

/-- **Completeness, for the generated function.**  Without alignment constraints and with reservations only at the
two ends of each range, a feasible placement is allocated by the generated `allocate` (given enough fuel: from some
fuel on), and the returned dict satisfies the property -/
theorem gen_alloc_complete (inp : Input) (wf : WellFormed inp) (dom : InDomain inp) (feas : Feasible inp) :
    ∃ F, ∀ fuel, F ≤ fuel → ∃ a : Alloc, genAllocate inp fuel = .ok (encA a) ∧ Valid inp a := by
  obtain ⟨out, h, hv⟩ := alloc_complete inp wf dom feas
  obtain ⟨F, hF⟩ := gen_allocate inp wf
  refine ⟨F, fun fuel hf => ⟨strip out, ?_, hv⟩⟩
  rw [hF fuel hf, h]
  exact congrArg Except.ok (encOut_strip out)

/-- non-vacuity / sanity: the generated function run on the example of Props/C05.lean -/
example : genAllocate exEnds 64 = .ok (encA
    [(0, [(0, ⟨2, 5⟩), (1, ⟨0, 10⟩)]), (2, [(0, ⟨5, 7⟩)]), (1, [(0, ⟨7, 7⟩)]), (3, [(0, ⟨1, 5⟩)])]) := by
  rfl

example : genAllocate exAlign 64 = .error "InsufficientResourceError" := by rfl

end Rig.C05
